import F3.Proofs.SkelTieStore
import F3.Proofs.StoreCrash
import F3.Proofs.StoreWitness
/-!
# C10 — Certificate store operations are crash-atomic at datastore-write granularity

All theorems are about `F3.Store` (`F3/Model/Store.lean`), the definitions `f3d_store` executes against
the log of the real `certstore`. A crash after `k` datastore writes of an operation whose write
sequence is `ws` leaves `crashAt ds ws k`; a restart is `reobserve` (one of the open variants, then
every certificate and every power table). `OrdersOk ds o`: the key orders the datastore's queries
return are permutations of the keys present (any order — theorems quantify over all of them).

`cfg.resumeInner = true` is the repaired `open` (continues a wipe whose tombstone is inside the
namespace); for `false` (go-f3 as it stands, S1) `deleteAll_not_atomic_unfixed` proves the negation.
-/
namespace F3.Props.C10
open F3.Store

variable {cfg : Cfg} {ds : DS} {sp : Spec}

/-- **Put is crash-atomic**: for every represented store, every handle state, every certificate
(admissible or not) and every crash point of the `Put`, every restart observes either exactly what
it would have observed before the `Put` or exactly what it observes after the complete `Put`. -/
theorem crash_atomic_put (hu : cfg.Uniform) (hr : Repr cfg.freq ds sp) {m : Mem} (hm : MemOk m sp) (hs : SubsOk m)
    (hsmall : sp.certs.length + 1 < maxInt) (c : Cert) (k : Nat) (hk : k ≤ (put cfg m c).ws.length)
    (v : Variant) (o oB oA : Orders) (ho : OrdersOk (crashAt ds (put cfg m c).ws k) o)
    (hoB : OrdersOk ds oB) (hoA : OrdersOk (applyWs ds (put cfg m c).ws) oA) :
    reobserve cfg (crashAt ds (put cfg m c).ws k) o v = reobserve cfg ds oB v ∨
    reobserve cfg (crashAt ds (put cfg m c).ws k) o v = reobserve cfg (applyWs ds (put cfg m c).ws) oA v :=
  (put_crash hr hm hs hsmall c).before_or_after (looksLike_of_repr hu hr) (fun _ h => Or.inl (looksLike_of_repr hu h))
    (fun _ h => looksLike_of_repr hu h) hk v o oB oA ho hoB hoA

/-- The state changes exactly at the last write (the latest pointer): before it the datastore still
represents the old history (a stray certificate / checkpoint above `latest` is harmless), after it
the extended one. -/
theorem put_commit_point (hu : cfg.Uniform) (hr : Repr cfg.freq ds sp) {m : Mem} (hm : MemOk m sp) (hs : SubsOk m)
    (hsmall : sp.certs.length + 1 < maxInt) (c : Cert) (k : Nat) (hk : k ≤ (put cfg m c).ws.length) :
    (k < (put cfg m c).ws.length → Repr cfg.freq (crashAt ds (put cfg m c).ws k) sp) ∧
    (k = (put cfg m c).ws.length → Repr cfg.freq (crashAt ds (put cfg m c).ws k) (sp.put c)) := by
  rcases (put_crash hr hm hs hsmall c).at_le hk with ⟨h1, h⟩ | ⟨h1, h⟩
  · exact ⟨fun _ => h, fun e => absurd h1 (by omega)⟩
  · exact ⟨fun e => absurd h1 (by omega), fun _ => h⟩

/-- **The interrupted Put can be repeated**: after any crash point, reopening succeeds without
writing, and putting the same admissible certificate again succeeds and yields the extended history. -/
theorem retry_put (hu : cfg.Uniform) (hr : Repr cfg.freq ds sp) {m : Mem} (hm : MemOk m sp) (hs : SubsOk m)
    (hsmall : sp.certs.length + 1 < maxInt) {c : Cert} (hadm : sp.admits c = true) (k : Nat)
    (hk : k ≤ (put cfg m c).ws.length) (o : Orders) :
    ∃ m' m'', openStore cfg (crashAt ds (put cfg m c).ws k) o = ⟨[], .ok m'⟩ ∧
      (put cfg m' c).res = .ok m'' ∧
      Repr cfg.freq (applyWs (crashAt ds (put cfg m c).ws k) (put cfg m' c).ws) (sp.push c) := by
  have hput : sp.put c = sp.push c := by unfold Spec.put; rw [if_pos hadm]
  rcases (put_crash hr hm hs hsmall c).at_le hk with ⟨_, h⟩ | ⟨_, h⟩
  · obtain ⟨T, hT, hopen⟩ := openStore_repr cfg o h (Or.inl hu)
    have hm' := memOk_memOf hT
    have hs' := subsOk_memOf sp T
    obtain ⟨t', ht', _, hp⟩ := put_admitted cfg hm' h.facts hs' hadm
    refine ⟨memOf sp T, _, hopen, by rw [hp], ?_⟩
    rw [hp]; exact repr_put h hadm ht' hsmall
  · rw [hput] at h
    obtain ⟨T, hT, hopen⟩ := openStore_repr cfg o h (Or.inl hu)
    have hm' := memOk_memOf hT
    obtain ⟨hinst, hchain, _⟩ := (Spec.admits_iff sp c).1 hadm
    have hst := put_stale cfg hm' h.facts (c := c) (by rw [Spec.push_first]; unfold Spec.next at hinst; omega)
      (by rw [Spec.push_next]; omega) hchain
    refine ⟨_, _, hopen, by rw [hst], ?_⟩
    rw [hst]; exact h

/-- **CreateStore / OpenOrCreateStore are crash-atomic** on a datastore holding no store: after the
first write (the initial power table) a restart still finds no store; the first-instance marker is
the commit point. Stray `/power/*` keys are invisible to every later operation (`Repr` ignores them). -/
theorem crash_atomic_create (hu : cfg.Uniform) (h : NotInit ds) (first : Nat) {init : Table} (hne : init ≠ [])
    (hc : Canon init) (oc : Orders) (k : Nat) (hk : k ≤ (createStore cfg ds oc first init).ws.length)
    (v : Variant) (o oB oA : Orders) (ho : OrdersOk (crashAt ds (createStore cfg ds oc first init).ws k) o)
    (hoB : OrdersOk ds oB) (hoA : OrdersOk (applyWs ds (createStore cfg ds oc first init).ws) oA) :
    reobserve cfg (crashAt ds (createStore cfg ds oc first init).ws k) o v = reobserve cfg ds oB v ∨
    reobserve cfg (crashAt ds (createStore cfg ds oc first init).ws k) o v =
      reobserve cfg (applyWs ds (createStore cfg ds oc first init).ws) oA v := by
  rw [createStore_notInit cfg oc h first hne] at hk ho hoA ⊢
  exact crash_atomic_createWrites hu h first hne hc k hk v o oB oA ho hoB hoA

theorem crash_atomic_openOrCreate (hu : cfg.Uniform) (h : NotInit ds) (first : Nat) {init : Table} (hne : init ≠ [])
    (hc : Canon init) (oc : Orders) (k : Nat) (hk : k ≤ (openOrCreateStore cfg ds oc first init).ws.length)
    (v : Variant) (o oB oA : Orders) (ho : OrdersOk (crashAt ds (openOrCreateStore cfg ds oc first init).ws k) o)
    (hoB : OrdersOk ds oB) (hoA : OrdersOk (applyWs ds (openOrCreateStore cfg ds oc first init).ws) oA) :
    reobserve cfg (crashAt ds (openOrCreateStore cfg ds oc first init).ws k) o v = reobserve cfg ds oB v ∨
    reobserve cfg (crashAt ds (openOrCreateStore cfg ds oc first init).ws k) o v =
      reobserve cfg (applyWs ds (openOrCreateStore cfg ds oc first init).ws) oA v := by
  rw [openOrCreate_notInit cfg oc h first hne] at hk ho hoA ⊢
  exact crash_atomic_createWrites hu h first hne hc k hk v o oB oA ho hoB hoA

/-- Opening (any variant) or creating on a datastore that already holds a store writes nothing, so
there is no crash point at all. -/
theorem open_writes_nothing (hu : cfg.Uniform) (hr : Repr cfg.freq ds sp) (o : Orders) (first : Nat) {init : Table}
    (hne : init ≠ []) :
    (openStore cfg ds o).ws = [] ∧ (createStore cfg ds o first init).ws = [] ∧
    (openOrCreateStore cfg ds o sp.first sp.init).ws = [] := by
  obtain ⟨_, _, h1⟩ := openStore_repr cfg o hr (Or.inl hu)
  obtain ⟨_, _, h3⟩ := openOrCreate_repr cfg o hr (Or.inl hu)
  rw [h1, createStore_repr cfg o hr first hne, h3]
  exact ⟨rfl, rfl, rfl⟩

/-- The retry of an interrupted creation (the node's idiom: `OpenStore`, `CreateStore` if that
reports "not initialised") always ends in the created store. -/
theorem retry_create (hu : cfg.Uniform) (h : NotInit ds) (first : Nat) {init : Table} (hne : init ≠ [])
    (hc : Canon init) (k : Nat) (hk : k ≤ (createWrites first init).length) (o o' : Orders) :
    ((openStore cfg (crashAt ds (createWrites first init) k) o).res = .error .notInitialized ∧
        ∃ m, (createStore cfg (crashAt ds (createWrites first init) k) o' first init).res = .ok m ∧
          Repr cfg.freq (applyWs (crashAt ds (createWrites first init) k)
            (createStore cfg (crashAt ds (createWrites first init) k) o' first init).ws) ⟨first, init, []⟩) ∨
    (∃ m, openStore cfg (crashAt ds (createWrites first init) k) o = ⟨[], .ok m⟩ ∧
      Repr cfg.freq (crashAt ds (createWrites first init) k) ⟨first, init, []⟩) := by
  rcases (create_crash cfg.freq h first hne hc).at_le hk with ⟨_, h'⟩ | ⟨_, h'⟩
  · refine Or.inl ⟨by rw [openStore_notInit cfg o h'], ?_⟩
    refine ⟨_, by rw [createStore_notInit cfg o' h' first hne], ?_⟩
    rw [createStore_notInit cfg o' h' first hne]
    exact repr_create cfg.freq h' first hne hc
  · obtain ⟨T, _, hopen⟩ := openStore_repr cfg o h' (Or.inl hu)
    exact Or.inr ⟨_, hopen, h'⟩

/-- **DeleteAll is crash-atomic for the repaired `open`**: a crash before the tombstone is written
leaves the store as it was; at every later crash point — whatever subset of keys has been deleted, in
whatever order the datastore enumerated them — every restart observes exactly what it observes after
the complete wipe. -/
theorem crash_atomic_deleteAll (hres : cfg.resumeInner = true) (hu : cfg.Uniform) (hr : Repr cfg.freq ds sp)
    {order : List Key} (hp : order.Perm (scopeKeys .inner (dsPut ds .tomb .tomb))) (k : Nat)
    (hk : k ≤ (deleteAll ds order).ws.length)
    (v : Variant) (o oB oA : Orders) (ho : OrdersOk (crashAt ds (deleteAll ds order).ws k) o)
    (hoB : OrdersOk ds oB) (hoA : OrdersOk (applyWs ds (deleteAll ds order).ws) oA) :
    reobserve cfg (crashAt ds (deleteAll ds order).ws k) o v = reobserve cfg ds oB v ∨
    reobserve cfg (crashAt ds (deleteAll ds order).ws k) o v = reobserve cfg (applyWs ds (deleteAll ds order).ws) oA v := by
  rw [deleteAll_eq hp] at hk ho hoA ⊢
  exact (deleteAll_crash hr.noRootTomb hp).before_or_after (looksLike_of_repr hu hr)
    (fun _ h => h.elim (fun e => Or.inl (e ▸ looksLike_of_repr hu hr)) (fun h => Or.inr (looksLike_of_wiping hres h)))
    (fun _ h => looksLike_of_notInit h) hk v o oB oA ho hoB hoA

/-- **An interrupted wipe is completed on reopen** (repaired `open`): from any half-wiped datastore,
`OpenStore` deletes everything that is left inside the namespace, the tombstone last, and reports
"not initialised"; a crash *during that resumed wipe* leaves the wipe pending again. -/
theorem wipe_completed_on_reopen (hres : cfg.resumeInner = true) (hw : Wiping ds) (o : Orders) (ho : OrdersOk ds o) :
    openStore cfg ds o = ⟨wipeWrites .inner o.inner, .error .notInitialized⟩ ∧
    NotInit (applyWs ds (openStore cfg ds o).ws) ∧
    ∀ k, k < (wipeWrites .inner o.inner).length → Wiping (crashAt ds (openStore cfg ds o).ws k) := by
  have hc := wipe_crash hw ho
  have hopen := openStore_of_core (openCore_wiping cfg hres o hw ho) hc.2
  rw [hopen]
  exact ⟨rfl, hc.2, hc.1⟩

/-- Creating on a half-wiped datastore first completes the wipe, then creates; every crash point of
that combined write sequence looks like "no store" or like the freshly created store. -/
theorem crash_atomic_create_over_wipe (hres : cfg.resumeInner = true) (hu : cfg.Uniform) (hw : Wiping ds) (oc : Orders)
    (hoc : OrdersOk ds oc) (first : Nat) {init : Table} (hne : init ≠ []) (hc : Canon init) (k : Nat)
    (hk : k ≤ (openOrCreateStore cfg ds oc first init).ws.length) :
    LooksLike cfg (crashAt ds (openOrCreateStore cfg ds oc first init).ws k) .notInit ∨
    LooksLike cfg (crashAt ds (openOrCreateStore cfg ds oc first init).ws k) (.hist ⟨first, init, []⟩) := by
  have hwipe := wipe_crash hw hoc
  rw [openOrCreate_of_core (openCore_wiping cfg hres oc hw hoc) hwipe.2 first hne] at hk ⊢
  have := Crash.append (C := fun d => Wiping d ∨ NotInit d) (fun k hk => Or.inl (hwipe.1 k hk))
    ((create_crash cfg.freq hwipe.2 first hne hc).mono (fun _ => Or.inr) (fun _ => id))
  rcases this.at_le hk with ⟨_, h | h⟩ | ⟨_, h⟩
  · exact Or.inl (looksLike_of_wiping hres h)
  · exact Or.inl (looksLike_of_notInit h)
  · exact Or.inr (looksLike_of_repr hu h)

/-- The empty datastore is good, and (by the theorems above) every crash point of every operation
started in a good datastore is good again: `put_crash`, `create_crash`, `deleteAll_crash`,
`wipe_crash`. Here: the classification for `DeleteAll`. -/
theorem good_deleteAll (hr : Repr cfg.freq ds sp) {order : List Key}
    (hp : order.Perm (scopeKeys .inner (dsPut ds .tomb .tomb))) (k : Nat) (hk : k ≤ (deleteAll ds order).ws.length) :
    Good cfg (crashAt ds (deleteAll ds order).ws k) := by
  rw [deleteAll_eq hp] at hk ⊢
  rcases (deleteAll_crash hr.noRootTomb hp).at_le hk with ⟨_, h | h⟩ | ⟨_, h⟩
  · rw [h]; exact Or.inr (Or.inr ⟨sp, hr⟩)
  · exact Or.inl h
  · exact Or.inr (Or.inl h)

theorem good_empty : Good cfg [] := Or.inr (Or.inl ⟨rfl, rfl, rfl, rfl⟩)

/-- The wipe clause at full strength, as a statement about a configuration. -/
def DeleteAllAtomicStatement (cfg : Cfg) : Prop :=
  ∀ (ds : DS) (sp : Spec), Repr cfg.freq ds sp →
  ∀ (order : List Key), order.Perm (scopeKeys .inner (dsPut ds .tomb .tomb)) →
  ∀ k, k ≤ (deleteAll ds order).ws.length →
  ∀ (v : Variant) (o oB oA : Orders), OrdersOk (crashAt ds (deleteAll ds order).ws k) o → OrdersOk ds oB →
    OrdersOk (applyWs ds (deleteAll ds order).ws) oA →
    reobserve cfg (crashAt ds (deleteAll ds order).ws k) o v = reobserve cfg ds oB v ∨
    reobserve cfg (crashAt ds (deleteAll ds order).ws k) o v = reobserve cfg (applyWs ds (deleteAll ds order).ws) oA v

/-- The repaired `open` satisfies `DeleteAllAtomicStatement`. -/
theorem deleteAll_atomic_fixed (hres : cfg.resumeInner = true) (hu : cfg.Uniform) : DeleteAllAtomicStatement cfg :=
  fun _ _ hr _ hp k hk v o oB oA ho hoB hoA => crash_atomic_deleteAll hres hu hr hp k hk v o oB oA ho hoB hoA

open F3.Store.Witness in
/-- **`open` as it stands in go-f3 does not satisfy `DeleteAllAtomicStatement` (S1)**: a store with two certificates; the wipe's query happens to
return the latest pointer first; the process stops after two writes (tombstone written, latest
pointer deleted). The tombstone lies inside `/certstore`, `open` looks for `/tombstone` outside it:
a restart finds a store with the right first instance and *no* certificates — neither the two-certificate
store from before nor "not initialised" from after. (Replayed on the implementation by `h_store c10`.) -/
theorem deleteAll_not_atomic_unfixed : ¬ DeleteAllAtomicStatement cfgPinned := by
  intro h
  -- the query answers a restart would get: the keys actually present, in list order
  let oC : Orders := ⟨[], scopeKeys .inner (crashAt ds2 (deleteAll ds2 wipeOrder).ws 2)⟩
  let oB : Orders := ⟨[], scopeKeys .inner ds2⟩
  let oA : Orders := ⟨[], scopeKeys .inner (applyWs ds2 (deleteAll ds2 wipeOrder).ws)⟩
  have hb : reobserve cfgPinned ds2 oB .open = .ok sp2.obs :=
    reobserve_repr_open cfgPinned oB repr2 (Or.inl rfl)
  have hafter : NotInit (applyWs ds2 (deleteAll ds2 wipeOrder).ws) := by
    rw [deleteAll_eq wipeOrder_perm]
    exact (deleteAll_crash repr2.noRootTomb wipeOrder_perm).2
  have ha : reobserve cfgPinned (applyWs ds2 (deleteAll ds2 wipeOrder).ws) oA .open = .error .notInitialized :=
    reobserve_of_core (openCore_notInit cfgPinned oA hafter) hafter .open
  have hc : reobserve cfgPinned (crashAt ds2 (deleteAll ds2 wipeOrder).ws 2) oC .open
      = .ok ⟨3, none, [], [.ok T0]⟩ := by decide
  have := h ds2 sp2 repr2 wipeOrder wipeOrder_perm 2 (by decide) .open oC oB oA
    (List.Perm.refl _) (List.Perm.refl _) (List.Perm.refl _)
  rw [hb, ha, hc] at this
  rcases this with h1 | h1
  · have := congrArg (fun r => match r with | .ok (o : Obs) => o.latest.isSome | .error _ => false) h1
    revert this; decide
  · cases h1

open F3.Store.Witness in
/-- A represented two-certificate store (first instance 3, period 2: the first `Put` crosses a
checkpoint and changes the table order, the second has an empty delta), its handle, and an
admissible next certificate whose `Put` has 2 writes. -/
example : Repr cfgFixed.freq ds2 sp2 ∧ MemOk m2 sp2 ∧ SubsOk m2 ∧ cfgFixed.Uniform ∧
    sp2.certs.length + 1 < maxInt ∧ (put cfgFixed m2 ⟨5, 9, [], .known T1, .ok⟩).ws.length = 3 :=
  ⟨repr2, memOk2, subsOk2, rfl, by decide, by decide⟩

open F3.Store.Witness in
/-- `crash_atomic_put` instantiated: crash after the certificate and the checkpoint were written but
not the latest pointer. -/
example : reobserve cfgFixed (crashAt ds2 (put cfgFixed m2 ⟨5, 9, [], .known T1, .ok⟩).ws 2) {} .open
    = reobserve cfgFixed ds2 {} .open := by decide +kernel

open F3.Store.Witness in
/-- The wipe of that store has 8 writes; `Wiping` holds at the crash point of the S1 witness; the repaired
`open` completes it. -/
example : (deleteAll ds2 wipeOrder).ws.length = 8 ∧ Wiping (crashAt ds2 (deleteAll ds2 wipeOrder).ws 2) ∧
    reobserve cfgFixed (crashAt ds2 (deleteAll ds2 wipeOrder).ws 2) ⟨[], [.tomb, .cert 3, .cert 4, .first, .power 3, .power 4]⟩ .open
      = .error .notInitialized :=
  ⟨by decide, ⟨by decide, by decide⟩, by decide⟩

/-- An uninitialised datastore with a stray key of an interrupted creation. -/
example : NotInit (crashAt [] (createWrites 3 F3.Store.Witness.T0) 1) ∧ Canon F3.Store.Witness.T0 ∧ F3.Store.Witness.T0 ≠ [] :=
  ⟨(create_crash 0 F3.Store.Witness.notInit_nil 3 (by decide) F3.Store.Witness.canon_T0).1 1 (by decide), F3.Store.Witness.canon_T0, by decide⟩

end F3.Props.C10

namespace F3.Props.C10
section Skeletons

/-- **The Go functions this property's models mirror still have the statement structure the models were written
against**: each regenerated skeleton (pre-order list of statement kinds, `tools/go2lean/skel.go`) equals the
expectation recorded in `F3/Proofs/SkelTie*.lean`. An added early return, cap, loop or dropped branch in one of these functions
breaks this obligation even when no regenerated *expression* changes. -/
theorem code_structure_as_modelled :
    F3.Gen.SkelStore.skelStorePut = F3.SkelTie.SkelStore.skelStorePutExpected ∧
    F3.Gen.SkelStore.skelStoreGetRange = F3.SkelTie.SkelStore.skelStoreGetRangeExpected ∧
    F3.Gen.SkelStore.skelStoreOpen = F3.SkelTie.SkelStore.skelStoreOpenExpected ∧
    F3.Gen.SkelStore.skelExportSnapshot = F3.SkelTie.SkelStore.skelExportSnapshotExpected ∧
    F3.Gen.SkelStore.skelReadSnapshotBlock = F3.SkelTie.SkelStore.skelReadSnapshotBlockExpected ∧
    F3.Gen.SkelStore.skelImportSnapshot = F3.SkelTie.SkelStore.skelImportSnapshotExpected :=
  ⟨F3.SkelTie.SkelStore.skelStorePut_expected, F3.SkelTie.SkelStore.skelStoreGetRange_expected, F3.SkelTie.SkelStore.skelStoreOpen_expected, F3.SkelTie.SkelStore.skelExportSnapshot_expected, F3.SkelTie.SkelStore.skelReadSnapshotBlock_expected, F3.SkelTie.SkelStore.skelImportSnapshot_expected⟩

end Skeletons
end F3.Props.C10
