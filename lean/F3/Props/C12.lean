import F3.Proofs.SkelTieNode
import F3.Proofs.SkelTieWal
import F3.Proofs.NodeGen2Equiv
import F3.Proofs.EquivSys
import F3.Proofs.EquivHost
/-!
# C12 — a node never self-equivocates on the wire, across requests, rebroadcasts and restarts

All theorems are about `F3.Equiv.step` / `F3.Equiv.run` (`F3/Model/Equiv.lean`, the definitions the driver
`f3d_equiv` executes against the real `equivocationFilter` and the real node), for **every** operation
history: broadcast requests (conflicting or not, any instance/round/phase/signature) with a crash point
after each of the three effects *filter → WAL append → publish*, rebroadcast requests, messages received
from peers, graceful stops, restarts (filter and `selfMessages` re-armed from the WAL), WAL purges at any
epoch with any file-granularity outcome, `selfMessages` trims.

Environment hypotheses (`RunOk`): requests are for instances at or above the purge epoch as of the last
restart; only the node signs with its own identities (`own`); the WAL append succeeds (built into
`step`: there is no failing-append branch — `BroadcastMessage` publishes even when the append fails,
which is why the property assumes no storage errors).
-/
namespace F3.Props.C12
open F3.Equiv

/-- **No self-equivocation on the wire.** After any admissible history, the sequence of messages handed
to the network never contains two messages for the same (instance, sender, round, phase) with different
signatures, and never a message for an instance older than one published before it. -/
theorem wire_no_equivocation (own : Nat → Bool) (l : Peer) (ops : List Op) (hok : RunOk own (Sys.init l) ops) :
    NoEquiv (run (Sys.init l) ops).wire ∧ InstMonotone (run (Sys.init l) ops).wire := by
  have h := inv_run (sysInv_init own l) ops hok
  exact ⟨h.cons.sub h.wire_sub, h.mono⟩

/-- **Record before publish.** Everything on the wire was appended to the WAL first (`ever` is the ghost
list of all appends), and is still in the WAL unless its instance is below a purge epoch. -/
theorem record_before_publish (own : Nat → Bool) (l : Peer) (ops : List Op) (hok : RunOk own (Sys.init l) ops) :
    (∀ w ∈ (run (Sys.init l) ops).wire, w ∈ (run (Sys.init l) ops).ever) ∧
    (∀ w ∈ (run (Sys.init l) ops).wire, (run (Sys.init l) ops).purged ≤ w.inst → w ∈ (run (Sys.init l) ops).wal) := by
  have h := inv_run (sysInv_init own l) ops hok
  exact ⟨h.wire_sub, fun w hw hp => h.wal_ge w (h.wire_sub w hw) hp⟩

/-- **The WAL re-arms the filter.** Restarting in any reachable state (at any crash point), every
message on the wire that has not been purged is at or below the new filter's instance, and if it is at
that instance the filter holds its signature as the node's own. -/
theorem rearm_guards_wire (own : Nat → Bool) (l : Peer) (ops : List Op) (hok : RunOk own (Sys.init l) ops) :
    let s := run (Sys.init l) ops
    let f := (step s .restart).filter
    ∀ w ∈ s.wire, s.purged ≤ w.inst →
      w.inst ≤ f.cur ∧ (w.inst = f.cur → alookup w.key f.seen = some ⟨w.sig, f.localPID⟩) := by
  intro s f w hw hp
  have h := inv_run (sysInv_init own l) ops hok
  exact ((inv_restart h).finv rfl).holds (h.wire_sub w hw) hp

/-- **Conflicting and stale requests are refused.** In any reachable running state, an admissible request
is allowed by the filter exactly when it is not for an instance older than the filter's and no message
ever recorded occupies its slot with a different signature. -/
theorem request_allowed_iff (own : Nat → Bool) (l : Peer) (ops : List Op) (hok : RunOk own (Sys.init l) ops)
    (hup : (run (Sys.init l) ops).up = true) (m : Msg)
    (hF : (run (Sys.init l) ops).floor ≤ m.inst) (hown : own m.sender = true) :
    ((run (Sys.init l) ops).filter.processBroadcast m).2 = true ↔
      (run (Sys.init l) ops).filter.cur ≤ m.inst ∧
      ∀ e ∈ (run (Sys.init l) ops).ever, e.slot = m.slot → e.sig = m.sig :=
  ((inv_run (sysInv_init own l) ops hok).finv hup).allow_iff m hF hown

/-- **The re-armed filter decides like the filter it replaces.** In a reachable running state whose
filter instance has not been purged, the filter rebuilt from the WAL allows exactly the same requests
(at or above the purge epoch) as the live filter. -/
theorem filter_rearm_equiv (own : Nat → Bool) (l : Peer) (ops : List Op) (hok : RunOk own (Sys.init l) ops)
    (hup : (run (Sys.init l) ops).up = true)
    (hcur : (run (Sys.init l) ops).purged ≤ (run (Sys.init l) ops).filter.cur)
    (m : Msg) (hown : own m.sender = true) (hm : (run (Sys.init l) ops).purged ≤ m.inst) :
    ((rearm (run (Sys.init l) ops).filter.localPID (run (Sys.init l) ops).wal).processBroadcast m).2 =
      ((run (Sys.init l) ops).filter.processBroadcast m).2 := by
  have h := inv_run (sysInv_init own l) ops hok
  exact (h.finv hup).allow_eq ((inv_restart h).finv rfl) h.floor_le hcur m hm hown

/-- The filter alone: a fresh filter fed any consistent list of own messages holds each newest-instance
message, whatever the order of the list (`newRunner` does not rely on the WAL's order). -/
theorem rearm_holds_newest (own : Nat → Bool) (l : Peer) (wal : List Msg) (hc : NoEquiv wal)
    (hown : ∀ e ∈ wal, own e.sender = true) :
    ∀ e ∈ wal, e.inst ≤ (rearm l wal).cur ∧
      (e.inst = (rearm l wal).cur → alookup e.key (rearm l wal).seen = some ⟨e.sig, l⟩) := by
  intro e he
  obtain ⟨h, hl⟩ := rearm_inv (own := own) l wal hc hown
  have := h.holds he (Nat.zero_le _)
  rwa [hl] at this

/-- **The replay order does not matter.** Two WAL listings with the same entries (e.g. the files read in
another order, or an entry duplicated) re-arm filters that allow exactly the same requests. -/
theorem rearm_order_irrelevant (own : Nat → Bool) (l : Peer) (w₁ w₂ : List Msg) (hc : NoEquiv w₁)
    (hown : ∀ e ∈ w₁, own e.sender = true) (hsame : ∀ e, e ∈ w₁ ↔ e ∈ w₂)
    (m : Msg) (hm : own m.sender = true) :
    ((rearm l w₁).processBroadcast m).2 = ((rearm l w₂).processBroadcast m).2 := by
  have hc2 : NoEquiv w₂ := fun a ha b hb => hc a ((hsame a).mpr ha) b ((hsame b).mpr hb)
  have hown2 : ∀ e ∈ w₂, own e.sender = true := fun e he => hown e ((hsame e).mpr he)
  obtain ⟨h1, _⟩ := rearm_inv (own := own) l w₁ hc hown
  obtain ⟨h2', _⟩ := rearm_inv (own := own) l w₂ hc2 hown2
  have h2 : FilterInv own 0 (rearm l w₂) w₁ := h2'.congr (fun e => (hsame e).symm)
  exact h2.allow_eq h1 (Nat.le_refl _) (Nat.zero_le _) m (Nat.zero_le _) hm

instance (own : Nat → Bool) (s : Sys) (op : Op) : Decidable (OpOk own s op) := by
  cases op <;> simp only [OpOk] <;> exact inferInstance

instance decRunOk (own : Nat → Bool) : (s : Sys) → (ops : List Op) → Decidable (RunOk own s ops)
  | _, [] => isTrue trivial
  | s, op :: ops =>
    match (inferInstance : Decidable (OpOk own s op)), decRunOk own (step s op) ops with
    | isTrue h1, isTrue h2 => isTrue ⟨h1, h2⟩
    | isFalse h1, _ => isFalse (fun h => h1 h.1)
    | _, isFalse h2 => isFalse (fun h => h2 h.2)

private def ownAll : Nat → Bool := fun s => s == 1 || s == 2
private def m1 : Msg := ⟨3, 1, 0, 1, 10⟩   -- instance 3, sender 1, round 0, QUALITY, signature 10
private def m1' : Msg := ⟨3, 1, 0, 1, 11⟩  -- same slot, other signature (other EC head after restart)
private def m2 : Msg := ⟨3, 1, 0, 3, 10⟩
private def m0 : Msg := ⟨2, 1, 0, 1, 10⟩   -- older instance

/-- a history with a crash after the WAL append, a restart, the conflicting re-request, a stale request,
a rebroadcast, a crash after the filter, a purge and another restart satisfies the hypotheses … -/
private def hist : List Op :=
  [.broadcast m1 0, .broadcast m2 2, .restart, .broadcast m1' 0, .broadcast m0 0, .rebroadcast 3 0 1,
   .broadcast m1' 1, .restart, .purge 2 [], .trim 3, .stop, .restart, .broadcast m1' 3, .restart, .broadcast m1 0]

example : RunOk ownAll (Sys.init 0) hist := by decide

/-- … and its wire is what the theorem says: the first signature only, published again on request. -/
example : (run (Sys.init 0) hist).wire = [m1, m1, m1] := by decide

/-- the re-armed filter refuses the conflicting re-request and holds the crashed-but-recorded message -/
example : (((run (Sys.init 0) [.broadcast m1 0, .broadcast m2 2, .restart]).filter.processBroadcast m1').2 = false) ∧
    (run (Sys.init 0) [.broadcast m1 0, .broadcast m2 2, .restart]).wal = [m1, m2] := by decide

/-- Sharpness of the identity hypothesis: if another node publishes under this node's identity (a
`receive` for an own sender), the filter lets two signatures for one slot through. -/
example :
    let ops : List Op := [.broadcast ⟨1, 1, 0, 1, 1⟩ 0, .receive 5 ⟨1, 1, 0, 3, 2⟩,
                          .broadcast ⟨1, 1, 0, 3, 3⟩ 0, .broadcast ⟨1, 1, 0, 3, 4⟩ 0]
    ¬ RunOk ownAll (Sys.init 0) ops ∧ noEquivB (run (Sys.init 0) ops).wire = false := by decide

/-- Sharpness of the floor hypothesis: a request below the purge epoch after a restart can equivocate
(the real node is protected by the certificate store, not by the WAL). -/
example :
    let ops : List Op := [.broadcast ⟨1, 1, 0, 1, 1⟩ 0, .stop, .restart, .broadcast ⟨9, 1, 0, 1, 1⟩ 0,
                          .purge 5 [], .stop, .restart, .broadcast ⟨1, 1, 0, 1, 2⟩ 0]
    ¬ RunOk ownAll (Sys.init 0) ops := by decide

/-! ## Host level: the floor hypothesis discharged

`RunOk` above contains `s.floor ≤ m.inst` for every request.  The theorems of this section are about
`F3.EquivHost.hrun` (`F3/Model/EquivHost.lean`): the certificate store, the participant's current
instance, the builders handed to the embedder, the purge goroutine and the runner's start, with the
`Sys` of `Model/Equiv.lean` as a component.  A host history induces a `Model/Equiv.lean` history
(`EquivHost.trace`), and that history satisfies `RunOk` — proved, not assumed (`host_run_admissible`).

Hypotheses left (`HostOk`, independent of the state): only the node signs with its own identities
(`sign … sender …` has `own sender`, a peer message has not), and no builder requested before a restart
is signed after it (`restart false`).  Built into the model (see the header of `Model/EquivHost.lean` for
the Go lines): the certificate store is durable and its latest instance never decreases; `wal.Purge` is
only ever called with `k - 5` for a stored certificate `k > 5`; the runner starts the participant at
`latest + 1` (`InitialInstance` for an empty store); during a run the participant's instance moves only to
`k + 1 >` current for a stored certificate `k`, or by one after its decision was offered to the store. -/
section HostLevel
open F3.EquivHost

/-- **The caller keeps every request at or above the floor.**  After any host history: the participant's
instance and every outstanding builder are at or above the purge epoch as of the last restart; no builder
is ahead of the participant; the purge epoch is 0 or at least 6 below the instance the store expects
next, which is where the next restart puts the participant. -/
theorem host_floor_invariant (own : Nat → Bool) (l : Peer) (first : Nat) (hops : List HostOp)
    (hok : HostOk own hops) :
    let s := hrun (HState.init l first) hops
    s.sys.floor ≤ s.cur ∧ (∀ b ∈ s.out, s.sys.floor ≤ b.inst ∧ b.inst ≤ s.cur) ∧
    s.sys.floor ≤ s.sys.purged ∧ (s.sys.purged = 0 ∨ s.sys.purged + 6 ≤ s.next) ∧ s.cur ≤ s.next := by
  intro s
  have h : HInv s := hrun_inv (hinv_init l first) hops hok
  exact ⟨h.floor_cur, fun b hb => ⟨h.out_ge b hb, h.out_le b hb⟩,
    (sysInv_hrun own l first hops hok).floor_le, h.purged_next, h.cur_next⟩

/-- **Every host history is an admissible history of the broadcast-path model**: the environment
hypothesis `RunOk` of the theorems above holds for the induced history, and the host's `Sys` is the
result of running it. -/
theorem host_run_admissible (own : Nat → Bool) (l : Peer) (first : Nat) (hops : List HostOp)
    (hok : HostOk own hops) :
    RunOk own (Sys.init l) (trace (HState.init l first) hops) ∧
    (hrun (HState.init l first) hops).sys = run (Sys.init l) (trace (HState.init l first) hops) :=
  ⟨runOk_trace_init own l first hops hok, hrun_sys_init l first hops⟩

/-- **No self-equivocation on the wire, host level.**  No floor hypothesis. -/
theorem wire_no_equivocation_host (own : Nat → Bool) (l : Peer) (first : Nat) (hops : List HostOp)
    (hok : HostOk own hops) :
    NoEquiv (hrun (HState.init l first) hops).sys.wire ∧
    InstMonotone (hrun (HState.init l first) hops).sys.wire := by
  rw [hrun_sys_init]
  exact wire_no_equivocation own l _ (runOk_trace_init own l first hops hok)

theorem record_before_publish_host (own : Nat → Bool) (l : Peer) (first : Nat) (hops : List HostOp)
    (hok : HostOk own hops) :
    let s := (hrun (HState.init l first) hops).sys
    (∀ w ∈ s.wire, w ∈ s.ever) ∧ (∀ w ∈ s.wire, s.purged ≤ w.inst → w ∈ s.wal) := by
  intro s
  have hs : s = run (Sys.init l) (trace (HState.init l first) hops) := hrun_sys_init l first hops
  rw [hs]
  exact record_before_publish own l _ (runOk_trace_init own l first hops hok)

theorem rearm_guards_wire_host (own : Nat → Bool) (l : Peer) (first : Nat) (hops : List HostOp)
    (hok : HostOk own hops) :
    let s := (hrun (HState.init l first) hops).sys
    let f := (step s .restart).filter
    ∀ w ∈ s.wire, s.purged ≤ w.inst →
      w.inst ≤ f.cur ∧ (w.inst = f.cur → alookup w.key f.seen = some ⟨w.sig, f.localPID⟩) := by
  intro s
  have hs : s = run (Sys.init l) (trace (HState.init l first) hops) := hrun_sys_init l first hops
  rw [hs]
  exact rearm_guards_wire own l _ (runOk_trace_init own l first hops hok)

/-- **Conflicting and stale requests are refused, host level.**  For every outstanding builder and every
own identity, whatever the signature: the filter allows the signed message exactly when the builder is
not for an instance older than the filter's and nothing ever recorded occupies the slot with another
signature.  (`floor ≤ b.inst` is not a hypothesis here: `host_floor_invariant`.) -/
theorem request_allowed_iff_host (own : Nat → Bool) (l : Peer) (first : Nat) (hops : List HostOp)
    (hok : HostOk own hops) (hup : (hrun (HState.init l first) hops).sys.up = true)
    (b : Builder) (hb : b ∈ (hrun (HState.init l first) hops).out) (sender sig : Nat)
    (hown : own sender = true) :
    let s := (hrun (HState.init l first) hops).sys
    let m : Msg := ⟨b.inst, sender, b.round, b.phase, sig⟩
    (s.filter.processBroadcast m).2 = true ↔
      s.filter.cur ≤ b.inst ∧ ∀ e ∈ s.ever, e.slot = m.slot → e.sig = sig := by
  intro s m
  have hF : s.floor ≤ m.inst := (hrun_inv (hinv_init l first) hops hok).out_ge b hb
  exact ((sysInv_hrun own l first hops hok).finv hup).allow_iff m hF hown

theorem filter_rearm_equiv_host (own : Nat → Bool) (l : Peer) (first : Nat) (hops : List HostOp)
    (hok : HostOk own hops)
    (hup : (hrun (HState.init l first) hops).sys.up = true)
    (hcur : (hrun (HState.init l first) hops).sys.purged ≤ (hrun (HState.init l first) hops).sys.filter.cur)
    (m : Msg) (hown : own m.sender = true) (hm : (hrun (HState.init l first) hops).sys.purged ≤ m.inst) :
    ((rearm (hrun (HState.init l first) hops).sys.filter.localPID
        (hrun (HState.init l first) hops).sys.wal).processBroadcast m).2 =
      ((hrun (HState.init l first) hops).sys.filter.processBroadcast m).2 := by
  have hs := hrun_sys_init l first hops
  rw [hs] at hup hcur hm ⊢
  exact filter_rearm_equiv own l _ (runOk_trace_init own l first hops hok) hup hcur m hown hm

/-- A host history from the first start (empty store, instance 0): a message for instance 0; the store
catches up to certificate 7 and the participant skips to 8; a crash after the WAL append of a message for
instance 8; restart (at 8); the conflicting re-request (refused) and the recorded one (published); the
purge for certificate 7 (epoch 2: the instance-0 record goes) and the trim; stop and restart (floor 2);
a conflicting re-request (refused), a rebroadcast, a decision.  (The message for instance 8 is in the WAL
and in `selfMessages` twice — `BroadcastMessage` appends whenever the filter allows — so the rebroadcast
publishes it twice: same signature.) -/
private def hhist : List HostOp :=
  [.request 0 1, .sign 0 1 10 0, .storePut 7, .certToRunner 7, .request 0 1, .sign 1 1 20 2,
   .restart false, .request 0 1, .sign 0 1 21 0, .sign 0 1 20 0, .finalizePurge 7 [], .finalizeTrim 7,
   .stop, .restart false, .request 0 1, .sign 0 1 22 0, .rebroadcast 0 1, .decide]

example : HostOk ownAll hhist := by decide

example :
    let s := hrun (HState.init 0 0) hhist
    s.sys.wire = [⟨0, 1, 0, 1, 10⟩, ⟨8, 1, 0, 1, 20⟩, ⟨8, 1, 0, 1, 20⟩, ⟨8, 1, 0, 1, 20⟩] ∧
    s.sys.wal = [⟨8, 1, 0, 1, 20⟩, ⟨8, 1, 0, 1, 20⟩] ∧ s.sys.purged = 2 ∧ s.sys.floor = 2 ∧
    s.latest = some 8 ∧ s.cur = 9 ∧ s.out = [⟨8, 0, 1⟩] := by decide

private def opEqB : Op → Op → Bool
  | .broadcast m c, .broadcast m' c' => m == m' && c == c'
  | .rebroadcast i r p, .rebroadcast i' r' p' => i == i' && r == r' && p == p'
  | .receive p m, .receive p' m' => p == p' && m == m'
  | .restart, .restart => true
  | .stop, .stop => true
  | .purge k keep, .purge k' keep' => k == k' && keep == keep'
  | .trim c, .trim c' => c == c'
  | _, _ => false

private def opsEqB : List Op → List Op → Bool
  | [], [] => true
  | a :: as, b :: bs => opEqB a b && opsEqB as bs
  | _, _ => false

/-- the induced history of the broadcast-path model, which is admissible (as `host_run_admissible` says) -/
example :
    let ops : List Op :=
      [.broadcast ⟨0, 1, 0, 1, 10⟩ 0, .broadcast ⟨8, 1, 0, 1, 20⟩ 2, .restart, .broadcast ⟨8, 1, 0, 1, 21⟩ 0,
       .broadcast ⟨8, 1, 0, 1, 20⟩ 0, .purge 2 [], .trim 7, .stop, .restart, .broadcast ⟨8, 1, 0, 1, 22⟩ 0,
       .rebroadcast 8 0 1]
    opsEqB (trace (HState.init 0 0) hhist) ops = true ∧ RunOk ownAll (Sys.init 0) ops := by decide

/-- **Sharpness of the start instance.**  The same model with a runner that starts the participant at
instance 0 instead of `latest + 1`: message for instance 0; the store reaches certificate 7; restart;
purge for certificate 7 (epoch 2, the closed file with the instance-0 record is deleted); restart; the
participant re-runs instance 0 with another value.  All hypotheses hold, the wire equivocates — whereas
with the real start instance the same history is harmless.  `purged + 6 ≤ next = cur` at a restart is
what carries the theorems. -/
example :
    let ops : List HostOp := [.request 0 1, .sign 0 1 10 0, .storePut 7, .stop, .restart false,
                              .finalizePurge 7 [], .stop, .restart false, .request 0 1, .sign 0 1 11 0]
    HostOk ownAll ops ∧
    (hrunWith (fun _ => 0) (HState.init 0 0) ops).sys.wire = [⟨0, 1, 0, 1, 10⟩, ⟨0, 1, 0, 1, 11⟩] ∧
    noEquivB (hrunWith (fun _ => 0) (HState.init 0 0) ops).sys.wire = false ∧
    (hrun (HState.init 0 0) ops).sys.wire = [⟨0, 1, 0, 1, 10⟩, ⟨8, 1, 0, 1, 11⟩] := by decide

/-- **Sharpness of `restart false`.**  `RequestBroadcast` only queues a builder in `F3.outboundMessages`;
the embedder signs it later and `F3.Broadcast` hands it to whatever runner is current.  If the same `F3`
object is stopped and started again (`restart true`), a builder of the previous run survives: instance 0
published; restart (store empty: instance 0 again) and the re-proposal queued but not yet signed; the
store reaches certificate 7, the purge for it deletes the instance-0 record; stop, start on the same
object; the embedder signs the stale builder.  The re-armed filter knows nothing of instance 0. -/
example :
    let ops : List HostOp := [.request 0 1, .sign 0 1 10 0, .stop, .restart false, .request 0 1,
                              .storePut 7, .certToRunner 7, .finalizePurge 7 [], .stop, .restart true,
                              .sign 0 1 11 0]
    ¬ HostOk ownAll ops ∧ noEquivB (hrun (HState.init 0 0) ops).sys.wire = false ∧
    (hrun (HState.init 0 0) ops).sys.floor = 2 ∧ (hrun (HState.init 0 0) ops).cur = 8 := by decide

end HostLevel

end F3.Props.C12

namespace F3.Props.C12
section Regenerated2
open F3.Equiv
/-! ## Regenerated: the equivocation filter and the broadcast path as they stand in `equivocation.go` / `host.go`

Against `F3/Gen/Equiv2.lean` (`tools/go2lean/targets.d/Equiv2.json`); the two statements quoted with `type_of%`
are stated and proved in `F3/Proofs/NodeGen2Equiv.lean`. -/

/-- `ProcessBroadcast` of the model = the regenerated function (return code + action trace), every
filter and message (statement: `F3.Gen2Tie.processBroadcast_is_regenerated`) -/
theorem process_broadcast_is_regenerated : type_of% @F3.Gen2Tie.processBroadcast_is_regenerated :=
  @F3.Gen2Tie.processBroadcast_is_regenerated

/-- **`ProcessReceive` is the source's**: for every filter, peer and message, the model's new filter is
the regenerated function's action trace (other instance → nothing; sender not tracked → nothing; seen
with another signature → mark the sender; not seen → remember it). -/
theorem process_receive_is_regenerated (f : Filter) (p : Peer) (m : Msg) :
    f.processReceive p m =
      F3.Gen2Tie.receiveActs f p m
        (F3.Gen.Equiv2.processReceive f.cur m.inst (alookup m.key f.seen).isSome
          (alookup m.sender f.active).isSome
          (match alookup m.key f.seen with | some info => info.sig == m.sig | none => true)).2 := by
  unfold Filter.processReceive F3.Gen.Equiv2.processReceive F3.Gen2Tie.receiveActs
  rw [F3.Proofs.GenTie.cast_ne]
  by_cases h : m.inst = f.cur
  · cases hs : alookup m.sender f.active with
    | none => simp [h]
    | some sd =>
      cases hk : alookup m.key f.seen with
      | none => simp [h]
      | some info => by_cases e : info.sig = m.sig <;> simp [h, e]
  · simp [h]

/-- filter → WAL append → publish: the calls of `BroadcastMessage`, then of `rebroadcastMessage`, in source
order: the filter is asked first, the WAL is appended to before anything is published, a rebroadcast
appends nothing -/
theorem broadcast_call_order_is_regenerated :
    F3.Gen.Equiv2.callSites.map (·.2.1) =
      ["ProcessBroadcast", "Append", "Publish", "ProcessBroadcast", "Publish"] := rfl

/-- … and the model's crash points follow that order (statement: `F3.Gen2Tie.broadcast_model_order`) -/
theorem broadcast_model_order : type_of% @F3.Gen2Tie.broadcast_model_order :=
  @F3.Gen2Tie.broadcast_model_order

/-- **`keepInstancesInWAL = 5`**: on certificate `c` (a `uint64`) the node purges the WAL exactly when the
regenerated guard holds, at the regenerated epoch; this is the `if c > 5 then purge (c - 5)` the Lean
driver of C11 / C12 (`Driver/Equiv.lean`) replays certificates with. No wrap: the guard keeps
`c - keepInstancesInWAL` non-negative. -/
theorem wal_purge_epoch_is_regenerated (c : Nat) (hc : c < 2 ^ 64) :
    (if F3.Gen.Equiv2.walPurgeGuard c then some (F3.Gen.Equiv2.walPurgeEpoch c).toNat else none) =
      (if c > 5 then some (c - 5) else none) := by
  unfold F3.Gen.Equiv2.walPurgeGuard F3.Gen.Equiv2.walPurgeEpoch
  rw [show (5 : Int) = ((5 : Nat) : Int) from rfl, F3.Proofs.GenTie.cast_lt]
  simp only [decide_eq_true_eq]
  split
  · rename_i h
    rw [← Int.natCast_sub (Nat.le_of_lt h), F3.Proofs.GenTie.u64_of_lt _ (Int.natCast_nonneg _) (by omega),
      Int.toNat_natCast]
  · rfl

example : (F3.Gen.Equiv2.processBroadcast 5 4 false false false true).1 = 0 ∧
    (F3.Gen.Equiv2.processBroadcast 5 6 false false false true) = (1, 6, [1, 2, 3, 40, 5]) ∧
    (F3.Gen.Equiv2.processBroadcast 5 5 true true false false) = (0, 5, []) ∧
    (F3.Gen.Equiv2.processBroadcast 5 5 true false true false) = (2, 5, [41, 5]) := by decide

end Regenerated2
end F3.Props.C12

namespace F3.Props.C12
section Skeletons

/-- **The Go functions this property's models mirror still have the statement structure the models were written
against**: each regenerated skeleton (pre-order list of statement kinds, `tools/go2lean/skel.go`) equals the
expectation recorded in `F3/Proofs/SkelTie*.lean`. An added early return, cap, loop or dropped branch in one of these functions
breaks this obligation even when no regenerated *expression* changes. -/
theorem code_structure_as_modelled :
    F3.Gen.SkelNode.skelProcessBroadcast = F3.SkelTie.SkelNode.skelProcessBroadcastExpected ∧
    F3.Gen.SkelNode.skelBroadcastMessage = F3.SkelTie.SkelNode.skelBroadcastMessageExpected ∧
    F3.Gen.SkelWal.skelWalAppend = F3.SkelTie.SkelWal.skelWalAppendExpected ∧
    F3.Gen.SkelWal.skelWalPurge = F3.SkelTie.SkelWal.skelWalPurgeExpected ∧
    F3.Gen.SkelWal.skelWalClose = F3.SkelTie.SkelWal.skelWalCloseExpected :=
  ⟨F3.SkelTie.SkelNode.skelProcessBroadcast_expected, F3.SkelTie.SkelNode.skelBroadcastMessage_expected, F3.SkelTie.SkelWal.skelWalAppend_expected, F3.SkelTie.SkelWal.skelWalPurge_expected, F3.SkelTie.SkelWal.skelWalClose_expected⟩

end Skeletons
end F3.Props.C12
