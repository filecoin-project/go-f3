import F3.Proofs.SkelTieInputs
import F3.Model.Inputs
import F3.Spec.Inputs
import F3.Proofs.Inputs
import F3.Proofs.InputsComplete
/-!
# C15 — proposals extend the finalized head along EC; committees derive from finalized history

Theorems about `F3.Inputs` (hand model of `consensus_inputs.go`, tied to the real component by
`h_inputs`). They hold for every finite EC tree, every certificate store, every manifest and clock
reading; no bound on sizes.
-/
namespace F3.Props.C15
open F3 F3.Inputs F3.Spec.Inputs F3.Proofs.Inputs F3.Proofs.InputsComplete


/-- `collectChain` returns a parent chain from the base to EC's head: each tipset's EC parent is the
tipset before it, the first one's parent is the base, and the last one is the head. -/
theorem collect_is_parent_chain (ec : EC) (baseKey : Nat) (base head : Block) (l : List Nat)
    (h : collectChain ec baseKey base head = .ok (some l)) :
    isPath ec baseKey l ∧ (baseKey :: l).getLast? = some ec.head :=
  collectChain_path ec baseKey base head l h

/-- **…and it finds every such chain**: on a well-formed EC (every parent exists and has a strictly
smaller epoch) `collectChain` returns exactly the parent path whenever the base is an ancestor of,
or equal to, the head — so a proposal is cut short only by the look-back, freshness and length rules,
never by the walk itself. -/
theorem collect_complete (ec : EC) (hwf : wfEC ec) (baseKey : Nat) (base head : Block) (l : List Nat)
    (hb : ec.get baseKey = some base) (hh : ec.get ec.head = some head)
    (hp : isPath ec baseKey l) (hl : (baseKey :: l).getLast? = some ec.head) :
    collectChain ec baseKey base head = .ok (some l) := by
  have hlast : (baseKey :: l).getLast (by simp) = ec.head := by
    have := List.getLast?_eq_some_getLast (l := baseKey :: l) (by simp)
    rw [this] at hl
    simpa using hl
  have hnb : ¬ head.epoch < base.epoch := by
    have := isPath_last_epoch ec hwf hb hh hp hlast
    omega
  -- the walk has fuel for the whole path
  have hlen := isPath_length_le ec hwf hb hp
  unfold collectChain
  simp only [hnb, ite_false]
  have := collectFrom_complete ec hwf baseKey base hb l.length l rfl [] (ec.blocks.length + 1) hp (by omega)
  rw [hlast] at this
  simpa using this

/-- consequently "nil" (propose the base alone) is answered only when the head does not descend from
the base -/
theorem collect_nil_only_if_not_descendant (ec : EC) (hwf : wfEC ec) (baseKey : Nat) (base head : Block)
    (hb : ec.get baseKey = some base) (hh : ec.get ec.head = some head)
    (hnil : collectChain ec baseKey base head = .ok none) :
    ¬ ∃ l, isPath ec baseKey l ∧ (baseKey :: l).getLast? = some ec.head := by
  rintro ⟨l, hp, hl⟩
  rw [collect_complete ec hwf baseKey base head l hb hh hp hl] at hnil
  cases hnil

/-- **Shape of every proposal.** Whenever `GetProposal` answers, for every EC tree, certificate store,
manifest and clock reading: the chain starts at the tipset finalized by the previous instance (the
bootstrap tipset for the first instance); every tipset carries EC's epoch and EC's power-table CID
at that tipset; every next tipset is the EC child of the previous one on the way to EC's head (the
proposal is a prefix of the parent chain base → head), or the chain is the base alone; epochs
strictly increase from a non-negative base epoch; and the length is at most
`min(ChainMaxLen, ChainProposedLength)`. -/
theorem proposal_shape (m : Manifest) (s : Store) (ec : EC) (now : Int) (inst supp : Nat) (chain : List Tip)
    (h : getProposal m s ec now inst = .ok (supp, chain)) :
    ∃ baseKey b sfx, expectedBase m s ec inst = some baseKey ∧ chain = b :: sfx ∧ b.key = baseKey ∧
      (∀ t ∈ chain, tipOf ec t.key = some t) ∧
      isPath ec baseKey (sfx.map (·.key)) ∧
      (sfx = [] ∨ ∃ rest, isPath ec baseKey (sfx.map (·.key) ++ rest) ∧
          (baseKey :: (sfx.map (·.key) ++ rest)).getLast? = some ec.head) ∧
      epochsIncreasing chain = true ∧ 0 ≤ b.epoch ∧
      (chain.length : Int) ≤ min ChainMaxLen m.chainProposedLength := by
  obtain ⟨baseKey, base, head, col, b, sfx, c, r⟩ := getProposal_ok h
  obtain ⟨⟨rest, hpre⟩, htips, hlen⟩ := r.suffix_spec
  obtain ⟨base', hbase', hbkey, hbe⟩ := tipOf_some r.baseTip
  obtain rfl : base = base' := Option.some.inj (r.base_ok.symm.trans hbase')
  -- the proposal follows the collected chain, or nothing was collected and it is the base alone
  have hway : sfx = [] ∨ ∃ rest, isPath ec baseKey (sfx.map (·.key) ++ rest) ∧
      (baseKey :: (sfx.map (·.key) ++ rest)).getLast? = some ec.head := by
    cases col with
    | none => exact Or.inl (List.map_eq_nil_iff.mp (List.append_eq_nil_iff.mp hpre.symm).1)
    | some l => exact Or.inr ⟨rest, hpre ▸ collectChain_path ec baseKey base head l r.collected⟩
  rw [r.chain_eq]
  refine ⟨baseKey, b, sfx, baseKeyOf_expected m s ec inst baseKey r.baseKey_ok, rfl, hbkey, fun t ht => ?_, ?_, hway,
    r.increasing, by rw [hbe]; have := r.base_epoch; omega, by rw [List.length_cons]; omega⟩
  · rcases List.mem_cons.mp ht with rfl | ht
    · rw [hbkey]; exact r.baseTip
    · exact htips t ht
  · rcases hway with rfl | ⟨rest, hp, _⟩
    · trivial
    · exact isPath_prefix ec _ _ _ hp

/-- the executable shape predicate used by the driver accepts exactly… at least every proposal of
the model: `proposalShape` is implied by `proposal_shape` on the points it checks (base, EC data,
length). -/
theorem proposal_passes_executable_length_check (m : Manifest) (s : Store) (ec : EC) (now : Int) (inst supp : Nat)
    (chain : List Tip) (h : getProposal m s ec now inst = .ok (supp, chain)) :
    ¬ ((chain.length : Int) > min ChainMaxLen m.chainProposedLength) ∧ chain ≠ [] := by
  obtain ⟨_, b, sfx, _, hc, _, _, _, _, _, _, hlen⟩ := proposal_shape m s ec now inst supp chain h
  exact ⟨by omega, by rw [hc]; simp⟩

/-- when EC's head is behind the base the proposal is the base alone -/
theorem proposal_base_only_when_head_behind (m : Manifest) (s : Store) (ec : EC) (now : Int) (inst supp : Nat)
    (chain : List Tip) (h : getProposal m s ec now inst = .ok (supp, chain))
    (baseKey : Nat) (base head : Block) (hk : baseKeyOf m s ec inst = .ok baseKey)
    (hb : ec.get baseKey = some base) (hh : ec.get ec.head = some head) (hbehind : head.epoch < base.epoch) :
    chain.length = 1 := by
  obtain ⟨baseKey', base', head', col, b, sfx, _, r⟩ := getProposal_ok h
  obtain rfl : baseKey = baseKey' := Res.ok.inj (hk.symm.trans r.baseKey_ok)
  obtain rfl : base = base' := Option.some.inj (hb.symm.trans r.base_ok)
  obtain rfl : head = head' := Option.some.inj (hh.symm.trans r.head_ok)
  -- the walk back from the head gives up at once, so nothing is collected and the suffix is empty
  obtain rfl : none = col := Res.ok.inj ((collectChain_behind ec baseKey hbehind).symm.trans r.collected)
  obtain ⟨⟨rest, hpre⟩, _, _⟩ := r.suffix_spec
  rw [r.chain_eq, List.map_eq_nil_iff.mp (List.append_eq_nil_iff.mp hpre.symm).1]
  rfl

/-- the supplemental data of a proposal commits to the table of the next instance's committee, as
derived by the same rule from the same store and EC -/
theorem supp_commits_next_committee (m : Manifest) (s : Store) (ec : EC) (now : Int) (inst supp : Nat)
    (chain : List Tip) (h : getProposal m s ec now inst = .ok (supp, chain)) :
    ∃ c, getCommittee m s ec (inst + 1) = .ok c ∧ c.table = supp := by
  obtain ⟨_, _, _, _, _, _, c, r⟩ := getProposal_ok h
  exact ⟨c, r.committee, r.supp_eq.symm⟩

/-- **Committees depend on finalized tipsets only.** Two EC views that agree on the tipsets named by
the stored certificates and on the bootstrap tipset — and may differ arbitrarily elsewhere: other
heads, forks, unfinalized blocks — give the same committee for every instance. -/
theorem committee_ec_view_independent (m : Manifest) (s : Store) (ec1 ec2 : EC) (inst : Nat)
    (hboot : ec1.byEpoch (m.bootstrapEpoch - m.finality) = ec2.byEpoch (m.bootstrapEpoch - m.finality))
    (hget : ∀ c ∈ s.certs, ec1.get c.head = ec2.get c.head ∧ ec1.get c.base = ec2.get c.base) :
    getCommittee m s ec1 inst = getCommittee m s ec2 inst := by
  unfold getCommittee
  split
  · split
    · rfl
    · split
      · rw [hboot]
      · split
        · rfl
        · rename_i c hc
          rw [(hget c (store_get_mem s _ c hc)).2]
  · split
    · rfl
    · rename_i c hc
      rw [(hget c (store_get_mem s _ c hc)).1]


/-- **Committees are stable under new certificates**: once the store determines the table of an
instance, appending any further certificates does not change that instance's committee. -/
theorem committee_stable_under_new_certificates (m : Manifest) (s : Store) (extra : List Cert) (ec : EC) (inst : Nat)
    (hfirst : s.first = m.initialInstance) (hL : 0 < m.committeeLookback)
    (havail : inst ≤ s.first + s.certs.length) (hne : s.certs ≠ []) :
    getCommittee m { s with certs := s.certs ++ extra } ec inst = getCommittee m s ec inst := by
  have hlen : 0 < s.certs.length := List.length_pos_iff.mpr hne
  have he1 : s.certs.isEmpty = false := by simpa using hne
  have he2 : (s.certs ++ extra).isEmpty = false := by simp [hne]
  unfold getCommittee
  simp only [he1, he2]
  rw [store_powerTable_append s extra m.initialInstance (by omega),
      store_get_append s extra m.initialInstance (by omega),
      store_powerTable_append s extra inst havail]
  by_cases hw : inst < m.initialInstance + m.committeeLookback
  · simp only [hw, ite_true]
  · simp only [hw, ite_false]
    rw [store_get_append s extra (inst - m.committeeLookback) (by omega)]

/-- **Committees are a function of the finalized history.** Two nodes whose stores share a
non-empty certificate prefix that already determines the instance's table, whose EC views agree on
the tipsets named by that prefix and on the bootstrap tipset, derive the same committee — whatever
else they have stored or seen. -/
theorem committee_function_of_history (m : Manifest) (first initialTable : Nat) (pre e1 e2 : List Cert)
    (ec1 ec2 : EC) (inst : Nat)
    (hfirst : first = m.initialInstance) (hL : 0 < m.committeeLookback)
    (havail : inst ≤ first + pre.length) (hne : pre ≠ [])
    (hboot : ec1.byEpoch (m.bootstrapEpoch - m.finality) = ec2.byEpoch (m.bootstrapEpoch - m.finality))
    (hget : ∀ c ∈ pre, ec1.get c.head = ec2.get c.head ∧ ec1.get c.base = ec2.get c.base) :
    getCommittee m { first := first, initialTable := initialTable, certs := pre ++ e1 } ec1 inst =
    getCommittee m { first := first, initialTable := initialTable, certs := pre ++ e2 } ec2 inst := by
  let s : Store := { first := first, initialTable := initialTable, certs := pre }
  have h1 := committee_stable_under_new_certificates m s e1 ec1 inst hfirst hL havail hne
  have h2 := committee_stable_under_new_certificates m s e2 ec2 inst hfirst hL havail hne
  have h3 := committee_ec_view_independent m s ec1 ec2 inst hboot hget
  show getCommittee m { s with certs := s.certs ++ e1 } ec1 inst = getCommittee m { s with certs := s.certs ++ e2 } ec2 inst
  rw [h1, h2, h3]

/-- inside the look-back window the committee's table is the initial table -/
theorem committee_initial_table_in_window (m : Manifest) (s : Store) (ec : EC) (inst : Nat) (c : Committee)
    (hfirst : s.first = m.initialInstance) (hw : inst < m.initialInstance + m.committeeLookback)
    (h : getCommittee m s ec inst = .ok c) : c.table = s.initialTable := by
  unfold getCommittee at h
  simp only [hw, ite_true] at h
  have hp : s.powerTable m.initialInstance = some s.initialTable := by
    unfold Store.powerTable; simp [hfirst]
  simp only [hp] at h
  split at h
  · split at h
    · cases h
    · simp only [Res.ok.injEq] at h; rw [← h]
  · split at h
    · cases h
    · split at h
      · cases h
      · simp only [Res.ok.injEq] at h; rw [← h]

/-- after the window, table and beacon come from the head finalized `lookback` instances earlier:
the beacon is that tipset's, the table is the one committed for the instance by the previous
certificate if the store already has it, else EC's table at that tipset -/
theorem committee_after_window (m : Manifest) (s : Store) (ec : EC) (inst : Nat) (c : Committee)
    (hw : ¬ inst < m.initialInstance + m.committeeLookback)
    (h : getCommittee m s ec inst = .ok c) :
    ∃ cert blk, s.get (inst - m.committeeLookback) = some cert ∧ ec.get cert.head = some blk ∧
      c.beacon = cert.head ∧ (s.powerTable inst = some c.table ∨ (s.powerTable inst = none ∧ c.table = blk.pt)) := by
  unfold getCommittee at h
  simp only [hw, ite_false] at h
  split at h
  · cases h
  · rename_i cert hcert
    cases hg : ec.get cert.head with
    | none =>
      simp only [hg] at h
      cases hpt : s.powerTable inst with
      | none => simp [hpt] at h
      | some t => simp [hpt] at h
    | some blk =>
      simp only [hg] at h
      cases hpt : s.powerTable inst with
      | none =>
        simp [hpt] at h
        exact ⟨cert, blk, hcert, hg, by rw [← h], Or.inr ⟨rfl, by rw [← h]⟩⟩
      | some t =>
        simp [hpt] at h
        exact ⟨cert, blk, hcert, hg, by rw [← h], Or.inl (by rw [← h])⟩

/-- a small tree: 0 ← 1 ← 2 ← 3 ← 4 (main chain, epoch 3 is a null round) and a fork 2 ← 5 -/
def exampleEC : EC :=
  { blocks := [⟨0, none, 0, 0⟩, ⟨1, some 0, 0, 30⟩, ⟨2, some 1, 1, 60⟩, ⟨4, some 2, 1, 120⟩, ⟨5, some 3, 0, 150⟩, ⟨3, some 2, 1, 90⟩],
    head := 4 }

def exampleManifest : Manifest :=
  { initialInstance := 0, bootstrapEpoch := 1, finality := 0, headLookback := 0, period := 30,
    chainProposedLength := 100, committeeLookback := 2 }

/-- first instance, fresh store: the proposal runs from the bootstrap tipset 1 along 2, 3 to the head 4 -/
example : getProposal exampleManifest { first := 0, initialTable := 0, certs := [] } exampleEC 1000 0 =
    .ok (0, [⟨1, 1, 0⟩, ⟨2, 2, 1⟩, ⟨3, 4, 1⟩, ⟨4, 5, 0⟩]) := by decide

/-- the head tipset is younger than one period: it is trimmed -/
example : (match getProposal exampleManifest { first := 0, initialTable := 0, certs := [] } exampleEC 160 0 with
    | .ok (_, c) => c.length | .err _ => 0) = 3 := by decide

/-- head on the fork 2 ← 5 while tipset 3 is final: the proposal collapses to the base -/
example : getProposal exampleManifest { first := 0, initialTable := 0, certs := [⟨1, 3, 0⟩] }
    { exampleEC with head := 5 } 1000 1 = .ok (1, [⟨3, 4, 1⟩]) := by decide

/-- committee of instance 2 (look-back 2): from the head finalized in instance 0 -/
example : getCommittee exampleManifest { first := 0, initialTable := 0, certs := [⟨1, 3, 0⟩, ⟨3, 4, 0⟩] } exampleEC 2 =
    .ok { table := 0, beacon := 3 } := by decide

end F3.Props.C15

namespace F3.Props.C15
section Skeletons

/-- **The Go functions this property's models mirror still have the statement structure the models were written
against**: each regenerated skeleton (pre-order list of statement kinds, `tools/go2lean/skel.go`) equals the
expectation written down in `F3/Proofs/SkelTie*.lean`. An added early return, cap, loop or dropped branch in one of these functions
breaks this obligation even when no regenerated *expression* changes. -/
theorem code_structure_as_modelled :
    F3.Gen.SkelInputs.skelGetProposal = F3.SkelTie.SkelInputs.skelGetProposalExpected ∧
    F3.Gen.SkelInputs.skelPtCidForTipset = F3.SkelTie.SkelInputs.skelPtCidForTipsetExpected :=
  ⟨F3.SkelTie.SkelInputs.skelGetProposal_expected, F3.SkelTie.SkelInputs.skelPtCidForTipset_expected⟩

end Skeletons
end F3.Props.C15
