import F3.Proofs.SkelTieStore
import F3.Proofs.StoreHistory
import F3.Proofs.StoreWitness
import F3.Proofs.StoreGen
/-!
# C09 — Certificate store: gap-free immutable history with derivable power tables

Refinement of the datastore-level model `F3.Store` (what `f3d_store` executes against the log of the
real `certstore`) to the abstract history `F3.Store.Spec = {first, initial table, certs}`:
`Repr cfg.freq ds sp` (datastore represents history), `MemOk m sp` (handle agrees), `SubsOk m`
(capacity-1 channels). Everything observable is then a function of `sp`.
-/
namespace F3.Props.C09
open F3.Store

variable {cfg : Cfg} {ds : DS} {sp : Spec} {m : Mem}

/-- **Put refines the abstract `put`**: for every represented store and every certificate, the
datastore after `Put` represents `sp.put c` and the handle agrees with it — `sp.put c` appends `c` iff
`c` is the immediate successor, finalises a valid non-bottom chain and its delta takes the current
table to a non-empty table with the committed CID (`Spec.admits_iff`), and is `sp` otherwise. -/
theorem put_refines (hr : Repr cfg.freq ds sp) (hm : MemOk m sp) (hs : SubsOk m)
    (hsmall : sp.certs.length + 1 < maxInt) (c : Cert) :
    Repr cfg.freq (applyWs ds (put cfg m c).ws) (sp.put c) ∧
    (match (put cfg m c).res with
     | .ok m' => MemOk m' (sp.put c) ∧ SubsOk m'
     | .error _ => sp.put c = sp) :=
  put_refines' cfg hr hm hs hsmall c

/-- A certificate is written **iff** the history admits it: successor-only, delta reproduces the
committed table, table non-empty, chain valid and not bottom. -/
theorem put_writes_iff_admitted (hr : Repr cfg.freq ds sp) (hm : MemOk m sp) (hs : SubsOk m) (c : Cert) :
    (put cfg m c).ws ≠ [] ↔
      (c.inst = sp.next ∧ c.chain = .ok ∧ ∃ t t', Spec.foldTables sp.init sp.certs = some t ∧
        tableStep t c.delta = .ok t' ∧ c.commit = Commit.known t' ∧ t' ≠ []) := by
  rw [← Spec.admits_iff]
  rcases put_cases cfg hm hr.facts hs c with ⟨hadm, t', _, _, hput⟩ | ⟨hadm, hput | ⟨e, hput, _⟩⟩ <;> rw [hput] <;>
    simp [hadm, putWrites, stageWrites]

/-- Re-submitting an instance that is already stored changes nothing — no write, same handle —
whatever the re-submitted certificate contains. -/
theorem stale_reput_identity (hr : Repr cfg.freq ds sp) (hm : MemOk m sp) {c : Cert}
    (h1 : sp.first ≤ c.inst) (h2 : c.inst < sp.next) (h3 : c.chain = .ok) :
    put cfg m c = ⟨[], .ok m⟩ :=
  put_stale cfg hm hr.facts h1 h2 h3

/-- Gap, wrong delta, wrong commitment, bottom / invalid chain, emptied table, instance before the
first: rejected with an error, **nothing written, handle unchanged**. -/
theorem rejected_put_unchanged (hr : Repr cfg.freq ds sp) (hm : MemOk m sp) {c : Cert}
    (hadm : sp.admits c = false) (hstale : ¬ (sp.first ≤ c.inst ∧ c.inst < sp.next ∧ c.chain = .ok)) :
    ∃ e, put cfg m c = ⟨[], .error e⟩ ∧ e ≠ .wouldBlock :=
  put_rejected cfg hm hr.facts hadm hstale

/-- The history only grows at the end: stored certificates are never replaced, `next` never decreases. -/
theorem latest_monotone (sp : Spec) (c : Cert) :
    sp.next ≤ (sp.put c).next ∧ sp.certs <+: (sp.put c).certs := by
  unfold Spec.put
  split
  · rw [Spec.push_next, Spec.push_certs]; exact ⟨Nat.le_succ _, List.prefix_append _ _⟩
  · exact ⟨Nat.le_refl _, List.prefix_refl _⟩

/-- `Get` returns exactly the stored certificate for every instance of the history. -/
theorem get_exact (hr : Repr cfg.freq ds sp) {i : Nat} (h1 : sp.first ≤ i) (h2 : i < sp.next) :
    ∃ c, sp.certAt i = some c ∧ getCert ds i = .ok c ∧ c.inst = i := by
  obtain ⟨k, rfl⟩ := Nat.exists_eq_add_of_le h1
  have hk : k < sp.certs.length := by unfold Spec.next at h2; omega
  exact ⟨sp.certs[k], by simp [Spec.certAt, List.getElem?_eq_getElem hk], getCert_repr hr hk, hr.facts.inst _ hk⟩

/-- Range reads inside the history return exactly the stored certificates, in order, complete. -/
theorem range_exact (hr : Repr cfg.freq ds sp) {a b : Nat} (h1 : sp.first ≤ a) (h2 : a ≤ b) (h3 : b < sp.next) :
    getRange ds a b = .ok (sp.range a b, none) ∧ (sp.range a b).length = b + 1 - a := by
  obtain ⟨k, rfl⟩ := Nat.exists_eq_add_of_le h1
  obtain ⟨n, rfl⟩ := Nat.exists_eq_add_of_le h2
  have hk : k + n + 1 ≤ sp.certs.length := by unfold Spec.next at h3; omega
  have hrange : sp.range (sp.first + k) (sp.first + k + n) = (sp.certs.drop k).take (n + 1) := by
    rw [Spec.range, if_neg (by omega), Nat.add_sub_cancel_left,
      show sp.first + k + n + 1 - (sp.first + k) = n + 1 by omega]
  rw [hrange, getRange_repr hr k n hk, List.length_take, List.length_drop]
  exact ⟨rfl, by omega⟩

/-- **Power tables are derivable**: for every instance from the first to the next one, the store
returns the initial table with the deltas of all earlier certificates applied, one after the other —
whether it answers from memory, from the initial table or from a checkpoint (any period), across
checkpoint boundaries. Outside that range it returns an error. -/
theorem power_table_derivable (hr : Repr cfg.freq ds sp) (hm : MemOk m sp) (i : Nat) :
    (sp.first ≤ i ∧ i ≤ sp.next →
      ∃ T, Spec.foldTables sp.init (sp.certs.take (i - sp.first)) = some T ∧ sp.tableAt i = some T ∧
        getPowerTable cfg m ds i = .ok T) ∧
    (i < sp.first → getPowerTable cfg m ds i = .error .beforeFirst) ∧
    (sp.next < i → getPowerTable cfg m ds i = .error .future) := by
  have hnext : m.next = sp.next := mem_next_eq hm.first hm.latest hr.facts
  refine ⟨?_, ?_, ?_⟩
  · rintro ⟨h1, h2⟩
    unfold Spec.next at h2
    obtain ⟨T, hT, _⟩ := hr.facts.tbls (i - sp.first) (by omega)
    refine ⟨T, hT, by rw [Spec.tableAt_eq sp h1 h2]; exact hT, ?_⟩
    have := getPowerTable_repr hr cfg m hm.first hm.latest (Or.inr hm.table) (k := i - sp.first) (by omega) (Or.inl rfl) hT
    rwa [show sp.first + (i - sp.first) = i by omega] at this
  · intro h
    unfold getPowerTable
    rw [if_pos (by rw [hm.first]; exact h)]
  · intro h
    unfold getPowerTable
    rw [if_neg (by rw [hm.first]; unfold Spec.next at h; omega), if_pos (by omega)]

/-- **Identically before and after reopening**: reopening writes nothing and yields a handle that
agrees with the same history; hence every certificate and every power table read through the new
handle equals the one read through the old handle (`observe` = `Spec.obs` for both). -/
theorem reopen_same_observations (hu : cfg.openFreq = cfg.freq) (hr : Repr cfg.freq ds sp) (hm : MemOk m sp) (o : Orders) :
    ∃ m', openStore cfg ds o = ⟨[], .ok m'⟩ ∧ MemOk m' sp ∧
      observe cfg m' ds = observe cfg m ds ∧ observe cfg m ds = sp.obs := by
  obtain ⟨T, hT, hopen⟩ := openStore_repr cfg o hr (Or.inl hu)
  refine ⟨memOf sp T, hopen, memOk_memOf hT, ?_, observe_repr cfg hr hm⟩
  rw [observe_repr cfg hr (memOk_memOf hT), observe_repr cfg hr hm]

/-- The same with the checkpoint period lowered only *after* opening (what the test accessor does),
as long as no boundary of the opening period lies between the first and the next instance. -/
theorem reopen_same_observations_lowered (ho : sp.next - sp.next % cfg.openFreq ≤ sp.first)
    (hr : Repr cfg.freq ds sp) (hm : MemOk m sp) (o : Orders) :
    ∃ m', openStore cfg ds o = ⟨[], .ok m'⟩ ∧ observe cfg m' ds = observe cfg m ds := by
  obtain ⟨T, hT, hopen⟩ := openStore_repr cfg o hr (Or.inr ho)
  exact ⟨memOf sp T, hopen, by rw [observe_repr cfg hr (memOk_memOf hT), observe_repr cfg hr hm]⟩

/-- **The writer never blocks on a subscriber**, and after an admitted `Put` every subscriber's
channel holds exactly the new latest certificate (drain-then-send on capacity-1 channels). -/
theorem subscriber_never_blocks (hm : MemOk m sp) (hf : sp.Facts) (hs : SubsOk m) (c : Cert) :
    (put cfg m c).res ≠ .error .wouldBlock ∧
    (sp.admits c = true → ∃ m', (put cfg m c).res = .ok m' ∧ ∀ s ∈ m'.subs, s.2 = [c]) := by
  rcases put_cases cfg hm hf hs c with ⟨hadm, t', _, _, hput⟩ | ⟨hadm, hput | ⟨e, hput, hne⟩⟩ <;> rw [hput]
  · refine ⟨by simp, fun _ => ⟨_, rfl, ?_⟩⟩
    intro s hs'
    simp only [List.mem_map] at hs'
    obtain ⟨s0, _, rfl⟩ := hs'
    rfl
  · exact ⟨by simp, fun h => by simp [hadm] at h⟩
  · exact ⟨fun h => hne (Except.error.inj h), fun h => by simp [hadm] at h⟩

/-- A new subscriber starts with the latest certificate (if any); receiving takes it out; both keep
the channel invariant, so the writer keeps never blocking. -/
theorem subscriber_sees_latest (hs : SubsOk m) (hfresh : ∀ s ∈ m.subs, s.1 ≠ m.nextSub) :
    SubsOk (subscribe m).1 ∧
    ∃ m2, recv (subscribe m).1 (subscribe m).2 = some (m2, m.latest) ∧ SubsOk m2 := by
  have hfind : (subscribe m).1.subs.find? (·.1 = (subscribe m).2) = some (m.nextSub, m.latest.toList) := by
    show List.find? (fun s => decide (s.1 = m.nextSub)) (m.subs ++ [(m.nextSub, m.latest.toList)]) = _
    rw [List.find?_append, List.find?_eq_none.2 (by intro s hs'; simpa using hfresh s hs')]
    simp
  obtain ⟨m2, hrecv⟩ : ∃ m2, recv (subscribe m).1 (subscribe m).2 = some (m2, m.latest) := by
    unfold recv; rw [hfind]; exact ⟨_, by cases m.latest <;> rfl⟩
  exact ⟨subsOk_subscribe hs, m2, hrecv, subsOk_recv (subsOk_subscribe hs) hrecv⟩

/-- Every table the store serves is in canonical order (power descending, then id ascending): the
order `gpbft.PowerTable` and the CID commitment rely on survives every delta, checkpoint and reopen. -/
theorem tables_sorted (hr : Repr cfg.freq ds sp) {i : Nat} {T : Table} (h : sp.tableAt i = some T) :
    T.Pairwise (fun a b => entryLe a b = true) := by
  unfold Spec.tableAt at h
  split at h
  · obtain ⟨m, _, rfl⟩ := Spec.canon_tbl (k := i - sp.first) hr.canon h
    exact toArray_sorted m
  · cases h

/-- **Every history.** Start from any represented store with its handle; run *any* sequence of
puts (admissible or not), reopenings, subscriptions, receives and unsubscriptions. The datastore and
handle at the end represent the abstract history obtained by running the same puts on `Spec`, and
everything observable — latest, every certificate, every power table — is that history's
(`Spec.obs`). The store never holds anything but a gap-free sequence of admitted certificates. -/
theorem history_refines (hu : cfg.openFreq = cfg.freq) (ops : List HOp) {w : DS × Mem} (h : Inv cfg w sp)
    (hsmall : sp.certs.length + ops.length < maxInt) :
    Inv cfg (ops.foldl (stepH cfg) w) (ops.foldl specStepH sp) ∧
    observe cfg (ops.foldl (stepH cfg) w).2 (ops.foldl (stepH cfg) w).1 = (ops.foldl specStepH sp).obs := by
  have hi := inv_run cfg hu ops h hsmall
  exact ⟨hi, observe_repr cfg hi.repr hi.mem⟩

open F3.Store.Witness in
/-- A represented two-certificate store whose tables change order (participant 2 overtakes 1), its
handle, and certificates of every kind: admissible successor, stale, gap, wrong commitment. -/
example : Repr cfgFixed.freq ds2 sp2 ∧ MemOk m2 sp2 ∧ SubsOk m2 ∧ sp2.certs.length + 1 < maxInt ∧
    sp2.admits ⟨5, 9, [⟨1, -10, 0⟩], .known [⟨2, 12, 2⟩], .ok⟩ = true ∧
    sp2.admits ⟨6, 9, [], .known T1, .ok⟩ = false ∧
    sp2.admits ⟨5, 9, [], .known T0, .ok⟩ = false ∧
    sp2.tableAt 3 = some T0 ∧ sp2.tableAt 4 = some T1 ∧ sp2.tableAt 5 = some T1 :=
  ⟨repr2, memOk2, subsOk2, by decide, by decide, by decide, by decide, by decide, by decide, by decide⟩

open F3.Store.Witness in
/-- `power_table_derivable` through the checkpoint at instance 4 (period 2) after a reopen: memory is
not used for instance 4, the checkpoint is. -/
example : getPowerTable cfgFixed m2 ds2 4 = .ok T1 ∧ getPowerTable cfgFixed m2 ds2 3 = .ok T0 ∧
    getRange ds2 3 4 = .ok ([c3, c4], none) := by decide

open F3.Store.Witness in
/-- `history_refines` has inhabitants: the invariant holds for the two-certificate witness store. -/
example : Inv cfgFixed (ds2, m2) sp2 := ⟨repr2, memOk2, subsOk2⟩

/-! ## Regenerated: the admission comparisons of `Put` as they stand in `certstore/certstore.go`

`F3.Gen.Store.putAdmission` is translated on every run (`tools/go2lean/targets.d/Store.json`) from the
statements of `Store.Put` from the first-instance check down to (excluding) the power-table computation:
below `firstInstance` (code 1), bottom (2), invalid chain (3), `nextCert := firstInstance` resp.
`latest + 1` (`uint64`, wrapped), beyond `nextCert` (4: gap), below it (`return nil`, 0: stale re-put),
otherwise the successor (5: falls through). The lock statements are skipped; `IsZero()` and the error of
`Validate()` are parameters. -/
open F3.Proofs.StoreGen

/-- **The model's admission rule is the source's.** For every store handle whose latest instance is below
`2^64 - 1` and every certificate, the admission outcome of the model's `put` (`admissionCode`: which of the
four admission errors, or a stale re-put answered `nil` without a write, or admitted as the successor) is
the code the regenerated statement range of `Put` computes — same comparisons, same order, same `+ 1`. -/
theorem put_admission_is_regenerated (cfg : Cfg) (m : Mem) (c : Cert)
    (hl : ∀ l, m.latest = some l → l.inst + 1 < 2 ^ 64) :
    admissionCode (put cfg m c) =
      F3.Gen.Store.putAdmission c.inst (decide (c.chain = .zero)) m.first (decide (c.chain = .invalid))
        (((m.latest.map (·.inst)).getD 0 : Nat) : Int) m.latest.isSome := by
  -- both sides are the same chain of comparisons once `nextCert` is identified with `m.next`
  rw [put_head_code]
  unfold F3.Gen.Store.putAdmission
  simp only [nextCert_eq_next m hl, decide_eq_true_eq, Int.ofNat_lt, gt_iff_lt]

-- non-vacuity: the six codes from the generated code (latest = 7, first = 3), then two with no latest certificate
example : F3.Gen.Store.putAdmission 2 false 3 false 7 true = 1 ∧ F3.Gen.Store.putAdmission 8 true 3 false 7 true = 2 ∧
    F3.Gen.Store.putAdmission 8 false 3 true 7 true = 3 ∧ F3.Gen.Store.putAdmission 9 false 3 false 7 true = 4 ∧
    F3.Gen.Store.putAdmission 5 false 3 false 7 true = 0 ∧ F3.Gen.Store.putAdmission 8 false 3 false 7 true = 5 ∧
    F3.Gen.Store.putAdmission 3 false 3 false 0 false = 5 ∧ F3.Gen.Store.putAdmission 4 false 3 false 0 false = 4 := by
  decide
open F3.Store.Witness in
example : admissionCode (put cfgFixed m2 c3) = 0 ∧ admissionCode (put cfgFixed m2 { c4 with inst := 6 }) = 4 := by
  decide

end F3.Props.C09

namespace F3.Props.C09
section Skeletons

/-- **The Go functions this property's models mirror still have the statement structure the models were written
against**: each regenerated skeleton (pre-order list of statement kinds, `tools/go2lean/skel.go`) equals the
expectation recorded in `F3/Proofs/SkelTie*.lean`. An added early return, cap, loop or dropped branch in one of these functions
breaks this obligation even when no regenerated *expression* changes. -/
theorem code_structure_as_modelled :
    F3.Gen.SkelStore.skelStorePut = F3.SkelTie.SkelStore.skelStorePutExpected ∧
    F3.Gen.SkelStore.skelStoreGetRange = F3.SkelTie.SkelStore.skelStoreGetRangeExpected ∧
    F3.Gen.SkelStore.skelStoreOpen = F3.SkelTie.SkelStore.skelStoreOpenExpected ∧
    F3.Gen.SkelStore.skelExportSnapshot = F3.SkelTie.SkelStore.skelExportSnapshotExpected ∧
    F3.Gen.SkelStore.skelReadSnapshotBlock = F3.SkelTie.SkelStore.skelReadSnapshotBlockExpected ∧
    F3.Gen.SkelStore.skelImportSnapshot = F3.SkelTie.SkelStore.skelImportSnapshotExpected :=
  ⟨F3.SkelTie.SkelStore.skelStorePut_expected, F3.SkelTie.SkelStore.skelStoreGetRange_expected, F3.SkelTie.SkelStore.skelStoreOpen_expected, F3.SkelTie.SkelStore.skelExportSnapshot_expected, F3.SkelTie.SkelStore.skelReadSnapshotBlock_expected, F3.SkelTie.SkelStore.skelImportSnapshot_expected⟩

end Skeletons
end F3.Props.C09
