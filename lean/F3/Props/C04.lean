import F3.Proofs.SkelTieCerts
import F3.Proofs.NodeGen2Certs
import F3.Model.Certs
import F3.Model.CertsParse
import F3.Spec.Certs
import F3.Proofs.CertsTables
import F3.Proofs.CertsValidate
import F3.Props.C08
/-!
# C04 — Certificate chains verify only if quorum-signed and linked; power-table deltas are exact

All statements are about the executable definitions of `F3/Model/Certs.lean`, the same ones
`lean/Driver/Certs.lean` runs against `certs.ValidateFinalityCertificates`,
`MakePowerTableDiff` and `ApplyPowerTableDiffs`.
-/
namespace F3.Props.C04
open F3.Certs F3.SMap

/-! ## Power-table deltas are exact and canonical -/

/-- The delta computed between any two well-formed tables, applied to the first, yields the second
in canonical order. -/
theorem apply_make (a b : Table) (ha : WF a) (hb : WF b) :
    applyDiff a (makeDiff a b) = .ok (canon b) := by
  rw [applyDiff_eq, applyLoop_makeDiff ha hb]
  simp only
  rw [canon_toMap hb.1]

/-- Every delta that application accepts (on a well-formed table) is the canonical delta between
its input and its output; the output is well-formed and in canonical order. -/
theorem apply_unique (a : Table) (d : Diff) (t : Table) (ha : WF a) (h : applyDiff a d = .ok t) :
    d = makeDiff a t ∧ WF t ∧ canon t = t := by
  rw [applyDiff_eq] at h
  cases hm : applyLoop (toMap a) none d with
  | error e => rw [hm] at h; cases h
  | ok m' =>
    rw [hm] at h
    cases h
    obtain ⟨_, hs, hpt⟩ := (applyLoop_toMap_iff ha).mp hm
    have hwm : WF m' := wf_of_sorted_entOK hs fun i => (hpt i).1
    have hwt : WF (canon m') := wf_canon hwm
    -- `makeDiff a t` is accepted with the same result, so it is `d`
    refine ⟨applyLoop_injective ha hm ?_, hwt, canon_idem m' hwm.1⟩
    rw [applyLoop_makeDiff ha hwt, toMap_canon hs]

/-- Uniqueness in the other direction: two deltas accepted on the same well-formed table with the
same result are the same delta. -/
theorem apply_injective (a : Table) (d₁ d₂ : Diff) (t : Table) (ha : WF a)
    (h₁ : applyDiff a d₁ = .ok t) (h₂ : applyDiff a d₂ = .ok t) : d₁ = d₂ := by
  rw [(apply_unique a d₁ t ha h₁).1, (apply_unique a d₂ t ha h₂).1]

/-- Several deltas in one call (`ApplyPowerTableDiffs(t, d₁, …, dₙ, d)`, as the certificate store
does between checkpoints) = the single-delta application to the result of the shorter call. -/
theorem apply_diffs_compose (t lt : Table) (ds : List Diff) (d : Diff)
    (h : applyDiffs t ds = .ok lt) : applyDiffs t (ds ++ [d]) = applyDiff lt d :=
  applyDiffs_snoc d h

/-- The canonical order is a sort of the same entries, unique for distinct ids. -/
theorem canon_canonical (t : Table) :
    (canon t).Perm t ∧ (canon t).Pairwise (fun a b => entryLe a b = true) :=
  ⟨canon_perm t, canon_sorted t⟩

/-- when a single delta entry is applicable to a well-formed table -/
def DeltaOK (a : Table) (δ : Delta) : Prop :=
  match L a δ.id with
  | some pe => δ.key ≠ pe.key ∧ 0 ≤ pe.power + δ.delta ∧ (δ.key ≠ 0 → pe.power + δ.delta ≠ 0)
  | none => 0 < δ.delta ∧ δ.key ≠ 0

/-- **Malformed deltas are rejected**: application to a well-formed table succeeds *iff* the delta is
strictly sorted by participant, contains no empty entry, and every entry is applicable
(no unchanged key, no new entry without key or with non-positive power, no power driven below
zero, no re-key of a removed participant). -/
theorem apply_accepts_iff (a : Table) (d : Diff) (ha : WF a) :
    (∃ t, applyDiff a d = .ok t) ↔
      d.Pairwise (fun x y => x.id < y.id) ∧ ∀ δ ∈ d, δ.isZero = false ∧ DeltaOK a δ := by
  have h1 : (∃ t, applyDiff a d = .ok t) ↔ ∃ m', applyLoop (toMap a) none d = .ok m' := by
    rw [applyDiff_eq]
    cases applyLoop (toMap a) none d with
    | error e => exact ⟨nofun, nofun⟩
    | ok m => exact ⟨fun _ => ⟨m, rfl⟩, fun _ => ⟨_, rfl⟩⟩
  rw [h1, applyLoop_isOk_iff (ssorted_toMap a)]
  simp only [exists_stepSpec_ok_iff, lookup_toMap ha.1]
  exact ⟨fun ⟨h, _, h'⟩ => ⟨h, h'⟩, fun ⟨h, h'⟩ => ⟨h, fun _ _ _ e => (nomatch e), h'⟩⟩

/-- A rejected delta yields no table at all (the caller's table is a value: nothing to modify). The
array-level claim "the caller's slice is untouched" is carried by the correspondence check, which
compares the caller's slice before and after every call of the real code. -/
theorem apply_reject_pure (a : Table) (d : Diff) (e : DiffErr) (h : applyDiff a d = .error e) :
    ∀ t, applyDiff a d ≠ .ok t := by
  intro t ht; rw [h] at ht; cases ht

/-! ### Non-vacuity -/

deriving instance DecidableEq for Except

example : WF [⟨1, 10, 7⟩, ⟨2, 5, 8⟩] ∧ WF [⟨2, 6, 8⟩, ⟨3, 1, 9⟩] := by
  constructor <;> (rw [← wfB_iff]; decide)

example : makeDiff [⟨1, 10, 7⟩, ⟨2, 5, 8⟩] [⟨3, 1, 9⟩, ⟨2, 6, 8⟩] = [⟨1, -10, 0⟩, ⟨2, 1, 0⟩, ⟨3, 1, 9⟩] := by
  decide +kernel

example : applyDiff [⟨1, 10, 7⟩, ⟨2, 5, 8⟩] [⟨1, -10, 0⟩, ⟨2, 1, 0⟩, ⟨3, 1, 9⟩] = .ok [⟨2, 6, 8⟩, ⟨3, 1, 9⟩] := by
  decide +kernel

-- each rejection reason is reachable
example : applyDiff [⟨1, 10, 7⟩, ⟨2, 5, 8⟩] [⟨2, 1, 0⟩, ⟨1, 1, 0⟩] = .error .notSorted := by decide +kernel
example : applyDiff [⟨1, 10, 7⟩] [⟨1, 0, 0⟩] = .error .emptyDelta := by decide +kernel
example : applyDiff [⟨1, 10, 7⟩] [⟨1, 1, 7⟩] = .error .unchangedKey := by decide +kernel
example : applyDiff [⟨1, 10, 7⟩] [⟨1, -10, 9⟩] = .error .removeWithKey := by decide +kernel
example : applyDiff [⟨1, 10, 7⟩] [⟨2, 0, 9⟩] = .error .newNonPositive := by decide +kernel
example : applyDiff [⟨1, 10, 7⟩] [⟨2, 3, 0⟩] = .error .newNoKey := by decide +kernel
example : applyDiff [⟨1, 10, 7⟩] [⟨1, -11, 0⟩] = .error .negative := by decide +kernel

/-! ## Certificate sequences -/

open F3.Spec.Certs

/-- the loop state a call of `ValidateFinalityCertificates` starts from -/
def start (t : Table) (n : Nat) (base : Option Tip) : VState := ⟨n, [], t, base⟩

/-- **Soundness.** If validation accepts, the certificates form a valid run (`ValidRun`: every
certificate is for the expected instance, has a well-formed non-empty chain starting at the head of
its predecessor or at the caller's base, is signed over exactly its DECIDE payload by DISTINCT members
(`CertValid.signed`: the signer list is strictly increasing, so nobody is counted twice) with
non-zero scaled power holding at least 2/3 of the table in force, and its delta yields the table it
commits to), and the returned instance, chain and table are the ones reached by that run. -/
theorem validate_sound (net : Nat) (t : Table) (n : Nat) (base : Option Tip) (cs : List Cert)
    (h : (validateCerts net t n base cs).err = none) :
    ∃ s', ValidRun net (start t n base) cs s' ∧
      (validateCerts net t n base cs).next = s'.next ∧
      (validateCerts net t n base cs).chain = s'.chain ∧
      (cs ≠ [] → (validateCerts net t n base cs).table = s'.table) := by
  unfold validateCerts at h ⊢
  simp only at h ⊢
  cases hl : validateLoop net ⟨n, [], t, base⟩ cs with
  | mk s' e =>
    rw [hl] at h
    cases e with
    | some e => simp at h
    | none =>
      refine ⟨s', (validateLoop_ok_iff ..).mp hl, rfl, rfl, ?_⟩
      intro hne
      have : cs.isEmpty = false := by
        cases cs with
        | nil => exact absurd rfl hne
        | cons _ _ => rfl
      simp [this]

/-- **Completeness** (certificates produced by consensus are accepted): every valid run is accepted,
with exactly the state it reaches. -/
theorem validate_complete (net : Nat) (t : Table) (n : Nat) (base : Option Tip) (cs : List Cert)
    (s' : VState) (h : ValidRun net (start t n base) cs s') :
    validateCerts net t n base cs = ⟨s'.next, s'.chain, if cs.isEmpty then [] else s'.table, none⟩ := by
  have hl := (validateLoop_ok_iff ..).mpr h
  unfold validateCerts start at *
  simp only [hl]

/-- **Prefix reporting.** On rejection the sequence splits into a valid run `cs₁`, the offending
certificate `c` (not valid in the state reached — for any resulting table), and a rest that is
never looked at; the reported instance, chain and table are exactly the state after `cs₁`, and `cs₁`
is the longest valid prefix. -/
theorem validate_prefix (net : Nat) (t : Table) (n : Nat) (base : Option Tip) (cs : List Cert)
    (e : VErr) (h : (validateCerts net t n base cs).err = some e) :
    ∃ cs₁ c cs₂ s, cs = cs₁ ++ c :: cs₂ ∧
      ValidRun net (start t n base) cs₁ s ∧
      (∀ nt, ¬ CertValid net s.table s.next s.base c nt) ∧
      (∀ s'', ¬ ValidRun net (start t n base) (cs₁ ++ [c]) s'') ∧
      validateCerts net t n base cs = ⟨s.next, s.chain, s.table, some e⟩ := by
  unfold validateCerts at h
  simp only at h
  cases hl : validateLoop net ⟨n, [], t, base⟩ cs with
  | mk sf e' =>
    rw [hl] at h
    cases e' with
    | none => simp at h
    | some e' =>
      simp only [Option.some.injEq] at h
      subst h
      obtain ⟨cs₁, c, cs₂, hcs, hrun, hstep⟩ := validateLoop_err net _ cs sf e' hl
      have hno := not_certValid_of_error hstep
      refine ⟨cs₁, c, cs₂, sf, hcs, hrun, hno, ?_, ?_⟩
      · intro s'' hrun2
        obtain ⟨s₁, h1, h2⟩ := validRun_split hrun2
        have := validRun_unique hrun h1
        subst this
        cases h2 with
        | cons hv _ => exact hno _ hv
      · unfold validateCerts
        simp only [hl]

/-- The reported triple on rejection is what validating the valid prefix alone returns (up to the
quirk that an empty call returns a nil table). -/
theorem validate_prefix_eq (net : Nat) (t : Table) (n : Nat) (base : Option Tip) (cs : List Cert)
    (e : VErr) (h : (validateCerts net t n base cs).err = some e) :
    ∃ cs₁ c cs₂, cs = cs₁ ++ c :: cs₂ ∧ (validateCerts net t n base cs₁).err = none ∧
      (validateCerts net t n base cs).next = (validateCerts net t n base cs₁).next ∧
      (validateCerts net t n base cs).chain = (validateCerts net t n base cs₁).chain ∧
      (validateCerts net t n base cs).table =
        (if cs₁.isEmpty then t else (validateCerts net t n base cs₁).table) := by
  obtain ⟨cs₁, c, cs₂, s, hcs, hrun, _, _, hres⟩ := validate_prefix net t n base cs e h
  have hc := validate_complete net t n base cs₁ s hrun
  refine ⟨cs₁, c, cs₂, hcs, by rw [hc], by rw [hres, hc], by rw [hres, hc], ?_⟩
  rw [hres, hc]
  simp only
  cases hcs₁ : cs₁ with
  | nil =>
    subst hcs₁
    cases hrun
    rfl
  | cons _ _ => rfl

/-- instances are consecutive from the expected one (modulo 2^64, as in the Go `nextInstance++`) -/
theorem run_consecutive (net : Nat) (s s' : VState) (cs : List Cert) (h : ValidRun net s cs s')
    (hn : s.next < 2 ^ 64) :
    (∀ i (hi : i < cs.length), cs[i].inst = u64 (s.next + i)) ∧ s'.next = u64 (s.next + cs.length) := by
  induction h with
  | nil s => exact ⟨fun i hi => (nomatch hi), (u64_of_lt hn).symm⟩
  | cons hv _ ih => exact consecutive_cons hv.inst hn (ih (u64_lt _)).1 (ih (u64_lt _)).2

/-- the first chain starts at the caller's base (when given), every later chain at the head
finalized by its predecessor -/
theorem run_linked (net : Nat) (s s' : VState) (cs : List Cert) (h : ValidRun net s cs s') :
    (∀ b c, s.base = some b → cs.head? = some c → ∃ hd, c.chain.head? = some hd ∧ Tip.eq b hd = true) ∧
    (∀ i (hi : i + 1 < cs.length), ∃ l hd, cs[i].chain.getLast? = some l ∧
        cs[i + 1].chain.head? = some hd ∧ Tip.eq l hd = true) := by
  induction h with
  | nil s => exact ⟨fun _ _ _ h => (nomatch h), fun _ hi => (nomatch hi)⟩
  | @cons s c nt cs s' hv hrun ih =>
    refine ⟨fun b c' hb hc' => ?_, fun i hi => ?_⟩
    · cases hc'
      exact hv.linked b hb
    · cases i with
      | zero =>
        -- the run goes on from the base `c.chain.getLast?`
        obtain ⟨l, hl⟩ := Option.isSome_iff_exists.mp (List.getLast?_isSome.mpr hv.chain_nonempty)
        have h0 : 0 < cs.length := Nat.lt_of_succ_lt_succ hi
        obtain ⟨hd, hhd, heq⟩ := ih.1 l cs[0] hl (by rw [List.head?_eq_getElem?, List.getElem?_eq_getElem h0])
        exact ⟨l, hd, hl, hhd, heq⟩
      | succ j => exact ih.2 j (Nat.lt_of_succ_lt_succ hi)

/-- the returned chain is the concatenation of the finalized suffixes -/
theorem run_chain (net : Nat) (s s' : VState) (cs : List Cert) (h : ValidRun net s cs s') :
    s'.chain = s.chain ++ (cs.map (fun c => c.chain.tail)).flatten := by
  induction h with
  | nil s => simp
  | @cons s c nt cs s' hv hrun ih =>
    rw [ih]
    simp [advance, List.append_assoc]

/-- Validation is compositional: a sequence is a valid run iff it splits into a valid run to some
intermediate state and a valid run from there (so validating certificate by certificate, as the
certificate store and pollers do, agrees with validating the batch). -/
theorem run_append_iff (net : Nat) (s s₂ : VState) (cs₁ cs₂ : List Cert) :
    ValidRun net s (cs₁ ++ cs₂) s₂ ↔ ∃ s₁, ValidRun net s cs₁ s₁ ∧ ValidRun net s₁ cs₂ s₂ :=
  ⟨validRun_split, fun ⟨_, h₁, h₂⟩ => validRun_append h₁ h₂⟩

/-- **Consensus output is accepted**: a certificate assembled the honest way — a well-formed chain
from the required base, a strong quorum of members with non-zero scaled power, their aggregate over
the DECIDE payload, the canonical delta to the next well-formed table and the commitment to that
table in canonical order — is valid, hence accepted. -/
theorem honest_cert_accepted (net : Nat) (t nt : Table) (n : Nat) (base : Option Tip) (c : Cert)
    (sc : List Nat) (tot : Nat) (ss : List Nat) (ht : WF t) (hnt : WF nt)
    (hinst : c.inst = n) (hcv : chainValid c.chain = true) (hne : c.chain ≠ [])
    (hbase : ∀ b, base = some b → ∃ h, c.chain.head? = some h ∧ Tip.eq b h = true)
    (hsc : F3.Power.scaled (t.map (·.power)) = some (sc, tot)) (hss : c.signers = some ss)
    (hinc : ss.Pairwise (· < ·))
    (hmem : ∀ i ∈ ss, i < t.length ∧ 0 < sc.getD i 0) (hq : 3 * sumScaled sc ss ≥ 2 * (tot : Int))
    (hsig : c.sig = .agg (ss.map (fun i => (i, keyAt t i))) ⟨net, c.inst, 0, decidePhase, c.comm, c.pt, c.chain⟩)
    (hdelta : c.delta = makeDiff t nt) (hpt : c.pt = .table (canon nt)) :
    validateCerts net t n base [c] =
      ⟨u64 (n + 1), c.chain.tail, canon nt, none⟩ := by
  have hv : CertValid net t n base c (canon nt) :=
    ⟨hinst, hcv, hne, hbase, ⟨sc, tot, ss, hsc, hss, hinc, hmem, hq, hsig⟩,
      by rw [hdelta]; exact apply_make t nt ht hnt, hpt⟩
  have hrun : ValidRun net (start t n base) [c] (advance (start t n base) c (canon nt)) :=
    ValidRun.cons hv (ValidRun.nil _)
  rw [validate_complete net t n base [c] _ hrun]
  simp [advance, start]

/-- **No signer counts twice.** The signers of a valid certificate are pairwise distinct table
indices (strictly increasing, as the iteration of the Go bitfield is), so the 2/3 of
`CertValid.signed` is held by distinct members. In the Go code this is a property of the type of
`cert.Signers` (a bitfield is a set); the model, whose certificates carry a list, enforces it
(`VErr.signerOrder`, unreachable from decoded certificates). -/
theorem valid_signers_distinct (net : Nat) (t : Table) (n : Nat) (base : Option Tip) (c : Cert)
    (nt : Table) (h : CertValid net t n base c nt) :
    ∃ ss, c.signers = some ss ∧ ss.Pairwise (· < ·) ∧ ss.Nodup := by
  obtain ⟨_, _, ss, _, hss, hi, _⟩ := h.signed
  exact ⟨ss, hss, hi, hi.imp (fun h => Nat.ne_of_lt h)⟩

/-- a signer list that is not strictly increasing (in particular: one with a repeated index) is never
accepted, whatever else the certificate contains -/
theorem duplicate_signers_rejected (net : Nat) (t : Table) (n : Nat) (base : Option Tip) (c : Cert)
    (ss : List Nat) (hss : c.signers = some ss) (hdup : ¬ ss.Pairwise (· < ·)) :
    (validateCerts net t n base [c]).err ≠ none := by
  intro h
  obtain ⟨s', hrun, _⟩ := validate_sound net t n base [c] h
  cases hrun with
  | cons hv _ =>
    obtain ⟨ss', hss', hi, _⟩ := valid_signers_distinct _ _ _ _ _ _ hv
    rw [hss] at hss'
    simp only [Option.some.injEq] at hss'
    subst hss'
    exact hdup hi

/-! ### The executable oracle is the specification -/

/-- `certValidB`, which the driver evaluates on the implementation's observations, decides `CertValid`. -/
theorem oracle_decides_certValid (net : Nat) (t : Table) (next : Nat) (base : Option Tip) (c : Cert)
    (nt : Table) : certValidB net t next base c nt = true ↔ CertValid net t next base c nt :=
  certValidB_iff net t next base c nt

/-- `specPrefix` (the driver's "longest valid prefix") reaches exactly the state the model's loop
reaches, and counts all certificates iff the model accepts. -/
theorem oracle_prefix_is_model (net : Nat) (s : VState) (cs : List Cert) :
    (specPrefix net s cs).1 = (validateLoop net s cs).1 ∧
    ((specPrefix net s cs).2 = cs.length ↔ (validateLoop net s cs).2 = none) := by
  induction cs generalizing s with
  | nil => simp [specPrefix, validateLoop]
  | cons c cs ih =>
    unfold specPrefix validateLoop
    cases hst : stepCert net s c with
    | error e =>
      simp only
      cases had : applyDiff s.table c.delta with
      | error e' => simp
      | ok nt =>
        have : certValidB net s.table s.next s.base c nt = false :=
          Bool.eq_false_iff.mpr fun h => not_certValid_of_error hst nt ((certValidB_iff ..).mp h)
        simp [this]
    | ok s1 =>
      obtain ⟨nt, hv, rfl⟩ := (stepCert_ok_iff net s c s1).mp hst
      rw [hv.delta]
      simp only [(certValidB_iff ..).mpr hv, if_true, List.length_cons, Nat.add_right_cancel_iff]
      exact ih (advance s c nt)

/-! ### Non-vacuity: a concrete accepted run, a rejection with prefix, a quorum one member short -/

namespace Ex
def t0 : Table := [⟨1, 30, 7⟩, ⟨2, 20, 8⟩, ⟨3, 10, 9⟩]
def t1 : Table := [⟨1, 30, 7⟩, ⟨3, 15, 9⟩, ⟨4, 5, 6⟩]
def b0 : Tip := ⟨10, 1, 8, 1, 38, 0⟩
def x1 : Tip := ⟨11, 2, 8, 1, 38, 0⟩
def x2 : Tip := ⟨13, 3, 8, 1, 38, 0⟩
def mk (inst : Nat) (chain : List Tip) (t : Table) (nt : Table) (ss : List Nat) : Cert :=
  { inst := inst, chain := chain, comm := 0, pt := .table nt, signers := some ss,
    sig := .agg (ss.map (fun i => (i, keyAt t i))) ⟨1, inst, 0, decidePhase, 0, .table nt, chain⟩,
    delta := makeDiff t nt }
def c5 : Cert := mk 5 [b0, x1] t0 t1 [0, 1]
def c6 : Cert := mk 6 [x1, x2] t1 t1 [0, 1]
end Ex

example : WF Ex.t0 ∧ WF Ex.t1 := by constructor <;> (rw [← wfB_iff]; decide)

example : validateCerts 1 Ex.t0 5 (some Ex.b0) [Ex.c5, Ex.c6] = ⟨7, [Ex.x1, Ex.x2], Ex.t1, none⟩ := by
  decide +kernel

-- the second certificate signed by a single member (19660 of 65534 < 2/3): rejected, prefix reported
example : validateCerts 1 Ex.t0 5 (some Ex.b0) [Ex.c5, Ex.mk 6 [Ex.x1, Ex.x2] Ex.t1 Ex.t1 [1]] =
    ⟨6, [Ex.x1], Ex.t1, some .noQuorum⟩ := by decide +kernel

-- a member listed twice does not count twice: `[0, 0]` (which would sum to 2·32767 of 65534) is refused
-- as "not a bitfield", the same member once is below the quorum, the honest certificate `c5` with the
-- distinct signers `[0, 1]` is accepted (above)
example : (validateCerts 1 Ex.t0 5 (some Ex.b0) [Ex.mk 5 [Ex.b0, Ex.x1] Ex.t0 Ex.t1 [0, 0]]).err =
    some .signerOrder := by decide +kernel
example : (validateCerts 1 Ex.t0 5 (some Ex.b0) [Ex.mk 5 [Ex.b0, Ex.x1] Ex.t0 Ex.t1 [0]]).err =
    some .noQuorum := by decide +kernel
example : (validateCerts 1 Ex.t0 5 (some Ex.b0) [Ex.mk 5 [Ex.b0, Ex.x1] Ex.t0 Ex.t1 [1, 0]]).err =
    some .signerOrder := by decide +kernel
example : (validateCerts 1 Ex.t0 5 (some Ex.b0) [Ex.c5]).err = none := by decide +kernel
-- the log parser refuses such lists (string functions do not reduce in the kernel: the list-level
-- function by `decide`, the text-level one by evaluation)
example : Parse.bitfieldList [0, 0] = none ∧ Parse.bitfieldList [1, 0] = none ∧
    Parse.bitfieldList [0, 1] = some [0, 1] ∧ Parse.bitfieldList [] = some [] := by decide +kernel
#guard Parse.signers? "0,0" == none && Parse.signers? "0,1" == some (some [0, 1]) &&
  Parse.signers? "-" == some (some []) && Parse.signers? "!" == some none

-- wrong base for the first certificate, wrong payload (other network), unlinked second certificate
example : (validateCerts 1 Ex.t0 5 (some Ex.x2) [Ex.c5]).err = some .baseMismatch := by decide +kernel
example : (validateCerts 2 Ex.t0 5 none [Ex.c5]).err = some .badSig := by decide +kernel
example : (validateCerts 1 Ex.t0 5 none [Ex.c5, Ex.mk 6 [Ex.b0, Ex.x2] Ex.t1 Ex.t1 [0, 1]]).err =
    some .baseMismatch := by decide +kernel

end F3.Props.C04

namespace F3.Props.C04
section Regenerated2
/-! ## Regenerated: the order of the checks of `ValidateFinalityCertificates` (`certs/certs.go`)

Proved in `F3/Proofs/NodeGen2Certs.lean` against `F3/Gen/Certs2.lean` (`targets.d/Certs2.json`). -/

/-- the outcome class of one iteration of the model's loop = the code of the regenerated `if` sequence:
instance, chain validity, emptiness, base, signature, delta, CID — in the source's order
(statement: `F3.Gen2Tie.stepCert_checks_are_regenerated`) -/
theorem step_cert_checks_are_regenerated : type_of% @F3.Gen2Tie.stepCert_checks_are_regenerated :=
  @F3.Gen2Tie.stepCert_checks_are_regenerated

example : F3.Gen.Certs2.validateCertChecks true false 3 true true true false true 4 true = 1 ∧
    F3.Gen.Certs2.validateCertChecks true false 4 true true true false true 4 true = 2 ∧
    F3.Gen.Certs2.validateCertChecks true false 4 false true true false true 4 true = 3 ∧
    F3.Gen.Certs2.validateCertChecks true false 4 false false true false true 4 true = 4 ∧
    F3.Gen.Certs2.validateCertChecks false false 4 false false true false true 4 true = 5 ∧
    F3.Gen.Certs2.validateCertChecks false false 4 false false true false true 4 false = 6 ∧
    F3.Gen.Certs2.validateCertChecks false false 4 false false true false false 4 false = 8 ∧
    F3.Gen.Certs2.validateCertChecks false false 4 false false false false false 4 false = 0 := by decide +kernel

end Regenerated2
end F3.Props.C04

namespace F3.Props.C04
section Skeletons

/-- **The Go functions this property's models mirror still have the statement structure the models were written
against**: each regenerated skeleton (pre-order list of statement kinds, `tools/go2lean/skel.go`) equals the pinned
expectation of `F3/Proofs/SkelTie*.lean`. An added early return, cap, loop or dropped branch in one of these functions
breaks this obligation even when no regenerated *expression* changes. -/
theorem code_structure_as_modelled :
    F3.Gen.SkelCerts.skelValidateCerts = F3.SkelTie.SkelCerts.skelValidateCertsExpected ∧
    F3.Gen.SkelCerts.skelApplyDiffs = F3.SkelTie.SkelCerts.skelApplyDiffsExpected ∧
    F3.Gen.SkelCerts.skelDeltaIsZero = F3.SkelTie.SkelCerts.skelDeltaIsZeroExpected :=
  ⟨F3.SkelTie.SkelCerts.skelValidateCerts_expected, F3.SkelTie.SkelCerts.skelApplyDiffs_expected, F3.SkelTie.SkelCerts.skelDeltaIsZero_expected⟩

end Skeletons
end F3.Props.C04
