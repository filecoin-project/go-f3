import F3.Proofs.SkelTieGpbft
import F3.Proofs.SkelTiePower
import F3.Spec.GraniteNet
import F3.Props.C08
import F3.Proofs.BridgeEx
import F3.Proofs.ParticipantBridge
import F3.Proofs.RestartEx
import F3.Proofs.MultiParticipantNet
import F3.Proofs.NoFailureBridge
import F3.Proofs.NoFailureBridgeP
import F3.Proofs.NetworkQuiet
import F3.Proofs.SignedNetwork
import F3.Proofs.EmittedValidBridge
import F3.Proofs.EmittedValidParticipantBridge
/-!
# C01 — Agreement

Layer A (`F3.Granite.World.decide_quorums_agree`): in any world satisfying the honest rules, two values
each backed by a strong DECIDE quorum are equal.  Layer N (`F3.Granite.inv_reachable`): the rules are an
inductive invariant of the guarded message-level network model, whatever Byzantine members (< 1/3 of
scaled power) sign and whatever the delivery schedule.  Layer B (`F3.Instance.runFrom_guarded`, `F3.Bridge.rules_of_runs`): the
executable model of `gpbft.go` (`Instance.step`, tied to the implementation by the correspondence run) emits
only under the guards and reports a decision only when holding a strong DECIDE quorum, so any family of
honest model runs satisfies the rules: `agreement_model` is agreement of the executable model itself.
The later sections state it at the participant API, across crashes and restarts inside an instance (with the interface
taken from C12), per instance of a multi-instance run, without any assumption on reported errors, with honest members
that never begin the instance, and from assumptions about key usage only; the last two tie honest traffic and the
Go functions' statement structure to the models.
-/
namespace F3.Props.C01
open F3.Granite

variable {P V : Type} [DecidableEq P]

/-- An honest participant reports a decision for `x` only when a strong quorum of valid DECIDE votes
for `x` exists (`tryDecide`; `F3.Props.C03.decision_has_decide_quorum`). -/
def Decided (c : Params P V) (s : Votes P V) (x : V) : Prop := (c.world s).Q .decide 0 x

/-- the faulty members hold less than a third of the total scaled power of the instance's committee -/
def faultBound (c : Params P V) : Prop :=
  3 * (c.world (fun _ _ _ _ => False)).power c.faulty < (c.world (fun _ _ _ _ => False)).T

/-- **Agreement.** For every committee and power distribution, every value type, every Byzantine
strategy of members holding less than one third of the scaled power, and every schedule: in every
reachable state of the network, any two reported decisions are equal. -/
theorem agreement_network (c : Params P V) (hb : faultBound c) {s : Votes P V}
    (hr : Reachable c s) {x y : V} (hx : Decided c s x) (hy : Decided c s y) : x = y :=
  World.decide_quorums_agree (inv_reachable c hb hr).rules hx hy

/-- Decisions taken at different times agree as well: votes only accumulate, so a decision reported
in an earlier state is still backed in every later state. -/
theorem agreement_across_time (c : Params P V) (hb : faultBound c) {s s' : Votes P V}
    (hr' : Reachable c s') (hmono : ∀ p r ph x, s p r ph x → s' p r ph x)
    {x y : V} (hx : Decided c s x) (hy : Decided c s' y) : x = y :=
  agreement_network c hb hr' (Q_mono c hmono hx) hy

/-- Every step only adds votes. -/
theorem step_mono (c : Params P V) {s s' : Votes P V} (h : Step c s s') :
    ∀ p r ph x, s p r ph x → s' p r ph x := by
  cases h <;> exact add_mono _ _ _ _ _

/-- Agreement of the abstract rule set alone (Layer A), for use when the rules are established by
other means. -/
theorem agreement_rules (w : World P V) (R : w.Rules) {x y : V}
    (hx : w.Q .decide 0 x) (hy : w.Q .decide 0 y) : x = y :=
  World.decide_quorums_agree R hx hy

/-- Several consecutive instances: if in every instance the faulty members of *that instance's*
committee hold less than a third, then in every instance decisions agree. (Instance `i+1`'s committee
and base are functions of the decisions up to `i` — C15 — hence equal at all honest nodes.) -/
theorem agreement_multi (c : Nat → Params P V) (s : Nat → Votes P V)
    (hb : ∀ i, faultBound (c i)) (hr : ∀ i, Reachable (c i) (s i)) :
    ∀ i x y, Decided (c i) (s i) x → Decided (c i) (s i) y → x = y :=
  fun i _ _ hx hy => agreement_network (c i) (hb i) (hr i) hx hy

/-- A lock, stated for the network: once a non-bottom value has a COMMIT quorum in round `r`, no
other non-bottom value ever gets a COMMIT quorum in a later round. -/
theorem commit_lock (c : Params P V) (hb : faultBound c) {s : Votes P V} (hr : Reachable c s)
    {r r' : Nat} {v x : V} (hv : (c.world s).Q .commit r v) (hne : v ≠ c.bot) (hlt : r < r')
    (hx : (c.world s).Q .commit r' x) (hxne : x ≠ c.bot) : x = v :=
  World.later_commit_eq (inv_reachable c hb hr).rules hv hne hlt hx hxne

/-- The `strong` of the abstract rules is the code's quorum predicate: `World.strong S` asks
`3·power S ≥ 2·T`, and for every non-negative total that is exactly when the Go function
`IsStrongQuorum` (regenerated from `gpbft/gpbft.go` on this run) returns true. -/
theorem strong_is_the_codes_predicate (w : World P V) (S : Finset P) :
    (S ⊆ w.committee ∧ F3.Gen.isStrongQuorum (w.power S : Int) (w.T : Int) = true) ↔ w.strong S := by
  unfold World.strong
  rw [F3.Props.C08.strong_iff _ _ (by omega)]
  constructor
  · rintro ⟨h1, h2⟩; exact ⟨h1, by omega⟩
  · rintro ⟨h1, h2⟩; exact ⟨h1, by omega⟩

/-! ## Non-vacuity: a 4-member committee, member 3 Byzantine and equivocating, and a decision. -/
section Example
def exC : Params (Fin 4) Nat :=
  { committee := Finset.univ, pw := fun _ => 1, faulty := {3}, bot := 0, good := fun _ x => x = 7 }

def honest3 : Finset (Fin 4) := {0, 1, 2}

theorem ex_bound : faultBound exC := by
  simp [faultBound, World.power, World.T, Params.world, exC]

theorem ex_strong (s : Votes (Fin 4) Nat) : (exC.world s).strong honest3 := by
  constructor
  · intro x _; exact Finset.mem_univ x
  · simp [World.power, World.T, Params.world, exC, honest3]

/-- all three honest members sign `(r, ph, 7)` one after the other under `guard` -/
theorem ex_round {s : Votes (Fin 4) Nat} (hr : Reachable exC s) (r : Nat) (ph : Phase)
    (fresh : ∀ p, p ≠ 3 → ∀ y, ¬ s p r ph y)
    (guard : ∀ s', (∀ p r ph x, s p r ph x → s' p r ph x) → ∀ p, Guard exC s' p r ph 7) :
    ∃ s', Reachable exC s' ∧ (∀ p r ph x, s p r ph x → s' p r ph x) ∧
      (∀ p ∈ honest3, s' p r ph 7) ∧ (∀ p r' ph' y, (r', ph') ≠ (r, ph) → s' p r' ph' y → s p r' ph' y) := by
  have h0 : (0 : Fin 4) ∉ exC.faulty := by decide
  have h1 : (1 : Fin 4) ∉ exC.faulty := by decide
  have h2 : (2 : Fin 4) ∉ exC.faulty := by decide
  let s1 := add s 0 r ph 7
  let s2 := add s1 1 r ph 7
  let s3 := add s2 2 r ph 7
  have m1 : ∀ p r ph x, s p r ph x → s1 p r ph x := add_mono _ _ _ _ _
  have m2 : ∀ p r ph x, s p r ph x → s2 p r ph x := fun p r ph x h => add_mono _ _ _ _ _ _ _ _ _ (m1 p r ph x h)
  have r1 : Reachable exC s1 := hr.step (Step.honest s 0 r ph 7 h0 (fresh 0 (by decide)) (guard s (fun _ _ _ _ h => h) 0))
  have r2 : Reachable exC s2 := r1.step (Step.honest s1 1 r ph 7 h1
    (by intro y h; rcases h with h | ⟨e, _⟩; exact fresh 1 (by decide) y h; exact absurd e (by decide)) (guard s1 m1 1))
  have r3 : Reachable exC s3 := r2.step (Step.honest s2 2 r ph 7 h2
    (by
      intro y h
      rcases h with (h | ⟨e, _⟩) | ⟨e, _⟩
      · exact fresh 2 (by decide) y h
      · exact absurd e (by decide)
      · exact absurd e (by decide)) (guard s2 m2 2))
  refine ⟨s3, r3, fun p r ph x h => add_mono _ _ _ _ _ _ _ _ _ (m2 p r ph x h), ?_, ?_⟩
  · intro p hp
    have : p = 0 ∨ p = 1 ∨ p = 2 := by
      simp only [honest3, Finset.mem_insert, Finset.mem_singleton] at hp; exact hp
    rcases this with rfl | rfl | rfl
    · exact Or.inl (Or.inl (Or.inr ⟨rfl, rfl, rfl, rfl⟩))
    · exact Or.inl (Or.inr ⟨rfl, rfl, rfl, rfl⟩)
    · exact Or.inr ⟨rfl, rfl, rfl, rfl⟩
  · intro p r' ph' y hne h
    rcases h with ((h | ⟨_, e1, e2, _⟩) | ⟨_, e1, e2, _⟩) | ⟨_, e1, e2, _⟩
    · exact h
    all_goals exact absurd (by rw [e1, e2]) hne

/-- There is a reachable state of the example network in which the Byzantine member has equivocated in
PREPARE and a decision for 7 is reported: the hypotheses of `agreement_network` are satisfiable in a
non-trivial way. -/
theorem ex_decided : ∃ s, Reachable exC s ∧ Decided exC s 7 ∧ s 3 0 .prepare 8 ∧ s 3 0 .prepare 9 := by
  let b1 : Votes (Fin 4) Nat := add (fun _ _ _ _ => False) 3 0 .prepare 8
  let b2 : Votes (Fin 4) Nat := add b1 3 0 .prepare 9
  have rb : Reachable exC b2 :=
    (Reachable.init.step (Step.byz _ 3 0 .prepare 8 (by decide))).step (Step.byz _ 3 0 .prepare 9 (by decide))
  have hb2 : ∀ p r ph y, b2 p r ph y → p = 3 ∧ r = 0 ∧ ph = .prepare := by
    intro p r ph y h
    rcases h with (h | ⟨e, e2, e3, _⟩) | ⟨e, e2, e3, _⟩
    · exact h.elim
    · exact ⟨e, e2, e3⟩
    · exact ⟨e, e2, e3⟩
  obtain ⟨s1, r1, m1, p1, o1⟩ := ex_round rb 0 .prepare
    (by intro p hp y h; exact hp (hb2 p _ _ _ h).1)
    (by intro s' _ p; exact ⟨by decide, Or.inl rfl, Or.inl rfl⟩)
  have q1 : ∀ s', (∀ p r ph x, s1 p r ph x → s' p r ph x) → (exC.world s').Q .prepare 0 7 :=
    fun s' m => ⟨honest3, ex_strong s', fun p hp => m _ _ _ _ (p1 p hp)⟩
  obtain ⟨s2, r2, m2, p2, o2⟩ := ex_round r1 0 .commit
    (by
      intro p _ y h
      have := (hb2 p _ _ _ (o1 p 0 .commit y (by decide) h)).2.2
      exact absurd this (by decide))
    (by intro s' m p; exact ⟨fun h => absurd h (by decide), fun _ => q1 s' m⟩)
  have q2 : ∀ s', (∀ p r ph x, s2 p r ph x → s' p r ph x) → (exC.world s').Q .commit 0 7 :=
    fun s' m => ⟨honest3, ex_strong s', fun p hp => m _ _ _ _ (p2 p hp)⟩
  obtain ⟨s3, r3, m3, p3, _⟩ := ex_round r2 0 .decide
    (by
      intro p _ y h
      have h1 := o2 p 0 .decide y (by decide) h
      have := (hb2 p _ _ _ (o1 p 0 .decide y (by decide) h1)).2.2
      exact absurd this (by decide))
    (by intro s' m p; exact fun _ => ⟨by decide, 0, q2 s' m⟩)
  refine ⟨s3, r3, ⟨honest3, ex_strong s3, p3⟩, ?_, ?_⟩
  · exact m3 _ _ _ _ (m2 _ _ _ _ (m1 _ _ _ _ (Or.inl (Or.inr ⟨rfl, rfl, rfl, rfl⟩))))
  · exact m3 _ _ _ _ (m2 _ _ _ _ (m1 _ _ _ _ (Or.inr ⟨rfl, rfl, rfl, rfl⟩)))
end Example


section Model
open F3.Instance F3.Bridge

/-- **Agreement, end to end for the model of the code.**  `N : Network t F W` says: power table `t` with
distinct ids and positive total; Byzantine set `F` with less than a third of the power; `W` the set of validly
signed votes in existence; every honest committee member `p` ran `Instance.step` from `init` on an arbitrary
list of operations (`Start`, alarms, deliveries in any order and at any time) in which every delivered
message of this instance is valid (`MsgValid`: its vote and the votes its justification aggregates exist in
`W` — what C05's `validMsg` gives, `F3.ValidBridge.validMsg_MsgValid`), reported no error other than refusals
at the door (`okRun`: other instance / supplemental data / base, or after termination), and has exactly its own
broadcasts as its votes in `W`.  Then any two honest members that
report a decision report the same value. -/
theorem agreement_model {t : Table} {F : Finset Pid} {W : Instance.Votes} (N : Network t F W)
    (p q : Pid) (hp : p ∈ (ids t).toFinset) (hpF : p ∉ F) (hq : q ∈ (ids t).toFinset) (hqF : q ∉ F) (dp dq : Just)
    (hdp : (run (init (N.runs p hp hpF).cfg t (N.runs p hp hpF).input) (N.runs p hp hpF).ops).1.termination = some dp)
    (hdq : (run (init (N.runs q hq hqF).cfg t (N.runs q hq hqF).input) (N.runs q hq hqF).ops).1.termination = some dq) :
    dp.value = dq.value :=
  model_agreement N p q hp hpF hq hqF dp dq hdp hdq

/-- The honest rules of Layer A are theorems about the executable model, not assumptions. -/
theorem model_satisfies_rules {t : Table} {F : Finset Pid} {W : Instance.Votes} (N : Network t F W) :
    (world t F W).Rules := N.rules

/-- Non-vacuity: a network of four equal members, member 4 Byzantine and equivocating in PREPARE, in which an
honest member decides `[7, 8]`. -/
theorem agreement_model_nonvacuous : Nonempty (Network exTbl exF exW) ∧ exW 4 0 .prepare [7, 9] ∧ exW 4 0 .prepare [7, 8] :=
  ⟨⟨exNet⟩, ex_network_decides.1, ex_network_decides.2.1⟩

end Model

section ParticipantAPI
open F3.Instance F3.Bridge

/-- **Agreement, end to end for the model of the code, at the participant API.**  As `agreement_model`, but every
honest committee member's execution is a sequence of `Participant.ReceiveMessage` / `ReceiveAlarm` calls
(`HonestRunP`: `pstepWith`, what the correspondence driver replays against the real `gpbft.Participant`): messages
arriving before the instance has begun are queued, the first alarm begins the instance and drains the queue through
`instance.ReceiveMany` in an arbitrary sender order (a field of the run), late-binding rejects being dropped
silently; every delivered message of this instance is valid (`MsgValid`), no call reports an error other than a
refusal at the door (`okRunP`), and the member's votes in `W` are exactly its broadcasts. Then any two honest
members that report a decision report the same value. -/
theorem agreement_model_participant {t : Table} {F : Finset Pid} {W : Instance.Votes} (N : NetworkP t F W)
    (p q : Pid) (hp : p ∈ (ids t).toFinset) (hpF : p ∉ F) (hq : q ∈ (ids t).toFinset) (hqF : q ∉ F) (dp dq : Just)
    (hdp : (prun (N.runs p hp hpF).order (pinit (N.runs p hp hpF).cfg t (N.runs p hp hpF).input)
      (N.runs p hp hpF).ops).1.inst.termination = some dp)
    (hdq : (prun (N.runs q hq hqF).order (pinit (N.runs q hq hqF).cfg t (N.runs q hq hqF).input)
      (N.runs q hq hqF).ops).1.inst.termination = some dq) :
    dp.value = dq.value :=
  model_agreementP N p q hp hpF hq hqF dp dq hdp hdq

/-- The honest rules of Layer A are theorems about the executable model driven through the participant API. -/
theorem model_satisfies_rules_participant {t : Table} {F : Finset Pid} {W : Instance.Votes} (N : NetworkP t F W) :
    (world t F W).Rules := N.rules

/-- Non-vacuity: the four-member network with member 4 Byzantine and equivocating in PREPARE, every honest member
driven through the participant API with four messages queued before its instance begins (among them a PREPARE
arriving before QUALITY and a late-binding reject); an honest member decides `[7, 8]`. -/
theorem agreement_model_participant_nonvacuous :
    Nonempty (NetworkP exTbl exF exW) ∧ exW 4 0 .prepare [7, 9] ∧ exW 4 0 .prepare [7, 8] ∧
    (prun exOrder (pinit exCfg exTbl [7, 8]) (exPOps.take 4)).1.queue.length = 4 ∧
    ∃ d, (prun (exNetP.runs 1 (by decide) (by decide)).order
        (pinit (exNetP.runs 1 (by decide) (by decide)).cfg exTbl (exNetP.runs 1 (by decide) (by decide)).input)
        (exNetP.runs 1 (by decide) (by decide)).ops).1.inst.termination = some d ∧ d.value = [7, 8] :=
  ⟨⟨exNetP⟩, ex_networkP_decides.1, ex_networkP_decides.2.1, ex_queue_drained.1, ex_networkP_decides.2.2⟩

end ParticipantAPI

section Restarts
open F3.Instance F3.Bridge F3.Restart

/-- **Agreement across restarts, end to end for the model of the code.**  `N : NetworkR t F W`: power table `t`
with distinct ids and positive total; Byzantine set `F` with less than a third of the power; `W` the validly signed
votes in existence; only committee members' votes count; every honest committee member `p` is a *list of
incarnations* (`Segment`s): each a fresh run of `Instance.step` from `init` (nothing is remembered across a crash;
configuration and input chain may even differ between incarnations) on an arbitrary list of operations in which
every delivered message of this instance is valid w.r.t. `W` (`MsgValid`) and no call reports an error other than a
refusal at the door (`okRun`).  What `p` has on the wire is constrained only by the interface taken from C12
(`PublishedOK`): at most one value per (round, phase) slot, and every vote of `p` in existence was requested by one
of its incarnations — a request may be dropped by the filter or lost in a crash.  Then any two decisions reported by
any incarnations of any honest members are equal. -/
theorem agreement_model_restarts {t : Table} {F : Finset Pid} {W : Instance.Votes} (N : NetworkR t F W)
    (p q : Pid) (hp : p ∈ (ids t).toFinset) (hpF : p ∉ F) (hq : q ∈ (ids t).toFinset) (hqF : q ∉ F)
    (sp : Segment W t) (hsp : sp ∈ (N.runs p hp hpF).segs) (sq : Segment W t) (hsq : sq ∈ (N.runs q hq hqF).segs)
    (dp dq : Just)
    (hdp : (run (init sp.cfg t sp.input) sp.ops).1.termination = some dp)
    (hdq : (run (init sq.cfg t sq.input) sq.ops).1.termination = some dq) :
    dp.value = dq.value :=
  World.RulesR.decide_quorums_agree N.rulesR ((sp.facts N.base).decision dp hdp) ((sq.facts N.base).decision dq hdq)

/-- **Validity across restarts.**  A decision reported by any incarnation of an honest member is a non-empty prefix
of the input chain of some incarnation of some honest committee member. -/
theorem validity_model_restarts {t : Table} {F : Finset Pid} {W : Instance.Votes} (N : NetworkR t F W)
    (p : Pid) (hp : p ∈ (ids t).toFinset) (hpF : p ∉ F) (sp : Segment W t) (hsp : sp ∈ (N.runs p hp hpF).segs)
    (d : Just) (hd : (run (init sp.cfg t sp.input) sp.ops).1.termination = some d) :
    d.value ≠ [] ∧ ∃ h, ∃ hh : h ∈ (ids t).toFinset, ∃ hF : h ∉ F, ∃ s ∈ (N.runs h hh hF).segs, d.value <+: s.input := by
  refine World.RulesR.decided_good N.rulesR
    (fun x => ∃ h, ∃ hh : h ∈ (ids t).toFinset, ∃ hF : h ∉ F, ∃ s ∈ (N.runs h hh hF).segs, x <+: s.input) ?_
    ((sp.facts N.base).decision d hd)
  intro h hhF r x hx
  have hc := mem_of_vote N.base.nonMembers hx
  obtain ⟨s, hs, hreq⟩ := (N.runs h hc hhF).pub.requested r .prepare x hx
  exact ((s.facts N.base).prepare r x hreq).2.2.imp (fun hpre => ⟨h, hc, hhF, s, hs, hpre⟩) id

/-- The restart-tolerant honest rules (`RulesR`: `commit_bottom` asks only that two different values be justified
in the round, not that the member's own PREPARE be on the wire) are theorems about the executable model with
restarts … -/
theorem model_satisfies_restart_rules {t : Table} {F : Finset Pid} {W : Instance.Votes} (N : NetworkR t F W) :
    (world t F W).RulesR := N.rulesR

/-- … they are implied by the original rules, and they suffice for agreement. -/
theorem restart_rules_weaker (w : World P V) (R : w.Rules) : w.RulesR := R.toRulesR

theorem agreement_restart_rules (w : World P V) (R : w.RulesR) {x y : V}
    (hx : w.Q .decide 0 x) (hy : w.Q .decide 0 y) : x = y :=
  World.RulesR.decide_quorums_agree R hx hy

/-- **The interface taken from C12 is what C12 proves.**  For *any* history `hist` of the C12 node model
(`F3.Equiv`: requests with a crash point after the filter / the WAL append / the publish, rebroadcasts, receives,
stops, restarts re-arming the filter from the WAL, purges, trims) that satisfies C12's hypotheses `RunOk`, if the
node's `BroadcastMessage` calls for votes of `p` in instance `inst` are requests of `p`'s incarnations (`hreq`), the
votes of `p` in existence are on that node's wire (`hown`), and the signature of a vote determines its value
(`hsig`), then `PublishedOK` holds: the wire is part of the WAL record (`record_before_publish`), the record never holds
two signatures for one slot (the invariant behind `wire_no_equivocation`) and holds only arguments of `BroadcastMessage`
calls. -/
theorem published_interface_from_c12 {t : Table} {W : Instance.Votes} (p : Pid) (segs : List (Segment W t))
    (own : Nat → Bool) (l : Equiv.Peer) (hist : List Equiv.Op) (hok : Equiv.RunOk own (Equiv.Sys.init l) hist)
    (inst : Nat) (sig : Req → Nat) (hsig : ∀ r ph x y, sig (r, ph, x) = sig (r, ph, y) → x = y)
    (hreq : ∀ m c, Equiv.Op.broadcast m c ∈ hist → m.inst = inst → m.sender = p →
      ∃ s ∈ segs, ∃ q ∈ requests s.effs, m = toMsg inst p sig q)
    (hown : ∀ r ph v, W p r ph v → toMsg inst p sig (r, ph, v) ∈ (Equiv.run (Equiv.Sys.init l) hist).wire) :
    PublishedOK W t p segs :=
  publishedOK_of_wire p segs own l hist hok inst sig hsig hreq hown

/-- The same when a vote counts as existing as soon as it is recorded in the WAL (`ever` ⊇ wire): the reading under
which the WAL replay of `startInstanceAt` — which hands the rebuilt participant its recorded messages, including one
whose publish was cut off by the crash — delivers only existing votes. -/
theorem published_interface_from_c12_wal {t : Table} {W : Instance.Votes} (p : Pid) (segs : List (Segment W t))
    (own : Nat → Bool) (l : Equiv.Peer) (hist : List Equiv.Op) (hok : Equiv.RunOk own (Equiv.Sys.init l) hist)
    (inst : Nat) (sig : Req → Nat) (hsig : ∀ r ph x y, sig (r, ph, x) = sig (r, ph, y) → x = y)
    (hreq : ∀ m c, Equiv.Op.broadcast m c ∈ hist → m.inst = inst → m.sender = p →
      ∃ s ∈ segs, ∃ q ∈ requests s.effs, m = toMsg inst p sig q)
    (hown : ∀ r ph v, W p r ph v → toMsg inst p sig (r, ph, v) ∈ (Equiv.run (Equiv.Sys.init l) hist).ever) :
    PublishedOK W t p segs :=
  publishedOK_of_ever p segs own l hist hok inst sig hsig hreq hown

/-- The vote-level filter `published` (first value per slot wins, over the concatenated requests of the
incarnations) satisfies the interface, … -/
theorem published_interface_from_scan {t : Table} {W : Instance.Votes} (p : Pid) (segs : List (Segment W t))
    (hown : ∀ r ph v, W p r ph v ↔ (r, ph, v) ∈ published (segs.map (fun s => requests s.effs))) :
    PublishedOK W t p segs :=
  publishedOK_of_published p segs hown

/-- … is exactly first-value-wins, … -/
theorem published_first_wins (segs : List (List Req)) (x : Req) :
    x ∈ published segs ↔
      ∃ pre post, segs.flatten = pre ++ x :: post ∧
        ∀ s ∈ scan [] pre, s.1 = x.1 → s.2.1 = x.2.1 → s.2.2 = x.2.2 := by
  unfold published
  rw [mem_scan_iff]
  constructor
  · rintro (h | ⟨pre, post, he, ha⟩)
    · cases h
    · exact ⟨pre, post, he, (allowed_iff _ _).1 ha⟩
  · rintro ⟨pre, post, he, ha⟩
    exact Or.inr ⟨pre, post, he, (allowed_iff _ _).2 ha⟩

/-- … and is the wire of the C12 node model on the crash-free history of the incarnations (which is admissible
for C12). -/
theorem published_is_c12_wire (sender l inst : Nat) (sig : Req → Nat)
    (hsig : ∀ r ph x y, sig (r, ph, x) = sig (r, ph, y) → x = y) (segs : List (List Req)) :
    Equiv.RunOk (fun x => x == sender) (Equiv.Sys.init l) (history inst sender sig segs) ∧
    (Equiv.run (Equiv.Sys.init l) (history inst sender sig segs)).wire =
      (published segs).map (toMsg inst sender sig) :=
  wire_history sender l inst sig hsig segs

/-- Non-vacuity: four honest members of equal power; member 1 crashes after publishing PREPARE(0, `[7,8]`), its
second incarnation requests PREPARE(0, `[7]`) (no QUALITY reached it before the timeout) — dropped by the filter —
publishes COMMIT(0, ⊥) and DECIDE, and both it and member 2 report `[7,8]`.  All hypotheses of
`agreement_model_restarts` hold (`rNet`), the incarnations are those of the network, and the wire of member 1 is the
scan of its requests. -/
theorem agreement_model_restarts_nonvacuous :
    Nonempty (NetworkR rTbl ∅ rW) ∧
    (rNet.runs 1 (by decide) (by simp)).segs = [rSeg1a, rSeg1b] ∧ (rNet.runs 2 (by decide) (by simp)).segs = [rSegO] ∧
    rSeg1b.requested 0 .prepare [7] ∧ ¬ rW 1 0 .prepare [7] ∧ rW 1 0 .prepare [7, 8] ∧ rW 1 0 .commit [] ∧
    rSeg1a.final.termination = none ∧
    (∃ d, rSeg1b.final.termination = some d ∧ d.value = [7, 8]) ∧
    (∃ d, rSegO.final.termination = some d ∧ d.value = [7, 8]) := by
  refine ⟨⟨rNet⟩, rfl, rfl, ?_, ?_, ?_, ?_, ?_⟩
  · rw [requested_iff, rReq1.2]; decide
  · show ¬ _ ∈ rVotes; decide
  · show _ ∈ rVotes; decide
  · show _ ∈ rVotes; decide
  · -- name the final states before comparing with the evaluated runs: unifying through `Segment.final` would
    -- execute them
    have hfin : ∀ ops hv hok, (rSeg ops hv hok).final = (run (init rCfg rTbl [7, 8]) ops).1 := fun _ _ _ => rfl
    unfold rSeg1a rSeg1b rSegO
    simp only [hfin]
    exact ⟨rOps1a_run.2.1, ⟨_, rOps1b_run.2.1, rfl⟩, ⟨_, rOpsO_run.2.1, rfl⟩⟩

/-- Sharpness: the *original* rule set is false of that network (rule `commit_bottom`: member 1's COMMIT ⊥ is on
the wire, the PREPARE it dissented from is not) — `agreement_model` does not apply to it, the weakening is needed. -/
theorem original_rules_fail_under_restarts : ¬ (world rTbl ∅ rW).Rules := by
  intro R
  obtain ⟨y, hy, s, z, hne, hz, _⟩ := R.commit_bottom 1 (by simp [world]) 0 (by show _ ∈ rVotes; decide)
  -- member 1's COMMIT ⊥ is on the wire, but every PREPARE in existence is for `[7,8]`: the dissenting PREPARE was
  -- its own, dropped by the filter
  have hall : ∀ e ∈ rVotes, e.2.2.1 = Instance.Phase.prepare → e.2.2.2 = [7, 8] := by decide
  exact hne ((hall _ hz rfl).trans (hall _ hy rfl).symm)

/-- non-vacuity of `published_interface_from_c12` / `published_is_c12_wire`: the example's wire from the C12 model -/
example (sig : Req → Nat) (hsig : ∀ r ph x y, sig (r, ph, x) = sig (r, ph, y) → x = y) :
    Equiv.RunOk (fun x => x == 1) (Equiv.Sys.init 0) (history 5 1 sig [requests rSeg1a.effs, requests rSeg1b.effs]) ∧
    (Equiv.run (Equiv.Sys.init 0) (history 5 1 sig [requests rSeg1a.effs, requests rSeg1b.effs])).wire =
      [(0, .quality, [7,8]), (0, .prepare, [7,8]), (0, .quality, [7,8]), (0, .commit, []), (0, .decide, [7,8])].map
        (toMsg 5 1 sig) :=
  r_wire_is_c12 sig hsig

end Restarts
/-! ## Agreement in each of several consecutive instances, at the participant API across instances

`mprun (minit cfg c0) ops` (`F3.Model.MultiParticipant`: `gpbft.Participant` with its instance counter, the running
instance, one message queue per future instance and the decisions handed to the host) is what one participant does
over its whole life; the correspondence driver replays it against the real participant in the multi-instance
network runs. `consecutive_instances_projection` shows that what it does for instance `k` is a single-instance
participant run (`prun`) over the calls that concern `k`, so every statement about `prun` — `agreement_model_participant`
above, C02, C03, C07 — holds of every instance of a multi-instance run. -/
section ConsecutiveInstances
open F3.Instance F3.Bridge

/-- **Per-instance projection of a multi-instance participant run.** Take any sequence `ops` of `ReceiveMessage` /
`ReceiveAlarm` / `StartInstanceAt` calls of a fresh participant (initial instance `c0`) in which every
`StartInstanceAt j` skips ahead (`forwardOnly`: `cur < j`, or `j = cur` while no instance is running — it never goes
backwards and never restarts the running instance), and any instance `k` that was begun in it: an alarm found no
running instance with `cur = k`, the host supplying power table `tbl`, proposal `input`, and the queue being
drained in sender order `order` (`begunWith cfg c0 k ops = some (tbl, input, order)`). Let `opsOf cfg c0 k ops` be
the calls that concern `k`, in order: the deliveries `recv _ ⟨k, m⟩` made while `cur ≤ k` (queued while `k` is a future
instance or current but not begun, delivered to the running instance afterwards) and the alarms received while `k` was
current. Then
* the effects tagged `k` are exactly the effects of `prun order (pinit cfg tbl input) (opsOf cfg c0 k ops)`;
* a decision `d` is recorded for `k` iff that single-instance run ends with `termination = some d`;
* while `k` is current, the running instance is the final state of that single-instance run;
* `k ≤ cur`. -/
theorem consecutive_instances_projection (cfg : Cfg) (c0 : Nat) (ops : List MPOp) (k : Nat) (tbl : Table)
    (input : Chain) (order : List Pid) (hfw : forwardOnly (minit cfg c0) ops = true)
    (hbeg : begunWith cfg c0 k ops = some (tbl, input, order)) :
    effsOf k (mprun (minit cfg c0) ops).2 = (prun order (pinit cfg tbl input) (opsOf cfg c0 k ops)).2 ∧
    (∀ d, (k, d) ∈ (mprun (minit cfg c0) ops).1.decisions ↔
      (prun order (pinit cfg tbl input) (opsOf cfg c0 k ops)).1.inst.termination = some d) ∧
    ((mprun (minit cfg c0) ops).1.cur = k →
      (mprun (minit cfg c0) ops).1.active = some (prun order (pinit cfg tbl input) (opsOf cfg c0 k ops)).1) ∧
    k ≤ (mprun (minit cfg c0) ops).1.cur :=
  instance_projection cfg c0 ops k tbl input order hfw hbeg

/-- An instance that was not begun (a future one, or one skipped by `StartInstanceAt`) has no effects and no
decision; so every recorded decision is the decision of the single-instance run of a begun instance. -/
theorem consecutive_instances_not_begun (cfg : Cfg) (c0 : Nat) (ops : List MPOp) (k : Nat)
    (hfw : forwardOnly (minit cfg c0) ops = true) (hbeg : begunWith cfg c0 k ops = none) :
    effsOf k (mprun (minit cfg c0) ops).2 = [] ∧ ∀ d, (k, d) ∉ (mprun (minit cfg c0) ops).1.decisions :=
  instance_not_begun cfg c0 ops k hfw hbeg

/-- **Agreement in every one of several consecutive instances, end to end for the model of the code.** Every
participant `p` executes one multi-instance run `runs p` (`MultiRun`: any calls, `StartInstanceAt` only skipping
ahead). For each instance `k < K`, `N.inst k` (`InstanceNetwork`) says: committee `t k` with distinct ids and positive
total; Byzantine members `F k` below a third of its power; `W k` the validly signed votes of instance `k` in
existence; for every honest member `p` of `t k`: its votes in `W k` are exactly the broadcasts its participant made
while `k` was current, and if its participant began `k` then the host supplied the table `t k` and a non-empty
proposal, every delivery that concerns `k` (`opsOf`) is valid (`MsgValid`, or of foreign instance / supplemental data
and refused), and no call that concerns `k` reported an error other than a refusal at the door (`okRunP`) — the
hypotheses of `agreement_model_participant`, stated about the multi-instance runs. Then the decisions recorded
**for the same instance `k`** by any two honest participants are for the same value. -/
theorem agreement_consecutive_instances {K : Nat} {runs : Pid → MultiRun} {t : Nat → Table} {F : Nat → Finset Pid}
    {W : Nat → Instance.Votes} (N : MultiNetwork K runs t F W) (k : Nat) (hk : k < K)
    (p q : Pid) (hp : p ∈ (ids (t k)).toFinset) (hpF : p ∉ F k) (hq : q ∈ (ids (t k)).toFinset) (hqF : q ∉ F k)
    (dp dq : Just)
    (hdp : (k, dp) ∈ (mprun (minit (runs p).cfg (runs p).c0) (runs p).ops).1.decisions)
    (hdq : (k, dq) ∈ (mprun (minit (runs q).cfg (runs q).c0) (runs q).ops).1.decisions) :
    dp.value = dq.value :=
  agreement_instance (N.inst k hk) p q hp hpF hq hqF dp dq hdp hdq

/-- each instance of a `MultiNetwork` satisfies the honest rules of Layer A -/
theorem consecutive_instances_satisfy_rules {K : Nat} {runs : Pid → MultiRun} {t : Nat → Table}
    {F : Nat → Finset Pid} {W : Nat → Instance.Votes} (N : MultiNetwork K runs t F W) (k : Nat) (hk : k < K) :
    (world (t k) (F k) (W k)).Rules :=
  (N.inst k hk).toNetworkP.rules

/-- Non-vacuity of `consecutive_instances_projection`: the two-instance execution `exMOps` (four equal members;
instance 0 decides `[7,8]`; a message for instance 1 arrives while instance 0 is running and is queued; a message for
instance 0 arrives after it finished and is dropped; instance 1 begins, drains its queue of three messages, decides
`[8,5]`): the hypotheses hold for both instances, the calls that concern each are as expected, and the conclusions
are confirmed by evaluation. -/
theorem consecutive_instances_projection_nonvacuous :
    forwardOnly (minit mxCfg) exMOps = true ∧
    begunWith mxCfg 0 0 exMOps = some (mxTbl, [7, 8], mxOrder) ∧
    begunWith mxCfg 0 1 exMOps = some (mxTbl, [8, 5], [1, 4, 2]) ∧ begunWith mxCfg 0 2 exMOps = none ∧
    opsOf mxCfg 0 0 exMOps = exPOps0 ∧ opsOf mxCfg 0 1 exMOps = exPOps1 ∧
    (queueOf (mprun (minit mxCfg) (exMOps.take 7)).1.queues 1).length = 1 ∧
    (mprun (minit mxCfg) (exMOps.take 18)).2 = (mprun (minit mxCfg) (exMOps.take 17)).2 ∧
    (queueOf (mprun (minit mxCfg) (exMOps.take 20)).1.queues 1).map (·.sender) = [2, 1, 4] ∧
    effsOf 1 (mprun (minit mxCfg) exMOps).2 = (prun [1, 4, 2] (pinit mxCfg mxTbl [8, 5]) (opsOf mxCfg 0 1 exMOps)).2 ∧
    (mprun (minit mxCfg) exMOps).1.decisions =
      [(0, { round := 0, phase := .decide, value := [7,8], signers := [0,1,2] }),
       (1, { round := 0, phase := .decide, value := [8,5], signers := [0,1,2] })] :=
  ⟨ex_forward.2.2, ex_opsOf.2.2.1, ex_opsOf.2.2.2.1, ex_opsOf.2.2.2.2, ex_opsOf.1, ex_opsOf.2.1, by decide +kernel,
   ex_two_instances.2.2.2.2.2.2.2.2.2.1, ex_two_instances.2.2.2.2.2.2.2.2.2.2.1, ex_projection.2.1,
   ex_two_instances.2.2.2.2.2.2.2.2.2.2.2.2.2.2.2⟩

/-- Non-vacuity of `agreement_consecutive_instances`: the four-member network over two consecutive instances, the
three honest members each executing `exMOps`, member 4 Byzantine and equivocating in PREPARE in both instances; every
honest participant records a decision for instance 0 and one for instance 1 (`R.final` abbreviates
`(mprun (minit R.cfg R.c0) R.ops).1`). -/
theorem agreement_consecutive_instances_nonvacuous :
    MultiNetwork 2 (fun _ => exMultiRun) (fun _ => exTbl) (fun _ => exF)
      (fun k => if k = 0 then exW else Wof exVotes1) ∧
    exW 4 0 .prepare [7, 9] ∧ exW 4 0 .prepare [7, 8] ∧
    Wof exVotes1 4 0 .prepare [8, 6] ∧ Wof exVotes1 4 0 .prepare [8, 5] ∧
    (∃ d, (0, d) ∈ exMultiRun.final.decisions ∧ d.value = [7, 8]) ∧
    (∃ d, (1, d) ∈ exMultiRun.final.decisions ∧ d.value = [8, 5]) := by
  refine ⟨exMultiNet, by show _ ∈ exVotes; decide, by show _ ∈ exVotes; decide, by show _ ∈ exVotes1; decide,
    by show _ ∈ exVotes1; decide, ?_, ?_⟩
  · refine ⟨{ round := 0, phase := .decide, value := [7,8], signers := [0,1,2] }, ?_, rfl⟩
    rw [ex_recorded]
    decide
  · refine ⟨{ round := 0, phase := .decide, value := [8,5], signers := [0,1,2] }, ?_, rfl⟩
    rw [ex_recorded]
    decide

end ConsecutiveInstances

/-! ## Agreement of the executable model without any assumption on reported errors

`agreement_model` asks of every honest run that no call reported an error other than a refusal at the door
(`HonestRun.ok`). By `F3.Props.C07.no_internal_error_or_panic` this is a theorem about the model for every run of one
`Start` followed by alarms and validated (or foreign) deliveries, so the field can be dropped. -/
section NoFailureCorollaries
open F3.Instance F3.Bridge

/-- **`okRun` holds of every validated run** (the statement of `F3.Props.C07.no_internal_error_or_panic` in the
vocabulary of the bridge): after the one `Start`, every alarm and every delivery of a validated message — or of a
message of another instance / with other supplemental data — either is refused at the door or reports no failure. -/
theorem no_internal_error_or_panic_okRun (cfg : Cfg) (t : Table) (input : Chain) (W : Instance.Votes) (now0 : Int)
    (ops : List Op) (hin : input ≠ []) (hT : 0 < t.total)
    (hstart : ∀ op ∈ ops, op.isStart = false)
    (hvalid : ∀ op ∈ ops, foreign op = true ∨ OpValidG W t op) :
    okRun (init cfg t input) (.start now0 :: ops) = true :=
  okRun_of_valid cfg t input W now0 ops hin hT hstart hvalid

/-- **Agreement, end to end for the model of the code, with no hypothesis on errors.** `N : NetworkV t F W`: power
table with distinct ids and positive total; Byzantine set `F` with less than a third of the power; `W` the validly
signed votes in existence; every honest committee member ran `Instance.step` from `init` on `Start` followed by an
arbitrary list of alarms and deliveries in which every delivered message of this instance is valid (`MsgValid`), and
has exactly its own broadcasts as its votes in `W`. Then any two honest members that report a decision report the
same value. -/
theorem agreement_model_unconditional {t : Table} {F : Finset Pid} {W : Instance.Votes} (N : NetworkV t F W)
    (p q : Pid) (hp : p ∈ (ids t).toFinset) (hpF : p ∉ F) (hq : q ∈ (ids t).toFinset) (hqF : q ∉ F) (dp dq : Just)
    (hdp : (run (init (N.runs p hp hpF).cfg t (N.runs p hp hpF).input)
      (.start (N.runs p hp hpF).start :: (N.runs p hp hpF).ops)).1.termination = some dp)
    (hdq : (run (init (N.runs q hq hqF).cfg t (N.runs q hq hqF).input)
      (.start (N.runs q hq hqF).start :: (N.runs q hq hqF).ops)).1.termination = some dq) :
    dp.value = dq.value :=
  agreement_model N.toNetwork p q hp hpF hq hqF dp dq hdp hdq

/-- The honest rules of Layer A hold of every such network of model runs. -/
theorem model_satisfies_rules_unconditional {t : Table} {F : Finset Pid} {W : Instance.Votes} (N : NetworkV t F W) :
    (world t F W).Rules := N.toNetwork.rules

/-- Non-vacuity: the four-member network of `agreement_model_nonvacuous` (member 4 Byzantine and equivocating, one
delivery refused for its supplemental data) is a `NetworkV`, and honest member 1 decides `[7, 8]` in it. -/
theorem agreement_model_unconditional_nonvacuous :
    Nonempty (NetworkV exTbl exF exW) ∧ exW 4 0 .prepare [7, 9] ∧ exW 4 0 .prepare [7, 8] ∧
    ∃ d, (run (init (exNetV.runs 1 (by decide) (by decide)).cfg exTbl (exNetV.runs 1 (by decide) (by decide)).input)
      (.start (exNetV.runs 1 (by decide) (by decide)).start :: (exNetV.runs 1 (by decide) (by decide)).ops)).1.termination
        = some d ∧ d.value = [7, 8] :=
  ⟨⟨exNetV⟩, ex_network_decides.1, ex_network_decides.2.1, ex_networkV_decides⟩

/-- **Agreement at the participant API, with no hypothesis on errors.** As `agreement_model_participant`, but the
honest members' executions are `ValidRunP`s: any sequence of `ReceiveMessage` / `ReceiveAlarm` calls and any drain
order, every delivered message being of this instance and validated unless its supplemental data differ
(`PMsgOK`); that no call reports an error other than a refusal (`okRunP`) is
`F3.Props.C07.no_internal_error_or_panic_participant`. -/
theorem agreement_model_participant_unconditional {t : Table} {F : Finset Pid} {W : Instance.Votes}
    (N : NetworkVP t F W)
    (p q : Pid) (hp : p ∈ (ids t).toFinset) (hpF : p ∉ F) (hq : q ∈ (ids t).toFinset) (hqF : q ∉ F) (dp dq : Just)
    (hdp : (prun (N.runs p hp hpF).order (pinit (N.runs p hp hpF).cfg t (N.runs p hp hpF).input)
      (N.runs p hp hpF).ops).1.inst.termination = some dp)
    (hdq : (prun (N.runs q hq hqF).order (pinit (N.runs q hq hqF).cfg t (N.runs q hq hqF).input)
      (N.runs q hq hqF).ops).1.inst.termination = some dq) :
    dp.value = dq.value :=
  agreement_model_participant N.toNetworkP p q hp hpF hq hqF dp dq hdp hdq

/-- Non-vacuity: the participant-level example network is a `NetworkVP` in which honest member 1 decides `[7, 8]`. -/
theorem agreement_model_participant_unconditional_nonvacuous :
    Nonempty (NetworkVP exTbl exF exW) ∧ exW 4 0 .prepare [7, 9] ∧ exW 4 0 .prepare [7, 8] ∧
    ∃ d, (prun (exNetVP.runs 1 (by decide) (by decide)).order
        (pinit (exNetVP.runs 1 (by decide) (by decide)).cfg exTbl (exNetVP.runs 1 (by decide) (by decide)).input)
        (exNetVP.runs 1 (by decide) (by decide)).ops).1.inst.termination = some d ∧ d.value = [7, 8] :=
  ⟨⟨exNetVP⟩, ex_network_decides.1, ex_network_decides.2.1, ex_networkVP_decides⟩

end NoFailureCorollaries

/-! ## Quiet honest members; `W` and the table instantiated from signed messages

`NetworkV` demands a `Start` of **every** honest committee member; a member that never begins the instance
(crash-silent, lagging) could only be declared Byzantine. `F3.Audit2.NetworkV'` lets an honest member's op list be
empty (`ValidRun'`: `ops = []`, or `Start` once followed by alarms and deliveries); such a member has no vote in `W`
and reports nothing.

`agreement_from_key_usage` composes `F3.ValidBridge.validMsg_MsgValid` (C05: what the validator accepts is
`MsgValid`) with the network theorem: `W := Wsig Signed net inst supp c`, `t := tableOf c`, deliveries are wire messages
accepted by `validMsg`, and the `valid` / `own` / `nonMembers` fields are *derived* from `F3.Audit2.KeyUsage`. -/
section Audit2
open F3.Instance F3.Bridge F3.Audit2

/-- **Agreement with honest members that never begin the instance.** `N : NetworkV' t F W`: as `NetworkV`, but each
honest committee member either made no call at all on the instance or called `Start` once and then received alarms
and (validated or foreign) deliveries in any order; its votes in `W` are exactly its broadcasts (none, if it never
started). Quiet members do **not** count against the `< 1/3` bound. Any two honest members that report a decision
report the same value. -/
theorem agreement_model_quiet {t : Table} {F : Finset Pid} {W : Instance.Votes} (N : NetworkV' t F W)
    (p q : Pid) (hp : p ∈ (ids t).toFinset) (hpF : p ∉ F) (hq : q ∈ (ids t).toFinset) (hqF : q ∉ F) (dp dq : Just)
    (hdp : (run (init (N.runs p hp hpF).cfg t (N.runs p hp hpF).input) (N.runs p hp hpF).ops).1.termination = some dp)
    (hdq : (run (init (N.runs q hq hqF).cfg t (N.runs q hq hqF).input) (N.runs q hq hqF).ops).1.termination = some dq) :
    dp.value = dq.value :=
  model_agreement_quiet N p q hp hpF hq hqF dp dq hdp hdq

/-- The honest rules of Layer A hold of every such network. -/
theorem model_satisfies_rules_quiet {t : Table} {F : Finset Pid} {W : Instance.Votes} (N : NetworkV' t F W) :
    (world t F W).Rules := N.rules

/-- a quiet member has no vote in existence and reports no decision -/
theorem quiet_member_silent {t : Table} {F : Finset Pid} {W : Instance.Votes} (N : NetworkV' t F W)
    (p : Pid) (hp : p ∈ (ids t).toFinset) (hpF : p ∉ F) (hq : (N.runs p hp hpF).quiet) :
    (∀ r ph v, ¬ W p r ph v) ∧
    (run (init (N.runs p hp hpF).cfg t (N.runs p hp hpF).input) (N.runs p hp hpF).ops).1.termination = none :=
  ⟨(N.runs p hp hpF).quiet_no_votes hq, (N.runs p hp hpF).quiet_no_decision hq⟩

/-- `agreement_model_unconditional` is the special case in which every honest member started -/
theorem agreement_model_unconditional_from_quiet {t : Table} {F : Finset Pid} {W : Instance.Votes} (N : NetworkV t F W)
    (p q : Pid) (hp : p ∈ (ids t).toFinset) (hpF : p ∉ F) (hq : q ∈ (ids t).toFinset) (hqF : q ∉ F) (dp dq : Just)
    (hdp : (run (init (N.runs p hp hpF).cfg t (N.runs p hp hpF).input)
      (.start (N.runs p hp hpF).start :: (N.runs p hp hpF).ops)).1.termination = some dp)
    (hdq : (run (init (N.runs q hq hqF).cfg t (N.runs q hq hqF).input)
      (.start (N.runs q hq hqF).start :: (N.runs q hq hqF).ops)).1.termination = some dq) :
    dp.value = dq.value :=
  agreement_model_quiet (ofNetworkV N) p q hp hpF hq hqF dp dq hdp hdq

/-- Non-vacuity: four members of equal power; 1 and 2 honest and running, **3 honest and never starting**, 4 Byzantine
(equivocating in QUALITY, a COMMIT for bottom of its also exists); member 1 decides `[7, 8]`. With member 3 counted as
faulty the bound `3·2 < 4` would fail, so `agreement_model_unconditional` does not apply to this network. -/
theorem agreement_model_quiet_nonvacuous :
    Nonempty (NetworkV' exTbl exF qW) ∧
    (qNet.runs 3 (by decide) (by decide)).quiet ∧ ¬ (qNet.runs 1 (by decide) (by decide)).quiet ∧
    qW 4 0 .quality [7, 8, 9] ∧ qW 4 0 .quality [7, 8] ∧
    (∃ d, (run (init (qNet.runs 1 (by decide) (by decide)).cfg exTbl (qNet.runs 1 (by decide) (by decide)).input)
      (qNet.runs 1 (by decide) (by decide)).ops).1.termination = some d ∧ d.value = [7, 8]) ∧
    ¬ 3 * (exTbl.power 3 + exTbl.power 4) < exTbl.total :=
  ⟨⟨qNet⟩, qNet_facts⟩

open F3.Msg F3.Spec.ValidMsg F3.ValidBridge in
/-- **Agreement from assumptions about key usage only (C05 ∘ C01).** Committee `c` (distinct ids, positive total
scaled power), instance `inst` with supplemental data `supp` on network `net`; `Signed pub bytes`: key `pub` produced a
signature over `bytes`; `Wire`: the wire messages in existence. `F`: the Byzantine members, with less than a third of
the power. Every other member runs the instance model on a list of calls that is empty or `Start` followed by alarms
and deliveries, each delivery being a wire message of this instance that C05's validity predicate `validMsg` accepts
(or a message of another instance / supplemental data, refused at the door). `K : KeyUsage …`: (i) a signature token
occurring in a wire message was produced by the key it names; (ii) the key registered for an honest member signs a vote
of this instance only if that member's model run broadcast it (Byzantine members sign with their own keys only); (iii)
every broadcast of an honest member's run is signed with its key. Then any two honest members that report a decision
report the same value. -/
theorem agreement_from_key_usage {Signed : Nat → SigMsg → Prop} {Wire : Msg.Msg → Prop} {net inst supp : Nat}
    {c : Committee} {F : Finset Pid} {runs : SignedRuns Wire net inst supp c F}
    (K : KeyUsage Signed Wire net inst supp c F runs) (hu : (c.entries.map (·.id)).Nodup)
    (hT : 0 < c.total) (hF : 3 * (∑ p ∈ F, (tableOf c).power p) < c.total)
    (p q : Pid) (hp : p ∈ (ids (tableOf c)).toFinset) (hpF : p ∉ F)
    (hq : q ∈ (ids (tableOf c)).toFinset) (hqF : q ∉ F) (dp dq : Instance.Just)
    (hdp : (run (init (runs p hp hpF).cfg (tableOf c) (runs p hp hpF).input) (runs p hp hpF).ops).1.termination = some dp)
    (hdq : (run (init (runs q hq hqF).cfg (tableOf c) (runs q hq hqF).input) (runs q hq hqF).ops).1.termination = some dq) :
    dp.value = dq.value :=
  model_agreement_quiet (K.network hu hT hF) p q hp hpF hq hqF dp dq hdp hdq

open F3.Msg F3.Spec.ValidMsg F3.ValidBridge in
/-- the fields `valid`, `own`, `nonMembers` of the network structures, derived from `KeyUsage` -/
theorem network_fields_from_key_usage {Signed : Nat → SigMsg → Prop} {Wire : Msg.Msg → Prop} {net inst supp : Nat}
    {c : Committee} {F : Finset Pid} {runs : SignedRuns Wire net inst supp c F}
    (K : KeyUsage Signed Wire net inst supp c F runs) (hu : (c.entries.map (·.id)).Nodup) :
    (∀ p hp hF, ∀ op ∈ (runs p hp hF).ops,
      foreign op = true ∨ OpValidG (Wsig Signed net inst supp c) (tableOf c) op) ∧
    (∀ p hp hF r ph v, Wsig Signed net inst supp c p r ph v ↔
      ∃ tk j, Eff.broadcast r ph v tk j ∈ (run (init (runs p hp hF).cfg (tableOf c) (runs p hp hF).input) (runs p hp hF).ops).2) ∧
    (∀ p, p ∉ (ids (tableOf c)).toFinset → ∀ r ph v, ¬ Wsig Signed net inst supp c p r ph v) :=
  ⟨fun p hp hF => K.valid hu p hp hF, fun p hp hF r ph v => K.own p hp hF r ph v,
    wsig_nonMembers Signed net inst supp c⟩

/-- Non-vacuity of `agreement_from_key_usage`: the committee, signatures, wire messages and runs of
`F3.Audit2.SignedEx` (members 1, 2 honest, member 3 Byzantine with two different PREPAREs signed) satisfy every
hypothesis, honest members 1 and 2 both decide, and — as the theorem says — on the same value `[7, 8]`. -/
theorem agreement_from_key_usage_nonvacuous :
    (∃ d, (run (init (SignedEx.sRuns 1 (by decide) (by decide)).cfg (F3.ValidBridge.tableOf SignedEx.com)
        (SignedEx.sRuns 1 (by decide) (by decide)).input) (SignedEx.sRuns 1 (by decide) (by decide)).ops).1.termination
          = some d ∧ d.value = [7, 8]) ∧
    (SignedEx.cb ≠ SignedEx.cv ∧ (103, SignedEx.sm F3.Msg.PREPARE SignedEx.cb) ∈ SignedEx.S ∧
      (103, SignedEx.sm F3.Msg.PREPARE SignedEx.cv) ∈ SignedEx.S) ∧
    ∀ dp dq,
      (run (init (SignedEx.sRuns 1 (by decide) (by decide)).cfg (F3.ValidBridge.tableOf SignedEx.com)
        (SignedEx.sRuns 1 (by decide) (by decide)).input) (SignedEx.sRuns 1 (by decide) (by decide)).ops).1.termination
          = some dp →
      (run (init (SignedEx.sRuns 2 (by decide) (by decide)).cfg (F3.ValidBridge.tableOf SignedEx.com)
        (SignedEx.sRuns 2 (by decide) (by decide)).input) (SignedEx.sRuns 2 (by decide) (by decide)).ops).1.termination
          = some dq → dp.value = dq.value :=
  ⟨SignedEx.signed_example.2.2.2.2.2, ⟨by decide, SignedEx.signed_example.2.2.2.1, SignedEx.signed_example.2.2.2.2.1⟩,
    fun dp dq hdp hdq =>
      agreement_from_key_usage SignedEx.sKey SignedEx.signed_example.1 SignedEx.signed_example.2.1
        SignedEx.signed_example.2.2.1 1 2 (by decide) (by decide) (by decide) (by decide) dp dq hdp hdq⟩

end Audit2

end F3.Props.C01

namespace F3.Props.C01
section HonestEmissions
open F3 F3.Instance F3.Bridge

/-- **What an honest member of a network sends, every honest member's validator lets through** (the link between
C07's `emitted_valid` and the network structure the agreement theorems are about): in a `NetworkV`, every
broadcast effect of an honest member with positive power is a delivery admissible (`OpValidG`) at any member. So
the `valid` field the agreement theorems demand of deliveries is met by honest traffic itself — it constrains
Byzantine traffic only. -/
theorem honest_emissions_deliverable {t : Table} {F : Finset Pid} {W : Votes} (N : NetworkV t F W) (p : Pid)
    (hp : p ∈ (ids t).toFinset) (hF : p ∉ F) (hpos : 0 < t.power p) (r : Nat) (ph : Phase) (v : Chain) (tk : Bool)
    (j : Option Just)
    (hm : Eff.broadcast r ph v tk j ∈ (run (init (N.runs p hp hF).cfg t (N.runs p hp hF).input)
      (.start (N.runs p hp hF).start :: (N.runs p hp hF).ops)).2) (now : Int) :
    OpValidG W t (.recv now (F3.EmittedValid.msgOf p r ph v j)) :=
  F3.EmittedValid.emitted_deliverable N p hp hF hpos r ph v tk j hm now

end HonestEmissions
end F3.Props.C01

namespace F3.Props.C01
section HonestEmissionsParticipant
open F3 F3.Instance F3.Bridge

/-- **What an honest member sends is admissible also when the members are driven through the participant API**
(`gpbft.Participant`: pre-start queue, drain
through `ReceiveMany` in any map order): in a `NetworkVP`, every message an honest member with positive power sends —
or re-sends on a rebroadcast request (`F3.EmittedValid.wireOf`: the requests expanded against the member's earlier
broadcasts) — is a delivery admissible at any member at any time (`PMsgOK`: of this instance, validated), before or
after the receiver's instance has begun. (`F3.Props.C07.emitted_valid_participant`, `wire_valid_participant`.) -/
theorem honest_emissions_deliverable_participant {t : Table} {F : Finset Pid} {W : Votes} (N : NetworkVP t F W)
    (p : Pid) (hp : p ∈ (ids t).toFinset) (hF : p ∉ F) (hpos : 0 < t.power p) (m : Msg)
    (hm : m ∈ F3.EmittedValid.wireOf p (prun (N.runs p hp hF).order
      (pinit (N.runs p hp hF).cfg t (N.runs p hp hF).input) (N.runs p hp hF).ops).2) (now : Int) :
    POpP (PMsgOK W t) (.recv now m) :=
  F3.EmittedValid.emitted_deliverableP N p hp hF hpos m hm now

/-- every broadcast effect is on the wire, so the statement covers plain broadcasts -/
theorem broadcast_on_wire (p : Pid) (es : List Eff) (r : Nat) (ph : Phase) (v : Chain) (tk : Bool) (j : Option Just)
    (h : Eff.broadcast r ph v tk j ∈ es) : F3.EmittedValid.msgOf p r ph v j ∈ F3.EmittedValid.wireOf p es :=
  F3.EmittedValid.bc_mem_wireOf h

end HonestEmissionsParticipant
end F3.Props.C01

namespace F3.Props.C01
section Skeletons

/-- **The Go functions this property's models mirror still have the statement structure the models were written
against**: each regenerated skeleton (pre-order list of statement kinds, `tools/go2lean/skel.go`) equals the recorded
expectation of `F3/Proofs/SkelTie*.lean`. An added early return, cap, loop or dropped branch in one of these functions
breaks this obligation even when no regenerated *expression* changes. -/
theorem code_structure_as_modelled :
    F3.Gen.SkelGpbft.skelQueueAdd = F3.SkelTie.SkelGpbft.skelQueueAddExpected ∧
    F3.Gen.SkelGpbft.skelQueueDrain = F3.SkelTie.SkelGpbft.skelQueueDrainExpected ∧
    F3.Gen.SkelGpbft.skelReceiveMessage = F3.SkelTie.SkelGpbft.skelReceiveMessageExpected ∧
    F3.Gen.SkelGpbft.skelHandleDecision = F3.SkelTie.SkelGpbft.skelHandleDecisionExpected ∧
    F3.Gen.SkelGpbft.skelReceiveOne = F3.SkelTie.SkelGpbft.skelReceiveOneExpected ∧
    F3.Gen.SkelGpbft.skelPostReceive = F3.SkelTie.SkelGpbft.skelPostReceiveExpected ∧
    F3.Gen.SkelGpbft.skelTryQuality = F3.SkelTie.SkelGpbft.skelTryQualityExpected ∧
    F3.Gen.SkelGpbft.skelTryConverge = F3.SkelTie.SkelGpbft.skelTryConvergeExpected ∧
    F3.Gen.SkelGpbft.skelTryPrepare = F3.SkelTie.SkelGpbft.skelTryPrepareExpected ∧
    F3.Gen.SkelGpbft.skelTryCommit = F3.SkelTie.SkelGpbft.skelTryCommitExpected ∧
    F3.Gen.SkelGpbft.skelTryDecide = F3.SkelTie.SkelGpbft.skelTryDecideExpected ∧
    F3.Gen.SkelGpbft.skelBeginDecide = F3.SkelTie.SkelGpbft.skelBeginDecideExpected ∧
    F3.Gen.SkelGpbft.skelSkipToRound = F3.SkelTie.SkelGpbft.skelSkipToRoundExpected ∧
    F3.Gen.SkelGpbft.skelTryRebroadcast = F3.SkelTie.SkelGpbft.skelTryRebroadcastExpected ∧
    F3.Gen.SkelGpbft.skelReceiveEachPrefix = F3.SkelTie.SkelGpbft.skelReceiveEachPrefixExpected ∧
    F3.Gen.SkelGpbft.skelFindStrongQuorumFor = F3.SkelTie.SkelGpbft.skelFindStrongQuorumForExpected ∧
    F3.Gen.SkelGpbft.skelBeginInstance = F3.SkelTie.SkelGpbft.skelBeginInstanceExpected ∧
    F3.Gen.SkelGpbft.skelReceiveAlarm = F3.SkelTie.SkelGpbft.skelReceiveAlarmExpected ∧
    F3.Gen.SkelGpbft.skelHasBase = F3.SkelTie.SkelGpbft.skelHasBaseExpected ∧
    F3.Gen.SkelGpbft.skelTipSetEqual = F3.SkelTie.SkelGpbft.skelTipSetEqualExpected ∧
    F3.Gen.SkelGpbft.skelChainEq = F3.SkelTie.SkelGpbft.skelChainEqExpected ∧
    F3.Gen.SkelGpbft.skelReceiveMany = F3.SkelTie.SkelGpbft.skelReceiveManyExpected ∧
    F3.Gen.SkelGpbft.skelShouldSkipToRound = F3.SkelTie.SkelGpbft.skelShouldSkipToRoundExpected ∧
    F3.Gen.SkelPower.skelScalePower = F3.SkelTie.SkelPower.skelScalePowerExpected ∧
    F3.Gen.SkelPower.skelPowerTableCopy = F3.SkelTie.SkelPower.skelPowerTableCopyExpected ∧
    F3.Gen.SkelPower.skelRescale = F3.SkelTie.SkelPower.skelRescaleExpected :=
  ⟨F3.SkelTie.SkelGpbft.skelQueueAdd_expected, F3.SkelTie.SkelGpbft.skelQueueDrain_expected,
   F3.SkelTie.SkelGpbft.skelReceiveMessage_expected, F3.SkelTie.SkelGpbft.skelHandleDecision_expected,
   F3.SkelTie.SkelGpbft.skelReceiveOne_expected, F3.SkelTie.SkelGpbft.skelPostReceive_expected,
   F3.SkelTie.SkelGpbft.skelTryQuality_expected, F3.SkelTie.SkelGpbft.skelTryConverge_expected,
   F3.SkelTie.SkelGpbft.skelTryPrepare_expected, F3.SkelTie.SkelGpbft.skelTryCommit_expected,
   F3.SkelTie.SkelGpbft.skelTryDecide_expected, F3.SkelTie.SkelGpbft.skelBeginDecide_expected,
   F3.SkelTie.SkelGpbft.skelSkipToRound_expected, F3.SkelTie.SkelGpbft.skelTryRebroadcast_expected,
   F3.SkelTie.SkelGpbft.skelReceiveEachPrefix_expected, F3.SkelTie.SkelGpbft.skelFindStrongQuorumFor_expected,
   F3.SkelTie.SkelGpbft.skelBeginInstance_expected, F3.SkelTie.SkelGpbft.skelReceiveAlarm_expected,
   F3.SkelTie.SkelGpbft.skelHasBase_expected, F3.SkelTie.SkelGpbft.skelTipSetEqual_expected,
   F3.SkelTie.SkelGpbft.skelChainEq_expected, F3.SkelTie.SkelGpbft.skelReceiveMany_expected,
   F3.SkelTie.SkelGpbft.skelShouldSkipToRound_expected, F3.SkelTie.SkelPower.skelScalePower_expected,
   F3.SkelTie.SkelPower.skelPowerTableCopy_expected, F3.SkelTie.SkelPower.skelRescale_expected⟩

end Skeletons
end F3.Props.C01
