import F3.Proofs.SkelTieBls
import F3.Proofs.SkelTieGpbft
import F3.Proofs.ParticipantInv
import F3.Props.C08
import F3.Proofs.DecisionCert
import F3.Proofs.OwnBase
import F3.Proofs.BridgeEx
/-!
# C03 — every reported decision is a self-contained, verifiable finality proof (model part)

On the executable model of `gpbft.go`: whatever validated messages are delivered in whatever order, the
justification handed to the host on termination is for round 0 of DECIDE, lists strictly increasing
(hence distinct) power-table indices that are in range and carry non-zero scaled power, and those signers
form a strong quorum of the instance's table. The instance id and supplemental data are the instance's own
by construction of `buildJustification` (the model carries them implicitly; the harness checks them on the
real decision, together with the aggregate signature and acceptance by `certs.ValidateFinalityCertificates`).
-/
namespace F3.Props.C03
open F3.Instance

/-- `x` sent a validated DECIDE vote for `c` somewhere in the op sequence -/
def DecideVoted (ops : List Op) (x : Pid) (c : Chain) : Prop :=
  ∃ now m, Op.recv now m ∈ ops ∧ m.phase = .decide ∧ m.sender = x ∧ m.value = c

/-- the ops are deliveries of validated messages: DECIDE is for round 0 and senders have positive scaled power -/
def OpsValid (tbl : Table) (ops : List Op) : Prop :=
  ∀ op ∈ ops, match op with
    | .recv _ m => MsgOk m ∧ 0 < tbl.power m.sender
    | _ => True

theorem opsValid_opValid (tbl : Table) (ops : List Op) (h : OpsValid tbl ops) :
    ∀ op ∈ ops, OpValid (DecideVoted ops) tbl op := by
  intro op hop
  have := h op hop
  cases op with
  | recv now m => exact ⟨this.1, this.2, fun hph => ⟨now, m, hop, hph, rfl, rfl⟩⟩
  | start _ => trivial
  | alarm _ => trivial

/-- **Decision well-formedness**, for every configuration, table, input and op sequence: round 0 of DECIDE,
strictly increasing in-range signer indices of positive scaled power, a strong quorum, and every listed
signer is a member from whom a DECIDE vote for *exactly the decided value* was delivered (so, under the
ideal-signature model, the aggregate verifies over exactly that value). -/
theorem decision_wellformed (cfg : Cfg) (tbl : Table) (input : Chain) (ops : List Op)
    (hops : OpsValid tbl ops) (d : Just)
    (hd : (run (init cfg tbl input) ops).1.termination = some d) : DecisionOK (DecideVoted ops) tbl d :=
  run_decisionOK cfg tbl input ops (opsValid_opValid tbl ops hops) d hd

/-- D of Layer A: a reported decision is backed by a strong quorum of members that each sent DECIDE for it -/
theorem decision_has_decide_quorum (cfg : Cfg) (tbl : Table) (input : Chain) (ops : List Op)
    (hops : OpsValid tbl ops) (d : Just)
    (hd : (run (init cfg tbl input) ops).1.termination = some d) :
    strongQ tbl (sumPow tbl d.signers) = true ∧ d.signers.Pairwise (· < ·) ∧
    ∀ i ∈ d.signers, ∃ x, tbl.index? x = some i ∧ DecideVoted ops x d.value :=
  let h := decision_wellformed cfg tbl input ops hops d hd
  ⟨h.strong, h.increasing, h.signed⟩

/-- the signers of a decision hold at least two thirds of the table's scaled power (spelled out) -/
theorem decision_strong_quorum (cfg : Cfg) (tbl : Table) (input : Chain) (ops : List Op)
    (hops : OpsValid tbl ops) (d : Just)
    (hd : (run (init cfg tbl input) ops).1.termination = some d) :
    3 * (sumPow tbl d.signers : Int) ≥ 2 * (tbl.total : Int) := by
  have h := (decision_wellformed cfg tbl input ops hops d hd).strong
  simpa [strongQ, F3.Spec.Quorum.strong] using h

/-- the model's quorum test is the code's `IsStrongQuorum` (regenerated from `gpbft/gpbft.go` on this run) -/
theorem strongQ_is_the_codes_predicate (t : Table) (p : Nat) :
    strongQ t p = F3.Gen.isStrongQuorum (p : Int) (t.total : Int) := by
  rw [Bool.eq_iff_iff, F3.Props.C08.strong_iff _ _ (by omega)]
  simp [strongQ, F3.Spec.Quorum.strong]

/-- whenever `FindStrongQuorumFor` finds a quorum in a well-formed tally it is a minimal prefix of the
sorted signer indices: strictly increasing, in range, positive power, strong -/
theorem quorum_result_wellformed (V : Pid → Chain → Prop) (t : Table) (q : Tally) (c : Chain) (sg : List Nat)
    (hwf : TallyWF V t q) (h : q.findStrongQuorumFor t c = .found sg) :
    sg.Pairwise (· < ·) ∧ (∀ i ∈ sg, i < t.entries.length ∧ 0 < t.powerAt i) ∧ strongQ t (sumPow t sg) = true ∧
    (∀ i ∈ sg, ∃ x, t.index? x = some i ∧ V x c) :=
  findStrongQuorumFor_spec t q c sg hwf h

/-- Non-vacuity: a three-member table, two DECIDE votes (30000 + 20000 of 65534 ≥ 2/3) terminate the
instance with signers [0, 1]. -/
def exTbl : Table := { entries := [(1, 30000), (2, 20000), (3, 15534)] }
def exCfg : Cfg := { maxLookahead := 2, rebImmediateAfter := 3, timeout2 := [100], qualityTimeout2 := 100, rebAfter := [50] }
def exOps : List Op :=
  [.start 0,
   .recv 1 { sender := 2, round := 0, phase := .decide, value := [7, 8],
             just := some { round := 0, phase := .commit, value := [7, 8], signers := [0, 1] } },
   .recv 2 { sender := 1, round := 0, phase := .decide, value := [7, 8],
             just := some { round := 0, phase := .commit, value := [7, 8], signers := [0, 1] } }]

example : (run (init exCfg exTbl [7, 8]) exOps).1.termination =
    some { round := 0, phase := .decide, value := [7, 8], signers := [0, 1] } := by decide +kernel

example : OpsValid exTbl exOps := by
  intro op hop
  simp only [exOps, List.mem_cons, List.mem_nil_iff, or_false] at hop
  rcases hop with rfl | rfl | rfl <;> simp [MsgOk, exTbl, Table.power]

/-! ## The same at the participant API (`gpbft/participant.go`)

`pstepWith order` is `Participant.ReceiveMessage` / `ReceiveAlarm` for the current instance (what the
correspondence driver replays): deliveries before the instance has begun are queued and drained through
`instance.ReceiveMany` by the first alarm, in the sender order `order` (any order is possible in Go). -/
section ParticipantAPI

/-- `x` sent a validated DECIDE vote for `c` somewhere in the call sequence — delivered to the running instance,
or queued before it began and drained at its start -/
def DecideVotedP (ops : List POp) (x : Pid) (c : Chain) : Prop :=
  ∃ now m, POp.recv now m ∈ ops ∧ m.phase = .decide ∧ m.sender = x ∧ m.value = c

/-- the calls deliver validated messages: DECIDE is for round 0 and senders have positive scaled power -/
def POpsValid (tbl : Table) (ops : List POp) : Prop :=
  ∀ op ∈ ops, match op with
    | .recv _ m => MsgOk m ∧ 0 < tbl.power m.sender
    | _ => True

theorem popsValid_popValid (tbl : Table) (ops : List POp) (h : POpsValid tbl ops) :
    ∀ op ∈ ops, POpValid (DecideVotedP ops) tbl op := by
  intro op hop
  have := h op hop
  cases op with
  | recv now m => exact ⟨this.1, this.2, fun hph => ⟨now, m, hop, hph, rfl, rfl⟩⟩
  | alarm _ => trivial

/-- **Decision well-formedness at the participant API**, for every configuration, table, input, drain order and
sequence of `ReceiveMessage` / `ReceiveAlarm` calls (no no-failure hypothesis): the decision reported is for round
0 of DECIDE, lists strictly increasing in-range signer indices of positive scaled power forming a strong quorum,
and every listed signer is a member from whom a DECIDE vote for exactly the decided value was delivered — to the
running instance, or before it began (queued, then drained through `ReceiveMany`). -/
theorem decision_wellformed_participant (cfg : Cfg) (tbl : Table) (input : Chain) (order : List Pid)
    (ops : List POp) (hops : POpsValid tbl ops) (d : Just)
    (hd : (prun order (pinit cfg tbl input) ops).1.inst.termination = some d) :
    DecisionOK (DecideVotedP ops) tbl d := by
  obtain ⟨h, ht⟩ := prun_decinv (V := DecideVotedP ops) order (pinit cfg tbl input) ops (DecInv_init cfg tbl input)
    (by simp [pinit]) (popsValid_popValid tbl ops hops)
  have := h.2 d hd
  rw [ht] at this
  exact this

/-- Non-vacuity: both DECIDE votes (and a message on another base, a late-binding reject) arrive before the
instance begins; the first alarm begins it, drains the queue — dropping the reject — and the instance terminates
with signers [0, 1]. -/
def exPOps : List POp :=
  [.recv 1 { sender := 2, round := 0, phase := .decide, value := [7, 8],
             just := some { round := 0, phase := .commit, value := [7, 8], signers := [0, 1] } },
   .recv 2 { sender := 3, round := 0, phase := .prepare, value := [9, 9] },
   .recv 3 { sender := 1, round := 0, phase := .decide, value := [7, 8],
             just := some { round := 0, phase := .commit, value := [7, 8], signers := [0, 1] } },
   .alarm 4]

example : (prun [3, 1, 2] (pinit exCfg exTbl [7, 8]) (exPOps.take 3)).1.queue.length = 3 ∧
    (prun [3, 1, 2] (pinit exCfg exTbl [7, 8]) exPOps).1.inst.termination =
      some { round := 0, phase := .decide, value := [7, 8], signers := [0, 1] } := by decide +kernel

example : POpsValid exTbl exPOps := by
  intro op hop
  simp only [exPOps, List.mem_cons, List.mem_nil_iff, or_false] at hop
  rcases hop with rfl | rfl | rfl | rfl <;> simp [MsgOk, exTbl, Table.power]

end ParticipantAPI

/-! ## The decision is a finality certificate the validator accepts (C03 ∘ C04)

`F3.Props.C04.honest_cert_accepted` ASSUMES what consensus delivers (members, quorum, aggregate, delta,
commitment). Here those hypotheses are discharged from `DecisionOK` — i.e. from what the instance model
provably reports — so that "certificates produced by consensus are always accepted" is a statement about
the decisions of the consensus model, not about certificates assumed to be well made. What remains as
hypotheses is the environment the instance model does not contain:

* `TablesAgree tbl t` — the two models talk about the same power table (same ids per index; scaling the
  raw powers of the certificate model's table gives the instance table's scaled powers);
* both tables are well-formed (`WF`: distinct ids, positive powers, keys) and the supplemental data commits
  to the next table (built into `decisionCert`: `pt = CID (canon nt)`, `delta = makeDiff t nt`);
* the decided chain is not bottom and is a well-formed `ECChain` under the tipset interning `tipOf`
  (validity, C02: a decided value is a prefix of an honest proposal, and proposals are validated chains),
  and starts at the base the validator expects (`base = none`: no constraint).

See `F3/Proofs/DecisionCert.lean` for the bridge between the two symbolic signature models (`aggOf`) and
the assumption on the real scheme that acceptance rests on (correctness of aggregation — not
unforgeability). -/
section Certificate
open F3.Certs F3.DecisionCert

/-- **Consensus decisions are accepted as certificates.** Let `d` be a decision satisfying `DecisionOK V tbl d`
(`V x c`: a validly signed DECIDE vote of `x` for `c` exists). The certificate assembled from it for instance
`inst` — chain `d.value`, the instance's supplemental data committing to `nt`, signers `d.signers`, the
aggregate of exactly those signers over the DECIDE payload of `d.value`, delta `makeDiff t nt` — is accepted
by `ValidateFinalityCertificates` against `t` from instance `inst` (with the expected base, if any), which
then reports instance `inst + 1`, the finalized suffix and the table `nt`; and its aggregate is backed:
every signature in it is the DECIDE vote, for exactly `d.value`, of the member of `t` at that index. -/
theorem consensus_decision_certificate_accepted (V : Pid → Chain → Prop) (tbl : F3.Instance.Table) (d : Just)
    (hok : DecisionOK V tbl d)
    (net inst comm : Nat) (tipOf : Nat → Tip) (t nt : F3.Certs.Table) (base : Option Tip)
    (hag : TablesAgree tbl t) (ht : WF t) (hnt : WF nt)
    (hne : d.value ≠ []) (hcv : chainValid (d.value.map tipOf) = true)
    (hbase : ∀ b, base = some b → ∃ h, (d.value.map tipOf).head? = some h ∧ Tip.eq b h = true) :
    validateCerts net t inst base [decisionCert net inst comm tipOf t nt d] =
        ⟨u64 (inst + 1), (d.value.map tipOf).tail, canon nt, none⟩ ∧
      Backed (fun x => V x d.value) t (decisionCert net inst comm tipOf t nt d).sig :=
  ⟨decisionCert_accepted hok net inst comm tipOf t nt base hag ht hnt hne hcv hbase,
    decisionCert_backed hok net inst comm tipOf t nt hag⟩

/-- The same from a run of the instance model: whatever validated messages are delivered in whatever
order, IF the instance terminates with a decision, the certificate assembled from it is accepted. -/
theorem instance_decision_certificate_accepted (cfg : Cfg) (tbl : F3.Instance.Table) (input : Chain) (ops : List Op)
    (hops : OpsValid tbl ops) (d : Just)
    (hd : (run (init cfg tbl input) ops).1.termination = some d)
    (net inst comm : Nat) (tipOf : Nat → Tip) (t nt : F3.Certs.Table) (base : Option Tip)
    (hag : TablesAgree tbl t) (ht : WF t) (hnt : WF nt)
    (hne : d.value ≠ []) (hcv : chainValid (d.value.map tipOf) = true)
    (hbase : ∀ b, base = some b → ∃ h, (d.value.map tipOf).head? = some h ∧ Tip.eq b h = true) :
    validateCerts net t inst base [decisionCert net inst comm tipOf t nt d] =
        ⟨u64 (inst + 1), (d.value.map tipOf).tail, canon nt, none⟩ ∧
      Backed (fun x => DecideVoted ops x d.value) t (decisionCert net inst comm tipOf t nt d).sig :=
  consensus_decision_certificate_accepted _ tbl d (decision_wellformed cfg tbl input ops hops d hd)
    net inst comm tipOf t nt base hag ht hnt hne hcv hbase

/-- … and at the participant API (`ReceiveMessage` / `ReceiveAlarm`, any drain order of the pre-start queue). -/
theorem participant_decision_certificate_accepted (cfg : Cfg) (tbl : F3.Instance.Table) (input : Chain)
    (order : List Pid) (ops : List POp) (hops : POpsValid tbl ops) (d : Just)
    (hd : (prun order (pinit cfg tbl input) ops).1.inst.termination = some d)
    (net inst comm : Nat) (tipOf : Nat → Tip) (t nt : F3.Certs.Table) (base : Option Tip)
    (hag : TablesAgree tbl t) (ht : WF t) (hnt : WF nt)
    (hne : d.value ≠ []) (hcv : chainValid (d.value.map tipOf) = true)
    (hbase : ∀ b, base = some b → ∃ h, (d.value.map tipOf).head? = some h ∧ Tip.eq b h = true) :
    validateCerts net t inst base [decisionCert net inst comm tipOf t nt d] =
        ⟨u64 (inst + 1), (d.value.map tipOf).tail, canon nt, none⟩ ∧
      Backed (fun x => DecideVotedP ops x d.value) t (decisionCert net inst comm tipOf t nt d).sig :=
  consensus_decision_certificate_accepted _ tbl d
    (decision_wellformed_participant cfg tbl input order ops hops d hd)
    net inst comm tipOf t nt base hag ht hnt hne hcv hbase

/-- the accepted certificate is a valid one in the sense of the specification: in particular signed by
DISTINCT members holding two thirds of `t` -/
theorem consensus_decision_certificate_valid (V : Pid → Chain → Prop) (tbl : F3.Instance.Table) (d : Just)
    (hok : DecisionOK V tbl d)
    (net inst comm : Nat) (tipOf : Nat → Tip) (t nt : F3.Certs.Table) (base : Option Tip)
    (hag : TablesAgree tbl t) (ht : WF t) (hnt : WF nt)
    (hne : d.value ≠ []) (hcv : chainValid (d.value.map tipOf) = true)
    (hbase : ∀ b, base = some b → ∃ h, (d.value.map tipOf).head? = some h ∧ Tip.eq b h = true) :
    F3.Spec.Certs.CertValid net t inst base (decisionCert net inst comm tipOf t nt d) (canon nt) := by
  have hacc := (consensus_decision_certificate_accepted V tbl d hok net inst comm tipOf t nt base hag ht hnt
    hne hcv hbase).1
  obtain ⟨s', hrun, _, _, htab⟩ := F3.Props.C04.validate_sound net t inst base _ (by rw [hacc])
  cases hrun with
  | cons hv hrest =>
    cases hrest
    have := htab (by simp)
    rw [hacc] at this
    simp only [F3.Spec.Certs.advance] at this
    rw [this]
    exact hv

/-! ### Non-vacuity: the whole pipeline on concrete data

A three-member table with raw powers 30 : 20 : 10 (scaled 32767, 21845, 10922 of 65534); members 1 and 2
send DECIDE for the chain `[7, 8]`; the instance terminates with signers `[0, 1]`; the certificate assembled
from that decision for instance 5 (next table: member 2 leaves, member 4 joins) is accepted from base
tipset 7 and moves the validator to instance 6 and the next table. -/
namespace CertEx
def tblI : F3.Instance.Table := { entries := [(1, 32767), (2, 21845), (3, 10922)] }
def tC : F3.Certs.Table := [⟨1, 30, 7⟩, ⟨2, 20, 8⟩, ⟨3, 10, 9⟩]
def ntC : F3.Certs.Table := [⟨1, 30, 7⟩, ⟨3, 15, 9⟩, ⟨4, 5, 6⟩]
/-- tipset id ↦ tipset (epoch = id, key = id, lengths within the limits) -/
def tipOf (n : Nat) : Tip := ⟨n, n, 8, 1, 38, 0⟩
def dec : Just := { round := 0, phase := .decide, value := [7, 8], signers := [0, 1] }
end CertEx

example : (run (init exCfg CertEx.tblI [7, 8]) exOps).1.termination = some CertEx.dec := by decide +kernel

example : OpsValid CertEx.tblI exOps := by
  intro op hop
  simp only [exOps, List.mem_cons, List.mem_nil_iff, or_false] at hop
  rcases hop with rfl | rfl | rfl <;> simp [MsgOk, CertEx.tblI, Table.power]

example : TablesAgree CertEx.tblI CertEx.tC := by rw [← tablesAgreeB_iff]; decide +kernel

example : WF CertEx.tC ∧ WF CertEx.ntC := by constructor <;> (rw [← wfB_iff]; decide +kernel)

example : CertEx.dec.value ≠ [] ∧ chainValid (CertEx.dec.value.map CertEx.tipOf) = true ∧
    (∀ b, some (CertEx.tipOf 7) = some b →
      ∃ h, (CertEx.dec.value.map CertEx.tipOf).head? = some h ∧ Tip.eq b h = true) := by
  refine ⟨by decide +kernel, by decide +kernel, ?_⟩
  intro b hb
  cases hb
  exact ⟨CertEx.tipOf 7, rfl, by decide +kernel⟩

-- … and the conclusion, computed: accepted, instance 6, suffix [8], the next table in canonical order
example : validateCerts 1 CertEx.tC 5 (some (CertEx.tipOf 7))
      [decisionCert 1 5 0 CertEx.tipOf CertEx.tC CertEx.ntC CertEx.dec] =
    ⟨6, [CertEx.tipOf 8], canon CertEx.ntC, none⟩ := by decide +kernel

-- the hypotheses matter: the same decision against a table in which member 2 has less power is no quorum
example : (validateCerts 1 [⟨1, 30, 7⟩, ⟨2, 1, 8⟩, ⟨3, 40, 9⟩] 5 none
      [decisionCert 1 5 0 CertEx.tipOf [⟨1, 30, 7⟩, ⟨2, 1, 8⟩, ⟨3, 40, 9⟩] CertEx.ntC CertEx.dec]).err =
    some .noQuorum := by decide +kernel

end Certificate

/-! ## AUDIT2 M1 / M2: the certificate theorems without `hbase`, and with `d.value ≠ []` derived

`instance_decision_certificate_accepted` above assumes (i) `hbase`: the *decided* chain starts at the base the
validator expects, and (ii) `hne`: the decided chain is not bottom. (i) follows from a statement about the
participant's own *input* chain, because a decision is always on the participant's own base
(`F3.Audit2.decision_on_own_base`, no hypothesis on deliveries): `…_nobase`. (ii) is **not** a consequence of
`OpsValid` (example `opsvalid_decides_bottom` below: two DECIDE votes for bottom satisfy `OpsValid` and the model
terminates on bottom); it is a consequence of message validation (`MsgValid`: the validator rejects DECIDE for
bottom), so over validated deliveries it is derived: `…_validated`. -/
section Audit2
open F3.Certs F3.DecisionCert F3.Audit2

/-- the validator's expected base, transported from the input chain to a chain with the same head -/
theorem base_of_input {input v : Chain} (tipOf : Nat → Tip) (base : Option Tip) (hne : v ≠ [])
    (hhead : v = [] ∨ v.head? = input.head?)
    (hbase : ∀ b, base = some b → ∃ h, (input.map tipOf).head? = some h ∧ Tip.eq b h = true) :
    ∀ b, base = some b → ∃ h, (v.map tipOf).head? = some h ∧ Tip.eq b h = true := by
  intro b hb
  obtain ⟨h, hh, he⟩ := hbase b hb
  refine ⟨h, ?_, he⟩
  rcases hhead with h0 | h1
  · exact absurd h0 hne
  · rw [List.head?_map, h1, ← List.head?_map]; exact hh

/-- **M1 for certificates.** As `instance_decision_certificate_accepted`, but the hypothesis about the base is about
the participant's own **input** chain (the chain it entered the instance with starts at the base the validator
expects), not about the decision. -/
theorem instance_decision_certificate_accepted_nobase (cfg : Cfg) (tbl : F3.Instance.Table) (input : Chain)
    (ops : List Op) (hops : OpsValid tbl ops) (d : Just)
    (hd : (run (init cfg tbl input) ops).1.termination = some d)
    (net inst comm : Nat) (tipOf : Nat → Tip) (t nt : F3.Certs.Table) (base : Option Tip)
    (hag : TablesAgree tbl t) (ht : WF t) (hnt : WF nt)
    (hne : d.value ≠ []) (hcv : chainValid (d.value.map tipOf) = true)
    (hbaseIn : ∀ b, base = some b → ∃ h, (input.map tipOf).head? = some h ∧ Tip.eq b h = true) :
    validateCerts net t inst base [decisionCert net inst comm tipOf t nt d] =
        ⟨u64 (inst + 1), (d.value.map tipOf).tail, canon nt, none⟩ ∧
      Backed (fun x => DecideVoted ops x d.value) t (decisionCert net inst comm tipOf t nt d).sig :=
  instance_decision_certificate_accepted cfg tbl input ops hops d hd net inst comm tipOf t nt base hag ht hnt hne hcv
    (base_of_input tipOf base hne (decision_on_own_base cfg tbl input ops d hd) hbaseIn)

/-- the same at the level of `DecisionOK`, for any run: only the base clause is discharged -/
theorem run_decision_certificate_accepted_nobase (V : Pid → Chain → Prop) (cfg : Cfg) (tbl : F3.Instance.Table)
    (input : Chain) (ops : List Op) (d : Just)
    (hd : (run (init cfg tbl input) ops).1.termination = some d) (hok : DecisionOK V tbl d)
    (net inst comm : Nat) (tipOf : Nat → Tip) (t nt : F3.Certs.Table) (base : Option Tip)
    (hag : TablesAgree tbl t) (ht : WF t) (hnt : WF nt)
    (hne : d.value ≠ []) (hcv : chainValid (d.value.map tipOf) = true)
    (hbaseIn : ∀ b, base = some b → ∃ h, (input.map tipOf).head? = some h ∧ Tip.eq b h = true) :
    validateCerts net t inst base [decisionCert net inst comm tipOf t nt d] =
        ⟨u64 (inst + 1), (d.value.map tipOf).tail, canon nt, none⟩ ∧
      Backed (fun x => V x d.value) t (decisionCert net inst comm tipOf t nt d).sig :=
  consensus_decision_certificate_accepted V tbl d hok net inst comm tipOf t nt base hag ht hnt hne hcv
    (base_of_input tipOf base hne (decision_on_own_base cfg tbl input ops d hd) hbaseIn)

/-- **M2 for certificates.** `W` = the validly signed votes in existence. Every delivery is of a *validated* message
(`MsgValid W tbl`, what C05's `validMsg` gives: `F3.ValidBridge.validMsg_MsgValid`) or is of another instance / carries
other supplemental data (and is refused at the door). IF the instance terminates, the decision is **not bottom**
(derived), starts at the own base (derived), and the certificate assembled from it is accepted provided the
participant's input starts at the base the validator expects and the decided chain is a well-formed `ECChain` under
the tipset interning; every signature of the aggregate is the DECIDE vote *in `W`*, for exactly the decided value, of
the member at that index. -/
theorem instance_decision_certificate_accepted_validated (W : Votes) (cfg : Cfg) (tbl : F3.Instance.Table)
    (input : Chain) (ops : List Op) (hops : ∀ op ∈ ops, OpValidF W tbl op) (d : Just)
    (hd : (run (init cfg tbl input) ops).1.termination = some d)
    (net inst comm : Nat) (tipOf : Nat → Tip) (t nt : F3.Certs.Table) (base : Option Tip)
    (hag : TablesAgree tbl t) (ht : WF t) (hnt : WF nt)
    (hcv : chainValid (d.value.map tipOf) = true)
    (hbaseIn : ∀ b, base = some b → ∃ h, (input.map tipOf).head? = some h ∧ Tip.eq b h = true) :
    d.value ≠ [] ∧ d.value.head? = input.head? ∧
    validateCerts net t inst base [decisionCert net inst comm tipOf t nt d] =
        ⟨u64 (inst + 1), (d.value.map tipOf).tail, canon nt, none⟩ ∧
      Backed (fun x => W x 0 .decide d.value) t (decisionCert net inst comm tipOf t nt d).sig := by
  obtain ⟨hne, hhead⟩ := decision_head_own_base W cfg tbl input ops hops d hd
  exact ⟨hne, hhead,
    run_decision_certificate_accepted_nobase (fun x c => W x 0 .decide c) cfg tbl input ops d hd
      (decision_ok_validated W cfg tbl input ops hops d hd) net inst comm tipOf t nt base hag ht hnt hne hcv hbaseIn⟩

/-- … in the project's vocabulary `OpValidG` (every delivery validated) -/
theorem instance_decision_certificate_accepted_validatedG (W : Votes) (cfg : Cfg) (tbl : F3.Instance.Table)
    (input : Chain) (ops : List Op) (hops : ∀ op ∈ ops, OpValidG W tbl op) (d : Just)
    (hd : (run (init cfg tbl input) ops).1.termination = some d)
    (net inst comm : Nat) (tipOf : Nat → Tip) (t nt : F3.Certs.Table) (base : Option Tip)
    (hag : TablesAgree tbl t) (ht : WF t) (hnt : WF nt)
    (hcv : chainValid (d.value.map tipOf) = true)
    (hbaseIn : ∀ b, base = some b → ∃ h, (input.map tipOf).head? = some h ∧ Tip.eq b h = true) :
    d.value ≠ [] ∧ d.value.head? = input.head? ∧
    validateCerts net t inst base [decisionCert net inst comm tipOf t nt d] =
        ⟨u64 (inst + 1), (d.value.map tipOf).tail, canon nt, none⟩ ∧
      Backed (fun x => W x 0 .decide d.value) t (decisionCert net inst comm tipOf t nt d).sig :=
  instance_decision_certificate_accepted_validated W cfg tbl input ops (fun op hop => opValidG_toF (hops op hop)) d hd
    net inst comm tipOf t nt base hag ht hnt hcv hbaseIn

/-- the decision of a validated run is well formed w.r.t. the votes in existence, not bottom, and on the own base -/
theorem decision_wellformed_validated (W : Votes) (cfg : Cfg) (tbl : F3.Instance.Table) (input : Chain)
    (ops : List Op) (hops : ∀ op ∈ ops, OpValidF W tbl op) (d : Just)
    (hd : (run (init cfg tbl input) ops).1.termination = some d) :
    DecisionOK (fun x c => W x 0 .decide c) tbl d ∧ d.value ≠ [] ∧ d.value.head? = input.head? :=
  ⟨decision_ok_validated W cfg tbl input ops hops d hd, decision_head_own_base W cfg tbl input ops hops d hd⟩

def botTbl : F3.Instance.Table := { entries := [(1, 10), (2, 10), (3, 10)] }
def botOps : List Op :=
  [.start 0,
   .recv 1 { sender := 1, round := 0, phase := .decide, value := [] },
   .recv 2 { sender := 2, round := 0, phase := .decide, value := [] }]

/-- `OpsValid` (DECIDE in round 0, senders with power) admits a run that terminates on **bottom**: `hne` of
`instance_decision_certificate_accepted` is not derivable from that theorem's other hypotheses. -/
theorem opsvalid_decides_bottom :
    OpsValid botTbl botOps ∧
    (run (init exCfg botTbl [7, 8]) botOps).1.termination =
      some { round := 0, phase := .decide, value := [], signers := [0, 1] } := by
  refine ⟨?_, by decide +kernel⟩
  intro op hop
  simp only [botOps, List.mem_cons, List.mem_nil_iff, or_false] at hop
  rcases hop with rfl | rfl | rfl <;> simp [MsgOk, botTbl, Table.power]

/-- … and those deliveries are not valid: there is no `W` under which a DECIDE for bottom is `MsgValid` -/
theorem decide_bottom_not_valid (W : Votes) (t : F3.Instance.Table) (m : Msg) (hp : m.phase = .decide)
    (hv : m.value = []) : ¬ MsgValid W t m := by
  intro h
  obtain ⟨_, _, hrest⟩ := h
  rw [hp] at hrest
  exact hrest.2.1 hv

/-! ### AUDIT2 E3: DECIDE votes on a foreign base are refused, nothing is tallied, nothing is decided -/
example :
    let ops : List Op :=
      [.start 0,
       .recv 1 { sender := 1, round := 0, phase := .decide, value := [9, 9],
                 just := some { round := 0, phase := .commit, value := [9, 9], signers := [0, 1] } },
       .recv 2 { sender := 2, round := 0, phase := .decide, value := [9, 9],
                 just := some { round := 0, phase := .commit, value := [9, 9], signers := [0, 1] } }]
    (run (init exCfg botTbl [7, 8]) ops).1.termination = none ∧
    (run (init exCfg botTbl [7, 8]) ops).1.decision.support.length = 0 ∧
    (run (init exCfg botTbl [7, 8]) ops).2.filter (fun e => match e with | .err _ => true | _ => false) =
      [.err .wrongBase, .err .wrongBase] := by decide +kernel

/-- the votes in existence for `exOps` (two DECIDEs for `[7,8]`, justified by COMMITs of members 1 and 2) -/
def exVotesD : List Vote :=
  [(1, 0, .commit, [7, 8]), (2, 0, .commit, [7, 8]), (1, 0, .decide, [7, 8]), (2, 0, .decide, [7, 8])]

theorem exOps_validG : ∀ op ∈ exOps, OpValidG (F3.Bridge.Wof exVotesD) CertEx.tblI op := by
  intro op hop
  rcases F3.Bridge.opValidB_sound exVotesD CertEx.tblI exOps (by decide +kernel) op hop with h | h
  · have : exOps.all (fun o => !F3.Bridge.foreign o) = true := by decide +kernel
    have := List.all_eq_true.1 this op hop
    simp [h] at this
  · exact h

/-- `instance_decision_certificate_accepted_validatedG` (and `_nobase`) on the data of `CertEx`: hypotheses hold,
conclusions as computed above. -/
example :
    CertEx.dec.value ≠ [] ∧ CertEx.dec.value.head? = ([7, 8] : Chain).head? ∧
    validateCerts 1 CertEx.tC 5 (some (CertEx.tipOf 7))
        [decisionCert 1 5 0 CertEx.tipOf CertEx.tC CertEx.ntC CertEx.dec] =
      ⟨u64 (5 + 1), (CertEx.dec.value.map CertEx.tipOf).tail, canon CertEx.ntC, none⟩ ∧
    Backed (fun x => F3.Bridge.Wof exVotesD x 0 .decide CertEx.dec.value) CertEx.tC
      (decisionCert 1 5 0 CertEx.tipOf CertEx.tC CertEx.ntC CertEx.dec).sig :=
  instance_decision_certificate_accepted_validatedG (F3.Bridge.Wof exVotesD) exCfg CertEx.tblI [7, 8] exOps
    exOps_validG CertEx.dec (by decide +kernel) 1 5 0 CertEx.tipOf CertEx.tC CertEx.ntC (some (CertEx.tipOf 7))
    (by rw [← tablesAgreeB_iff]; decide +kernel) (by rw [← wfB_iff]; decide +kernel) (by rw [← wfB_iff]; decide +kernel) (by decide +kernel)
    (by intro b hb; cases hb; exact ⟨CertEx.tipOf 7, rfl, by decide +kernel⟩)

/-- … and on the four-member run of `F3.Proofs.BridgeEx` (a Byzantine equivocator, one delivery with foreign
supplemental data that is refused): `OpValidF` holds, member 1's decision `[7,8]` is well formed w.r.t. `exW`. -/
example : ∃ d, (run (init F3.Bridge.exCfg F3.Bridge.exTbl [7, 8]) F3.Bridge.exOps).1.termination = some d ∧
    DecisionOK (fun x c => F3.Bridge.exW x 0 .decide c) F3.Bridge.exTbl d ∧ d.value ≠ [] ∧
    d.value.head? = ([7, 8] : Chain).head? := by
  have hv : ∀ op ∈ F3.Bridge.exOps, OpValidF F3.Bridge.exW F3.Bridge.exTbl op := by
    intro op hop
    rcases F3.Bridge.opValidB_sound F3.Bridge.exVotes F3.Bridge.exTbl F3.Bridge.exOps (by decide +kernel) op hop with h | h
    · cases op with
      | recv now m => exact Or.inl h
      | start _ => trivial
      | alarm _ => trivial
    · exact opValidG_toF h
  have hd : (run (init F3.Bridge.exCfg F3.Bridge.exTbl [7, 8]) F3.Bridge.exOps).1.termination =
      some { round := 0, phase := .decide, value := [7, 8], signers := [0, 1, 2] } := by decide +kernel
  exact ⟨_, hd, decision_wellformed_validated _ _ _ _ _ hv _ hd⟩

end Audit2

end F3.Props.C03

namespace F3.Props.C03
section Skeletons

/-- **The Go functions this property's models mirror still have the statement structure the models were written
against**: each regenerated skeleton (pre-order list of statement kinds, `tools/go2lean/skel.go`) equals the recorded
expectation of `F3/Proofs/SkelTie*.lean`. An added early return, cap, loop or dropped branch in one of these functions
breaks this obligation even when no regenerated *expression* changes. -/
theorem code_structure_as_modelled :
    F3.Gen.SkelGpbft.skelQueueAdd = F3.SkelTie.SkelGpbft.skelQueueAddExpected ∧
    F3.Gen.SkelGpbft.skelQueueDrain = F3.SkelTie.SkelGpbft.skelQueueDrainExpected ∧
    F3.Gen.SkelGpbft.skelReceiveMessage = F3.SkelTie.SkelGpbft.skelReceiveMessageExpected ∧
    F3.Gen.SkelGpbft.skelHandleDecision = F3.SkelTie.SkelGpbft.skelHandleDecisionExpected ∧
    F3.Gen.SkelGpbft.skelReceiveOne = F3.SkelTie.SkelGpbft.skelReceiveOneExpected ∧
    F3.Gen.SkelGpbft.skelPostReceive = F3.SkelTie.SkelGpbft.skelPostReceiveExpected ∧
    F3.Gen.SkelGpbft.skelTryQuality = F3.SkelTie.SkelGpbft.skelTryQualityExpected ∧
    F3.Gen.SkelGpbft.skelTryConverge = F3.SkelTie.SkelGpbft.skelTryConvergeExpected ∧
    F3.Gen.SkelGpbft.skelTryPrepare = F3.SkelTie.SkelGpbft.skelTryPrepareExpected ∧
    F3.Gen.SkelGpbft.skelTryCommit = F3.SkelTie.SkelGpbft.skelTryCommitExpected ∧
    F3.Gen.SkelGpbft.skelTryDecide = F3.SkelTie.SkelGpbft.skelTryDecideExpected ∧
    F3.Gen.SkelGpbft.skelBeginDecide = F3.SkelTie.SkelGpbft.skelBeginDecideExpected ∧
    F3.Gen.SkelGpbft.skelSkipToRound = F3.SkelTie.SkelGpbft.skelSkipToRoundExpected ∧
    F3.Gen.SkelGpbft.skelTryRebroadcast = F3.SkelTie.SkelGpbft.skelTryRebroadcastExpected ∧
    F3.Gen.SkelGpbft.skelReceiveEachPrefix = F3.SkelTie.SkelGpbft.skelReceiveEachPrefixExpected ∧
    F3.Gen.SkelGpbft.skelFindStrongQuorumFor = F3.SkelTie.SkelGpbft.skelFindStrongQuorumForExpected ∧
    F3.Gen.SkelGpbft.skelBeginInstance = F3.SkelTie.SkelGpbft.skelBeginInstanceExpected ∧
    F3.Gen.SkelGpbft.skelReceiveAlarm = F3.SkelTie.SkelGpbft.skelReceiveAlarmExpected ∧
    F3.Gen.SkelGpbft.skelHasBase = F3.SkelTie.SkelGpbft.skelHasBaseExpected ∧
    F3.Gen.SkelGpbft.skelTipSetEqual = F3.SkelTie.SkelGpbft.skelTipSetEqualExpected ∧
    F3.Gen.SkelGpbft.skelChainEq = F3.SkelTie.SkelGpbft.skelChainEqExpected ∧
    F3.Gen.SkelGpbft.skelReceiveMany = F3.SkelTie.SkelGpbft.skelReceiveManyExpected ∧
    F3.Gen.SkelGpbft.skelShouldSkipToRound = F3.SkelTie.SkelGpbft.skelShouldSkipToRoundExpected :=
  ⟨F3.SkelTie.SkelGpbft.skelQueueAdd_expected, F3.SkelTie.SkelGpbft.skelQueueDrain_expected, F3.SkelTie.SkelGpbft.skelReceiveMessage_expected, F3.SkelTie.SkelGpbft.skelHandleDecision_expected, F3.SkelTie.SkelGpbft.skelReceiveOne_expected, F3.SkelTie.SkelGpbft.skelPostReceive_expected, F3.SkelTie.SkelGpbft.skelTryQuality_expected, F3.SkelTie.SkelGpbft.skelTryConverge_expected, F3.SkelTie.SkelGpbft.skelTryPrepare_expected, F3.SkelTie.SkelGpbft.skelTryCommit_expected, F3.SkelTie.SkelGpbft.skelTryDecide_expected, F3.SkelTie.SkelGpbft.skelBeginDecide_expected, F3.SkelTie.SkelGpbft.skelSkipToRound_expected, F3.SkelTie.SkelGpbft.skelTryRebroadcast_expected, F3.SkelTie.SkelGpbft.skelReceiveEachPrefix_expected, F3.SkelTie.SkelGpbft.skelFindStrongQuorumFor_expected, F3.SkelTie.SkelGpbft.skelBeginInstance_expected, F3.SkelTie.SkelGpbft.skelReceiveAlarm_expected, F3.SkelTie.SkelGpbft.skelHasBase_expected, F3.SkelTie.SkelGpbft.skelTipSetEqual_expected, F3.SkelTie.SkelGpbft.skelChainEq_expected, F3.SkelTie.SkelGpbft.skelReceiveMany_expected, F3.SkelTie.SkelGpbft.skelShouldSkipToRound_expected⟩

end Skeletons
end F3.Props.C03

namespace F3.Props.C03
section SkeletonsBls

/-- the real BLS verifier / aggregator (trusted base: ideal signatures in the model) still has the statement
structure it had when it was taken into the trusted base -/
theorem signature_backend_structure_as_trusted :
    F3.Gen.SkelBls.skelBlsAggregate = F3.SkelTie.SkelBls.skelBlsAggregateExpected ∧
    F3.Gen.SkelBls.skelBlsVerifyAggregate = F3.SkelTie.SkelBls.skelBlsVerifyAggregateExpected ∧
    F3.Gen.SkelBls.skelBlsNewAggregate = F3.SkelTie.SkelBls.skelBlsNewAggregateExpected ∧
    F3.Gen.SkelBls.skelBlsVerify = F3.SkelTie.SkelBls.skelBlsVerifyExpected ∧
    F3.Gen.SkelBls.skelBlsPubkeyToPoint = F3.SkelTie.SkelBls.skelBlsPubkeyToPointExpected :=
  ⟨F3.SkelTie.SkelBls.skelBlsAggregate_expected, F3.SkelTie.SkelBls.skelBlsVerifyAggregate_expected, F3.SkelTie.SkelBls.skelBlsNewAggregate_expected, F3.SkelTie.SkelBls.skelBlsVerify_expected, F3.SkelTie.SkelBls.skelBlsPubkeyToPoint_expected⟩

end SkeletonsBls
end F3.Props.C03
