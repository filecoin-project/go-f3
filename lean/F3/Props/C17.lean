import F3.Proofs.SkelTieStore
import F3.Proofs.StoreSnap
import F3.Proofs.StoreWitness
/-!
# C17 — Snapshot export/import reproduces the store; malformed snapshots are rejected

About `exportSnapshot` / `importSnapshot` / `truncateBlocks` of `F3/Model/Store.lean` (model of
`certstore/snapshot.go`, executed by `f3d_store` against the real exporter and importer). A snapshot
on the wire is a list of length-prefixed blocks (`frame`); the byte sizes of the blocks are arbitrary
positive numbers (theorems quantify over them). The digest clause ("the CID is the hash of the
bytes") is checked on the implementation only: hashes are not modelled.
-/
namespace F3.Props.C17
open F3.Store

/-- **Round trip.** Export any represented store at any end point `n` holding at least one
certificate, frame it with any block sizes, import it into a datastore holding no store under any
(uniform) checkpoint period, with no manifest or an agreeing one: the import succeeds, the target
represents exactly the history truncated to `n`, and a restart of the target observes that history's
certificates, tables and latest pointer (`Spec.obs`) — the exporter's observations up to `n`. -/
theorem import_export_roundtrip (cfgE cfgI : Cfg) (hu : cfgI.Uniform) {ds : DS} {sp : Spec} {m : Mem}
    (hr : Repr cfgE.freq ds sp) (hm : MemOk m sp) {n : Nat} (h1 : sp.first ≤ n) (h2 : n < sp.next)
    (hsz : Nat × Nat) (szs : List (Nat × Nat)) (hszs : szs.length = (sp.truncateTo n).certs.length)
    {tds : DS} (htds : NotInit tds) (o o' : Orders) (mf : Option Manifest)
    (hmf : manifestAgrees mf ⟨1, sp.first, n, sp.init⟩) :
    exportSnapshot cfgE m ds n = .ok (⟨1, sp.first, n, sp.init⟩, (sp.truncateTo n).certs) ∧
    (importSnapshot cfgI tds o ⟨frame ⟨1, sp.first, n, sp.init⟩ hsz (sp.truncateTo n).certs szs, .clean⟩ mf).res = .ok () ∧
    Repr cfgI.freq (applyWs tds (importSnapshot cfgI tds o
        ⟨frame ⟨1, sp.first, n, sp.init⟩ hsz (sp.truncateTo n).certs szs, .clean⟩ mf).ws) (sp.truncateTo n) ∧
    reobserve cfgI (applyWs tds (importSnapshot cfgI tds o
        ⟨frame ⟨1, sp.first, n, sp.init⟩ hsz (sp.truncateTo n).certs szs, .clean⟩ mf).ws) o' .open
      = .ok (sp.truncateTo n).obs := by
  unfold Spec.next at h2
  have htr := Spec.truncateTo_eq_takeN sp n
  have hle : n + 1 - sp.first ≤ sp.certs.length := by omega
  have hlen : (sp.truncateTo n).certs.length = n + 1 - sp.first := by rw [htr]; exact Spec.takeN_len sp hle
  have hfacts : (sp.truncateTo n).Facts := by rw [htr]; exact hr.facts.takeN hle
  have himp := importSnapshot_valid cfgI htds o (sp.truncateTo n) hfacts hr.canon
    (by rw [hlen]; have := hr.small; omega)
    (by intro h; have := congrArg List.length h; rw [hlen] at this; simp at this; omega)
    1 n (by rw [hlen]; show sp.first + (n + 1 - sp.first) = n + 1; omega)
    ⟨frame ⟨1, sp.first, n, sp.init⟩ hsz (sp.truncateTo n).certs szs, .clean⟩ _ _ rfl rfl
    (frame_bodies _ _ hszs) rfl mf hmf
  refine ⟨exportSnapshot_repr cfgE hr hm (by unfold Spec.next; omega), himp.1, himp.2, ?_⟩
  exact reobserve_repr_open cfgI o' himp.2 (Or.inl hu)

/-- **Soundness of acceptance**: whatever bytes are accepted decode to a header followed by
certificates only, end at a block boundary (or after a bare length prefix — see DESIGN), agree with
the manifest, carry exactly the instances `first … latest` of the header in order, and at every
checkpoint instance and at the end the table obtained from the header's table by the deltas so far
hashes to the certificate's commitment. -/
theorem import_accepts_only (cfg : Cfg) (ds : DS) (o : Orders) (s : Stream) (mf : Option Manifest)
    (hok : (importSnapshot cfg ds o s mf).res = .ok ()) :
    s.tail.isEOF cfg.lenientEOF = true ∧ ∃ (hb : Block) (bs : List Block) (hdr : Header) (cs : List Cert),
      s.blocks = hb :: bs ∧ hb.body = .header hdr ∧ manifestCheck mf hdr = none ∧
      bs.map (·.body) = cs.map Body.cert ∧ cs ≠ [] ∧
      (∀ k (hk : k < cs.length), cs[k].inst = hdr.first + k) ∧ hdr.first + cs.length = hdr.latest + 1 ∧
      (∀ k (hk : k < cs.length), ((cs[k].inst + 1) % cfg.freq = 0 ∨ k + 1 = cs.length) →
        ∃ pm, applyDiffsMap (toMap hdr.init) ((cs.take (k + 1)).map (·.delta)) = .ok pm ∧
          cs[k].commit = Commit.known (toArray pm)) := by
  obtain ⟨hb, bs, hdr, m0, st, c, hblocks, hbody, hmc, _, hloop, hl, hci, hcc⟩ := importSnapshot_ok hok
  -- the loop ran to the end over certificates `cs`, the last of which is `c`
  obtain ⟨hte, cs, hcs, hinst, happ, hlast, hckpt⟩ := importLoop_sound cfg hdr s.tail bs hdr.first _ st hloop
  dsimp only at hlast happ hckpt
  have hne : cs ≠ [] := by
    intro hnil
    rw [hnil, if_pos rfl, hl] at hlast
    cases hlast
  have hlen : cs.length - 1 < cs.length := Nat.sub_one_lt (mt List.length_eq_zero_iff.1 hne)
  rw [if_neg hne, hl, List.getLast?_eq_getElem?, List.getElem?_eq_getElem hlen] at hlast
  cases hlast
  refine ⟨hte, hb, bs, hdr, cs, hblocks, hbody, hmc, hcs, hne, fun k hk => (hinst k hk).1, ?_, ?_⟩
  · have := (hinst _ hlen).1
    omega
  · intro k hk hor
    rcases hor with hm | hlastk
    · exact hckpt k hk hm
    · have hk' : k = cs.length - 1 := by omega
      subst hk'
      refine ⟨st.pm, ?_, hcc⟩
      rw [show cs.length - 1 + 1 = cs.length by omega, List.take_length]
      exact happ

/-- **Gaps, reordering, duplicates, surplus or missing certificates, header or manifest
disagreement, junk blocks, no certificate at all — all rejected**: for a stream whose blocks are a
header `hdr` followed by certificates `cs`, any of these defects makes the import fail. -/
theorem import_rejects (cfg : Cfg) (ds : DS) (o : Orders) (s : Stream) (mf : Option Manifest)
    (hb : Block) (bs : List Block) (hdr : Header) (cs : List Cert)
    (hs : s.blocks = hb :: bs) (hhb : hb.body = .header hdr) (hbs : bs.map (·.body) = cs.map Body.cert)
    (hbad : (∃ k, ∃ hk : k < cs.length, cs[k].inst ≠ hdr.first + k)       -- gap / reorder / duplicate
          ∨ hdr.first + cs.length ≠ hdr.latest + 1                         -- surplus / missing / header latest or first off
          ∨ cs = []                                                        -- header only
          ∨ manifestCheck mf hdr ≠ none                                    -- manifest disagrees
          ∨ s.tail.isEOF cfg.lenientEOF = false) :                                        -- cut inside a prefix or a body
    ∃ e, (importSnapshot cfg ds o s mf).res = .error e := by
  refine error_of_not_ok fun hok => ?_
  obtain ⟨hte, hb', bs', hdr', cs', hs', hhb', hmc, hbs', hne, hinst, hlen, _⟩ :=
    import_accepts_only cfg ds o s mf hok
  obtain ⟨rfl, rfl⟩ := List.cons.inj (hs.symm.trans hs')
  cases hhb.symm.trans hhb'
  cases cert_map_injective (hbs.symm.trans hbs')
  rcases hbad with ⟨k, hk, hne'⟩ | h | h | h | h
  · exact hne' (hinst k hk)
  · exact h hlen
  · exact hne h
  · exact h hmc
  · rw [hte] at h; cases h

theorem import_rejects_junk (cfg : Cfg) (ds : DS) (o : Orders) (s : Stream) (mf : Option Manifest)
    (hjunk : ∃ b ∈ s.blocks, b.body = .junk) : ∃ e, (importSnapshot cfg ds o s mf).res = .error e := by
  refine error_of_not_ok fun hok => ?_
  obtain ⟨_, hb', bs', hdr', cs', hs', hhb', _, hbs', _⟩ := import_accepts_only cfg ds o s mf hok
  obtain ⟨b, hbm, hbj⟩ := hjunk
  rw [hs'] at hbm
  rcases List.mem_cons.1 hbm with h | h
  · subst h; rw [hhb'] at hbj; cases hbj
  · have : b.body ∈ bs'.map (·.body) := List.mem_map.2 ⟨b, h, rfl⟩
    rw [hbs', hbj] at this
    obtain ⟨c, _, hc⟩ := List.mem_map.1 this
    cases hc

/-- **Truncation at every byte is rejected**: cut the framed export of a history with consecutive
instances ending at the header's latest instance (which every export is) at *any* byte position
before its end — inside the header, at a block boundary, inside or right after a length prefix,
inside a certificate — and the import fails, whatever the block sizes. -/
theorem import_rejects_truncation (cfg : Cfg) (ds : DS) (o : Orders) (mf : Option Manifest)
    (hdr : Header) (cs : List Cert) (hsz : Nat × Nat) (szs : List (Nat × Nat))
    (hszs : szs.length = cs.length) (hpos : 0 < hsz.1 ∧ 0 < hsz.2 ∧ ∀ z ∈ szs, 0 < z.1 ∧ 0 < z.2)
    (hlen : hdr.first + cs.length = hdr.latest + 1)
    (p : Nat) (hp : p < totalSize (frame hdr hsz cs szs)) :
    ∃ e, (importSnapshot cfg ds o (truncateBlocks (frame hdr hsz cs szs) p) mf).res = .error e := by
  have hposb : ∀ b ∈ frame hdr hsz cs szs, 0 < b.vlen ∧ 0 < b.blen := by
    intro b hb
    unfold frame at hb
    rcases List.mem_cons.1 hb with h | h
    · subst h; exact ⟨hpos.1, hpos.2.1⟩
    · obtain ⟨⟨c, z⟩, hz, rfl⟩ := List.mem_map.1 h
      exact hpos.2.2 z (List.of_mem_zip hz).2
  obtain ⟨j, hj, hjb⟩ := truncateBlocks_strict_prefix _ hposb p hp
  have hflen := frame_length hdr hsz cs szs hszs
  refine error_of_not_ok fun hok => ?_
  obtain ⟨_, hb', bs', hdr', cs', hs', hhb', _, hbs', hne, _, hlen', _⟩ :=
    import_accepts_only cfg ds o _ mf hok
  rw [hjb] at hs'
  cases j with
  | zero => simp at hs'
  | succ j =>
    unfold frame at hs'
    rw [List.take_succ_cons] at hs'
    obtain ⟨rfl, hbs2⟩ := List.cons.inj hs'
    have hh : hdr = hdr' := Body.header.inj hhb'
    subst hh
    have hl1 : bs'.length = cs'.length := by
      have := congrArg List.length hbs'; simpa using this
    have hl2 : bs'.length ≤ j := by rw [← hbs2, List.length_take]; exact Nat.min_le_left _ _
    rw [hflen] at hj
    omega

/-- The truncation clause for streams that are *not* prefixes of an export: a snapshot whose last
block is cut anywhere — even right after its length prefix — is rejected by a reader that reports
that cut as an error (`lenientEOF = false`). -/
theorem import_rejects_cut_block (cfg : Cfg) (hstrict : cfg.lenientEOF = false) (ds : DS) (o : Orders) (s : Stream)
    (mf : Option Manifest) (hcut : s.tail ≠ .clean) : ∃ e, (importSnapshot cfg ds o s mf).res = .error e := by
  refine error_of_not_ok fun hok => ?_
  have := (import_accepts_only cfg ds o s mf hok).1
  rw [hstrict] at this
  cases ht : s.tail <;> rw [ht] at this <;> first | exact hcut ht | cases this

open F3.Store.Witness in
/-- The reader as it stands in go-f3 (`io.ReadFull` reports plain `io.EOF` when it could not read a single byte, the
importer takes `io.EOF` for the end of the snapshot) **accepts** a complete snapshot followed by a
bare length prefix, i.e. a snapshot whose last block is truncated. -/
theorem dangling_prefix_accepted_lenient :
    (importSnapshot cfgPinned [] {} ⟨frame ⟨1, 3, 4, T0⟩ (1, 40) [c3, c4] [(2, 300), (2, 280)], .afterVarint⟩ none).res = .ok () ∧
    (importSnapshot cfgFixed [] {} ⟨frame ⟨1, 3, 4, T0⟩ (1, 40) [c3, c4] [(2, 300), (2, 280)], .afterVarint⟩ none).res
      = .error .snapDecode := by
  decide

/-- The clause "deltas that do not reproduce the committed tables are rejected", at full strength:
every certificate of an accepted snapshot commits to the table its delta yields. -/
def ImportRejectsBadDeltaStatement (cfg : Cfg) : Prop :=
  ∀ (ds : DS) (o : Orders) (s : Stream) (mf : Option Manifest) (hb : Block) (bs : List Block) (hdr : Header) (cs : List Cert),
    s.blocks = hb :: bs → hb.body = .header hdr → bs.map (·.body) = cs.map Body.cert →
    (importSnapshot cfg ds o s mf).res = .ok () → commitsOk hdr.init cs = true

/-- What the importer as coded guarantees (**partial**, S9): the running table is compared with the
commitment only at checkpoint instances and at the last certificate. A wrong delta is therefore
rejected iff its effect is still visible at the next of those points. -/
theorem import_rejects_bad_delta_partial (cfg : Cfg) (ds : DS) (o : Orders) (s : Stream) (mf : Option Manifest)
    (hb : Block) (bs : List Block) (hdr : Header) (cs : List Cert)
    (hs : s.blocks = hb :: bs) (hhb : hb.body = .header hdr) (hbs : bs.map (·.body) = cs.map Body.cert)
    (hbad : ∃ k, ∃ hk : k < cs.length, ((cs[k].inst + 1) % cfg.freq = 0 ∨ k + 1 = cs.length) ∧
      ∀ pm, applyDiffsMap (toMap hdr.init) ((cs.take (k + 1)).map (·.delta)) = .ok pm →
        cs[k].commit ≠ Commit.known (toArray pm)) :
    ∃ e, (importSnapshot cfg ds o s mf).res = .error e := by
  refine error_of_not_ok fun hok => ?_
  obtain ⟨_, hb', bs', hdr', cs', hs', hhb', _, hbs', _, _, _, hck⟩ :=
    import_accepts_only cfg ds o s mf hok
  obtain ⟨rfl, rfl⟩ := List.cons.inj (hs.symm.trans hs')
  cases hhb.symm.trans hhb'
  cases cert_map_injective (hbs.symm.trans hbs')
  obtain ⟨k, hk, hor, hno⟩ := hbad
  obtain ⟨pm, hpm, hcm⟩ := hck k hk hor
  exact hno pm hpm hcm

open F3.Store.Witness.S9 in
/-- **S9 witness**: the compensating pair is accepted (no checkpoint between instances 3 and 5 at
period 1440), although certificate 3 commits to a table its delta does not produce; the imported
store then serves for instance 4 a table that contradicts certificate 3. -/
theorem import_accepts_compensating_witness :
    (importSnapshot cfg [] {} snap none).res = .ok () ∧ commitsOk hdr.init [b3, b4, g5] = false ∧
    snapshotOk snap none = false ∧ ¬ ImportRejectsBadDeltaStatement cfg := by
  refine ⟨by decide, by decide, by decide, ?_⟩
  intro h
  have := h [] {} snap none _ _ hdr [b3, b4, g5] rfl rfl (by decide) (by decide)
  revert this; decide

open F3.Store.Witness in
/-- A store to export (two certificates, evolving table, first instance 3), an end point, and the
round trip evaluated: the import of the framed export is accepted and the restart observes `sp2`. -/
example : Repr cfgFixed.freq ds2 sp2 ∧ MemOk m2 sp2 ∧ sp2.first ≤ 4 ∧ 4 < sp2.next ∧ NotInit ([] : DS) ∧
    reobserve cfgFixed (applyWs [] (importSnapshot cfgFixed [] {}
      ⟨frame ⟨1, 3, 4, T0⟩ (1, 40) [c3, c4] [(2, 300), (2, 280)], .clean⟩ none).ws) {} .open = .ok sp2.obs :=
  ⟨repr2, memOk2, by decide, by decide, notInit_nil, by decide⟩

open F3.Store.Witness in
/-- Truncation inside the second certificate, right after the second length prefix, and at the block
boundary before it: all rejected (sizes 1+40, 2+300, 2+280), by the strict and by the lenient reader. -/
example : (importSnapshot cfgFixed [] {} (truncateBlocks (frame ⟨1, 3, 4, T0⟩ (1, 40) [c3, c4] [(2, 300), (2, 280)]) 400) none).res = .error .snapDecode ∧
    (importSnapshot cfgFixed [] {} (truncateBlocks (frame ⟨1, 3, 4, T0⟩ (1, 40) [c3, c4] [(2, 300), (2, 280)]) 345) none).res = .error .snapDecode ∧
    (importSnapshot cfgPinned [] {} (truncateBlocks (frame ⟨1, 3, 4, T0⟩ (1, 40) [c3, c4] [(2, 300), (2, 280)]) 345) none).res = .error .snapLatest ∧
    (importSnapshot cfgFixed [] {} (truncateBlocks (frame ⟨1, 3, 4, T0⟩ (1, 40) [c3, c4] [(2, 300), (2, 280)]) 343) none).res = .error .snapLatest := by
  decide

end F3.Props.C17

namespace F3.Props.C17
section Skeletons

/-- **The Go functions this property's models mirror still have the statement structure the models were written
against**: each regenerated skeleton (pre-order list of statement kinds, `tools/go2lean/skel.go`) equals the
expectation recorded in `F3/Proofs/SkelTie*.lean`. An added early return, cap, loop or dropped branch in one of these functions
breaks this obligation even when no regenerated *expression* changes. -/
theorem code_structure_as_modelled :
    F3.Gen.SkelStore.skelStorePut = F3.SkelTie.SkelStore.skelStorePutExpected ∧
    F3.Gen.SkelStore.skelStoreGetRange = F3.SkelTie.SkelStore.skelStoreGetRangeExpected ∧
    F3.Gen.SkelStore.skelStoreOpen = F3.SkelTie.SkelStore.skelStoreOpenExpected ∧
    F3.Gen.SkelStore.skelExportSnapshot = F3.SkelTie.SkelStore.skelExportSnapshotExpected ∧
    F3.Gen.SkelStore.skelReadSnapshotBlock = F3.SkelTie.SkelStore.skelReadSnapshotBlockExpected ∧
    F3.Gen.SkelStore.skelImportSnapshot = F3.SkelTie.SkelStore.skelImportSnapshotExpected :=
  ⟨F3.SkelTie.SkelStore.skelStorePut_expected, F3.SkelTie.SkelStore.skelStoreGetRange_expected, F3.SkelTie.SkelStore.skelStoreOpen_expected, F3.SkelTie.SkelStore.skelExportSnapshot_expected, F3.SkelTie.SkelStore.skelReadSnapshotBlock_expected, F3.SkelTie.SkelStore.skelImportSnapshot_expected⟩

end Skeletons
end F3.Props.C17
