import F3.Proofs.SkelTieBls
import F3.Proofs.SkelTieValidate
import F3.Proofs.SkelTiePower
import F3.Proofs.ValidatorGen2
import F3.Proofs.ValidatorCached
import F3.Proofs.ValidatorSound
import F3.Proofs.ValidBridge
import F3.Proofs.GenTie
import F3.Gen.Validate
/-!
# C05 — Message validation is sound, complete when relevant, and history-independent

All theorems are about `F3.Validator` (`lean/F3/Model/Validator.lean`, the executable model of
`gpbft/validator.go` that the driver `f3d_validate` replays against the real `gpbft.Participant`),
about the cache model `F3.Cache` (`internal/caching`) and about the declarative validity predicate
`F3.Spec.ValidMsg.validMsg`. They hold for **every** message, committee function, progress state,
network name, cache geometry and cache history (including flip/flop rotation, group eviction, pruning).

Hypotheses that appear:
* `WireMsg m` — `m.vote.round < 2^64` and the signer list of a justification is ascending (it is the
  enumeration of a bit set); facts of the wire types, not of the validator;
* `Committee.uniqueIds` — actor ids of a power table are unique (`PowerTable.Add` enforces it); needed
  for completeness (the table look-up finds *the* entry of the sender) and, spelled out as `Nodup`, by
  `accepted_message_meets_consensus_hypothesis`;
* `ProgBounds` — the quantities of `validateByProgress` are `uint64`s and `current.ID + committeeLookback` does not wrap;
* `CacheSound cfg comt cache` — the cache invariant; it holds for the empty cache and is preserved by every
  cache operation of the validator (`cache_sound_step`), so it holds for every reachable cache (`cache_sound_inv`) as long as
  the committee function `comt` (what `GetCommittee` answers per instance) is the same throughout.
-/
namespace F3.Props.C05
open F3.Msg F3.Validator F3.Cache F3.Spec.ValidMsg

/-- **Cache invariant.** Starting from an empty cache of any geometry, after any sequence of
`ValidateMessage` / `PartiallyValidateMessage` calls (any messages, any progress states) and prunings,
every key the cache holds — in any of its four namespaces, in either generation of any surviving group —
is the key of a message that passes the cache-free check, resp. of a justification whose signer /
strong-quorum / aggregate check passes for the recorded expected value key, under the same committees. -/
theorem cache_sound_inv (cfg : Cfg) (comt : Nat → Option Committee) (maxGroups maxSetSize : Nat)
    (ops : List CacheOp) :
    CacheSound cfg comt (runOps cfg comt (GroupedSet.new maxGroups maxSetSize) ops) :=
  runOps_inv (soundInv_cacheSound cfg comt) ops (cacheSound_new cfg comt maxGroups maxSetSize)

/-- The invariant is preserved by each single operation from any sound cache (so also through
evictions: `mem_after_add` / `mem_after_contains` / `mem_after_removeLessThan` show that rotation,
LRU eviction and pruning only ever drop keys). -/
theorem cache_sound_step (cfg : Cfg) (comt : Nat → Option Committee) (cache : VCache)
    (hs : CacheSound cfg comt cache) (op : CacheOp) : CacheSound cfg comt (applyOp cfg comt cache op) :=
  applyOp_inv (soundInv_cacheSound cfg comt) hs op

/-- **The cache stays within its configured size** whatever is validated: at most `max 1 maxGroups`
groups, each holding fewer than `max 1 maxSetSize` keys in its young and at most that many in its old
generation (so evictions do happen, and `cache_sound_inv` / `validate_history_independent` are
statements about caches that really rotate and evict). -/
theorem cache_bounded (cfg : Cfg) (comt : Nat → Option Committee) (maxGroups maxSetSize : Nat)
    (ops : List CacheOp) :
    (runOps cfg comt (GroupedSet.new maxGroups maxSetSize) ops).bounded :=
  (runOps_inv (soundInv_bounded cfg comt) ops ⟨cacheSound_new cfg comt maxGroups maxSetSize, bounded_new maxGroups maxSetSize⟩).2

/-- **History independence.** With any sound cache (in particular any reachable one) the verdict of
`ValidateMessage` equals the verdict `pureVerdict` that is a function of the message, the committee
function and the progress only. -/
theorem validate_depends_only_on_inputs (cfg : Cfg) (comt : Nat → Option Committee) (prog : Progress)
    (cache : VCache) (hs : CacheSound cfg comt cache) (m : Msg) :
    (validate cfg comt prog cache m).1 = pureVerdict cfg comt prog none m :=
  validate_eq hs prog m

/-- **History independence, as stated in the property**: the verdict of a long-lived validator whose
cache went through any history `ops` equals the verdict of a fresh validator (empty cache of any
geometry), for every message and progress state. -/
theorem validate_history_independent (cfg : Cfg) (comt : Nat → Option Committee) (prog : Progress)
    (g s g' s' : Nat) (ops : List CacheOp) (m : Msg) :
    (validate cfg comt prog (runOps cfg comt (GroupedSet.new g s) ops) m).1 =
      (validate cfg comt prog (GroupedSet.new g' s') m).1 := by
  rw [validate_depends_only_on_inputs _ _ _ _ (cache_sound_inv cfg comt g s ops),
    validate_depends_only_on_inputs _ _ _ _ (cacheSound_new cfg comt g' s')]

/-- The same for partial validation (namespaces `partial_message`, `partial_justification`). -/
theorem partially_history_independent (cfg : Cfg) (comt : Nat → Option Committee) (prog : Progress)
    (g s g' s' : Nat) (ops : List CacheOp) (pm : PMsg) :
    (partially cfg comt prog (runOps cfg comt (GroupedSet.new g s) ops) pm).1 =
      (partially cfg comt prog (GroupedSet.new g' s') pm).1 := by
  rw [partially_eq (cache_sound_inv cfg comt g s ops) prog pm,
    partially_eq (cacheSound_new cfg comt g' s') prog pm]

/-- **Soundness.** Whatever the cache history: an accepted message satisfies every validity rule under
the committee of its instance (and passed the relevance window). -/
theorem validate_sound (cfg : Cfg) (comt : Nat → Option Committee) (prog : Progress) (cache : VCache)
    (hs : CacheSound cfg comt cache) (m : Msg) (hw : WireMsg m)
    (h : (validate cfg comt prog cache m).1 = .accept) :
    ∃ c, comt m.vote.inst = some c ∧ validMsg cfg.net c m := by
  rw [validate_depends_only_on_inputs _ _ _ _ hs, pureVerdict_accept_iff] at h
  obtain ⟨c, hc, hb⟩ := h.2
  exact ⟨c, hc, checkBody_sound hw hb⟩

/-- The relevance window of the code is exactly the specified one: validation proceeds past
`validateByProgress` iff the message is `relevant` (for `uint64` values that do not wrap). -/
theorem relevance_window_exact (cfg : Cfg) (prog : Progress) (v : Payload) (hb : ProgBounds cfg prog v) :
    byProgress cfg prog v = none ↔ relevant cfg.lookback prog v := by
  -- under the bounds nothing wraps, except `Round + 1`, whose wrap the test `Round ≥` covers
  have hl := hb.look
  unfold relevant
  rw [byProgress_none_iff, u64_of_lt hl]
  refine and_congr_right fun hlt => ?_
  rw [u64_of_lt (Nat.lt_of_le_of_lt hlt hl), ge_or_succ_eq hb.round hb.curRound]

/-- **Completeness when relevant.** A valid message that is relevant to the participant's progress is
accepted, whatever the cache history. -/
theorem validate_complete_relevant (cfg : Cfg) (comt : Nat → Option Committee) (prog : Progress)
    (cache : VCache) (hs : CacheSound cfg comt cache) (m : Msg) (c : Committee)
    (hc : comt m.vote.inst = some c) (hu : Committee.uniqueIds c) (hb : ProgBounds cfg prog m.vote)
    (hv : validMsg cfg.net c m) (hr : relevant cfg.lookback prog m.vote) :
    (validate cfg comt prog cache m).1 = .accept := by
  rw [validate_depends_only_on_inputs _ _ _ _ hs, pureVerdict_accept_iff]
  exact ⟨(relevance_window_exact cfg prog m.vote hb).mpr hr, c, hc, checkBody_complete hb.round hu hv⟩

/-- **No valid message is ever branded invalid** — at any progress, with any cache history. -/
theorem never_invalid_if_valid (cfg : Cfg) (comt : Nat → Option Committee) (prog : Progress)
    (cache : VCache) (hs : CacheSound cfg comt cache) (m : Msg) (hr : m.vote.round < 2 ^ 64)
    (h : (validate cfg comt prog cache m).1 = .invalid) :
    ∀ c, comt m.vote.inst = some c → Committee.uniqueIds c → ¬ validMsg cfg.net c m := by
  intro c hc hu hv
  rw [validate_depends_only_on_inputs _ _ _ _ hs, pureVerdict_eq_iff _ _ _ _ _ (.inr rfl), checkMsg_invalid_iff] at h
  obtain ⟨_, c', hc', hb⟩ := h
  rw [hc] at hc'; cases hc'
  rw [checkBody_complete hr hu hv] at hb; cases hb

/-- A verdict other than accept/invalid is explained by progress or by a missing committee alone. -/
theorem other_verdicts_explained (cfg : Cfg) (comt : Nat → Option Committee) (prog : Progress)
    (cache : VCache) (hs : CacheSound cfg comt cache) (m : Msg)
    (h1 : (validate cfg comt prog cache m).1 ≠ .accept) (h2 : (validate cfg comt prog cache m).1 ≠ .invalid) :
    byProgress cfg prog m.vote = some (validate cfg comt prog cache m).1 ∨
      (comt m.vote.inst = none ∧ (validate cfg comt prog cache m).1 = .noCommittee) := by
  rw [validate_depends_only_on_inputs _ _ _ _ hs] at h1 h2 ⊢
  cases hb : byProgress cfg prog m.vote with
  | some e => exact .inl (congrArg some (pureVerdict_of_some hb).symm)
  | none =>
    rw [pureVerdict_of_none hb] at h1 h2 ⊢
    rcases checkMsg_cases cfg comt none m with h | h | h
    · exact absurd h h1
    · exact absurd h h2
    · exact .inr h

/-- An accepted justification's signers hold at least two thirds of the committee's scaled power
(link to C08: the model uses the predicate generated from `gpbft.go`). -/
theorem accepted_justification_has_two_thirds (cfg : Cfg) (c : Committee) (j : Just) (ek : VKey)
    (hsorted : j.signers.Pairwise (· < ·)) (h : sigJust cfg c j ek = true) :
    3 * (sumNat (j.signers.map (powerAt c)) : Int) ≥ 2 * (c.total : Int) := by
  have := ((sigJust_iff cfg c j ek hsorted).mp h).1.2.2
  simpa [F3.Spec.Quorum.strong] using this

def tipA : Tip := ⟨1, 10, 4, 38⟩
def tipB : Tip := ⟨2, 11, 4, 38⟩
def c0 : Committee := ⟨[⟨101, 30000, 11⟩, ⟨102, 20000, 12⟩, ⟨103, 15535, 13⟩, ⟨104, 0, 14⟩], 7⟩
def comt0 : Nat → Option Committee := fun i => if i ≤ 20 then some c0 else none
def cfg0 : Cfg := ⟨0, 10⟩
/-- PREPARE quorum certificate (members 0 and 1: 50000 of 65535) for `[tipA, tipB]` in round 0 of instance 5 -/
def j0 : Just :=
  ⟨⟨5, 0, PREPARE, 0, [tipA, tipB]⟩, [0, 1],
    .tok [(0, 11), (1, 12)] (.vote 0 5 0 PREPARE 0 (keyOf [tipA, tipB])), true⟩
/-- a valid COMMIT -/
def m0 : Msg :=
  ⟨101, ⟨5, 0, COMMIT, 0, [tipA, tipB]⟩, .tok 11 (.vote 0 5 0 COMMIT 0 (keyOf [tipA, tipB])), .garbage 0, some j0, true⟩
/-- its forged twin: same bytes except the signature -/
def m0forged : Msg := { m0 with sig := .garbage 7 }
/-- a twin whose justification is one member short of a strong quorum (30000 of 65535) -/
def m0short : Msg :=
  { m0 with just := some { j0 with signers := [0], agg := .tok [(0, 11)] (.vote 0 5 0 PREPARE 0 (keyOf [tipA, tipB])) } }
def prog0 : Progress := ⟨5, 0, COMMIT⟩
def warm0 : VCache := runOps cfg0 comt0 (GroupedSet.new 1 1) [.validate prog0 m0, .validate prog0 m0]

example : (validate cfg0 comt0 prog0 (GroupedSet.new 2 2) m0).1 = .accept := by decide
example : validMsg cfg0.net c0 m0 := by
  obtain ⟨c, hc, hv⟩ := validate_sound cfg0 comt0 prog0 (GroupedSet.new 2 2) (cacheSound_new _ _ _ _) m0
    ⟨by decide, by intro j hj; cases hj; decide⟩ (by decide)
  have : c = c0 := by simp [comt0, m0] at hc; exact hc.symm
  exact this ▸ hv
-- the warm cache really holds the message key, and the forged twin is still rejected after its valid twin
example : warm0.peek 5 (CKey.msg m0) = true := by decide
-- … while the justification key inserted just before it was already rotated out (capacity 1): an eviction happened
example : warm0.peek 5 (CKey.just j0 (keyOf [tipA, tipB])) = false := by decide
example : (validate cfg0 comt0 prog0 warm0 m0forged).1 = .invalid := by decide
example : (validate cfg0 comt0 prog0 warm0 m0short).1 = .invalid := by decide
example : (validate cfg0 comt0 ⟨7, 0, QUALITY⟩ warm0 m0).1 = .tooOld := by decide
example : (validate cfg0 comt0 ⟨5, 2, PREPARE⟩ warm0 m0).1 = .notRelevant := by decide
example : relevant cfg0.lookback prog0 m0.vote ∧ Committee.uniqueIds c0 ∧ ProgBounds cfg0 prog0 m0.vote :=
  ⟨by decide, by simp [Committee.uniqueIds, c0], ⟨by decide, by decide, by decide, by decide⟩⟩

/-- **An accepted message satisfies the hypothesis of the consensus proofs.** Whatever the cache history, a
message the validator model accepts is — read symbolically: the signature tokens it carries were produced by
the owners of the keys (`hsig`, `hagg`: unforgeability) — a `MsgValid` delivery in the vocabulary of the
instance model: the vote exists, the sender has power, the shape is the one its phase prescribes and its
justification is a strong quorum of existing votes.  `C01.agreement_model` and `C02.validity_model` assume
exactly this of every delivered message. -/
theorem accepted_message_meets_consensus_hypothesis (cfg : Cfg) (comt : Nat → Option Committee) (prog : Progress)
    (cache : VCache) (hs : CacheSound cfg comt cache) (m : Msg) (hw : WireMsg m)
    (h : (validate cfg comt prog cache m).1 = .accept)
    (hu : ∀ c, comt m.vote.inst = some c → (c.entries.map (·.id)).Nodup)
    (Signed : Nat → SigMsg → Prop) (hsig : ∀ pub x, m.sig = Sig.tok pub x → Signed pub x)
    (hagg : ∀ j, m.just = some j → ∀ sg x, j.agg = Agg.tok sg x → ∀ p ∈ sg, Signed p.2 x) :
    ∃ c, comt m.vote.inst = some c ∧
      F3.Instance.MsgValid (F3.ValidBridge.Wsig Signed cfg.net m.vote.inst m.vote.supp c) (F3.ValidBridge.tableOf c)
        (F3.ValidBridge.absMsg m) := by
  obtain ⟨c, hc, hv⟩ := validate_sound cfg comt prog cache hs m hw h
  exact ⟨c, hc, F3.ValidBridge.validMsg_MsgValid Signed cfg.net c (hu c hc) m hv hsig hagg⟩

/-! ## Regenerated: `validateByProgress` of `gpbft/validator.go`

`F3.Gen.Validate.validateByProgress` is translated from the source on every run
(`tools/go2lean/targets.d/Validate.json`): the two tagless `switch`es as if / else-if chains, `uint64`
additions wrapped, phase constants read from `gpbft/types.go`, the sentinel errors as the codes
0 = `nil`, 1 = `ErrValidationTooOld`, 2 = `ErrValidationNotRelevant`, 3 = `ErrValidationNoCommittee`. -/

/-- the return codes of `targets.d/Validate.json` -/
def decodeProgress (c : Int) : Option Verdict :=
  if c = 0 then none else if c = 1 then some .tooOld else if c = 2 then some .notRelevant else some .noCommittee

/-- **The model's relevance window is the source's.** For every progress state, look-back and vote — the
whole `uint64` range and beyond, wrap-around of `current.ID + committeeLookback`, `Instance + 1` and
`Round + 1` included — the hand-written `byProgress` (which every other C05 theorem is about and the
driver executes) returns exactly what the code regenerated from `validator.go` returns. An edit of the
Go function either keeps this equality or breaks the build. -/
theorem by_progress_is_the_codes (cfg : Cfg) (cur : Progress) (v : Payload) :
    byProgress cfg cur v =
      decodeProgress (F3.Gen.Validate.validateByProgress cur.id cur.phase cur.round v.inst v.phase v.round
        cfg.lookback) := by
  have d0 : decodeProgress 0 = none := rfl
  have d1 : decodeProgress 1 = some .tooOld := rfl
  have d2 : decodeProgress 2 = some .notRelevant := rfl
  have d3 : decodeProgress 3 = some .noCommittee := rfl
  unfold byProgress F3.Gen.Validate.validateByProgress F3.Validator.u64
  simp only [apply_ite decodeProgress, d0, d1, d2, d3]
  -- every comparison on the right is between casts of naturals (numerals included): the same comparison in `Nat`,
  -- after which the two if-chains are the same chain
  simp only [← Int.cast_ofNat_Int, F3.Proofs.GenTie.u64_natCast_add, Int.natCast_inj, Int.ofNat_le, Int.ofNat_lt,
    ge_iff_le, gt_iff_lt, ne_eq, Bool.or_eq_true, Bool.and_eq_true, decide_eq_true_eq, or_assoc]

-- non-vacuity: the four codes, and both wrap-arounds, are reached
example : byProgress ⟨0, 10⟩ ⟨5, 2, PREPARE⟩ ⟨15, 0, QUALITY, 0, []⟩ = some .noCommittee ∧
    byProgress ⟨0, 10⟩ ⟨5, 2, PREPARE⟩ ⟨3, 0, QUALITY, 0, []⟩ = some .tooOld ∧
    byProgress ⟨0, 10⟩ ⟨5, 2, PREPARE⟩ ⟨5, 0, PREPARE, 0, []⟩ = some .notRelevant ∧
    byProgress ⟨0, 10⟩ ⟨5, 2, PREPARE⟩ ⟨5, 1, PREPARE, 0, []⟩ = none ∧
    byProgress ⟨0, 10⟩ ⟨5, 2, PREPARE⟩ ⟨4, 0, DECIDE, 0, []⟩ = none ∧
    byProgress ⟨0, 10⟩ ⟨2 ^ 64 - 3, 0, PREPARE⟩ ⟨7, 0, QUALITY, 0, []⟩ = some .noCommittee ∧
    byProgress ⟨0, 10⟩ ⟨0, 0, PREPARE⟩ ⟨2 ^ 64 - 1, 0, DECIDE, 0, []⟩ = some .noCommittee := by decide
example : F3.Gen.Validate.validateByProgress 5 3 2 15 1 0 10 = 3 ∧ F3.Gen.Validate.validateByProgress 5 3 2 3 1 0 10 = 1 ∧
    F3.Gen.Validate.validateByProgress 5 3 2 5 3 0 10 = 2 ∧ F3.Gen.Validate.validateByProgress 5 3 2 5 3 1 10 = 0 ∧
    F3.Gen.Validate.validateByProgress (2 ^ 64 - 3) 3 0 7 1 0 10 = 3 := by decide

end F3.Props.C05

namespace F3.Props.C05
section Regenerated2
open F3.Msg F3.Validator
/-! ## Regenerated: the phase rules, `needsJustification` and the justification table of `gpbft/validator.go`

Against `F3/Gen/Validate2.lean` (`targets.d/Validate2.json`); the table look-up is in `F3/Proofs/ValidatorGen2.lean`. -/

/-- the model's phase rules = the `switch msg.Vote.Phase` block of the source: the model accepts exactly when the
regenerated block runs to its end (code 0) rather than into one of its eight `return`s; the Boolean argument is the
outcome of `VerifyTicket`. All phases (unknown ones included: code 8), all rounds. -/
theorem phase_rules_are_regenerated (cfg : Cfg) (c : Committee) (m : Msg) (bottom : Bool) (pub : Nat) :
    phaseRules cfg c m bottom pub =
      decide (F3.Gen.Validate2.phaseRules m.vote.phase m.vote.round
        (m.ticket == Sig.tok pub (.vrf cfg.net c.beacon m.vote.inst m.vote.round)) bottom = 0) := by
  unfold phaseRules F3.Gen.Validate2.phaseRules
  generalize (m.ticket == Sig.tok pub (.vrf cfg.net c.beacon m.vote.inst m.vote.round)) = t
  generalize m.vote.phase = p
  generalize m.vote.round = r
  simp only [← Int.cast_ofNat_Int, Int.natCast_inj, ne_eq, QUALITY, CONVERGE, PREPARE, COMMIT, DECIDE]
  by_cases h1 : p = 1
  · by_cases hr : r = 0 <;> cases bottom <;> simp [h1, hr]
  by_cases h2 : p = 2
  · by_cases hr : r = 0 <;> cases bottom <;> cases t <;> simp [h2, hr]
  by_cases h5 : p = 5
  · by_cases hr : r = 0 <;> cases bottom <;> simp [h5, hr]
  by_cases h3 : p = 3
  · simp [h3]
  by_cases h4 : p = 4
  · simp [h4]
  simp [h1, h2, h3, h4, h5]

/-- `needsJust` = `needsJustification` of the source -/
theorem needs_just_is_regenerated (m : Msg) (bottom : Bool) :
    needsJust m bottom = F3.Gen.Validate2.needsJustification m.vote.phase m.vote.round bottom := by
  unfold needsJust F3.Gen.Validate2.needsJustification
  simp only [← Int.cast_ofNat_Int, Int.natCast_inj, QUALITY, PREPARE, COMMIT]

/-- the expectation table = the `map[Phase]map[Phase]struct{Round; Key}` literal of the source, for
every phase pair and every `uint64` round (`Round - 1` wraps at 0 on both sides) -/
theorem expectation_is_regenerated (ph round jph : Nat) (hr : round < 2 ^ 64) :
    expectation ph round jph =
      (F3.Gen2Tie.lookup2 (F3.Gen.Validate2.justExpectations round) ph jph).bind F3.Gen2Tie.justRow :=
  F3.Gen2Tie.expectation_is_regenerated ph round jph

/-- the round comparison (with the DECIDE exemption) = the source's
`msg.Justification.Vote.Round != expected.Round && msg.Vote.Phase != DECIDE_PHASE`, all rounds and phases (the model's
`anyRound` is the second conjunct) -/
theorem just_wrong_round_is_regenerated (mph jr er : Nat) :
    (decide (jr ≠ er) && !anyRound mph er) = F3.Gen.Validate2.justWrongRound er jr mph := by
  unfold anyRound F3.Gen.Validate2.justWrongRound
  simp only [← Int.cast_ofNat_Int, Int.natCast_inj, ne_eq, DECIDE]
  by_cases h : mph = 5 <;> simp [h]

example : F3.Gen.Validate2.phaseRules 1 0 true false = 0 ∧ F3.Gen.Validate2.phaseRules 1 1 true false = 1 ∧
    F3.Gen.Validate2.phaseRules 2 1 false false = 5 ∧ F3.Gen.Validate2.phaseRules 5 0 true true = 7 ∧
    F3.Gen.Validate2.phaseRules 9 0 true false = 8 ∧ F3.Gen.Validate2.phaseRules 4 9 false true = 0 := by decide
example : expectation CONVERGE 0 COMMIT = some (maxU64, false) ∧ expectation COMMIT 7 PREPARE = some (7, true) ∧
    expectation DECIDE 0 PREPARE = none := by decide

end Regenerated2
end F3.Props.C05

namespace F3.Props.C05
section Skeletons

/-- **The Go functions this property's models mirror still have the statement structure the models were written
against**: each regenerated skeleton (pre-order list of statement kinds, `tools/go2lean/skel.go`) equals the recorded
expectation of `F3/Proofs/SkelTie*.lean`. An added early return, cap, loop or dropped branch in one of these functions
breaks this obligation even when no regenerated *expression* changes. -/
theorem code_structure_as_modelled :
    F3.Gen.SkelValidate.skelValidateJustification = F3.SkelTie.SkelValidate.skelValidateJustificationExpected ∧
    F3.Gen.SkelValidate.skelFullyValidate = F3.SkelTie.SkelValidate.skelFullyValidateExpected ∧
    F3.Gen.SkelValidate.skelSuppEq = F3.SkelTie.SkelValidate.skelSuppEqExpected ∧
    F3.Gen.SkelValidate.skelInferJustValue = F3.SkelTie.SkelValidate.skelInferJustValueExpected ∧
    F3.Gen.SkelValidate.skelToPartial = F3.SkelTie.SkelValidate.skelToPartialExpected ∧
    F3.Gen.SkelValidate.skelValidateMessage = F3.SkelTie.SkelValidate.skelValidateMessageExpected ∧
    F3.Gen.SkelPower.skelScalePower = F3.SkelTie.SkelPower.skelScalePowerExpected ∧
    F3.Gen.SkelPower.skelPowerTableCopy = F3.SkelTie.SkelPower.skelPowerTableCopyExpected ∧
    F3.Gen.SkelPower.skelRescale = F3.SkelTie.SkelPower.skelRescaleExpected :=
  ⟨F3.SkelTie.SkelValidate.skelValidateJustification_expected, F3.SkelTie.SkelValidate.skelFullyValidate_expected, F3.SkelTie.SkelValidate.skelSuppEq_expected, F3.SkelTie.SkelValidate.skelInferJustValue_expected, F3.SkelTie.SkelValidate.skelToPartial_expected, F3.SkelTie.SkelValidate.skelValidateMessage_expected, F3.SkelTie.SkelPower.skelScalePower_expected, F3.SkelTie.SkelPower.skelPowerTableCopy_expected, F3.SkelTie.SkelPower.skelRescale_expected⟩

end Skeletons
end F3.Props.C05

namespace F3.Props.C05
section SkeletonsBls

/-- the real BLS verifier / aggregator (trusted base: ideal signatures in the model) still has the statement
structure it had when it was taken into the trusted base -/
theorem signature_backend_structure_as_trusted :
    F3.Gen.SkelBls.skelBlsAggregate = F3.SkelTie.SkelBls.skelBlsAggregateExpected ∧
    F3.Gen.SkelBls.skelBlsVerifyAggregate = F3.SkelTie.SkelBls.skelBlsVerifyAggregateExpected ∧
    F3.Gen.SkelBls.skelBlsNewAggregate = F3.SkelTie.SkelBls.skelBlsNewAggregateExpected ∧
    F3.Gen.SkelBls.skelBlsVerify = F3.SkelTie.SkelBls.skelBlsVerifyExpected ∧
    F3.Gen.SkelBls.skelBlsPubkeyToPoint = F3.SkelTie.SkelBls.skelBlsPubkeyToPointExpected :=
  ⟨F3.SkelTie.SkelBls.skelBlsAggregate_expected, F3.SkelTie.SkelBls.skelBlsVerifyAggregate_expected, F3.SkelTie.SkelBls.skelBlsNewAggregate_expected, F3.SkelTie.SkelBls.skelBlsVerify_expected, F3.SkelTie.SkelBls.skelBlsPubkeyToPoint_expected⟩

end SkeletonsBls
end F3.Props.C05
