import F3.Proofs.SkelTieGpbft
import F3.Proofs.SkelTiePower
import F3.Props.C01
import F3.Proofs.SyncTimedNet
import F3.Proofs.SyncGeneralNet
import F3.Proofs.SyncRuns
/-!
# C02 — Validity

Layer A/N part: every decided value is non-bottom and *good* (instantiated below with "non-empty prefix
of the input chain of some honest participant", whence it starts at the common base). The guard that
makes this an invariant — an honest PREPARE is for a good value of its own, or for a value that
already had a strong PREPARE quorum in an earlier round — is proved of the executable model
(`F3.Instance.runFrom_guarded`, candidate-set soundness `CandOK`), giving `validity_model`.

The second sentence of the property (unanimous honest input + strong honest quorum + synchrony + no faulty
sender ⇒ that chain is decided) is proved at network level over the executable model in section `Sync` below:
`unanimous_sync_invariant` (safety: no failure, only messages for the common chain, everybody stays in round 0
and can only decide that chain) and `unanimous_sync_decides` (every complete execution has decided it), for the
network `F3.Net` of honest model participants (`F3/Model/Net.lean`), every delivery order, every table and every
per-node configuration. Real time enters only through `SyncOrdered` (the order of deliveries and expired
timeouts that the bound implies; see the header of `F3/Model/Net.lean`). The per-phase steps are also in
`C06.unanimous_step_*`; the timed claim is additionally validated on every `sync`-mode run of the harness (oracle
`C02-unanimous-synchronous-run-decided-another-chain`).

Section `Timed` closes the gap between the real-time assumption and `SyncOrdered`: `timed_sync_ordered` derives
`SyncOrdered` from `TimedSync Δ` (`F3/Model/NetTimed.lean`: monotone timestamps, starts at most `Δ` apart, every
message handed over less than `Δ` after it was broadcast, timeouts at least `2Δ`) for an input chain with at least
one tipset beyond the base, and `unanimous_timed_decides` is the second sentence of the property in real-time form.
-/
namespace F3.Props.C02
open F3.Granite F3.Props.C01

variable {P V : Type} [DecidableEq P]

/-- **Validity (abstract).** Every decided value is non-bottom and good for some honest participant. -/
theorem validity_network (c : Params P V) (hb : faultBound c) {s : Votes P V}
    (hr : Reachable c s) {x : V} (hx : Decided c s x) :
    x ≠ c.bot ∧ ∃ h, h ∉ c.faulty ∧ c.good h x := by
  have inv := inv_reachable c hb hr
  exact World.decided_good inv.rules (fun x => ∃ h, h ∉ c.faulty ∧ c.good h x)
    (fun p hp r x hs => (inv.backed p hp r x hs).imp (fun g => ⟨p, hp, g⟩) id) hx

/-- chain-valued parameters: values are tipset lists, bottom is the empty chain, a value is good for
`p` when it is a non-empty prefix of `p`'s input. -/
def chainParams (committee : Finset P) (pw : P → Nat) (faulty : Finset P) (input : P → List Nat) :
    Params P (List Nat) :=
  { committee := committee, pw := pw, faulty := faulty, bot := [],
    good := fun p x => x ≠ [] ∧ x <+: input p }

/-- **Validity for chains.** If all honest inputs start at base `b`, every decided chain is non-empty,
starts at `b`, and is a prefix of the input of at least one honest participant. -/
theorem validity_chains (committee : Finset P) (pw : P → Nat) (faulty : Finset P)
    (input : P → List Nat) (b : Nat)
    (hbase : ∀ p, p ∉ faulty → (input p).head? = some b)
    (hb : faultBound (chainParams committee pw faulty input)) {s : Votes P (List Nat)}
    (hr : Reachable (chainParams committee pw faulty input) s) {x : List Nat}
    (hx : Decided (chainParams committee pw faulty input) s x) :
    x ≠ [] ∧ x.head? = some b ∧ ∃ h, h ∉ faulty ∧ x <+: input h := by
  obtain ⟨hne, h, hh, _, hpre⟩ := validity_network _ hb hr hx
  refine ⟨hne, ?_, h, hh, hpre⟩
  have hb' := hbase h hh
  obtain ⟨t, ht⟩ := hpre
  cases x with
  | nil => exact absurd rfl hne
  | cons a l =>
    rw [← ht] at hb'
    simpa using hb'

/-- Every value that ever gathers a strong PREPARE quorum is already a prefix of an honest input. -/
theorem prepare_quorum_good (c : Params P V) (hb : faultBound c) {s : Votes P V}
    (hr : Reachable c s) (r : Nat) (x : V) (hq : (c.world s).Q .prepare r x) :
    ∃ h, h ∉ c.faulty ∧ c.good h x := by
  have inv := inv_reachable c hb hr
  exact World.prepareQ_good inv.rules (fun x => ∃ h, h ∉ c.faulty ∧ c.good h x)
    (fun p hp r x hs => (inv.backed p hp r x hs).imp (fun g => ⟨p, hp, g⟩) id) r x hq

/-- Non-vacuity: the example network of C01 decides 7, which is good for the honest members. -/
example : ∃ s, Reachable exC s ∧ Decided exC s 7 ∧ (7 ≠ exC.bot ∧ ∃ h, h ∉ exC.faulty ∧ exC.good h 7) := by
  obtain ⟨s, hr, hd, _, _⟩ := ex_decided
  exact ⟨s, hr, hd, validity_network exC ex_bound hr hd⟩

section Model
open F3.Instance F3.Bridge

/-- **Validity, end to end for the model of the code** (hypotheses as in `C01.agreement_model`): a decision
reported by an honest participant is a non-empty prefix of the input chain of some honest committee member. -/
theorem validity_model {t : Table} {F : Finset Pid} {W : Instance.Votes} (N : Network t F W)
    (p : Pid) (hp : p ∈ (ids t).toFinset) (hpF : p ∉ F) (d : Just)
    (hd : (run (init (N.runs p hp hpF).cfg t (N.runs p hp hpF).input) (N.runs p hp hpF).ops).1.termination = some d) :
    d.value ≠ [] ∧ ∃ h, ∃ hh : h ∈ (ids t).toFinset, ∃ hF : h ∉ F, d.value <+: (N.runs h hh hF).input :=
  model_validity N p hp hpF d hd

/-- ... and starts at the common base when all honest inputs do. -/
theorem validity_model_base {t : Table} {F : Finset Pid} {W : Instance.Votes} (N : Network t F W) (b : Nat)
    (hbase : ∀ h (hh : h ∈ (ids t).toFinset) (hF : h ∉ F), (N.runs h hh hF).input.head? = some b)
    (p : Pid) (hp : p ∈ (ids t).toFinset) (hpF : p ∉ F) (d : Just)
    (hd : (run (init (N.runs p hp hpF).cfg t (N.runs p hp hpF).input) (N.runs p hp hpF).ops).1.termination = some d) :
    d.value.head? = some b :=
  model_validity_base N b hbase p hp hpF d hd

/-- Non-vacuity: in the example network of `F3.Bridge` honest member 1 decides `[7, 8]`, a prefix of its input. -/
example : ∃ d, (run (init (exNet.runs 1 (by decide) (by decide)).cfg exTbl (exNet.runs 1 (by decide) (by decide)).input)
      (exNet.runs 1 (by decide) (by decide)).ops).1.termination = some d ∧ d.value = [7, 8] :=
  ex_network_decides.2.2

end Model

section ParticipantAPI
open F3.Instance F3.Bridge

/-- **Validity, end to end for the model of the code, at the participant API** (hypotheses as in
`C01.agreement_model_participant`: honest executions are sequences of `ReceiveMessage` / `ReceiveAlarm` calls with the
pre-start queue drained through `ReceiveMany` in an arbitrary order): a decision reported by an honest participant
is a non-empty prefix of the input chain of some honest committee member. -/
theorem validity_model_participant {t : Table} {F : Finset Pid} {W : Instance.Votes} (N : NetworkP t F W)
    (p : Pid) (hp : p ∈ (ids t).toFinset) (hpF : p ∉ F) (d : Just)
    (hd : (prun (N.runs p hp hpF).order (pinit (N.runs p hp hpF).cfg t (N.runs p hp hpF).input)
      (N.runs p hp hpF).ops).1.inst.termination = some d) :
    d.value ≠ [] ∧ ∃ h, ∃ hh : h ∈ (ids t).toFinset, ∃ hF : h ∉ F, d.value <+: (N.runs h hh hF).input :=
  model_validityP N p hp hpF d hd

/-- ... and starts at the common base when all honest inputs do. -/
theorem validity_model_base_participant {t : Table} {F : Finset Pid} {W : Instance.Votes} (N : NetworkP t F W) (b : Nat)
    (hbase : ∀ h (hh : h ∈ (ids t).toFinset) (hF : h ∉ F), (N.runs h hh hF).input.head? = some b)
    (p : Pid) (hp : p ∈ (ids t).toFinset) (hpF : p ∉ F) (d : Just)
    (hd : (prun (N.runs p hp hpF).order (pinit (N.runs p hp hpF).cfg t (N.runs p hp hpF).input)
      (N.runs p hp hpF).ops).1.inst.termination = some d) :
    d.value.head? = some b :=
  model_validity_baseP N b hbase p hp hpF d hd

/-- Non-vacuity: in the participant-level example network of `F3.Bridge` (four messages queued before the instance
begins, one of them a late-binding reject) honest member 1 decides `[7, 8]`, a prefix of its input. -/
example : ∃ d, (prun (exNetP.runs 1 (by decide) (by decide)).order
      (pinit (exNetP.runs 1 (by decide) (by decide)).cfg exTbl (exNetP.runs 1 (by decide) (by decide)).input)
      (exNetP.runs 1 (by decide) (by decide)).ops).1.inst.termination = some d ∧ d.value = [7, 8] :=
  ex_networkP_decides.2.2

end ParticipantAPI
/-! ## Unanimous honest input under synchrony: that chain is decided (network of model participants)

Setting (`F3.Net`): the honest members `H` (distinct, all in the table `tbl`, total power a strong quorum by the
code's predicate `strongQ`) each run the instance model from `init (cfg p) tbl c` for one common non-empty chain
`c`; `cfg` is arbitrary per node. An execution is any list of `start` / `deliver` / `alarm` events admitted by
`execOk` (a node starts once; only started nodes are handed messages and alarms; **only pool messages are
delivered — no faulty sender**; duplicates and every delivery order are allowed; a delivery to a node whose
instance has terminated is dropped as `participant.go` does) and satisfying `SyncOrdered` (a node that finds
a round-0 QUALITY/PREPARE/COMMIT timeout expired — in an alarm or at the end of a `Receive` — has been handed
that phase's message of every member of `H`: the untimed content of "messages arrive within the bound"). -/
section Sync
open F3.Instance F3.Net

/-- the only messages a unanimous run puts on the wire: QUALITY(0,c), PREPARE(0,c), COMMIT(0,c) justified by
PREPAREs for `c`, DECIDE(0,c) justified by COMMITs for `c` -/
def UnanimousMsg (c : Chain) (m : Msg) : Prop :=
  m.round = 0 ∧ m.value = c ∧
  ((m.phase = .quality ∧ m.just = none) ∨ (m.phase = .prepare ∧ m.just = none) ∨
   (m.phase = .commit ∧ ∃ j, m.just = some j ∧ j.round = 0 ∧ j.phase = .prepare ∧ j.value = c) ∨
   (m.phase = .decide ∧ ∃ j, m.just = some j ∧ j.round = 0 ∧ j.phase = .commit ∧ j.value = c))

/-- **Safety of the unanimous synchronous run.** In every admissible, synchrony-ordered execution: (a) no node
ever reports a failure effect (`err` / `panic`); (b) every message ever broadcast comes from a member of `H` and is
QUALITY / PREPARE / justified COMMIT / justified DECIDE of round 0 for `c`; (c) every node is still in round 0 and a
node that has a termination value has decided `c`. -/
theorem unanimous_sync_invariant (tbl : Table) (H : List Pid) (c : Chain) (cfg : Pid → Cfg)
    (hnd : H.Nodup) (hin : ∀ p ∈ H, p ∈ tbl.entries.map (·.1))
    (hq : strongQ tbl ((H.map tbl.power).sum) = true) (hc : c ≠ []) (ops : List NetOp)
    (hexec : execOk (initNet tbl H cfg (fun _ => c)) ops = true)
    (hsync : SyncOrdered (initNet tbl H cfg (fun _ => c)) ops) :
    (runNet (initNet tbl H cfg (fun _ => c)) ops).fails = [] ∧
    (∀ m ∈ (runNet (initNet tbl H cfg (fun _ => c)) ops).pool, m.sender ∈ H ∧ UnanimousMsg c m) ∧
    (runNet (initNet tbl H cfg (fun _ => c)) ops).nodes.map (·.1) = H ∧
    (∀ p s, (p, s) ∈ (runNet (initNet tbl H cfg (fun _ => c)) ops).nodes →
      s.round = 0 ∧ ∀ d, s.termination = some d → d.value = c) := by
  have hctx := F3.Sync.ctx_of tbl c H hc hnd hin hq
  have hn := F3.Sync.runNet_inv hctx ops (F3.Sync.initNet_inv tbl c H cfg) hexec hsync
  refine ⟨hn.fails, ?_, hn.ids, ?_⟩
  · intro m hm
    obtain ⟨hs, hH⟩ := hn.pool m hm
    refine ⟨hH, hs.1, hs.2.1, ?_⟩
    obtain ⟨h1, h2, h3, h4⟩ := F3.Sync.shape_just hs
    rcases hs.phases with hp | hp | hp | hp
    · exact Or.inl ⟨hp, h1 hp⟩
    · exact Or.inr (Or.inl ⟨hp, h2 hp⟩)
    · exact Or.inr (Or.inr (Or.inl ⟨hp, h3 hp⟩))
    · exact Or.inr (Or.inr (Or.inr ⟨hp, h4 hp⟩))
  · intro p s hp
    have hno := hn.node p s hp
    exact ⟨hno.sinv.round, hno.sinv.term⟩

/-- **The unanimous chain is decided.** If moreover the execution is *complete* — every member has started and
every message ever broadcast has been handed to every member — then every member has terminated, with decision
`c`. For a base-only chain (`c.length = 1`) QUALITY tallies nothing (`ReceiveEachPrefix` counts proper extensions
of the base only) and ends by its timer alone, so completeness must then include that every QUALITY timer has
fired (`timersFired`); the example after the theorem shows that this cannot be dropped. -/
theorem unanimous_sync_decides (tbl : Table) (H : List Pid) (c : Chain) (cfg : Pid → Cfg)
    (hnd : H.Nodup) (hin : ∀ p ∈ H, p ∈ tbl.entries.map (·.1))
    (hq : strongQ tbl ((H.map tbl.power).sum) = true) (hc : c ≠ []) (ops : List NetOp)
    (hexec : execOk (initNet tbl H cfg (fun _ => c)) ops = true)
    (hsync : SyncOrdered (initNet tbl H cfg (fun _ => c)) ops)
    (hcomplete : complete (runNet (initNet tbl H cfg (fun _ => c)) ops) = true)
    (htimers : 2 ≤ c.length ∨ timersFired (runNet (initNet tbl H cfg (fun _ => c)) ops) = true) :
    (∀ p ∈ H, ∃ s, (p, s) ∈ (runNet (initNet tbl H cfg (fun _ => c)) ops).nodes) ∧
    ∀ p s, (p, s) ∈ (runNet (initNet tbl H cfg (fun _ => c)) ops).nodes →
      s.phase = .terminated ∧ ∃ d, s.termination = some d ∧ d.value = c := by
  have hctx := F3.Sync.ctx_of tbl c H hc hnd hin hq
  have hn := F3.Sync.runNet_inv hctx ops (F3.Sync.initNet_inv tbl c H cfg) hexec hsync
  refine ⟨?_, ?_⟩
  · exact fun p hp => hn.node_of_H hp
  · intro p s hp
    have ht := F3.Sync.complete_terminated hctx hn hcomplete htimers p s hp
    exact ⟨ht, F3.Sync.terminated_value hn hp ht⟩

/-- Non-vacuity of both theorems: the hypotheses hold of a concrete execution with reordering and a non-expired
alarm (`syOps`; this and the other executions of sections `Sync` and `Timed` are in `F3/Proofs/SyncRuns.lean`), and (as
the theorems say) nothing failed and everybody decided `[7, 8]`. -/
example :
    [1, 2, 3].Nodup ∧ (∀ p ∈ [1, 2, 3], p ∈ syTbl.entries.map (·.1)) ∧
    strongQ syTbl (([1, 2, 3].map syTbl.power).sum) = true ∧
    execOk (syNet [7, 8]) syOps = true ∧ SyncOrdered (syNet [7, 8]) syOps ∧
    complete (runNet (syNet [7, 8]) syOps) = true ∧
    (runNet (syNet [7, 8]) syOps).fails = [] ∧
    (runNet (syNet [7, 8]) syOps).nodes.map (fun e => (e.1, e.2.phase, e.2.termination.map (·.value))) =
      [(1, .terminated, some [7, 8]), (2, .terminated, some [7, 8]), (3, .terminated, some [7, 8])] :=
  sy_run

/-- Non-vacuity of the `timersFired` alternative (base-only chain, expired alarms under `SyncOrdered`). -/
example :
    execOk (syNet [7]) syOpsBase = true ∧ SyncOrdered (syNet [7]) syOpsBase ∧
    complete (runNet (syNet [7]) syOpsBase) = true ∧ timersFired (runNet (syNet [7]) syOpsBase) = true ∧
    (runNet (syNet [7]) syOpsBase).nodes.map (fun e => (e.1, e.2.phase, e.2.termination.map (·.value))) =
      [(1, .terminated, some [7]), (2, .terminated, some [7]), (3, .terminated, some [7])] :=
  sy_base_runs.1

/-- The `timersFired` alternative cannot be dropped for a base-only chain: an admissible, synchrony-ordered,
complete execution in which nobody has left QUALITY. -/
example :
    execOk (syNet [7]) syOpsBaseQ = true ∧ SyncOrdered (syNet [7]) syOpsBaseQ ∧
    complete (runNet (syNet [7]) syOpsBaseQ) = true ∧
    (runNet (syNet [7]) syOpsBaseQ).nodes.map (fun e => (e.1, e.2.phase)) =
      [(1, .quality), (2, .quality), (3, .quality)] :=
  sy_base_runs.2

/-- Why `SyncOrdered` also constrains deliveries: `gpbft.go` re-evaluates the phase timeout at the end of
every `Receive` (`tryQuality`: `foundQuorum || timeoutExpired`). A QUALITY message handed over after the QUALITY
timeout, before the others (no alarm involved), makes node 1 PREPARE the base `[7]` instead of `[7, 8]`; the
execution is admissible but not synchrony-ordered. -/
example :
    execOk (syNet [7, 8]) [.start 1 0, .deliver 1 1000 (syQ [7, 8] 1)] = true ∧
    ¬ SyncOrdered (syNet [7, 8]) [.start 1 0, .deliver 1 1000 (syQ [7, 8] 1)] ∧
    (runNet (syNet [7, 8]) [.start 1 0, .deliver 1 1000 (syQ [7, 8] 1)]).pool.map (fun m => (m.sender, m.phase, m.value)) =
      [(1, .quality, [7, 8]), (1, .prepare, [7])] := by
  unfold SyncOrdered
  decide +kernel

end Sync

/-! ## Unanimous honest input under *real-time* synchrony

`TimedSync Δ n ops` (`F3/Model/NetTimed.lean`) reads the timestamps the events already carry:
* T1 timestamps never decrease;
* T2 a `start` is at most `Δ` after every earlier start, and a `deliver`/`alarm` whose timestamp is `≥ s + Δ` for
  an earlier start time `s` finds every node started;
* T3 before any event with timestamp `≥ max t s + Δ`, the message broadcast at `t` has been handed to the node
  started at `s` (self-delivery included; a late starter has `Δ` from its own start for the earlier messages) —
  i.e. every delay is **strictly** below `Δ`;
* T4 every node's QUALITY timeout and round-0 timeout (`2·δ·multiplier`, `2·δ`) are `≥ 2Δ`;  and `Δ ≥ 0`.

Why strict: `gpbft.go` evaluates `now ≥ phaseTimeout`, so with timeouts of exactly `2Δ` a message that takes exactly
`Δ` and the timer it has to beat fall on the same instant and race (first example below: the alarm wins and the
node PREPAREs the base). Why `2 ≤ c.length`: a base-only chain ends QUALITY by its *timer* only, and the event
list does not force an alarm to be delivered when its timer expires; a node whose alarm is late is still in QUALITY
when a punctual node's PREPARE timer expires (second example: the full statement without `2 ≤ c.length` is false).

The proof (`F3/Proofs/SyncTimed{Node,Inv,Step,Net}.lean`) is a joint induction over the execution of the invariant
of section `Sync` and a timing invariant. With staggered starts it is *not* true that everybody enters a phase
within `Δ` of the first node (a late starter may lag by `2Δ`); what holds, and suffices, is: a node enters PREPARE
(COMMIT) at `e` only after a strong quorum has broadcast QUALITY (PREPARE) by `e`; the members of that quorum have
all of these messages before `e + Δ` and leave the phase by then; their next messages reach the node before
`e + 2Δ`, i.e. before its timer, so a node whose PREPARE / COMMIT timer expires has already left that phase, and a
node whose QUALITY timer expires has every QUALITY message. -/
section Timed
open F3.Instance F3.Net

/-- **Real-time synchrony implies the synchrony order.** Unanimous non-trivial input (`2 ≤ c.length`), strong
honest quorum, no faulty sender (`execOk`), and `TimedSync Δ`: then every node that finds a round-0
QUALITY / PREPARE / COMMIT timeout expired has already been handed that phase's message of every node. -/
theorem timed_sync_ordered (tbl : Table) (H : List Pid) (c : Chain) (cfg : Pid → Cfg) (Δ : Int)
    (hnd : H.Nodup) (hin : ∀ p ∈ H, p ∈ tbl.entries.map (·.1))
    (hq : strongQ tbl ((H.map tbl.power).sum) = true) (hlen : 2 ≤ c.length) (ops : List NetOp)
    (hexec : execOk (initNet tbl H cfg (fun _ => c)) ops = true)
    (htimed : TimedSync Δ (initNet tbl H cfg (fun _ => c)) ops) :
    SyncOrdered (initNet tbl H cfg (fun _ => c)) ops := by
  have hc : c ≠ [] := by
    intro h; rw [h] at hlen; simp at hlen
  exact F3.Sync.timed_sync_ordered_core (F3.Sync.ctx_of tbl c H hc hnd hin hq) hlen ops hexec htimed

/-- **C02, second sentence, in real time.** All honest participants propose the same chain `c` (with at least one
tipset beyond the base), hold a strong quorum, only their messages circulate, and the execution respects the
synchrony bound `Δ` (`TimedSync`): nothing fails, only votes for `c` are ever cast, and once the execution is
complete everybody has terminated with decision `c`. -/
theorem unanimous_timed_decides (tbl : Table) (H : List Pid) (c : Chain) (cfg : Pid → Cfg) (Δ : Int)
    (hnd : H.Nodup) (hin : ∀ p ∈ H, p ∈ tbl.entries.map (·.1))
    (hq : strongQ tbl ((H.map tbl.power).sum) = true) (hlen : 2 ≤ c.length) (ops : List NetOp)
    (hexec : execOk (initNet tbl H cfg (fun _ => c)) ops = true)
    (htimed : TimedSync Δ (initNet tbl H cfg (fun _ => c)) ops) :
    ((runNet (initNet tbl H cfg (fun _ => c)) ops).fails = [] ∧
     ∀ m ∈ (runNet (initNet tbl H cfg (fun _ => c)) ops).pool, m.sender ∈ H ∧ UnanimousMsg c m) ∧
    (complete (runNet (initNet tbl H cfg (fun _ => c)) ops) = true →
      (∀ p ∈ H, ∃ s, (p, s) ∈ (runNet (initNet tbl H cfg (fun _ => c)) ops).nodes) ∧
      ∀ p s, (p, s) ∈ (runNet (initNet tbl H cfg (fun _ => c)) ops).nodes →
        s.phase = .terminated ∧ ∃ d, s.termination = some d ∧ d.value = c) := by
  have hc : c ≠ [] := by
    intro h; rw [h] at hlen; simp at hlen
  have hsync := timed_sync_ordered tbl H c cfg Δ hnd hin hq hlen ops hexec htimed
  obtain ⟨h1, h2, _, _⟩ := unanimous_sync_invariant tbl H c cfg hnd hin hq hc ops hexec hsync
  exact ⟨⟨h1, h2⟩, fun hcomplete =>
    unanimous_sync_decides tbl H c cfg hnd hin hq hc ops hexec hsync hcomplete (Or.inl hlen)⟩

/-- the statement of `timed_sync_ordered` for every non-empty chain — **false** for a base-only chain, see
`timed_sync_ordered_needs_suffix` -/
def TimedSyncOrderedStatement : Prop :=
  ∀ (tbl : Table) (H : List Pid) (c : Chain) (cfg : Pid → Cfg) (Δ : Int),
    H.Nodup → (∀ p ∈ H, p ∈ tbl.entries.map (·.1)) → strongQ tbl ((H.map tbl.power).sum) = true → c ≠ [] →
    ∀ ops : List NetOp, execOk (initNet tbl H cfg (fun _ => c)) ops = true →
      TimedSync Δ (initNet tbl H cfg (fun _ => c)) ops → SyncOrdered (initNet tbl H cfg (fun _ => c)) ops

/-- Non-vacuity of `timed_sync_ordered` and `unanimous_timed_decides`: a concrete timed execution with staggered
starts meets every hypothesis … -/
theorem ty_hyps :
    [1, 2, 3].Nodup ∧ (∀ p ∈ [1, 2, 3], p ∈ tyTbl.entries.map (·.1)) ∧
    strongQ tyTbl (([1, 2, 3].map tyTbl.power).sum) = true ∧ 2 ≤ [7, 8].length ∧
    execOk (tyNet [7, 8]) tyOps = true ∧ TimedSync 10 (tyNet [7, 8]) tyOps :=
  ty_run.1

/-- … so it is synchrony-ordered (by `timed_sync_ordered`) … -/
example : SyncOrdered (tyNet [7, 8]) tyOps :=
  timed_sync_ordered tyTbl [1, 2, 3] [7, 8] (fun _ => tyCfg) 10 ty_hyps.1 ty_hyps.2.1 ty_hyps.2.2.1 ty_hyps.2.2.2.1
    tyOps ty_hyps.2.2.2.2.1 ty_hyps.2.2.2.2.2

/-- … and it is complete with everybody decided on `[7, 8]`, as `unanimous_timed_decides` says. -/
example :
    execOk (tyNet [7, 8]) tyOps = true ∧ complete (runNet (tyNet [7, 8]) tyOps) = true ∧
    (runNet (tyNet [7, 8]) tyOps).nodes.map (fun e => (e.1, e.2.phase, e.2.termination.map (·.value))) =
      [(1, .terminated, some [7, 8]), (2, .terminated, some [7, 8]), (3, .terminated, some [7, 8])] :=
  ⟨ty_hyps.2.2.2.2.1, ty_run.2.1, ty_run.2.2.1⟩

/-- the timestamps the ghost fields record in that execution: who broadcast which phase when -/
example : (trun (initT (tyNet [7, 8]) tyOps) tyOps).stamps.map (fun e => (e.1.sender, e.1.phase, e.2)) =
    [(1, .quality, 0), (2, .quality, 3), (1, .prepare, 5), (2, .prepare, 7), (3, .quality, 10), (1, .commit, 12),
     (2, .commit, 14), (3, .prepare, 16), (3, .commit, 19), (1, .decide, 20), (2, .decide, 21), (3, .decide, 21)] :=
  ty_run.2.2.2

/-- members 1 and 2 alone are no strong quorum here -/
def rcTbl : Table := { entries := [(1, 10), (2, 10), (3, 20)] }
def rcNet : Net := initNet rcTbl [1, 2, 3] (fun _ => tyCfg) (fun _ => [7, 8])
def rcPre : List NetOp :=
  let c := [7, 8]
  [.start 1 0, .start 2 0, .deliver 1 1 (syQ c 1), .deliver 2 1 (syQ c 1), .deliver 1 2 (syQ c 2), .deliver 2 2 (syQ c 2),
   .start 3 10, .deliver 3 11 (syQ c 1), .deliver 3 11 (syQ c 2), .deliver 2 12 (syQ c 3), .deliver 3 12 (syQ c 3)]

/-- **The boundary is a real race in the code** (why T3 is strict). `Δ = 10`, QUALITY timeout `2Δ = 20`; node 3
starts at 10 and its QUALITY vote takes *exactly* `Δ` to reach node 1, i.e. arrives at 20 — the instant node 1's
QUALITY timer expires (`phaseTimeoutElapsed` is `now ≥ timeout`). If the alarm is handled first, node 1 PREPAREs the
base `[7]` although everybody proposed `[7, 8]`; the execution is not `TimedSync` (and not `SyncOrdered`). With the
vote one tick earlier it is `TimedSync` and node 1 PREPAREs `[7, 8]`. -/
example :
    execOk rcNet (rcPre ++ [.alarm 1 20, .deliver 1 20 (syQ [7, 8] 3)]) = true ∧
    ¬ TimedSync 10 rcNet (rcPre ++ [.alarm 1 20, .deliver 1 20 (syQ [7, 8] 3)]) ∧
    ¬ SyncOrdered rcNet (rcPre ++ [.alarm 1 20, .deliver 1 20 (syQ [7, 8] 3)]) ∧
    (1, Instance.Phase.prepare, [7]) ∈
      (runNet rcNet (rcPre ++ [.alarm 1 20, .deliver 1 20 (syQ [7, 8] 3)])).pool.map (fun m => (m.sender, m.phase, m.value)) ∧
    TimedSync 10 rcNet (rcPre ++ [.deliver 1 19 (syQ [7, 8] 3), .alarm 1 20]) ∧
    (1, Instance.Phase.prepare, [7, 8]) ∈
      (runNet rcNet (rcPre ++ [.deliver 1 19 (syQ [7, 8] 3), .alarm 1 20])).pool.map (fun m => (m.sender, m.phase, m.value)) := by
  unfold SyncOrdered
  decide +kernel

/-- base-only input `[7]`, `Δ = 10`: node 1 starts at 0, nodes 2 and 3 at 10; all messages are prompt. Node 1's
QUALITY alarm is delivered on time (20) and it enters PREPARE; nodes 2 and 3 (timers at 30) are never given an alarm
and see no event after 30, so they are still in QUALITY when node 1's PREPARE timer expires at 40. -/
def tyOpsBase : List NetOp :=
  let c := [7]
  [.start 1 0, .deliver 1 1 (syQ c 1), .start 2 10, .start 3 10,
   .deliver 2 11 (syQ c 1), .deliver 3 11 (syQ c 1)] ++ syAll 12 (syQ c 2) ++ syAll 13 (syQ c 3) ++
  [.alarm 1 20] ++ syAll 21 (syP c 1) ++ [.alarm 1 40]

/-- **`2 ≤ c.length` cannot be dropped** from `timed_sync_ordered`: for a base-only chain QUALITY ends by the timer
alone and `TimedSync` does not make alarms punctual. (Nothing goes wrong in this run — node 1 just keeps waiting in
PREPARE; it is the *sufficient* condition `SyncOrdered` that fails. A base-only unanimous input additionally needs
"every expired QUALITY timer is followed by its alarm within the bound", cf. `timersFired` in `unanimous_sync_decides`.) -/
theorem timed_sync_ordered_needs_suffix : ¬ TimedSyncOrderedStatement := by
  intro h
  have hyp : execOk (tyNet [7]) tyOpsBase = true ∧ TimedSync 10 (tyNet [7]) tyOpsBase ∧
      ¬ syncOk (tyNet [7]) tyOpsBase = true := by decide +kernel
  exact hyp.2.2 (h tyTbl [1, 2, 3] [7] (fun _ => tyCfg) 10 (by decide) (by decide) (by decide) (by decide) tyOpsBase
    hyp.1 hyp.2.1)

end Timed

/-! ## Arbitrary honest inputs sharing the base, under synchrony: what is decided is backed by a strong quorum of inputs

Section `Sync` assumes one common input chain. With one input chain `inp p` per participant (all participants honest
and exactly the members of the power table, positive total power, common base `b`) the network of model participants
decides, in round 0, the *longest prefix supported by a strong quorum of input power*
(`SyncGeneral.longestQuorumPrefix`; the termination statement is `C06.general_sync_decides`, the invariant
`C06.general_sync_invariant`, proofs in `F3/Proofs/SyncGeneral*.lean`). The validity content: a decided value is
non-empty, starts at the base and is a prefix of the inputs of participants holding a strong quorum — stronger than the
"prefix of the input of *some* honest participant" of `validity_model`, and it specialises to the unanimous case. -/
section GeneralInputs
open F3.Instance F3.Net F3.SyncGeneral

/-- **Validity of the synchronous run with arbitrary inputs.** In every admissible, synchrony-ordered execution a value
decided by any participant is the longest quorum-supported prefix; it is non-empty, starts at the base, and the
participants whose input it is a prefix of hold a strong quorum of power (the model's `strongQ`). -/
theorem general_sync_validity (tbl : Table) (H : List Pid) (inp : Pid → Chain) (cfg : Pid → Cfg) (b : Nat)
    (hH : tbl.entries.map (·.1) = H) (hnd : H.Nodup) (hpos : 0 < tbl.total)
    (hbase : ∀ p ∈ H, (inp p).head? = some b) (ops : List NetOp)
    (hexec : execOk (initNet tbl H cfg inp) ops = true) (hsync : SyncOrdered (initNet tbl H cfg inp) ops)
    (p : Pid) (s : State) (hp : (p, s) ∈ (runNet (initNet tbl H cfg inp) ops).nodes) (d : Just)
    (hd : s.termination = some d) :
    d.value = longestQuorumPrefix tbl H inp ∧ d.value ≠ [] ∧ d.value.head? = some b ∧
    strongQ tbl (((H.filter (fun h => d.value.isPrefixOf (inp h))).map tbl.power).sum) = true ∧
    ∀ k, k ≠ [] → strongQ tbl (((H.filter (fun h => k.isPrefixOf (inp h))).map tbl.power).sum) = true → k <+: d.value := by
  have g := gctx_of tbl H inp b hH hnd hpos hbase
  have hn := general_invariant_core g cfg ops hexec hsync
  have hv := (hn.node p s hp).inv.term d hd
  rw [hv]
  refine ⟨rfl, g.longestQuorumPrefix_ne, g.longestQuorumPrefix_head, ?_, ?_⟩
  · rw [← F3.Sync.sumP_eq_sum]; exact g.longestQuorumPrefix_sq
  · intro k hk hs
    rw [← F3.Sync.sumP_eq_sum] at hs
    exact g.sq_le_longest hk hs

/-- with unanimous inputs that value is the common chain, as in `unanimous_sync_invariant` -/
theorem longestQuorumPrefix_unanimous (tbl : Table) (H : List Pid) (c : Chain)
    (hH : tbl.entries.map (·.1) = H) (hnd : H.Nodup) (hpos : 0 < tbl.total) (hc : c ≠ []) :
    longestQuorumPrefix tbl H (fun _ => c) = c :=
  longestQuorumPrefix_of_const tbl H c hH hnd hpos hc

/-- Non-vacuity: `syNet [7, 8]` with `syOps` (section `Sync`) is an instance of the general setting. -/
example : longestQuorumPrefix syTbl [1, 2, 3] (fun _ => [7, 8]) = [7, 8] :=
  longestQuorumPrefix_unanimous syTbl [1, 2, 3] [7, 8] (by decide) (by decide) (by decide) (by decide)

end GeneralInputs

/-! ## The base clause without a shared-base hypothesis; quiet honest members

The property's clause "the decided chain starts at the base that participant entered the instance with" is local
and unconditional: `receiveOne` refuses a vote on another base before it reaches any tally (gpbft.go:224-228).
`validity_model_base` above derives it only when *all* honest inputs share a base. `decision_starts_at_own_base` is the
local statement for any run of the instance model, with no hypothesis on what is delivered; `validity_model_base_own`
is `validity_model_base` without `hbase`.

`validity_model_quiet`: the same for networks in which honest members may never begin the instance. -/
section Audit2
open F3.Instance F3.Bridge F3.Audit2

/-- **The decision is on the participant's own base** — for every configuration, table, input chain and every list of
`Start` / `Receive` / `ReceiveAlarm` calls whatsoever (unvalidated, Byzantine, any order): a reported decision is
bottom or starts at the tipset the participant's input chain starts at. -/
theorem decision_starts_at_own_base (cfg : Cfg) (t : Table) (input : Chain) (ops : List Op) (d : Just)
    (hd : (run (init cfg t input) ops).1.termination = some d) :
    d.value = [] ∨ d.value.head? = input.head? :=
  decision_on_own_base cfg t input ops d hd

/-- … and when every delivery is validated (or foreign, hence refused) it is not bottom, so it starts exactly there -/
theorem validated_decision_starts_at_own_base (W : Instance.Votes) (cfg : Cfg) (t : Table) (input : Chain)
    (ops : List Op) (hv : ∀ op ∈ ops, foreign op = true ∨ OpValidG W t op) (d : Just)
    (hd : (run (init cfg t input) ops).1.termination = some d) :
    d.value ≠ [] ∧ d.value.head? = input.head? := by
  refine decision_head_own_base W cfg t input ops ?_ d hd
  intro op hop
  rcases hv op hop with h | h
  · cases op with
    | recv now m => exact Or.inl h
    | start _ => trivial
    | alarm _ => trivial
  · exact opValidG_toF h

/-- **`validity_model_base` without `hbase`**: in every `Network`, whatever the bases of the other honest members'
inputs, a decision reported by honest `p` is not bottom and starts at the base of `p`'s own input. -/
theorem validity_model_base_own {t : Table} {F : Finset Pid} {W : Instance.Votes} (N : Network t F W)
    (p : Pid) (hp : p ∈ (ids t).toFinset) (hpF : p ∉ F) (d : Just)
    (hd : (run (init (N.runs p hp hpF).cfg t (N.runs p hp hpF).input) (N.runs p hp hpF).ops).1.termination = some d) :
    d.value ≠ [] ∧ d.value.head? = (N.runs p hp hpF).input.head? := by
  have hne := (model_validity N p hp hpF d hd).1
  rcases decision_on_own_base _ t _ _ d hd with h | h
  · exact absurd h hne
  · exact ⟨hne, h⟩

/-- consequence: the honest member whose input the decision is a prefix of entered the instance on `p`'s base — so
`hbase` of `validity_model_base` is needed for *no* pair of honest members one of which decides a prefix of the
other's input -/
theorem validity_model_supporter_shares_base {t : Table} {F : Finset Pid} {W : Instance.Votes} (N : Network t F W)
    (p : Pid) (hp : p ∈ (ids t).toFinset) (hpF : p ∉ F) (d : Just)
    (hd : (run (init (N.runs p hp hpF).cfg t (N.runs p hp hpF).input) (N.runs p hp hpF).ops).1.termination = some d) :
    ∃ h, ∃ hh : h ∈ (ids t).toFinset, ∃ hF : h ∉ F, d.value <+: (N.runs h hh hF).input ∧
      (N.runs h hh hF).input.head? = (N.runs p hp hpF).input.head? := by
  obtain ⟨hne, h, hh, hF, hpre⟩ := model_validity N p hp hpF d hd
  refine ⟨h, hh, hF, hpre, ?_⟩
  obtain ⟨_, hhead⟩ := validity_model_base_own N p hp hpF d hd
  obtain ⟨tl, htl⟩ := hpre
  rw [← hhead, ← htl]
  cases hv : d.value with
  | nil => exact absurd hv hne
  | cons a l => rfl

/-- `validity_model_base` is a corollary -/
example {t : Table} {F : Finset Pid} {W : Instance.Votes} (N : Network t F W) (b : Nat)
    (hbase : ∀ h (hh : h ∈ (ids t).toFinset) (hF : h ∉ F), (N.runs h hh hF).input.head? = some b)
    (p : Pid) (hp : p ∈ (ids t).toFinset) (hpF : p ∉ F) (d : Just)
    (hd : (run (init (N.runs p hp hpF).cfg t (N.runs p hp hpF).input) (N.runs p hp hpF).ops).1.termination = some d) :
    d.value.head? = some b := by
  rw [(validity_model_base_own N p hp hpF d hd).2]; exact hbase p hp hpF

/-- **Validity with no hypothesis on errors (`NetworkV`)**, base clause included. -/
theorem validity_model_unconditional {t : Table} {F : Finset Pid} {W : Instance.Votes} (N : NetworkV t F W)
    (p : Pid) (hp : p ∈ (ids t).toFinset) (hpF : p ∉ F) (d : Just)
    (hd : (run (init (N.runs p hp hpF).cfg t (N.runs p hp hpF).input)
      (.start (N.runs p hp hpF).start :: (N.runs p hp hpF).ops)).1.termination = some d) :
    d.value ≠ [] ∧ d.value.head? = (N.runs p hp hpF).input.head? ∧
    ∃ h, ∃ hh : h ∈ (ids t).toFinset, ∃ hF : h ∉ F, d.value <+: (N.runs h hh hF).input :=
  ⟨(validity_model_base_own N.toNetwork p hp hpF d hd).1, (validity_model_base_own N.toNetwork p hp hpF d hd).2,
    (model_validity N.toNetwork p hp hpF d hd).2⟩

/-- **Validity with honest members that never begin the instance (`NetworkV'`).** A decision reported by
an honest member is not bottom, starts at that member's own base, and is a prefix of the input chain of an honest
member **that began the instance**. -/
theorem validity_model_quiet {t : Table} {F : Finset Pid} {W : Instance.Votes} (N : NetworkV' t F W)
    (p : Pid) (hp : p ∈ (ids t).toFinset) (hpF : p ∉ F) (d : Just)
    (hd : (run (init (N.runs p hp hpF).cfg t (N.runs p hp hpF).input) (N.runs p hp hpF).ops).1.termination = some d) :
    d.value ≠ [] ∧ d.value.head? = (N.runs p hp hpF).input.head? ∧
    ∃ h, ∃ hh : h ∈ (ids t).toFinset, ∃ hF : h ∉ F, ¬ (N.runs h hh hF).quiet ∧ d.value <+: (N.runs h hh hF).input :=
  model_validity_quiet N p hp hpF d hd

open F3.Msg F3.Spec.ValidMsg F3.ValidBridge in
/-- **Validity from assumptions about key usage only** (see `C01.agreement_from_key_usage`). -/
theorem validity_from_key_usage {Signed : Nat → SigMsg → Prop} {Wire : Msg.Msg → Prop} {net inst supp : Nat}
    {c : Committee} {F : Finset Pid} {runs : SignedRuns Wire net inst supp c F}
    (K : KeyUsage Signed Wire net inst supp c F runs) (hu : (c.entries.map (·.id)).Nodup)
    (hT : 0 < c.total) (hF : 3 * (∑ p ∈ F, (tableOf c).power p) < c.total)
    (p : Pid) (hp : p ∈ (ids (tableOf c)).toFinset) (hpF : p ∉ F) (d : Instance.Just)
    (hd : (run (init (runs p hp hpF).cfg (tableOf c) (runs p hp hpF).input) (runs p hp hpF).ops).1.termination = some d) :
    d.value ≠ [] ∧ d.value.head? = (runs p hp hpF).input.head? ∧
    ∃ h, ∃ hh : h ∈ (ids (tableOf c)).toFinset, ∃ hhF : h ∉ F,
      (runs h hh hhF).ops ≠ [] ∧ d.value <+: (runs h hh hhF).input :=
  validity_signed K hu hT hF p hp hpF d hd

/-- `validity_model_base_own` / `validity_model_unconditional` on the example network: member 1 decides `[7, 8]`, which
starts where its input `[7, 8]` starts. -/
example : ∃ d, (run (init (exNetV.runs 1 (by decide) (by decide)).cfg exTbl (exNetV.runs 1 (by decide) (by decide)).input)
      (.start (exNetV.runs 1 (by decide) (by decide)).start :: (exNetV.runs 1 (by decide) (by decide)).ops)).1.termination
        = some d ∧ d.value ≠ [] ∧ d.value.head? = (exNetV.runs 1 (by decide) (by decide)).input.head? := by
  obtain ⟨d, hd, _⟩ := ex_networkV_decides
  exact ⟨d, hd, (validity_model_unconditional exNetV 1 (by decide) (by decide) d hd).1,
    (validity_model_unconditional exNetV 1 (by decide) (by decide) d hd).2.1⟩

/-- `validity_model_quiet` on the network with a quiet honest member (`F3.Audit2.qNet`). -/
example : ∃ d, (run (init (qNet.runs 1 (by decide) (by decide)).cfg exTbl (qNet.runs 1 (by decide) (by decide)).input)
      (qNet.runs 1 (by decide) (by decide)).ops).1.termination = some d ∧ d.value = [7, 8] ∧
    (qNet.runs 3 (by decide) (by decide)).quiet ∧
    ∃ h, ∃ hh : h ∈ (ids exTbl).toFinset, ∃ hF : h ∉ exF, ¬ (qNet.runs h hh hF).quiet ∧ d.value <+: (qNet.runs h hh hF).input := by
  obtain ⟨d, hd, hv⟩ := qNet_facts.2.2.2.2.1
  exact ⟨d, hd, hv, qNet_facts.1, (validity_model_quiet qNet 1 (by decide) (by decide) d hd).2.2⟩

/-- `decision_starts_at_own_base` with *unvalidated* deliveries: (a) two DECIDEs on a foreign base are refused
(`wrongBase`), nothing is tallied or decided; (b) the same two DECIDEs on the own base — unjustified, unvalidated — do
terminate the instance, on the own base as the theorem says. -/
example :
    let bad : List Op :=
      [.start 0, .recv 1 { sender := 1, round := 0, phase := .decide, value := [9, 9] },
       .recv 2 { sender := 2, round := 0, phase := .decide, value := [9, 9] },
       .recv 3 { sender := 3, round := 0, phase := .decide, value := [9, 9] }]
    let own : List Op :=
      [.start 0, .recv 1 { sender := 1, round := 0, phase := .decide, value := [7, 5] },
       .recv 2 { sender := 2, round := 0, phase := .decide, value := [7, 5] },
       .recv 3 { sender := 3, round := 0, phase := .decide, value := [7, 5] }]
    (run (init exCfg exTbl [7, 8]) bad).1.termination = none ∧
    (run (init exCfg exTbl [7, 8]) bad).1.decision.support = [] ∧
    ((run (init exCfg exTbl [7, 8]) own).1.termination.map (·.value)) = some [7, 5] := by decide

end Audit2

/-! ## The synchronous theorems with a non-degenerate table

`F3.Net` has no validator, and `ctx_of` asks of the table only `hq : strongQ tbl (Σ_H power)`. Two degenerate cases
slip through (examples below):
* a member of `H` with **zero** scaled power: its votes are pool messages, `execOk` admits delivering them,
  `complete` / `SyncOrdered` *require* handing them to everybody — but no validator lets them through
  (`MsgValid` needs `0 < power`, validator.go:213-216), so no real run is such an execution;
* an **all-zero** table: `strongQ _ 0 = true` when `total = 0`, `hq` holds trivially, and a node decides on its own
  votes alone.
The `_pos` variants add `0 < tbl.total` and `∀ p ∈ H, 0 < tbl.power p` and conclude, in addition, that every message
ever broadcast comes from a table member with positive power (the validator's sender check passes for everything the
net delivers) and that `hq` is then a real two-thirds bound on a non-empty `H`. (That the *justifications* carried by
pool messages aggregate a strong quorum of existing votes — the rest of `MsgValid` — is not part of the `Sync`
invariant and is not shown here.) -/
section Audit2Sync
open F3.Instance F3.Net

/-- with a positive total the quorum hypothesis is a real bound: `H` is not empty and holds ≥ 2/3 of the total -/
theorem quorum_nondegenerate (tbl : Table) (H : List Pid) (hT : 0 < tbl.total)
    (hq : strongQ tbl ((H.map tbl.power).sum) = true) :
    H ≠ [] ∧ 0 < (H.map tbl.power).sum ∧ 3 * (H.map tbl.power).sum ≥ 2 * tbl.total := by
  have h : 3 * (H.map tbl.power).sum ≥ 2 * tbl.total := by
    unfold strongQ F3.Spec.Quorum.strong at hq
    simp only [decide_eq_true_eq] at hq
    exact_mod_cast hq
  refine ⟨?_, by omega, h⟩
  rintro rfl
  simp at h
  omega

/-- with `total = 0` everything is a strong quorum -/
theorem strongQ_of_total_zero (tbl : Table) (h0 : tbl.total = 0) (p : Nat) : strongQ tbl p = true := by
  unfold strongQ F3.Spec.Quorum.strong
  simp only [decide_eq_true_eq, h0]
  omega

/-- **`unanimous_sync_invariant` for a non-degenerate table**: additionally, every message ever broadcast comes from
a table member with positive scaled power. -/
theorem unanimous_sync_invariant_pos (tbl : Table) (H : List Pid) (c : Chain) (cfg : Pid → Cfg)
    (hnd : H.Nodup) (hin : ∀ p ∈ H, p ∈ tbl.entries.map (·.1)) (hT : 0 < tbl.total)
    (hpow : ∀ p ∈ H, 0 < tbl.power p)
    (hq : strongQ tbl ((H.map tbl.power).sum) = true) (hc : c ≠ []) (ops : List NetOp)
    (hexec : execOk (initNet tbl H cfg (fun _ => c)) ops = true)
    (hsync : SyncOrdered (initNet tbl H cfg (fun _ => c)) ops) :
    (H ≠ [] ∧ 3 * (H.map tbl.power).sum ≥ 2 * tbl.total) ∧
    (runNet (initNet tbl H cfg (fun _ => c)) ops).fails = [] ∧
    (∀ m ∈ (runNet (initNet tbl H cfg (fun _ => c)) ops).pool,
      m.sender ∈ H ∧ 0 < tbl.power m.sender ∧ m.value ≠ [] ∧ UnanimousMsg c m) ∧
    (∀ p s, (p, s) ∈ (runNet (initNet tbl H cfg (fun _ => c)) ops).nodes →
      s.round = 0 ∧ ∀ d, s.termination = some d → d.value = c) := by
  obtain ⟨h1, h2, _, h4⟩ := unanimous_sync_invariant tbl H c cfg hnd hin hq hc ops hexec hsync
  have hn := quorum_nondegenerate tbl H hT hq
  refine ⟨⟨hn.1, hn.2.2⟩, h1, ?_, h4⟩
  intro m hm
  obtain ⟨hs, hu⟩ := h2 m hm
  exact ⟨hs, hpow _ hs, by rw [hu.2.1]; exact hc, hu⟩

/-- **`unanimous_sync_decides` for a non-degenerate table.** -/
theorem unanimous_sync_decides_pos (tbl : Table) (H : List Pid) (c : Chain) (cfg : Pid → Cfg)
    (hnd : H.Nodup) (hin : ∀ p ∈ H, p ∈ tbl.entries.map (·.1)) (hT : 0 < tbl.total)
    (hpow : ∀ p ∈ H, 0 < tbl.power p)
    (hq : strongQ tbl ((H.map tbl.power).sum) = true) (hc : c ≠ []) (ops : List NetOp)
    (hexec : execOk (initNet tbl H cfg (fun _ => c)) ops = true)
    (hsync : SyncOrdered (initNet tbl H cfg (fun _ => c)) ops)
    (hcomplete : complete (runNet (initNet tbl H cfg (fun _ => c)) ops) = true)
    (htimers : 2 ≤ c.length ∨ timersFired (runNet (initNet tbl H cfg (fun _ => c)) ops) = true) :
    (∀ m ∈ (runNet (initNet tbl H cfg (fun _ => c)) ops).pool, m.sender ∈ H ∧ 0 < tbl.power m.sender) ∧
    (∃ p, p ∈ H) ∧
    (∀ p ∈ H, ∃ s, (p, s) ∈ (runNet (initNet tbl H cfg (fun _ => c)) ops).nodes) ∧
    ∀ p s, (p, s) ∈ (runNet (initNet tbl H cfg (fun _ => c)) ops).nodes →
      s.phase = .terminated ∧ ∃ d, s.termination = some d ∧ d.value = c := by
  obtain ⟨⟨hne, _⟩, _, h2, _⟩ :=
    unanimous_sync_invariant_pos tbl H c cfg hnd hin hT hpow hq hc ops hexec hsync
  obtain ⟨h5, h6⟩ := unanimous_sync_decides tbl H c cfg hnd hin hq hc ops hexec hsync hcomplete htimers
  exact ⟨fun m hm => ⟨(h2 m hm).1, (h2 m hm).2.1⟩, List.exists_mem_of_ne_nil H hne, h5, h6⟩

/-- **`unanimous_timed_decides` for a non-degenerate table.** -/
theorem unanimous_timed_decides_pos (tbl : Table) (H : List Pid) (c : Chain) (cfg : Pid → Cfg) (Δ : Int)
    (hnd : H.Nodup) (hin : ∀ p ∈ H, p ∈ tbl.entries.map (·.1)) (hT : 0 < tbl.total)
    (hpow : ∀ p ∈ H, 0 < tbl.power p)
    (hq : strongQ tbl ((H.map tbl.power).sum) = true) (hlen : 2 ≤ c.length) (ops : List NetOp)
    (hexec : execOk (initNet tbl H cfg (fun _ => c)) ops = true)
    (htimed : TimedSync Δ (initNet tbl H cfg (fun _ => c)) ops) :
    ((runNet (initNet tbl H cfg (fun _ => c)) ops).fails = [] ∧
     ∀ m ∈ (runNet (initNet tbl H cfg (fun _ => c)) ops).pool,
       m.sender ∈ H ∧ 0 < tbl.power m.sender ∧ UnanimousMsg c m) ∧
    (complete (runNet (initNet tbl H cfg (fun _ => c)) ops) = true →
      (∃ p, p ∈ H) ∧
      (∀ p ∈ H, ∃ s, (p, s) ∈ (runNet (initNet tbl H cfg (fun _ => c)) ops).nodes) ∧
      ∀ p s, (p, s) ∈ (runNet (initNet tbl H cfg (fun _ => c)) ops).nodes →
        s.phase = .terminated ∧ ∃ d, s.termination = some d ∧ d.value = c) := by
  obtain ⟨⟨h1, h2⟩, h3⟩ := unanimous_timed_decides tbl H c cfg Δ hnd hin hq hlen ops hexec htimed
  have hne := (quorum_nondegenerate tbl H hT hq).1
  exact ⟨⟨h1, fun m hm => ⟨(h2 m hm).1, hpow _ (h2 m hm).1, (h2 m hm).2⟩⟩,
    fun hc => ⟨List.exists_mem_of_ne_nil H hne, h3 hc⟩⟩

/-- the `_pos` hypotheses hold of the concrete executions of sections `Sync` / `Timed` -/
example : 0 < syTbl.total ∧ (∀ p ∈ [1, 2, 3], 0 < syTbl.power p) ∧
    0 < tyTbl.total ∧ (∀ p ∈ [1, 2, 3], 0 < tyTbl.power p) := by decide

example : ∀ m ∈ (runNet (syNet [7, 8]) syOps).pool, m.sender ∈ [1, 2, 3] ∧ 0 < syTbl.power m.sender := by
  obtain ⟨h1, h2, h5, hexec, hsync, hcomplete, _⟩ := sy_run
  exact (unanimous_sync_decides_pos syTbl [1, 2, 3] [7, 8] (fun _ => syCfg) h1 h2 (by decide) (by decide) h5 (by decide)
    syOps hexec hsync hcomplete (Or.inl (by decide))).1

/-- member 3 has zero scaled power -/
def zTbl : Table := { entries := [(1, 10), (2, 10), (3, 0)] }
def zNet : Net := initNet zTbl [1, 2, 3] (fun _ => syCfg) (fun _ => [7, 8])

/-- **Zero-power member.** All hypotheses of `unanimous_sync_decides` other than completeness hold; `execOk` admits
handing member 3's QUALITY to node 1, whose tally records sender 3; yet that message is `MsgValid` under **no** `W`
(the validator rejects zero-power senders), and `complete` *demands* that 3's messages be handed to everybody (an
execution that hands over everything except 3's messages is not complete). -/
example :
    [1, 2, 3].Nodup ∧ (∀ p ∈ [1, 2, 3], p ∈ zTbl.entries.map (·.1)) ∧
    strongQ zTbl (([1, 2, 3].map zTbl.power).sum) = true ∧
    execOk zNet [.start 1 0, .start 2 0, .start 3 0, .deliver 1 1 (syQ [7, 8] 3)] = true ∧
    SyncOrdered zNet [.start 1 0, .start 2 0, .start 3 0, .deliver 1 1 (syQ [7, 8] 3)] ∧
    ((runNet zNet [.start 1 0, .start 2 0, .start 3 0, .deliver 1 1 (syQ [7, 8] 3)]).nodes.map
      (fun e => (e.1, e.2.quality.senders))) = [(1, [3]), (2, []), (3, [])] ∧
    (∀ W, ¬ MsgValid W zTbl (syQ [7, 8] 3)) ∧
    complete (runNet zNet ([.start 1 0, .start 2 0, .start 3 0] ++ syAll 1 (syQ [7, 8] 1) ++ syAll 1 (syQ [7, 8] 2)))
      = false ∧
    ¬ (∀ p ∈ [1, 2, 3], 0 < zTbl.power p) := by
  refine ⟨by decide, by decide, by decide, by decide +kernel, ?_, by decide +kernel, ?_, by decide +kernel, by decide⟩
  · unfold SyncOrdered; decide +kernel
  · intro W h
    exact absurd h.2.1 (by decide)

/-- an all-zero table -/
def oTbl : Table := { entries := [(1, 0), (2, 0), (3, 0)] }
def oNet : Net := initNet oTbl [1, 2, 3] (fun _ => syCfg) (fun _ => [7, 8])
def oOps : List NetOp :=
  [.start 1 0, .deliver 1 1 (syQ [7, 8] 1), .deliver 1 2 (syP [7, 8] 1),
   .deliver 1 3 { sender := 1, round := 0, phase := .commit, value := [7, 8],
                  just := some { round := 0, phase := .prepare, value := [7, 8], signers := [0] } },
   .deliver 1 4 { sender := 1, round := 0, phase := .decide, value := [7, 8],
                  just := some { round := 0, phase := .commit, value := [7, 8], signers := [0] } }]

/-- **Zero total.** With an all-zero table `hq` is `strongQ _ 0 = true`; the hypotheses of
`unanimous_sync_invariant` hold, and node 1 **terminates on its own four messages alone**, nodes 2 and 3 not even
started — a "strong quorum" of zero power. `0 < tbl.total` excludes it. -/
example :
    oTbl.total = 0 ∧ strongQ oTbl (([1, 2, 3].map oTbl.power).sum) = true ∧
    (∀ p ∈ [1, 2, 3], p ∈ oTbl.entries.map (·.1)) ∧
    execOk oNet oOps = true ∧ SyncOrdered oNet oOps ∧
    (runNet oNet oOps).nodes.map (fun e => (e.1, e.2.phase, e.2.termination.map (fun d => (d.value, d.signers)))) =
      [(1, .terminated, some ([7, 8], [0])), (2, .initial, none), (3, .initial, none)] := by
  unfold SyncOrdered
  decide +kernel

end Audit2Sync

end F3.Props.C02

namespace F3.Props.C02
section Skeletons

/-- **The Go functions this property's models mirror still have the statement structure the models were written
against**: each regenerated skeleton (pre-order list of statement kinds, `tools/go2lean/skel.go`) equals the recorded
expectation of `F3/Proofs/SkelTie*.lean`. An added early return, cap, loop or dropped branch in one of these functions
breaks this obligation even when no regenerated *expression* changes. -/
theorem code_structure_as_modelled :
    F3.Gen.SkelGpbft.skelQueueAdd = F3.SkelTie.SkelGpbft.skelQueueAddExpected ∧
    F3.Gen.SkelGpbft.skelQueueDrain = F3.SkelTie.SkelGpbft.skelQueueDrainExpected ∧
    F3.Gen.SkelGpbft.skelReceiveMessage = F3.SkelTie.SkelGpbft.skelReceiveMessageExpected ∧
    F3.Gen.SkelGpbft.skelHandleDecision = F3.SkelTie.SkelGpbft.skelHandleDecisionExpected ∧
    F3.Gen.SkelGpbft.skelReceiveOne = F3.SkelTie.SkelGpbft.skelReceiveOneExpected ∧
    F3.Gen.SkelGpbft.skelPostReceive = F3.SkelTie.SkelGpbft.skelPostReceiveExpected ∧
    F3.Gen.SkelGpbft.skelTryQuality = F3.SkelTie.SkelGpbft.skelTryQualityExpected ∧
    F3.Gen.SkelGpbft.skelTryConverge = F3.SkelTie.SkelGpbft.skelTryConvergeExpected ∧
    F3.Gen.SkelGpbft.skelTryPrepare = F3.SkelTie.SkelGpbft.skelTryPrepareExpected ∧
    F3.Gen.SkelGpbft.skelTryCommit = F3.SkelTie.SkelGpbft.skelTryCommitExpected ∧
    F3.Gen.SkelGpbft.skelTryDecide = F3.SkelTie.SkelGpbft.skelTryDecideExpected ∧
    F3.Gen.SkelGpbft.skelBeginDecide = F3.SkelTie.SkelGpbft.skelBeginDecideExpected ∧
    F3.Gen.SkelGpbft.skelSkipToRound = F3.SkelTie.SkelGpbft.skelSkipToRoundExpected ∧
    F3.Gen.SkelGpbft.skelTryRebroadcast = F3.SkelTie.SkelGpbft.skelTryRebroadcastExpected ∧
    F3.Gen.SkelGpbft.skelReceiveEachPrefix = F3.SkelTie.SkelGpbft.skelReceiveEachPrefixExpected ∧
    F3.Gen.SkelGpbft.skelFindStrongQuorumFor = F3.SkelTie.SkelGpbft.skelFindStrongQuorumForExpected ∧
    F3.Gen.SkelGpbft.skelBeginInstance = F3.SkelTie.SkelGpbft.skelBeginInstanceExpected ∧
    F3.Gen.SkelGpbft.skelReceiveAlarm = F3.SkelTie.SkelGpbft.skelReceiveAlarmExpected ∧
    F3.Gen.SkelGpbft.skelHasBase = F3.SkelTie.SkelGpbft.skelHasBaseExpected ∧
    F3.Gen.SkelGpbft.skelTipSetEqual = F3.SkelTie.SkelGpbft.skelTipSetEqualExpected ∧
    F3.Gen.SkelGpbft.skelChainEq = F3.SkelTie.SkelGpbft.skelChainEqExpected ∧
    F3.Gen.SkelGpbft.skelReceiveMany = F3.SkelTie.SkelGpbft.skelReceiveManyExpected ∧
    F3.Gen.SkelGpbft.skelShouldSkipToRound = F3.SkelTie.SkelGpbft.skelShouldSkipToRoundExpected ∧
    F3.Gen.SkelPower.skelScalePower = F3.SkelTie.SkelPower.skelScalePowerExpected ∧
    F3.Gen.SkelPower.skelPowerTableCopy = F3.SkelTie.SkelPower.skelPowerTableCopyExpected ∧
    F3.Gen.SkelPower.skelRescale = F3.SkelTie.SkelPower.skelRescaleExpected :=
  ⟨F3.SkelTie.SkelGpbft.skelQueueAdd_expected, F3.SkelTie.SkelGpbft.skelQueueDrain_expected, F3.SkelTie.SkelGpbft.skelReceiveMessage_expected, F3.SkelTie.SkelGpbft.skelHandleDecision_expected, F3.SkelTie.SkelGpbft.skelReceiveOne_expected, F3.SkelTie.SkelGpbft.skelPostReceive_expected, F3.SkelTie.SkelGpbft.skelTryQuality_expected, F3.SkelTie.SkelGpbft.skelTryConverge_expected, F3.SkelTie.SkelGpbft.skelTryPrepare_expected, F3.SkelTie.SkelGpbft.skelTryCommit_expected, F3.SkelTie.SkelGpbft.skelTryDecide_expected, F3.SkelTie.SkelGpbft.skelBeginDecide_expected, F3.SkelTie.SkelGpbft.skelSkipToRound_expected, F3.SkelTie.SkelGpbft.skelTryRebroadcast_expected, F3.SkelTie.SkelGpbft.skelReceiveEachPrefix_expected, F3.SkelTie.SkelGpbft.skelFindStrongQuorumFor_expected, F3.SkelTie.SkelGpbft.skelBeginInstance_expected, F3.SkelTie.SkelGpbft.skelReceiveAlarm_expected, F3.SkelTie.SkelGpbft.skelHasBase_expected, F3.SkelTie.SkelGpbft.skelTipSetEqual_expected, F3.SkelTie.SkelGpbft.skelChainEq_expected, F3.SkelTie.SkelGpbft.skelReceiveMany_expected, F3.SkelTie.SkelGpbft.skelShouldSkipToRound_expected, F3.SkelTie.SkelPower.skelScalePower_expected, F3.SkelTie.SkelPower.skelPowerTableCopy_expected, F3.SkelTie.SkelPower.skelRescale_expected⟩

end Skeletons
end F3.Props.C02
