import F3.Proofs.SkelTieWal
import F3.Proofs.NodeGen2Wal
import F3.Proofs.WalRead
import F3.Gen.Wal
import F3.Proofs.WalCbor
import F3.Gen.Schema
/-!
# C11 — WAL: acknowledged entries survive crashes and torn writes; purge is conservative

All theorems are about `F3.Wal.step` / `F3.Wal.run` (`F3/Model/Wal.lean`, the definitions the driver
`f3d_wal` executes against the real `internal/writeaheadlog`), for **every** operation history
(`open`, `append` with rotation, `rotate`, `close`, `purge k`, `all`, `crash`, and a crash in the middle
of an append that leaves any prefix `take n` of the record's encoding in the file), every
configuration (rotation threshold, token weights) and every record codec satisfying `Codec.Ok`
(non-empty, self-delimiting encodings none of whose strict prefixes decodes).

Ghost state: `acked` = acknowledged appends whose file has not been purged, tagged with the file they
went to; `inflight` = appends that were cut by a crash.
-/
namespace F3.Props.C11
open F3.Wal
variable {α β : Type}

/-- Acknowledgement is recorded: an `append` that returns `ok` puts its entry into `acked`. -/
theorem append_acknowledged (cfg : Cfg α β) (s : State α β) (e : α) (nm : Name)
    (h : (step cfg s (.append e nm)).2 = .ok) : ∃ f, (f, e) ∈ (step cfg s (.append e nm)).1.acked :=
  append_ok_acked h

/-- `All()` never fails while an object is open (after any history). -/
theorem all_succeeds (cfg : Cfg α β) (hc : cfg.codec.Ok) (ops : List (Op α)) (m : Mem)
    (hm : (run cfg init ops).mem = some m) : ∃ r, (step cfg (run cfg init ops) .all).2 = .entries r :=
  ⟨_, (inv_reachable hc ops).all_eq hm⟩

/-- **Acknowledged entries survive.** After any history — any number of restarts, crashes, torn tails,
rotations, purges — every acknowledged entry whose file has not been purged is returned by `All()`,
intact, under the file it was written to. -/
theorem acked_survive (cfg : Cfg α β) (hc : cfg.codec.Ok) (ops : List (Op α)) (r : List (Name × α))
    (hr : (step cfg (run cfg init ops) .all).2 = .entries r) :
    ∀ p ∈ (run cfg init ops).acked, p ∈ r :=
  ((inv_reachable hc ops).all_char hc hr).2.1

/-- **Per-file order.** The entries `All()` returns for one file start with that file's acknowledged
entries in append order (at most the one record of a crashed append follows). -/
theorem acked_in_order (cfg : Cfg α β) (hc : cfg.codec.Ok) (ops : List (Op α)) (r : List (Name × α))
    (hr : (step cfg (run cfg init ops) .all).2 = .entries r) (nm : Name)
    (hnm : nm ∈ (run cfg init ops).dir.names) :
    ackedOf (run cfg init ops) nm <+: (r.filter (fun p => p.1 = nm)).map (·.2) :=
  let ⟨t, ht, _⟩ := ((inv_reachable hc ops).all_char hc hr).2.2 nm hnm
  ⟨t, ht.symm⟩

/-- **No phantoms (state form).** Everything `All()` returns is an acknowledged entry or the entry of
an append that a crash interrupted. -/
theorem no_phantoms (cfg : Cfg α β) (hc : cfg.codec.Ok) (ops : List (Op α)) (r : List (Name × α))
    (hr : (step cfg (run cfg init ops) .all).2 = .entries r) :
    ∀ p ∈ r, p ∈ (run cfg init ops).acked ∨ p ∈ (run cfg init ops).inflight :=
  ((inv_reachable hc ops).all_char hc hr).1

/-- **No phantoms (history form).** Every entry `All()` returns was the argument of an append of the
history (acknowledged, or cut by a crash). -/
theorem no_phantoms_history (cfg : Cfg α β) (hc : cfg.codec.Ok) (ops : List (Op α)) (r : List (Name × α))
    (hr : (step cfg (run cfg init ops) .all).2 = .entries r) :
    ∀ p ∈ r, (∃ nm, Op.append p.2 nm ∈ ops) ∨ (∃ nm n, Op.crashAppend p.2 nm n ∈ ops) := by
  intro p hp
  rcases no_phantoms cfg hc ops r hr p hp with h | h
  · rcases acked_from_history cfg ops init p h with h' | h'
    · simp [init] at h'
    · exact Or.inl h'
  · rcases inflight_from_history cfg ops init p h with h' | h'
    · simp [init] at h'
    · exact Or.inr h'

/-- An acknowledged entry remains acknowledged across any operation other than a purge above its
epoch. -/
theorem acked_until_purged (cfg : Cfg α β) (hc : cfg.codec.Ok) (ops : List (Op α)) (op : Op α)
    (p : Name × α) (hp : p ∈ (run cfg init ops).acked) :
    p ∈ (step cfg (run cfg init ops) op).1.acked ∨ ∃ k, op = .purge k ∧ cfg.epoch p.2 < k :=
  (inv_reachable hc ops).acked_persists hc op hp

/-- **Durability, end to end.** If an append is acknowledged after history `ops₁`, then after *any*
continuation `ops₂` (restarts, crashes, torn appends, rotations, purges, further appends) a successful
`All()` returns that entry — unless the continuation contains a purge strictly above its epoch. -/
theorem wal_durability (cfg : Cfg α β) (hc : cfg.codec.Ok) (ops₁ ops₂ : List (Op α)) (e : α) (nm : Name)
    (hack : (step cfg (run cfg init ops₁) (.append e nm)).2 = .ok)
    (r : List (Name × α))
    (hr : (step cfg (run cfg (step cfg (run cfg init ops₁) (.append e nm)).1 ops₂) .all).2 = .entries r) :
    (∃ f, (f, e) ∈ r) ∨ ∃ k, Op.purge k ∈ ops₂ ∧ cfg.epoch e < k := by
  obtain ⟨f, hf⟩ := append_ok_acked hack
  have hinv := inv_step hc (inv_reachable hc ops₁) (.append e nm)
  rcases persists_run cfg hc ops₂ _ hinv (f, e) hf with h | h
  · exact Or.inl ⟨f, ((inv_run hc hinv ops₂).all_char hc hr).2.1 _ h⟩
  · exact Or.inr h

/-- **Purge is conservative.** Purging below `k` removes no acknowledged entry at or above `k`: it stays
acknowledged (so, by `acked_survive`, readable) and its file stays in the directory. -/
theorem purge_conservative (cfg : Cfg α β) (hc : cfg.codec.Ok) (ops : List (Op α)) (k : Nat) (p : Name × α)
    (hp : p ∈ (run cfg init ops).acked) (hk : k ≤ cfg.epoch p.2) :
    p ∈ (step cfg (run cfg init ops) (.purge k)).1.acked ∧
    p.1 ∈ (step cfg (run cfg init ops) (.purge k)).1.dir.names := by
  have hinv := inv_reachable hc ops
  rcases hinv.acked_persists hc (.purge k) hp with h | ⟨k', hk', hlt⟩
  · exact ⟨h, (inv_step hc hinv (.purge k)).ackedNames p h⟩
  · cases hk'; omega

/-- **Purge is complete for closed files.** After `purge k` (`k > 0`) no closed file remains all of whose
decodable records are below `k`. (For `k = 0` nothing is below the epoch and nothing is removed.) -/
theorem purge_complete_closed (cfg : Cfg α β) (hc : cfg.codec.Ok) (ops : List (Op α)) (k : Nat) (hk : 0 < k)
    (m : Mem) (hm : (run cfg init ops).mem = some m) (st : Stat) (hst : st ∈ m.logFiles)
    (hall : ∀ e ∈ readFile cfg.codec (((run cfg init ops).dir.get st.name).getD []), cfg.epoch e < k) :
    st.name ∉ (step cfg (run cfg init ops) (.purge k)).1.dir.names := by
  have h := inv_reachable hc ops
  rw [step_purge_names hm]
  intro hin
  have hq := (List.mem_filter.mp hin).2
  have hlt : st.maxEpoch < k := by
    rw [h.stats m hm st (Or.inl hst)]
    exact (maxEpochOf_lt_iff cfg _ k hk).mpr hall
  have : st.name ∈ purgeDel m k := mem_purgeDel.mpr ⟨st, hst, hlt, rfl⟩
  simp [this] at hq

/-- Purge never removes the active file. -/
theorem purge_keeps_active (cfg : Cfg α β) (hc : cfg.codec.Ok) (ops : List (Op α)) (k : Nat)
    (m : Mem) (hm : (run cfg init ops).mem = some m) (st : Stat) (ha : m.active = some st) :
    st.name ∈ (step cfg (run cfg init ops) (.purge k)).1.dir.names :=
  (inv_reachable hc ops).purge_keeps_active hm k ha

/-- **A crash and restart loses and invents nothing.** Whatever `All()` returns in a reachable state, it
returns the same entries (file by file; only the order of the files may differ) after the process dies
and the log is reopened. -/
theorem restart_preserves_content (cfg : Cfg α β) (hc : cfg.codec.Ok) (ops : List (Op α)) (r : List (Name × α))
    (hr : (step cfg (run cfg init ops) .all).2 = .entries r) :
    ∃ r', (step cfg (run cfg init (ops ++ [.crash, .open])) .all).2 = .entries r' ∧ r'.Perm r := by
  rw [run_append]
  exact (inv_reachable hc ops).restart_preserves_content hc hr

/-- The file being appended to never ends in a torn record: it holds exactly the encodings of its
acknowledged entries. -/
theorem active_file_untorn (cfg : Cfg α β) (hc : cfg.codec.Ok) (ops : List (Op α))
    (m : Mem) (hm : (run cfg init ops).mem = some m) (st : Stat) (ha : m.active = some st) :
    (run cfg init ops).dir.get st.name = some (encAll cfg.codec (ackedOf (run cfg init ops) st.name)) :=
  (inv_reachable hc ops).active_content hm ha

/-- **A restarted log never appends to an old file**: the first acknowledged append after `open` goes
to a file name that did not exist in the directory. -/
theorem restart_appends_to_fresh_file (cfg : Cfg α β) (s : State α β) (e : α) (nm : Name)
    (h : (step cfg (step cfg s .open).1 (.append e nm)).2 = .ok) : nm ∉ s.dir.names := by
  have hs := step_cases cfg (step cfg s .open).1 (.append e nm)
  generalize step cfg (step cfg s .open).1 (.append e nm) = r at hs h
  cases hs with
  | appendSame _ _ m st hm ha => cases Option.some.inj hm; simp [hydrate] at ha
  | appendFresh _ _ m _ hn => exact hn
  | down _ hm _ => cases h
  | appendExists _ _ _ _ _ => cases h

/-! ## Codec instances (the hypotheses are satisfiable) -/

theorem tokCodec_ok : tokCodec.Ok where
  nonempty := by intro e; simp [tokCodec]
  roundtrip := by intro e rest; simp [tokCodec]
  torn := by
    intro e n hn
    have : n = 0 ∨ n = 1 := by simp [tokCodec] at hn; omega
    rcases this with rfl | rfl <;> simp [tokCodec]

theorem lpCodec_ok : lpCodec.Ok where
  nonempty := by intro e; simp [lpCodec]
  roundtrip := by intro e rest; simp [lpCodec]
  torn := by
    intro e n hn
    cases n with
    | zero => simp [lpCodec]
    | succ n =>
      simp only [lpCodec, List.length_cons] at hn
      simp only [lpCodec, List.take_succ_cons, List.length_take]
      have : ¬ e.length ≤ min n e.length := by omega
      simp [this]

private def cfgT : Cfg DEntry Tok := tokCfg 10
private def e1 : DEntry := ⟨1, 3, 8⟩
private def e2 : DEntry := ⟨2, 4, 8⟩
private def e3 : DEntry := ⟨3, 5, 8⟩

/-- append, rotation by size (threshold 10, records of weight 8), torn append, restart: the acknowledged
entries come back under their files, the torn one does not. -/
example :
    (step cfgT (run cfgT init [.open, .append e1 "a", .append e2 "a2", .append e3 "b", .crashAppend e3 "c" 1, .open]) .all).2
      = (.entries [("a", e1), ("a", e2), ("b", e3)] : Res DEntry) := by decide

/-- the same with the whole record written but never acknowledged: it may come back (and nothing else). -/
example :
    (step cfgT (run cfgT init [.open, .append e1 "a", .crashAppend e2 "x" 2, .open]) .all).2
      = (.entries [("a", e1), ("a", e2)] : Res DEntry) := by decide

/-- the hypotheses of `wal_durability` are met by a concrete history with a restart and a purge below
the entry's epoch in the continuation. -/
example : (step cfgT (run cfgT init [.open]) (.append e3 "a")).2 = (.ok : Res DEntry) ∧
    (step cfgT (run cfgT (step cfgT (run cfgT init [.open]) (.append e3 "a")).1 [.crash, .open, .purge 5]) .all).2
      = (.entries [("a", e3)] : Res DEntry) := by decide

/-- purge removes the closed file whose entries are all below the epoch and keeps the active one. -/
example : (run cfgT init [.open, .append e1 "a", .rotate, .append e3 "b", .purge 4]).dir.names = ["b"] := by decide

/-- … and keeps a closed file holding an entry at the purge epoch (`purge_conservative` is not vacuous). -/
example : (run cfgT init [.open, .append e1 "a", .rotate, .append e3 "b", .purge 3]).dir.names = ["a", "b"] := by decide

/-! ## Regenerated: the rotation decision of `maybeRotate` as it stands in `internal/writeaheadlog/wal.go`

`F3.Gen.Wal.maybeRotate` is translated on every run (`tools/go2lean/targets.d/Wal.json`) from the whole
function: no active file → `rotate()` (code 1); `Stat()` failed → error (code 2); `stats.Size() >
rotateAt` → `rotate()` (1), else `nil` (0). The constant `rotateAt` (`1 << 20`) is read from the source. -/

/-- the code `maybeRotate` of the source returns in the situation of the model (no `Stat` failure; the
file size is the model's `fileSize` of the active file) -/
def rotateCode {α β : Type} (cfg : Cfg α β) (d : Dir β) (m : Mem) : Int :=
  match m.active with
  | none => F3.Gen.Wal.maybeRotate false 0 false
  | some st => F3.Gen.Wal.maybeRotate false (fileSize cfg ((d.get st.name).getD []) : Nat) true

/-- **The model's rotation rule is the source's.** With the threshold of the source (`cfg.rotateAt` =
the value the driver runs with), for every directory and handle state `maybeRotate` of the model rotates
exactly when the regenerated function says `rotate()`, and otherwise leaves everything untouched. Changing
the comparison or the constant `rotateAt` in `wal.go` breaks this. -/
theorem maybe_rotate_is_regenerated {α β : Type} (cfg : Cfg α β) (d : Dir β) (m : Mem) (nm : Name)
    (hr : cfg.rotateAt = 1048576) :
    maybeRotate cfg d m nm = if rotateCode cfg d m = 1 then rotate d m nm else (d, m, true) := by
  unfold maybeRotate rotateCode F3.Gen.Wal.maybeRotate
  cases m.active with
  | none => rfl
  | some st =>
    -- the source compares the size as an `int64`, the model as a natural number: the cast preserves `>`
    have cast : ∀ n : Nat, (n : Int) > 1048576 ↔ n > 1048576 := fun _ => Int.ofNat_lt (n := 1048576)
    generalize fileSize cfg ((d.get st.name).getD []) = n
    simp [hr, cast]

/-- `maybeRotate` is what `Append` runs first: its only call site, from the source -/
theorem maybe_rotate_call_site :
    F3.Gen.Wal.callSites = [("internal/writeaheadlog/wal.go", "maybeRotate", [])] := by decide

-- non-vacuity: both decisions at the boundary, and the no-active-file case
example : F3.Gen.Wal.maybeRotate false 1048576 true = 0 ∧ F3.Gen.Wal.maybeRotate false 1048577 true = 1 ∧
    F3.Gen.Wal.maybeRotate false 0 false = 1 ∧ F3.Gen.Wal.maybeRotate true 0 true = 2 := by decide
example : rotateCode (tokCfg 1048576) [("a", [])] ⟨[], some ⟨"a", 0⟩⟩ = 0 ∧
    rotateCode (tokCfg 1048576) [] ⟨[], none⟩ = 1 := by decide

/-! ## The record format of the real log: cbor-gen records

Everything above holds for every codec with `Codec.Ok`.  The deployed log
(`writeaheadlog.Open[walEntry]`, `/repo/f3.go`) stores `walEntry{Message *gpbft.GMessage}` records;
`walEntry.MarshalCBOR` / `UnmarshalCBOR` (`/repo/wal.go`, hand-written, three lines each — `walEntry` is
*not* in `gen/main.go` and has no generated codec of its own) delegate to `GMessage.MarshalCBOR` /
`UnmarshalCBOR` without adding a byte, so a record is exactly one `GMessage` tuple and its schema is the
entry `gpbft.GMessage` of the table `F3.Gen.Schema`, regenerated from the Go sources on every run.

`cborCodec sch` (`F3/Model/WalCbor.lean`) is the WAL codec whose `enc` is `F3.Cbor.encode sch` and whose
`dec1` is `F3.Cbor.decode sch` (value **and unread rest**) over bytes; its records `Rec sch` are the
values the generated encoder accepts (`Append` returns the encoder's error before writing anything; a nil
`Message` — written as the single byte `0xf6`, after which `WALEpoch` dereferences nil — is outside the
value domain: `BroadcastMessage`, the only caller, has dereferenced the message before).
`cbor_codec_ok` proves `Codec.Ok` for it — in particular *torn at any byte*: on every strict prefix of an
encoding the generated decoder fails (with end-of-input), by induction on the schema — for **every**
well-formed schema of a Go type, hence for every type of the table (trailing `nullable` fields and empty
arrays included: the absent pointer is the byte `0xf6`, the empty array the head `0x80`, and a tuple's arity
is in its head).
-/
section CborRecords
open F3.Cbor F3.Codec

/-- The schema of a WAL record: `gpbft.GMessage` as extracted from the sources. -/
abbrev walSchema : Schema := Gen.Schema.gpbft_GMessage

/-- WAL records: `GMessage` values the generated encoder accepts. -/
abbrev WalRec : Type := Rec walSchema

/-- The codec of the deployed log. -/
def walCodec : Codec WalRec Nat := cborCodec walSchema

/-- The deployed configuration: `WALEpoch` = `Message.Vote.Instance`, file size counted in bytes,
`rotateAt = 1 << 20` (the constant `maybe_rotate_is_regenerated` reads from the source). -/
def walCfg : Cfg WalRec Nat := ⟨walCodec, fun r => gmsgInstance r.1, fun _ => 1, 1048576⟩

/-- The record schema is an entry of the regenerated table, well-formed (encoder, decoder and struct tags
agree on every limit), and the schema of a Go type. -/
theorem wal_schema_is_regenerated :
    ("gpbft.GMessage", walSchema) ∈ Gen.Schema.table ∧ walSchema.wf = true ∧ walSchema.isRecord = true := by
  decide

/-- **A torn cbor-gen record never decodes.** For every well-formed schema, every value `v` the encoder
accepts and every `n` below the length of the encoding, the generated decoder fails on the first `n`
bytes — with end of input, whatever the schema (optional trailing fields, empty slices, nested tuples). -/
theorem torn_record_rejected (s : Schema) (hwf : s.wf = true) (v : Value) (b : Bytes)
    (he : encode s v = some b) (n : Nat) (hn : n < b.length) : decode s (b.take n) = .error .eof :=
  decode_torn s hwf v b he _ (sprefix_take b n hn)

/-- **cbor-gen records satisfy `Codec.Ok`**: non-empty encodings, `decode (encode v ++ rest) = (v, rest)`,
no strict prefix of an encoding decodes. -/
theorem cbor_codec_ok (sch : Schema) (hwf : sch.wf = true) (hr : sch.isRecord = true) : (cborCodec sch).Ok :=
  F3.Wal.cborCodec_ok sch hwf hr

/-- `Codec.Ok` for every type that has a generated codec (every entry of the regenerated table). -/
theorem cbor_codec_ok_every_type (name : String) (s : Schema) (hmem : (name, s) ∈ Gen.Schema.table) :
    (cborCodec s).Ok := by
  have h : ∀ p ∈ Gen.Schema.table, p.2.wf = true ∧ p.2.isRecord = true := by decide
  exact F3.Wal.cborCodec_ok s (h _ hmem).1 (h _ hmem).2

theorem walCodec_ok : walCodec.Ok :=
  F3.Wal.cborCodec_ok walSchema wal_schema_is_regenerated.2.1 wal_schema_is_regenerated.2.2

/-- **Acknowledged CBOR records survive**: `acked_survive` for the log of `GMessage` records, bytes as
tokens — any history, crashes tearing an append at any byte included. -/
theorem acked_survive_cbor (cfg : Cfg WalRec Nat) (hcodec : cfg.codec = walCodec) (ops : List (Op WalRec))
    (r : List (Name × WalRec)) (hr : (step cfg (run cfg init ops) .all).2 = .entries r) :
    ∀ p ∈ (run cfg init ops).acked, p ∈ r :=
  acked_survive cfg (hcodec ▸ walCodec_ok) ops r hr

/-- **No phantoms, CBOR records**: everything `All()` decodes from the byte files was the argument of an
append of the history (acknowledged, or cut by a crash — and then written completely). -/
theorem no_phantoms_cbor (cfg : Cfg WalRec Nat) (hcodec : cfg.codec = walCodec) (ops : List (Op WalRec))
    (r : List (Name × WalRec)) (hr : (step cfg (run cfg init ops) .all).2 = .entries r) :
    ∀ p ∈ r, (p ∈ (run cfg init ops).acked ∨ p ∈ (run cfg init ops).inflight) ∧
      ((∃ nm, Op.append p.2 nm ∈ ops) ∨ (∃ nm n, Op.crashAppend p.2 nm n ∈ ops)) :=
  fun p hp => ⟨no_phantoms cfg (hcodec ▸ walCodec_ok) ops r hr p hp,
               no_phantoms_history cfg (hcodec ▸ walCodec_ok) ops r hr p hp⟩

/-- **Durability end to end, CBOR records**: an acknowledged `GMessage` is returned, intact, by every
later successful `All()` — after restarts, crashes, appends torn at any byte `n`, rotations — unless a
purge strictly above its epoch intervened. -/
theorem wal_durability_cbor (cfg : Cfg WalRec Nat) (hcodec : cfg.codec = walCodec)
    (ops₁ ops₂ : List (Op WalRec)) (e : WalRec) (nm : Name)
    (hack : (step cfg (run cfg init ops₁) (.append e nm)).2 = .ok)
    (r : List (Name × WalRec))
    (hr : (step cfg (run cfg (step cfg (run cfg init ops₁) (.append e nm)).1 ops₂) .all).2 = .entries r) :
    (∃ f, (f, e) ∈ r) ∨ ∃ k, Op.purge k ∈ ops₂ ∧ cfg.epoch e < k :=
  wal_durability cfg (hcodec ▸ walCodec_ok) ops₁ ops₂ e nm hack r hr

/-- **The reader is plain `UnmarshalCBOR`.** `cborCodec.dec1` re-checks that the decoded value is one
the encoder accepts (it has to return a `WalRec`); `rawCodec` is the loop of `readLogFile` as it is —
`UnmarshalCBOR` until the first error, no re-check.  On every file of every reachable directory the two
return the same values: the re-check is never exercised. -/
theorem reads_are_plain_cbor_decoding (cfg : Cfg WalRec Nat) (hcodec : cfg.codec = walCodec)
    (ops : List (Op WalRec)) (nm : Name) (bs : Bytes) (hmem : (nm, bs) ∈ (run cfg init ops).dir) :
    readFile (rawCodec walSchema) bs = (readFile cfg.codec bs).map (·.1) := by
  have hinv := inv_reachable (hcodec ▸ walCodec_ok : cfg.codec.Ok) ops
  obtain ⟨hwf, hrec⟩ := wal_schema_is_regenerated.2
  rcases hinv.content nm bs hmem with h | ⟨_, e, k, _, h⟩
  · rw [h, hcodec]; exact readFile_raw_eq_complete hwf hrec _
  · rw [h, hcodec]; exact readFile_raw_eq hwf hrec _ e k

/-- sender, `Vote{Instance, Round 0, Phase 1, SupplementalData{32 zero bytes, CID 01 71 00 00}, empty chain}`,
a 2-byte signature, empty ticket, no justification -/
private def gmsg (sender inst : Nat) : Value :=
  .cons (.uint sender)
    (.cons (.cons (.uint inst) (.cons (.uint 0) (.cons (.uint 1)
        (.cons (.cons (.bytes (List.replicate 32 0)) (.cons (.bytes [1, 113, 0, 0]) .nil)) (.cons .nil .nil)))))
      (.cons (.bytes [7, 7]) (.cons (.bytes []) (.cons .null .nil))))

private def m0 : WalRec := ⟨gmsg 1 7, by decide⟩
private def m1 : WalRec := ⟨gmsg 2 9, by decide⟩

/-- the 55 bytes of the record -/
example : walCodec.enc m0 =
    [133, 1, 133, 7, 0, 1, 130, 88, 32] ++ List.replicate 32 0 ++ [216, 42, 69, 0, 1, 113, 0, 0, 128, 66, 7, 7, 64, 246] := by
  decide +kernel

/-- every one of the 55 strict prefixes is rejected — also the 54-byte one that lacks only the `0xf6` of
the absent (trailing, optional) justification — by the codec reader and by plain `decode` -/
example : ((List.range (walCodec.enc m0).length).all fun n =>
    (walCodec.dec1 ((walCodec.enc m0).take n)).isNone &&
    decide (decode walSchema ((walCodec.enc m0).take n) = .error .eof)) = true := by decide +kernel

/-- the full encoding is accepted and the bytes after it are handed back untouched -/
example : walCodec.dec1 (walCodec.enc m0 ++ [133, 2]) = some (m0, [133, 2]) := by decide +kernel

/-- why this is not `encode_prefix_free`: the decoder accepts byte strings no encoder writes (here `0xf6`
instead of `0x80` for the empty chain, byte 50) — they are complete records, never cut ones -/
example : decode walSchema ([133, 1, 133, 7, 0, 1, 130, 88, 32] ++ List.replicate 32 0 ++
    [216, 42, 69, 0, 1, 113, 0, 0, 246, 66, 7, 7, 64, 246]) = .ok (m0.1, []) := by decide +kernel

example : walCfg.epoch m0 = 7 := by decide +kernel

/-- a byte-level history: `m1` torn one byte before its end does not come back after the restart, … -/
example : (step walCfg (run walCfg init [.open, .append m0 "a", .crashAppend m1 "a" 54, .open]) .all).2
    = (.entries [("a", m0)] : Res WalRec) := by decide +kernel

/-- … written completely (but never acknowledged) it does; nothing else ever appears. -/
example : (step walCfg (run walCfg init [.open, .append m0 "a", .crashAppend m1 "a" 55, .open]) .all).2
    = (.entries [("a", m0), ("a", m1)] : Res WalRec) := by decide +kernel

/-- the hypotheses of `wal_durability_cbor` are met by a history with a torn append and a restart -/
example : walCfg.codec = walCodec ∧ (step walCfg (run walCfg init [.open]) (.append m0 "a")).2 = (.ok : Res WalRec) ∧
    (step walCfg (run walCfg (step walCfg (run walCfg init [.open]) (.append m0 "a")).1
      [.crashAppend m1 "b" 20, .open, .purge 7]) .all).2 = (.entries [("a", m0)] : Res WalRec) :=
  ⟨rfl, by decide +kernel, by decide +kernel⟩

end CborRecords

/-! ## Regenerated: which files `Purge` deletes (`internal/writeaheadlog/wal.go`)

Proved in `F3/Proofs/NodeGen2Wal.lean` against `F3/Gen/Wal2.lean` (`targets.d/Wal2.json`). -/

/-- the closed files kept and the names deleted by the model's `purge k` are selected by the source's
`c.maxEpoch < keepEpoch` (statement: `F3.Gen2Tie.purge_selection_is_regenerated`) -/
theorem purge_selection_is_regenerated : type_of% @F3.Gen2Tie.purge_selection_is_regenerated :=
  @F3.Gen2Tie.purge_selection_is_regenerated

/-- `os.Remove` of the selected file is the only file-system call of `Purge` -/
theorem purge_call_site :
    F3.Gen.Wal2.callSites =
      [("internal/writeaheadlog/wal.go", "Remove", ["filepath.Join(wal.path, c.logName)"])] :=
  F3.Gen2Tie.purge_call_site

example : F3.Gen.Wal2.purgeDeletes 3 4 = true ∧ F3.Gen.Wal2.purgeDeletes 4 4 = false := by decide


/-- **The Go functions this property's models mirror still have the statement structure the models were written
against**: each regenerated skeleton (pre-order list of statement kinds, `tools/go2lean/skel.go`) equals the pinned
expectation of `F3/Proofs/SkelTie*.lean`. An added early return, cap, loop or dropped branch in one of these functions
breaks this obligation even when no regenerated *expression* changes. -/
theorem code_structure_as_modelled :
    F3.Gen.SkelWal.skelWalAppend = F3.SkelTie.SkelWal.skelWalAppendExpected ∧
    F3.Gen.SkelWal.skelWalPurge = F3.SkelTie.SkelWal.skelWalPurgeExpected ∧
    F3.Gen.SkelWal.skelWalClose = F3.SkelTie.SkelWal.skelWalCloseExpected :=
  ⟨F3.SkelTie.SkelWal.skelWalAppend_expected, F3.SkelTie.SkelWal.skelWalPurge_expected, F3.SkelTie.SkelWal.skelWalClose_expected⟩

end F3.Props.C11
