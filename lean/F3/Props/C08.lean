import F3.Proofs.SkelTiePower
import F3.Gen.Core
import F3.Model.Power
import F3.Spec.Quorum
import F3.Model.Instance
import F3.Proofs.QuorumArith
/-!
# C08 — Quorum arithmetic is exact and quorums intersect on the whole power domain

All theorems about `isStrongQuorum`, `hasWeakQuorum`, `couldReachStrongQuorum`, `divCeil` are
about the definitions in `F3/Gen/Core.lean`, which are regenerated from `/repo/gpbft/gpbft.go`
on every run by `tools/go2lean`.
-/
namespace F3.Props.C08
open F3.Gen F3.GoInt F3.Power F3.Proofs.QuorumArith

theorem divCeil3_nonneg (a : Int) (h : 0 ≤ a) :
    3 * divCeil a 3 ≥ a ∧ 3 * divCeil a 3 < a + 3 :=
  divCeil3_bounds a h

/-- A set counts as a strong quorum exactly when it holds at least two thirds of the total. -/
theorem strong_iff (p w : Int) (hw : 0 ≤ w) : isStrongQuorum p w = true ↔ 3 * p ≥ 2 * w :=
  isStrongQuorum_iff p w hw

/-- Any two strong quorums (weights `a`,`b` of subsets of a total `w`) overlap in at least one
third of the total: the overlap of two subsets weighs at least `a + b - w`. -/
theorem strong_inter (a b w : Int) (hw : 0 ≤ w)
    (ha : isStrongQuorum a w = true) (hb : isStrongQuorum b w = true) :
    3 * (a + b - w) ≥ w := by
  rw [strong_iff _ _ hw] at ha hb; omega

/-- …which is more than any tolerated faulty coalition (`3·f < w`). -/
theorem strong_inter_exceeds_faulty (a b w f : Int) (hw : 0 ≤ w) (hf : 3 * f < w)
    (ha : isStrongQuorum a w = true) (hb : isStrongQuorum b w = true) :
    a + b - w > f := by
  have := strong_inter a b w hw ha hb; omega

/-- Anything counted as a weak quorum strictly exceeds one third. -/
theorem weak_gt_third (p w : Int) (hw : 0 ≤ w) (h : hasWeakQuorum p w = true) : 3 * p > w := by
  rw [hasWeakQuorum_iff p w hw] at h
  omega

/-- A weak quorum and a strong quorum intersect (so a weak quorum contains an honest member
whenever `3·f < w`; and a strong quorum's complement is never a weak quorum). -/
theorem weak_not_complement_of_strong (p s w : Int) (hw : 0 ≤ w)
    (hp : hasWeakQuorum p w = true) (hs : isStrongQuorum s w = true) : p + s > w := by
  have := weak_gt_third p w hw hp
  rw [strong_iff _ _ hw] at hs; omega

/-- A value reported as unable to reach a strong quorum indeed cannot reach one given the votes
already cast: whatever additional support `extra` comes from not-yet-voted power (plus, with the
adversary flag, up to ⌊w/3⌋ double-voted power), the support stays below a strong quorum. -/
theorem could_reach_sound (adv : Bool) (w voted support extra : Int) (hw : 0 ≤ w)
    (hsv : support ≤ voted) (_hvw : voted ≤ w) (_hs : 0 ≤ support)
    (hextra : extra ≤ (w - voted) + (if adv then Int.tdiv w 3 else 0))
    (hcap : support + extra ≤ w)
    (h : couldReachStrongQuorum adv w voted support = false) :
    isStrongQuorum (support + extra) w = false := by
  unfold couldReachStrongQuorum at h
  rw [Bool.eq_false_iff, ne_eq, strong_iff _ _ hw] at h ⊢
  -- `h`: even the possible support, capped at `w` by `min`, misses two thirds; `extra` is at most what was added to it
  cases adv <;> simp at h hextra <;> omega

/-- Conversely the report is exact: if it says "could reach", the remaining power suffices. -/
theorem could_reach_complete (w voted support : Int) (hw : 0 ≤ w)
    (hsv : support ≤ voted) (_hvw : voted ≤ w)
    (h : couldReachStrongQuorum false w voted support = true) :
    isStrongQuorum (support + (w - voted)) w = true := by
  unfold couldReachStrongQuorum at h
  rw [strong_iff _ _ hw] at h ⊢
  simp at h
  omega

/-- No intermediate of the quorum computations leaves int64 on the power domain (and far beyond:
any total up to 2^61). The intermediates are: `2*whole`, the quotient, remainder and `quo+1` of
`divCeil`, `unvoted`, `whole/3`, the three-term sum and the `min`. -/
theorem no_overflow (p w voted support : Int) (hw0 : 0 ≤ w) (hw : w ≤ 2 ^ 61)
    (hp0 : 0 ≤ p) (hp : p ≤ w) (hv0 : 0 ≤ voted) (hv : voted ≤ w) (hs0 : 0 ≤ support)
    (hs : support ≤ voted) :
    fits64 (2 * w) ∧ fits64 (Int.tdiv (2 * w) 3) ∧ fits64 (Int.tmod (2 * w) 3) ∧
    fits64 (Int.tdiv (2 * w) 3 + 1) ∧ fits64 (Int.tdiv w 3 + 1) ∧
    fits64 (w - voted) ∧ fits64 (support + (w - voted) + Int.tdiv w 3) ∧
    fits64 (divCeil (2 * w) 3) ∧ fits64 (divCeil w 3) := by
  have a := divCeil3_nonneg (2 * w) (by omega)
  have b := divCeil3_nonneg w hw0
  have h2 : (0:Int) ≤ 2 * w := by omega
  simp only [Int.tdiv_eq_ediv_of_nonneg h2, Int.tmod_eq_emod_of_nonneg h2,
    Int.tdiv_eq_ediv_of_nonneg hw0]
  -- every one of them lies between 0 and 2w + 1
  unfold fits64
  omega

/-- The threshold call sites (extracted from the source on this run): the certificate validator,
message validator and tally all apply the same predicate `IsStrongQuorum` to a sum of scaled
powers and the scaled total of a power table. -/
theorem call_sites_agree :
    (callSites.filter (fun c => c.2.1 == "IsStrongQuorum")).map (fun c => (c.1, c.2.2)) =
      [("gpbft/gpbft.go", ["candidate.power", "q.powerTable.ScaledTotal"]),
       ("gpbft/gpbft.go", ["q.sendersTotalPower", "q.powerTable.ScaledTotal"]),
       ("gpbft/gpbft.go", ["possibleSupport", "q.powerTable.ScaledTotal"]),
       ("gpbft/gpbft.go", ["justificationPower", "q.powerTable.ScaledTotal"]),
       ("gpbft/validator.go", ["justificationPower", "comt.PowerTable.ScaledTotal"]),
       ("certs/certs.go", ["signerPowers", "totalScaled"])] :=
  rfl

/-! ## Scaled powers (hand model `F3.Power`, tied by correspondence) -/

theorem scalePower_le (p t : Nat) (h : p ≤ t) (_ht : 0 < t) : scalePower p t ≤ 65535 := by
  unfold scalePower maxPower
  apply Nat.div_le_of_le_mul
  have : 65535 * p ≤ 65535 * t := Nat.mul_le_mul_left _ h
  simpa [Nat.mul_comm] using this

theorem scalePower_mono (p q t : Nat) (h : p ≤ q) : scalePower p t ≤ scalePower q t := by
  unfold scalePower
  exact Nat.div_le_div_right (Nat.mul_le_mul_left _ h)

theorem sum_scaled_mul_le (ns : List Nat) (t : Nat) :
    sum (ns.map (fun p => scalePower p t)) * t ≤ maxPower * sum ns := by
  induction ns with
  | nil => simp [sum]
  | cons x xs ih =>
    simp only [List.map, sum]
    have hx : scalePower x t * t ≤ maxPower * x := by
      unfold scalePower; exact Nat.div_mul_le_self _ _
    rw [Nat.add_mul, Nat.mul_add]
    omega

/-- Scaled powers of any power table sum to at most 65 535. -/
theorem scaled_sum_le (ps : List Int) (sc : List Nat) (tot : Nat)
    (h : scaled ps = some (sc, tot)) : tot ≤ 65535 := by
  obtain ⟨rfl, rfl⟩ := scaled_eq_some h
  have key := sum_scaled_mul_le (ps.map Int.toNat) (sum (ps.map Int.toNat))
  by_cases ht : sum (ps.map Int.toNat) = 0
  · -- total 0 ⇒ every scaled power is x/0 = 0
    have : ∀ ns : List Nat, sum (ns.map (fun p => scalePower p 0)) = 0 := by
      intro ns; induction ns with
      | nil => rfl
      | cons x xs ih =>
        simp only [List.map, sum, ih]; simp [scalePower]
    rw [ht, this]; omega
  · exact Nat.le_of_mul_le_mul_right key (Nat.pos_of_ne_zero ht)

theorem sum_ge_mem (ns : List Nat) (x : Nat) (h : x ∈ ns) : x ≤ sum ns := by
  induction ns with
  | nil => simp at h
  | cons y ys ih =>
    simp only [List.mem_cons] at h
    simp only [sum]
    rcases h with h | h
    · omega
    · have := ih h; omega

/-- Each scaled power is at most 65 535, and scaling preserves order. -/
theorem scaled_each_le (ps : List Int) (sc : List Nat) (tot : Nat)
    (h : scaled ps = some (sc, tot)) : ∀ s ∈ sc, s ≤ 65535 := by
  intro s hs
  have hle := scaled_sum_le ps sc tot h
  have := sum_ge_mem sc s hs
  rw [← (scaled_eq_some h).2] at this
  omega

theorem scaled_order_preserving (ps : List Int) (sc : List Nat) (tot : Nat)
    (h : scaled ps = some (sc, tot)) (i j : Nat) (hi : i < ps.length) (hj : j < ps.length)
    (hij : ps[i] ≤ ps[j]) :
    sc[i]?.getD 0 ≤ sc[j]?.getD 0 := by
  obtain ⟨rfl, _⟩ := scaled_eq_some h
  simp only [List.getElem?_map, List.getElem?_eq_getElem hi, List.getElem?_eq_getElem hj,
    Option.map_some, Option.getD_some]
  apply scalePower_mono
  omega

/-- The domain the quorum functions are applied on is therefore `0 ≤ part ≤ whole ≤ 65535`,
inside the no-overflow range. -/
theorem power_domain_no_overflow (ps : List Int) (sc : List Nat) (tot : Nat)
    (h : scaled ps = some (sc, tot)) : (tot : Int) ≤ 2 ^ 61 := by
  have := scaled_sum_le ps sc tot h; omega

example : isStrongQuorum 2 3 = true ∧ isStrongQuorum 1 3 = false ∧ hasWeakQuorum 2 3 = true
    ∧ hasWeakQuorum 1 3 = false := by decide
example : couldReachStrongQuorum false 30 25 5 = false ∧ couldReachStrongQuorum true 30 25 5 = true := by
  decide
example : scaled [10, 20, 30] = some ([10922, 21845, 32767], 65534) := by decide

/-! ## The predicates the tally executes are the code's

The instance model's tally (`F3.Instance.weakQ`, `Tally.couldReach`, `strongQ`) and the quorum driver
evaluate the hand-written `F3.Spec.Quorum.{strong, weak, couldReach}`; the theorems above are about the
definitions regenerated from `gpbft/gpbft.go`. They are the same functions wherever the total is
non-negative (`whole` is a sum of scaled powers) — for EVERY part / voted / support, not only inside
the power domain `0 ≤ support ≤ voted ≤ w ≤ 65535`. Exact domains of agreement:
* `couldReach`: all integers (for a negative total both are constantly `false`: the `min … w` caps);
* `weak`: exactly the totals with `0 ≤ w ∨ w % 3 = 0` (`weak_agreement_domain`); below zero Go's
  truncating `/` makes `divCeil` overshoot by one;
* `strong`: proved for `0 ≤ w` (`strong_iff`); it differs below zero for the same reason (example below).
Inside the power domain `0 ≤ support ≤ voted ≤ w ≤ 65535` there is therefore NO disagreement. -/
section Bridges

theorem divCeil3_neg (a : Int) (h : a < 0) :
    divCeil a 3 = -((-a) / 3) + (if (-a) % 3 = 0 then 0 else 1) := by
  rw [divCeil3_eq]
  split <;> split <;> omega

theorem strong_is_the_codes_predicate (p w : Int) (hw : 0 ≤ w) :
    F3.Spec.Quorum.strong p w = isStrongQuorum p w := by
  rw [Bool.eq_iff_iff, strong_iff p w hw]
  simp [F3.Spec.Quorum.strong]

/-- `0 ≤ w` (or a multiple of 3) is exactly where the two weak-quorum rules agree: where `divCeil w 3` is the
ceiling `(w + 2) / 3`. -/
theorem weak_agreement_domain (w : Int) :
    (∀ p, F3.Spec.Quorum.weak p w = hasWeakQuorum p w) ↔ (0 ≤ w ∨ w % 3 = 0) := by
  have hd := divCeil3_eq w
  unfold F3.Spec.Quorum.weak hasWeakQuorum
  constructor
  · intro h
    -- at `p = divCeil w 3` the code's rule says no; so must the specification's
    have := h (divCeil w 3)
    simp only [gt_iff_lt, Int.lt_irrefl, decide_false, decide_eq_false_iff_not, Int.not_lt] at this
    split at hd <;> omega
  · intro h p
    rw [hd, if_neg (by omega), Int.add_zero]

/-- The weak-quorum rule the model's tally evaluates is `hasWeakQuorum` of `gpbft/gpbft.go`. -/
theorem weak_is_the_codes_predicate (p w : Int) (hw : 0 ≤ w) :
    F3.Spec.Quorum.weak p w = hasWeakQuorum p w :=
  (weak_agreement_domain w).mpr (.inl hw) p

/-- The "could still reach a strong quorum" rule the model's tally evaluates is
`quorumState.CouldReachStrongQuorumFor` of `gpbft/gpbft.go` (arguments in the order of the generated
definition: adversary flag, scaled total, power of the senders seen, power supporting the value) —
for all integers: no domain restriction is needed. -/
theorem could_reach_is_the_codes_predicate (adv : Bool) (w voted support : Int) :
    F3.Spec.Quorum.couldReach adv w voted support = couldReachStrongQuorum adv w voted support := by
  by_cases hw : 0 ≤ w
  · unfold F3.Spec.Quorum.couldReach couldReachStrongQuorum
    rw [strong_is_the_codes_predicate _ _ hw]
    cases adv
    · rfl
    · simp only [if_true, Int.tdiv_eq_ediv_of_nonneg hw]
  · -- a negative total: whatever is added, `min … w ≤ w` is below both thresholds
    have hd := divCeil3_eq (2 * w)
    have hge : w < divCeil (2 * w) 3 := by split at hd <;> omega
    have hl : ∀ x : Int, F3.Spec.Quorum.strong (min x w) w = false := by
      intro x
      unfold F3.Spec.Quorum.strong
      simp only [decide_eq_false_iff_not]
      omega
    have hr : ∀ x : Int, isStrongQuorum (min x w) w = false := by
      intro x
      unfold isStrongQuorum
      simp only [decide_eq_false_iff_not]
      omega
    unfold F3.Spec.Quorum.couldReach couldReachStrongQuorum
    simp only [hl, hr]

/-- `weakQ`, which the instance model's tally runs (`Tally.fromWeak`: the round-skip rule), is the code's
`hasWeakQuorum` on the table's scaled total -/
theorem weakQ_is_the_codes_predicate (t : F3.Instance.Table) (p : Nat) :
    F3.Instance.weakQ t p = hasWeakQuorum (p : Int) (t.total : Int) :=
  weak_is_the_codes_predicate _ _ (by omega)

/-- `Tally.couldReach` of the instance model is the code's `CouldReachStrongQuorumFor` applied to the
table's scaled total, the power of the senders seen and the power recorded for the value (0 if none) -/
theorem couldReach_is_the_codes_predicate (t : F3.Instance.Table) (q : F3.Instance.Tally)
    (c : F3.Instance.Chain) (adv : Bool) :
    q.couldReach t c adv =
      couldReachStrongQuorum adv (t.total : Int) (q.sendersPower : Int)
        (match q.findSupport c with | some s => (s.power : Int) | none => 0) := by
  unfold F3.Instance.Tally.couldReach
  exact could_reach_is_the_codes_predicate adv _ _ _

/-- hence the facts proved above about the regenerated predicates hold of what the tally executes:
a power the tally counts as a weak quorum strictly exceeds a third of the table … -/
theorem weakQ_gt_third (t : F3.Instance.Table) (p : Nat) (h : F3.Instance.weakQ t p = true) :
    3 * p > t.total := by
  rw [weakQ_is_the_codes_predicate] at h
  have := weak_gt_third _ _ (by omega) h
  omega

/-- … and a value the tally reports as unable to reach a strong quorum cannot reach one: whatever power
`extra` of members that have not voted yet is added to its support, `strongQ` stays false -/
theorem couldReach_false_sound (t : F3.Instance.Table) (q : F3.Instance.Tally) (c : F3.Instance.Chain)
    (sup : F3.Instance.Support) (hs : q.findSupport c = some sup) (hsv : sup.power ≤ q.sendersPower)
    (hvw : q.sendersPower ≤ t.total) (extra : Nat) (hextra : extra + q.sendersPower ≤ t.total)
    (h : q.couldReach t c false = false) : F3.Instance.strongQ t (sup.power + extra) = false := by
  rw [couldReach_is_the_codes_predicate, hs] at h
  have := could_reach_sound false (t.total : Int) (q.sendersPower : Int) (sup.power : Int) (extra : Int)
    (by omega) (by omega) (by omega) (by omega) (by simp; omega) (by omega) h
  unfold F3.Instance.strongQ
  rw [strong_is_the_codes_predicate _ _ (by omega)]
  simpa using this

-- non-vacuity, and the domain is exact: below a zero total the hand-written and the generated
-- weak rules differ (never reached: totals are sums of scaled powers)
example : F3.Spec.Quorum.weak 1 (-1) = true ∧ hasWeakQuorum 1 (-1) = false := by decide
example : F3.Spec.Quorum.strong (-1) (-1) = false ∧ isStrongQuorum 0 (-1) = false ∧
    F3.Spec.Quorum.strong 0 (-1) = true := by decide
example : F3.Instance.weakQ { entries := [(1, 3), (2, 3), (3, 3)] } 4 = true ∧
    F3.Instance.weakQ { entries := [(1, 3), (2, 3), (3, 3)] } 3 = false := by decide
example : F3.Spec.Quorum.couldReach false 30 25 5 = false ∧ F3.Spec.Quorum.couldReach true 30 25 5 = true := by
  decide

end Bridges

end F3.Props.C08

namespace F3.Props.C08
section Skeletons

/-- **The Go functions this property's models mirror still have the statement structure the models were written
against**: each regenerated skeleton (pre-order list of statement kinds, `tools/go2lean/skel.go`) equals the recorded
expectation of `F3/Proofs/SkelTie*.lean`. An added early return, cap, loop or dropped branch in one of these functions
breaks this obligation even when no regenerated *expression* changes. -/
theorem code_structure_as_modelled :
    F3.Gen.SkelPower.skelScalePower = F3.SkelTie.SkelPower.skelScalePowerExpected ∧
    F3.Gen.SkelPower.skelPowerTableCopy = F3.SkelTie.SkelPower.skelPowerTableCopyExpected ∧
    F3.Gen.SkelPower.skelRescale = F3.SkelTie.SkelPower.skelRescaleExpected :=
  ⟨F3.SkelTie.SkelPower.skelScalePower_expected, F3.SkelTie.SkelPower.skelPowerTableCopy_expected, F3.SkelTie.SkelPower.skelRescale_expected⟩

end Skeletons
end F3.Props.C08
