import F3.Proofs.SkelTieGpbft
import F3.Proofs.InstanceGen
import F3.Proofs.EmittedValidParticipantEx
/-!
# C07 — protocol discipline of an honest participant (Layer B, on the executable model of `gpbft.go`)

All statements are about `F3.Instance.step` / `run`, the same definitions the driver executes against the
real `gpbft.Participant` on every check run. Hypotheses: the messages delivered are validated ones
(`OpOk`: DECIDE votes are for round 0), and the run reported no internal error or panic
(`hasFailure … = false`; that this holds of the implementation is observed per op by the C07 oracle).
-/
namespace F3.Props.C07
open F3.Instance
/-- the slot of a broadcast effect -/
def slotOf : Eff → Option (Nat × Phase)
  | .broadcast r ph _ _ _ => some (r, ph)
  | _ => none

/-- the progress point of a progress notification -/
def progOf : Eff → Option (Nat × Nat)
  | .progress r ph => some (r, ph.toNat)
  | _ => none

theorem evs_bc (es : List Eff) :
    (evs es).filter Ev.isBc = (es.filterMap slotOf).map (fun p => Ev.bc p.1 p.2) := by
  rw [evs, List.filter_filterMap, List.map_filterMap]
  congr 1
  funext e
  cases e <;> rfl

theorem evs_prog (es : List Eff) :
    ((evs es).filter Ev.isProg).map Ev.pt = es.filterMap progOf := by
  rw [evs, List.filter_filterMap, List.map_filterMap]
  congr 1
  funext e
  cases e <;> rfl

/-- **At most one message per instance, round and step.** For every configuration, power table, input
chain and every sequence of starts, alarms (at any times) and validated messages (any senders, any
contents, any order, duplicates included): the participant never requests two broadcasts for the same
(round, phase). -/
theorem emit_once (cfg : Cfg) (tbl : Table) (input : Chain) (ops : List Op)
    (hops : ∀ op ∈ ops, OpOk op) (hnf : hasFailure (run (init cfg tbl input) ops).2 = false) :
    ((run (init cfg tbl input) ops).2.filterMap slotOf).Nodup := by
  have h := (runFrom_wp (init cfg tbl input) ops (DQ_init cfg tbl input) hops hnf).1
  have hn := h.bc_nodup
  rw [evs_bc] at hn
  exact (List.pairwise_map.1 hn).imp (fun h heq => h (by rw [heq]))

/-- **Progress never moves backwards.** The (round, phase) points notified by the participant are strictly
increasing (round first, then phase), the first one is above `(0, INITIAL)`, and once DECIDE is reached
the round no longer changes (so TERMINATED is final). -/
theorem progress_monotone (cfg : Cfg) (tbl : Table) (input : Chain) (ops : List Op)
    (hops : ∀ op ∈ ops, OpOk op) (hnf : hasFailure (run (init cfg tbl input) ops).2 = false) :
    ((run (init cfg tbl input) ops).2.filterMap progOf).Pairwise ptLt ∧
    ptLe (0, 0) (run (init cfg tbl input) ops).1.pt := by
  have h := (runFrom_wp (init cfg tbl input) ops (DQ_init cfg tbl input) hops hnf).1
  have hs := h.prog_sorted
  rw [evs_prog] at hs
  exact ⟨hs.1, h.le⟩

/-- The state's own (round, phase) only moves forward along any such run, from any reachable state. -/
theorem state_progress_monotone (s : State) (ops : List Op) (hq : DQ s)
    (hops : ∀ op ∈ ops, OpOk op) (hnf : hasFailure (runFrom s ops).2 = false) :
    ptLe s.pt (runFrom s ops).1.pt :=
  (runFrom_wp s ops hq hops hnf).1.le

/-- Every broadcast is for the progress point entered by the same call (DECIDE being labelled round 0):
in the (progress, broadcast) skeleton each broadcast immediately follows the notification of its point. -/
theorem broadcast_follows_progress (cfg : Cfg) (tbl : Table) (input : Chain) (ops : List Op)
    (hops : ∀ op ∈ ops, OpOk op) (hnf : hasFailure (run (init cfg tbl input) ops).2 = false) :
    WP (0, 0) (evs (run (init cfg tbl input) ops).2) (run (init cfg tbl input) ops).1.pt :=
  (runFrom_wp (init cfg tbl input) ops (DQ_init cfg tbl input) hops hnf).1

/-- TERMINATED is absorbing: an alarm is a no-op and a message is refused. -/
theorem terminated_absorbing (s : State) (h : s.phase = .terminated) (now : Int) (m : Msg) :
    step s (.alarm now) = (s, []) ∧ (step s (.recv now m)).1 = s := by
  constructor
  · simp [step, State.tryCurrentPhase, h]
  · simp [step, h]

/-! ### What it votes for is determined by what it has received -/

theorem addCandidate_proposal (s : State) (c : Chain) : (s.addCandidate c).1.proposal = s.proposal :=
  F3.Instance.addCandidate_proposal s c

theorem addCandidatePrefixes_proposal (s : State) (c : Chain) : (s.addCandidatePrefixes c).1.proposal = s.proposal :=
  F3.Instance.addCandidatePrefixes_proposal s c

/-- **Round-0 PREPARE value.** When QUALITY ends (quorum for the whole input, or timeout) the PREPARE
broadcast carries exactly `longestPrefixWithQuorum` of the input over the QUALITY votes delivered so far. -/
theorem prepare0_value (s : State) (now : Int) (r : Nat) (v : Chain) (t : Bool) (j : Option Just)
    (h : Eff.broadcast r .prepare v t j ∈ (s.tryQuality now).2) :
    s.phase = .quality ∧ r = s.round ∧ v = s.quality.longestPrefixWithQuorum s.input ∧ j = none := by
  refine tryQuality_ind s now
    (fun _ h => by simp at h) (fun _ _ h => by simp at h) (fun hq _ cs _ h => ?_) h
  obtain ⟨hr, _, hv, hj⟩ := F3.EmittedValid.beginPrepare_bc' _ _ _ _ _ _ _ _ h
  exact ⟨hq, hr, hv, hj⟩

/-- `longestPrefixWithQuorum` returns the preferred chain itself, or a prefix of it with a strong quorum, or
its base; and nothing longer has a quorum. -/
theorem longest_prefix_spec (q : Tally) (c : Chain) :
    (q.longestPrefixWithQuorum c = c ∨ q.longestPrefixWithQuorum c = baseChain c ∨
      ∃ i, i < c.length ∧ q.longestPrefixWithQuorum c = prefixTo c i) ∧
    (q.longestPrefixWithQuorum c = baseChain c ∨ q.hasStrongFor (q.longestPrefixWithQuorum c) = true) ∧
    (q.hasStrongFor c = true → q.longestPrefixWithQuorum c = c) := by
  refine ⟨?_, F3.EmittedValid.longest_prefix_sat q c, F3.SyncGeneral.lpq_strong q c⟩
  by_cases hc : c = []
  · subst hc; exact Or.inr (Or.inl (by simp [Tally.longestPrefixWithQuorum, baseChain]))
  · obtain ⟨j, hj, h⟩ := F3.SyncGeneral.lpOf_take q.hasStrongFor c hc
    exact Or.inr (Or.inr ⟨j, hj, h⟩)

theorem commit_bottom_value (s : State) (now : Int) (r : Nat) (t : Bool) (j : Option Just)
    (h : Eff.broadcast r .commit [] t j ∈ (s.beginCommit now).2) : s.value = [] :=
  (F3.EmittedValid.beginCommit_bc' s now r .commit [] t j h).2.2.1.symm

/-- **No COMMIT for bottom while holding a strong PREPARE quorum, nor before the timeout unless the quorum has
become impossible.** If the end of PREPARE broadcasts COMMIT for bottom then the participant holds no
strong quorum (nor forwarded evidence of one) for its proposal, and either that quorum can no longer be
reached given the votes cast, or the PREPARE timeout has expired with a strong quorum of senders heard. -/
theorem commit_bottom_rule (s : State) (now : Int) (r : Nat) (t : Bool) (j : Option Just)
    (h : Eff.broadcast r .commit [] t j ∈ (s.tryPrepare now).2) (hp : s.proposal ≠ []) :
    s.prepFoundQuorum = false ∧ s.prepFoundJust = false ∧
      (s.prepNotPossible = true ∨ s.prepComplete now = true) := by
  refine tryPrepare_ind s now (fun _ h => by simp at h)
    (fun _ hdone v hpv h => ?_)
    (fun _ _ v _ _ h => absurd h (F3.EmittedValid.not_bc_of_evs_nil (tryRebroadcast_evs _ now)))
    (fun _ _ v _ _ h => by simp at h) h
  have hv : (s.prepareValue now).value = [] := by rw [hpv]; exact commit_bottom_value _ now r t j h
  unfold State.prepareValue at hv
  split at hv
  · exact absurd hv hp
  · rename_i h1
    simp only [Bool.or_eq_true, not_or, Bool.not_eq_true] at h1
    exact ⟨h1.1, h1.2, by simpa [h1.1, h1.2] using hdone⟩

/-- **CONVERGE adoption.** At the CONVERGE timeout the participant prepares the first lowest-rank value
among those acceptable to it (`findBest` over candidates and PREPARE-justified values that could have been
decided): so the best-ticket value is adopted whenever it is a candidate. -/
theorem converge_adopts_best_valid (s : State) (now : Int) (r : Nat) (v : Chain) (t : Bool) (j : Option Just)
    (h : Eff.broadcast r .prepare v t j ∈ (s.tryConverge now).2) :
    s.phase = .converge ∧ s.phaseTimeoutElapsed now = true ∧
    ∃ w, (s.getRound s.round).converged.findBest (fun cv =>
        s.isCandidate cv.chain || (cv.just.phase == .prepare &&
          (s.getRound (s.round - 1)).committed.couldReach s.tbl cv.chain true)) = some w ∧
      v = w.chain ∧ j = some w.just := by
  refine tryConverge_ind s now (fun _ h => by simp at h)
    (fun _ _ _ h => absurd h (F3.EmittedValid.not_bc_of_evs_nil (tryRebroadcast_evs s now)))
    (fun _ _ _ h => by simp at h) (fun _ _ _ h => by simp at h) (fun hq hto w hw _ cs _ h => ?_) h
  obtain ⟨_, _, rfl, rfl⟩ := F3.EmittedValid.beginPrepare_bc' _ _ _ _ _ _ _ _ h
  exact ⟨hq, hto, w, hw, rfl, rfl⟩

/-! ### Non-vacuity: a concrete run with equivocation satisfying every hypothesis -/

def exCfg : Cfg := { maxLookahead := 2, rebImmediateAfter := 3, timeout2 := [100], qualityTimeout2 := 100, rebAfter := [50] }
def exTbl : Table := { entries := [(1, 30000), (2, 20000), (3, 15534)] }
def exOps : List Op :=
  [.start 0,
   .recv 1 { sender := 1, round := 0, phase := .quality, value := [7, 8] },
   .recv 2 { sender := 2, round := 0, phase := .quality, value := [7, 8] },
   .recv 3 { sender := 1, round := 0, phase := .prepare, value := [7, 8] },
   .recv 4 { sender := 2, round := 0, phase := .prepare, value := [7, 8] },
   .recv 5 { sender := 3, round := 0, phase := .prepare, value := [7, 9] },
   .recv 6 { sender := 3, round := 0, phase := .prepare, value := [7, 8] },  -- equivocation: ignored
   .alarm 500]

example : (∀ op ∈ exOps, OpOk op) ∧ hasFailure (run (init exCfg exTbl [7, 8]) exOps).2 = false ∧
    (run (init exCfg exTbl [7, 8]) exOps).2.filterMap slotOf =
      [(0, .quality), (0, .prepare), (0, .commit)] := by
  refine ⟨?_, by decide +kernel⟩
  intro op hop
  simp only [exOps, List.mem_cons, List.mem_nil_iff, or_false] at hop
  rcases hop with rfl | rfl | rfl | rfl | rfl | rfl | rfl | rfl <;> simp [OpOk, MsgOk]

/-! ## The same discipline at the participant API (`gpbft/participant.go`)

`pstepWith order` is `Participant.ReceiveMessage` / `ReceiveAlarm` for the current instance — what the
correspondence driver replays against the real `gpbft.Participant`: messages arriving before the instance has
begun are queued (`messageQueue.Add`), the first alarm begins the instance and drains the queue through
`instance.ReceiveMany` in the sender order `order` (Go: map iteration order — any order is possible, so the
theorems quantify over it). `prun order (pinit cfg tbl input) ops` runs a whole sequence of such calls. -/
section ParticipantAPI

/-- **At most one message per instance, round and step, at the participant API.** For every configuration, power
table, input chain, drain order and every sequence of `ReceiveMessage` / `ReceiveAlarm` calls over validated
messages (any senders, contents, order, duplicates; before or after the instance begins) that reports no internal
error or panic: the participant never requests two broadcasts for the same (round, phase) — the broadcasts made
while draining the pre-start queue through `ReceiveMany` included. -/
theorem emit_once_participant (cfg : Cfg) (tbl : Table) (input : Chain) (order : List Pid) (ops : List POp)
    (hops : ∀ op ∈ ops, POpOk op) (hnf : hasFailure (prun order (pinit cfg tbl input) ops).2 = false) :
    ((prun order (pinit cfg tbl input) ops).2.filterMap slotOf).Nodup := by
  have h := (prun_wp order (pinit cfg tbl input) ops (DQ_pinit cfg tbl input) (by simp [pinit]) hops hnf).1
  have hn := h.bc_nodup
  rw [evs_bc] at hn
  exact (List.pairwise_map.1 hn).imp (fun h heq => h (by rw [heq]))

/-- **Progress never moves backwards, at the participant API.** The (round, phase) points notified by the
participant over any such sequence of calls and any drain order are strictly increasing, and the final point is
above `(0, INITIAL)`. -/
theorem progress_monotone_participant (cfg : Cfg) (tbl : Table) (input : Chain) (order : List Pid) (ops : List POp)
    (hops : ∀ op ∈ ops, POpOk op) (hnf : hasFailure (prun order (pinit cfg tbl input) ops).2 = false) :
    ((prun order (pinit cfg tbl input) ops).2.filterMap progOf).Pairwise ptLt ∧
    ptLe (0, 0) (prun order (pinit cfg tbl input) ops).1.inst.pt := by
  have h := (prun_wp order (pinit cfg tbl input) ops (DQ_pinit cfg tbl input) (by simp [pinit]) hops hnf).1
  have hs := h.prog_sorted
  rw [evs_prog] at hs
  exact ⟨hs.1, h.le⟩

/-- Every broadcast made through the participant API is for the progress point entered by the same call: the
(progress, broadcast) skeleton of the whole run is well paired. -/
theorem broadcast_follows_progress_participant (cfg : Cfg) (tbl : Table) (input : Chain) (order : List Pid)
    (ops : List POp) (hops : ∀ op ∈ ops, POpOk op)
    (hnf : hasFailure (prun order (pinit cfg tbl input) ops).2 = false) :
    WP (0, 0) (evs (prun order (pinit cfg tbl input) ops).2) (prun order (pinit cfg tbl input) ops).1.inst.pt :=
  (prun_wp order (pinit cfg tbl input) ops (DQ_pinit cfg tbl input) (by simp [pinit]) hops hnf).1

/-- `ReceiveMany` on its own: a failure-free drain of any round-sorted list of validated messages is a sequence
of `receiveOne`s followed by at most one `postReceive`, never run on a terminated instance. -/
theorem receiveMany_is_micro_run (s : State) (now : Int) (ms : List Msg) (hq : DQ s)
    (hms : ∀ m ∈ ms, MsgOk m) (hsorted : RoundSorted ms)
    (hnf : hasFailure (s.receiveMany now ms).2 = false) :
    ∃ mops, mrun s mops = s.receiveMany now ms ∧ MOK MsgOk s mops :=
  receiveMany_micro MsgOk (fun _ h => h) now s ms hq (fun m hm => Or.inr (hms m hm)) hsorted hnf

/-- what the drain hands to `ReceiveMany`, for every sender order: queued messages only, in non-decreasing round
order; and the queue holds at most one message per (sender, round, phase). -/
theorem drain_facts (order : List Pid) (p : PState) (m : Msg) :
    (∀ x ∈ drainWith order p.queue, x ∈ p.queue) ∧ RoundSorted (drainWith order p.queue) ∧
    (p.queue.Pairwise (fun a b => ¬ sameSlot a b) → (p.queueAdd m).queue.Pairwise (fun a b => ¬ sameSlot a b)) :=
  ⟨fun x hx => drainWith_mem order p.queue x hx, drainWith_sorted order p.queue, queueAdd_slots p m⟩

/-! ### Non-vacuity: three messages queued before the instance begins — a PREPARE arriving before QUALITY, a
late-binding reject (wrong base) and a QUALITY vote — drained at the first alarm, then a run to COMMIT -/

def exPOps : List POp :=
  [.recv 1 { sender := 1, round := 0, phase := .prepare, value := [7, 8] },   -- PREPARE before QUALITY: queued
   .recv 2 { sender := 3, round := 0, phase := .prepare, value := [9, 9] },   -- wrong base: queued, dropped by the drain
   .recv 3 { sender := 1, round := 0, phase := .quality, value := [7, 8] },
   .alarm 4,                                                                 -- begins the instance, drains the queue
   .recv 5 { sender := 2, round := 0, phase := .quality, value := [7, 8] },
   .recv 6 { sender := 2, round := 0, phase := .prepare, value := [7, 8] },
   .recv 7 { sender := 3, round := 0, phase := .prepare, value := [7, 9] },
   .alarm 500]

example : (∀ op ∈ exPOps, POpOk op) ∧
    hasFailure (prun [3, 1] (pinit exCfg exTbl [7, 8]) exPOps).2 = false ∧
    (prun [3, 1] (pinit exCfg exTbl [7, 8]) (exPOps.take 3)).1.queue.length = 3 ∧
    ((prun [3, 1] (pinit exCfg exTbl [7, 8]) (exPOps.take 4)).1.inst.getRound 0).prepared.senders = [1] ∧
    (prun [3, 1] (pinit exCfg exTbl [7, 8]) exPOps).2.filterMap slotOf =
      [(0, .quality), (0, .prepare), (0, .commit)] := by
  refine ⟨?_, by decide +kernel⟩
  intro op hop
  simp only [exPOps, List.mem_cons, List.mem_nil_iff, or_false] at hop
  rcases hop with rfl | rfl | rfl | rfl | rfl | rfl | rfl | rfl <;> simp [POpOk, POpP, MsgOk]

/-! ### The round order of the drain is needed

`receiveMany_is_micro_run` (hence everything above) uses that `drainWith` hands over the queue in non-decreasing
round order: DECIDE votes (round 0) come before every message of a later round. On the same messages in another
order, `ReceiveMany` terminates the instance on the DECIDE quorum and then runs `postReceive` for round 1 — which
holds a CONVERGE value and a weak PREPARE quorum — on the terminated instance, leaving TERMINATED for CONVERGE of
round 1 with the decision still recorded. (Only `Participant.beginInstance` calls `ReceiveMany`, on `Drain()`'s
output, so the implementation is not affected; the example shows the hypothesis `RoundSorted` is not idle.) -/

def exUnsorted : List Msg :=
  [{ sender := 1, round := 1, phase := .converge, value := [7, 8], rank := 5,
     just := some { round := 0, phase := .commit, value := [], signers := [0, 1] } },
   { sender := 1, round := 1, phase := .prepare, value := [7, 8],
     just := some { round := 0, phase := .commit, value := [], signers := [0, 1] } },
   { sender := 1, round := 0, phase := .decide, value := [7, 8],
     just := some { round := 0, phase := .commit, value := [7, 8], signers := [0, 1] } },
   { sender := 2, round := 0, phase := .decide, value := [7, 8],
     just := some { round := 0, phase := .commit, value := [7, 8], signers := [0, 1] } }]

example :
    let s := ((init exCfg exTbl [7, 8]).beginQuality 0).1
    (∀ m ∈ exUnsorted, MsgOk m) ∧ ¬ RoundSorted exUnsorted ∧
    hasFailure (s.receiveMany 1 exUnsorted).2 = false ∧
    (s.receiveMany 1 exUnsorted).1.phase = .converge ∧ (s.receiveMany 1 exUnsorted).1.round = 1 ∧
    (s.receiveMany 1 exUnsorted).1.termination.isSome = true ∧
    -- … while the sorted list meets every hypothesis of `receiveMany_is_micro_run` and stays terminated
    DQ s ∧ (∀ m ∈ sortStable exUnsorted, MsgOk m) ∧ RoundSorted (sortStable exUnsorted) ∧
    hasFailure (s.receiveMany 1 (sortStable exUnsorted)).2 = false ∧
    (s.receiveMany 1 (sortStable exUnsorted)).1.phase = .terminated := by
  have hall : ∀ m ∈ exUnsorted, MsgOk m := ?_
  refine ⟨hall, ?_, by decide +kernel, by decide +kernel, by decide +kernel, by decide +kernel,
    ⟨fun _ => rfl, fun h => absurd h (by decide)⟩, fun m hm => hall m ((sortStable_mem _ m).1 hm),
    sortStable_sorted _, by decide +kernel⟩
  rotate_left
  · intro m hm
    simp only [exUnsorted, List.mem_cons, List.mem_nil_iff, or_false] at hm
    rcases hm with rfl | rfl | rfl | rfl <;> simp [MsgOk]
  · intro h
    have := (List.pairwise_cons.1 h).1 _ (List.mem_cons_of_mem _ (List.mem_cons_of_mem _ List.mem_cons_self))
    simp at this

end ParticipantAPI

section Regenerated
/-! ## Regenerated: the pre-checks of `receiveOne` and of `messageQueue.Add` as they stand in the source

`F3.Gen.Instance.{isSpammable, receiveOnePre, queueAddDropsSpam, queueAddIsDuplicate}` are translated from
`gpbft/gpbft.go` / `gpbft/participant.go` on every run (`tools/go2lean/targets.d/Instance.json`):
`receiveOnePre` is the statement range of `receiveOne` from the instance check down to (excluding)
`msgRound := i.getRound(…)`, with the codes 0 = `return false, nil` (dropped), 1 = falls through to the
tallies, 2/3/4 = the three sentinel errors; the phase constants are read from `gpbft/types.go`; the
three method calls on the supplemental data / the value are parameters. -/
open F3.Proofs.InstanceGen F3.Proofs.GenTie

/-- the return codes of `receiveOnePre` in `targets.d/Instance.json` -/
def decodePre (c : Int) : Pre :=
  if c = 0 then .drop else if c = 1 then .accept else if c = 2 then .reject .wrongInstance
  else if c = 3 then .reject .wrongSupp else .reject .wrongBase

/-- `isSpammable` of the model is `isSpammable` of `gpbft.go`. -/
theorem is_spammable_is_regenerated (m : Msg) :
    isSpammable m = F3.Gen.Instance.isSpammable m.just.isSome (m.round : Int) := by
  unfold isSpammable F3.Gen.Instance.isSpammable
  rw [isNone_eq_not_isSome, ← Int.natCast_zero, cast_lt]

/-- **The model's pre-checks are the source's.** For every state and message — `id`/`mid` are any two
instance numbers whose equality is the model's `instOk` flag — the verdict of `State.recvPre` (reject with
which sentinel / silently drop / hand to the tallies) is the one the regenerated statement range of
`receiveOne` computes, as long as `current.Round + maxLookaheadRounds` does not wrap (the model adds in
`Nat`; the generated code wraps). The order of the checks, the prior-round rule for CONVERGE/PREPARE, the
look-ahead spam rule and the TERMINATED no-op are all covered. -/
theorem recv_pre_is_regenerated (s : State) (m : Msg) (id mid : Int) (hid : decide (mid = id) = m.instOk)
    (hw : s.round + s.cfg.maxLookahead < 2 ^ 64) :
    s.recvPre m = decodePre (F3.Gen.Instance.receiveOnePre id s.phase.toNat s.round s.cfg.maxLookahead
      m.just.isSome mid m.phase.toNat m.round m.suppOk (hasBase m.value s.input.head?) m.value.isEmpty) := by
  unfold State.recvPre F3.Gen.Instance.receiveOnePre F3.Gen.Instance.isSpammable isSpammable
  have a1 : decide (((s.phase.toNat : Nat) : Int) = 6) = (s.phase == .terminated) := (phase_beq_code _ .terminated).symm
  have a2 : decide (((m.phase.toNat : Nat) : Int) = 2) = (m.phase == .converge) := (phase_beq_code _ .converge).symm
  have a3 : decide (((m.phase.toNat : Nat) : Int) = 3) = (m.phase == .prepare) := (phase_beq_code _ .prepare).symm
  have a6 : decide ((m.round : Int) > 0) = decide (m.round > 0) := cast_lt 0 _
  rw [← Int.natCast_add, u64_of_lt _ (Int.natCast_nonneg _) (by omega)]
  -- after these rewrites both sides are the same chain of checks; `decodePre` is pushed to its leaves
  simp only [decide_not, hid, a1, a2, a3, a6, cast_lt, isNone_eq_not_isSome, apply_ite decodePre,
    Bool.and_or_distrib_left]
  rfl

/-- **`messageQueue.Add` of the model is the source's.** The two conditions under which a message queued
for a future instance is discarded — unjustified beyond `maxRound`, and same sender / round / phase as a
queued one — are the regenerated ones, for all rounds (no arithmetic is involved, so no range
hypothesis). -/
theorem queue_add_is_regenerated (p : PState) (m : Msg) :
    p.queueAdd m =
      if F3.Gen.Instance.queueAddDropsSpam m.just.isSome m.round p.inst.cfg.maxLookahead then p
      else if p.queue.any (fun q => q.sender == m.sender &&
          F3.Gen.Instance.queueAddIsDuplicate q.phase.toNat q.round m.phase.toNat m.round) then p
      else { p with queue := p.queue ++ [m] } := by
  unfold PState.queueAdd F3.Gen.Instance.queueAddDropsSpam F3.Gen.Instance.queueAddIsDuplicate
  have a2 : ∀ q : Msg, (q.sender == m.sender &&
        (decide ((q.round : Int) = (m.round : Int)) && decide ((q.phase.toNat : Int) = (m.phase.toNat : Int)))) =
      (q.sender == m.sender && q.round == m.round && q.phase == m.phase) := by
    intro q
    rw [cast_beq, ← phase_beq_code, Bool.and_assoc]
  simp only [cast_lt, a2, ← is_spammable_is_regenerated]

/-- `q.maxRound` is the participant's `maxLookaheadRounds`: the one constructor call, from the source -/
theorem queue_max_round_call_site :
    F3.Gen.Instance.callSites = [("gpbft/participant.go", "newMessageQueue", ["opts.maxLookaheadRounds"])] := by
  decide

-- non-vacuity: every verdict of the pre-checks is reached, by the model and by the generated code
example :
    let s := ((init exCfg exTbl [7, 8]).beginQuality 0).1
    s.recvPre { sender := 1, round := 0, phase := .quality, value := [7, 8] } = .accept ∧
    s.recvPre { sender := 1, round := 0, phase := .quality, value := [7, 8], instOk := false } = .reject .wrongInstance ∧
    s.recvPre { sender := 1, round := 0, phase := .quality, value := [9], suppOk := true } = .reject .wrongBase ∧
    s.recvPre { sender := 1, round := 9, phase := .prepare, value := [7, 8] } =
      (if 9 > exCfg.maxLookahead then .drop else .accept) := by decide
example : F3.Gen.Instance.receiveOnePre 4 1 3 5 false 4 3 2 true true false = 0 ∧   -- PREPARE of a prior round
    F3.Gen.Instance.receiveOnePre 4 1 3 5 false 4 4 2 true true false = 1 ∧          -- COMMIT of a prior round
    F3.Gen.Instance.receiveOnePre 4 1 3 5 false 4 4 9 true true false = 0 ∧          -- spam beyond look-ahead
    F3.Gen.Instance.receiveOnePre 4 1 3 5 true 4 4 9 true true false = 1 ∧           -- justified: kept
    F3.Gen.Instance.receiveOnePre 4 6 3 5 true 4 4 3 true true false = 0 ∧           -- TERMINATED
    F3.Gen.Instance.receiveOnePre 4 1 3 5 true 5 4 3 true true false = 2 ∧
    F3.Gen.Instance.receiveOnePre 4 1 3 5 true 4 4 3 false true false = 3 ∧
    F3.Gen.Instance.receiveOnePre 4 1 3 5 true 4 4 3 true false false = 4 := by decide
example : F3.Gen.Instance.queueAddDropsSpam false 7 5 = true ∧ F3.Gen.Instance.queueAddDropsSpam true 7 5 = false ∧
    F3.Gen.Instance.queueAddIsDuplicate 3 2 3 2 = true ∧ F3.Gen.Instance.queueAddIsDuplicate 3 2 4 2 = false := by decide

end Regenerated
/-! ## The discipline across consecutive instances (`gpbft/participant.go`: `ReceiveMessage`, `ReceiveAlarm`,
`beginInstance`, `handleDecision`, `beginNextInstance`, `StartInstanceAt`, `messageQueue`)

`mpstep` (`F3.Model.MultiParticipant`) is one call of `gpbft.Participant` with its instance counter `cur`
(`progression`), the running instance `active` (`p.gpbft`), one message queue per future instance
(`mqueue.messages`) and the `decisions` handed to the host; `mprun` runs a sequence of calls, each effect tagged with
the instance that was current. The correspondence driver replays it against the real participant in the
multi-instance network runs. `minit cfg c0` is the fresh participant at instance `c0`. -/
section ConsecutiveInstances

/-- **Isolation, past.** A message of a finished instance changes nothing and has no effects. -/
theorem finished_instance_message_dropped (s : MState) (now : Int) (m : IMsg) (h : m.inst < s.cur) :
    mpstep s (.recv now m) = (s, []) :=
  recv_finished s now m h

/-- **Isolation, future.** A message of a later instance, or of the current instance before it has begun, has no
effects and leaves `cur`, the running instance, the decisions, the configuration and every other instance's queue
untouched; the queue of its own instance receives it by `messageQueue.Add`. -/
theorem future_instance_message_queued (s : MState) (now : Int) (m : IMsg)
    (h : s.cur < m.inst ∨ (m.inst = s.cur ∧ s.active = none)) :
    (mpstep s (.recv now m)).2 = [] ∧
    (mpstep s (.recv now m)).1.cur = s.cur ∧ (mpstep s (.recv now m)).1.active = s.active ∧
    (mpstep s (.recv now m)).1.decisions = s.decisions ∧ (mpstep s (.recv now m)).1.cfg = s.cfg ∧
    (∀ j, j ≠ m.inst → queueOf (mpstep s (.recv now m)).1.queues j = queueOf s.queues j) ∧
    queueOf (mpstep s (.recv now m)).1.queues m.inst =
      queueAddL s.cfg.maxLookahead (queueOf s.queues m.inst) m.msg :=
  recv_queued s now m h

/-- **The queue rule is that of the single-instance participant** (`PState.queueAdd`), and spelled out: an
unjustified message beyond the look-ahead is not queued, a message whose (sender, round, phase) slot is taken is
not queued, any other message is appended. -/
theorem instance_queue_rule (look : Nat) (q : List Msg) (m : Msg) :
    (∀ p : PState, look = p.inst.cfg.maxLookahead → queueAddL look p.queue m = (p.queueAdd m).queue) ∧
    (look < m.round → isSpammable m = true → queueAddL look q m = q) ∧
    (∀ x ∈ q, sameSlot x m → queueAddL look q m = q) ∧
    (¬ (look < m.round ∧ isSpammable m = true) → (∀ x ∈ q, ¬ sameSlot x m) → queueAddL look q m = q ++ [m]) :=
  ⟨fun p h => queueAddL_eq_queueAdd look p m h, queueAddL_spam look q m, fun x hx hs => queueAddL_dup look q m x hx hs,
   queueAddL_fresh look q m⟩

/-- **Every queue of every reachable state** — whatever the calls, `StartInstanceAt` in any direction included —
**holds at most one message per (sender, round, phase) and no unjustified message beyond the look-ahead.** -/
theorem instance_queues_wellformed (cfg : Cfg) (c0 : Nat) (ops : List MPOp) (k : Nat) :
    (queueOf (mprun (minit cfg c0) ops).1.queues k).Pairwise (fun a b => ¬ sameSlot a b) ∧
    ∀ x ∈ queueOf (mprun (minit cfg c0) ops).1.queues k, ¬ (cfg.maxLookahead < x.round ∧ isSpammable x = true) := by
  have h := mprun_queuesOk (minit cfg c0) ops (minit_queuesOk cfg c0) k
  rw [mprun_cfg] at h
  exact h

/-- **One call other than `StartInstanceAt`**: either `cur` and `decisions` are unchanged, or exactly one decision —
for the instance that was current — is appended, `cur` increases by exactly one and no instance is running. -/
theorem instance_counter_step (s : MState) (op : MPOp) (h : op.isStartAt = false) :
    ((mpstep s op).1.cur = s.cur ∧ (mpstep s op).1.decisions = s.decisions) ∨
    ∃ d, (mpstep s op).1.cur = s.cur + 1 ∧ (mpstep s op).1.decisions = s.decisions ++ [(s.cur, d)] ∧
      (mpstep s op).1.active = none :=
  mpstep_counter s op h

/-- **Monotone instance counter.** Along any run without `StartInstanceAt`, `cur` never decreases and the
decisions appended by the run are for exactly the instances `cur, cur + 1, …, cur' - 1`, in this order: one decision
per increment, one increment per decision. -/
theorem instance_counter_run (s : MState) (ops : List MPOp) (h : noStartAt ops = true) :
    s.cur ≤ (mprun s ops).1.cur ∧
    ∃ ds : List (Nat × Just), (mprun s ops).1.decisions = s.decisions ++ ds ∧
      ds.map (·.1) = List.range' s.cur ((mprun s ops).1.cur - s.cur) :=
  mprun_counter s ops h

/-- **`decisions` is append-only** along every run, `StartInstanceAt` in any direction included. -/
theorem decisions_append_only (s : MState) (ops : List MPOp) : s.decisions <+: (mprun s ops).1.decisions :=
  mprun_decisions_prefix s ops

/-- `StartInstanceAt k` (any `k`: the Go code accepts every instance, smaller ones included): the counter becomes
`k`, the running instance is dropped without a decision being recorded, the queues of instances `≥ k` are kept and
those below `k` discarded; no effects. -/
theorem start_instance_at (s : MState) (k : Nat) :
    (mpstep s (.startAt k)).1.cur = k ∧ (mpstep s (.startAt k)).1.active = none ∧
    (mpstep s (.startAt k)).1.decisions = s.decisions ∧ (mpstep s (.startAt k)).2 = [] ∧
    (∀ j, k ≤ j → queueOf (mpstep s (.startAt k)).1.queues j = queueOf s.queues j) ∧
    (∀ j, j < k → queueOf (mpstep s (.startAt k)).1.queues j = []) :=
  mpstep_startAt s k

/-- **At most one decision per instance.** In a run from the fresh participant in which no `StartInstanceAt k` goes
backwards (`cur ≤ k` at the time of the call — `noBackward`), `cur` never decreases below its start, the instance
ids of the recorded decisions are strictly increasing and below `cur`, and no instance has two decisions. (With a
backward `StartInstanceAt` this fails: `F3.Bridge.ex_backward`, second example below.) -/
theorem one_decision_per_instance (cfg : Cfg) (c0 : Nat) (ops : List MPOp)
    (h : noBackward (minit cfg c0) ops = true) :
    c0 ≤ (mprun (minit cfg c0) ops).1.cur ∧
    ((mprun (minit cfg c0) ops).1.decisions.map (·.1)).Pairwise (· < ·) ∧
    (∀ e ∈ (mprun (minit cfg c0) ops).1.decisions, e.1 < (mprun (minit cfg c0) ops).1.cur) ∧
    ∀ k d d', (k, d) ∈ (mprun (minit cfg c0) ops).1.decisions → (k, d') ∈ (mprun (minit cfg c0) ops).1.decisions →
      d = d' := by
  have hs := mprun_decSorted (minit cfg c0) ops (minit_decSorted cfg c0) h
  exact ⟨hs.2, hs.1.1, hs.1.2, fun k d d' => decSorted_unique _ hs.1 k d d'⟩

/-- **At most one message per round and step, in every instance of a multi-instance run.** In a run from the fresh
participant in which `StartInstanceAt` only skips ahead (`forwardOnly`), over validated messages, for every
instance `k` that was begun and for which no internal error or panic was reported: the participant never requested
two broadcasts for the same (round, phase) of instance `k`. (`emit_once_participant` through the per-instance
projection `F3.Props.C01.consecutive_instances_projection`.) -/
theorem emit_once_consecutive_instances (cfg : Cfg) (c0 : Nat) (ops : List MPOp) (k : Nat) (tbl : Table)
    (input : Chain) (order : List Pid) (hfw : forwardOnly (minit cfg c0) ops = true)
    (hbeg : begunWith cfg c0 k ops = some (tbl, input, order))
    (hops : ∀ op ∈ ops, MPOpP MsgOk op)
    (hnf : hasFailure (effsOf k (mprun (minit cfg c0) ops).2) = false) :
    ((effsOf k (mprun (minit cfg c0) ops).2).filterMap slotOf).Nodup := by
  have hp := (instance_projection cfg c0 ops k tbl input order hfw hbeg).1
  rw [hp] at hnf ⊢
  exact emit_once_participant cfg tbl input order _ (opsOf_P MsgOk cfg c0 k ops hops) hnf

/-- **Progress never moves backwards within an instance of a multi-instance run**: the (round, phase) points
notified while instance `k` was current are strictly increasing. -/
theorem progress_monotone_consecutive_instances (cfg : Cfg) (c0 : Nat) (ops : List MPOp) (k : Nat) (tbl : Table)
    (input : Chain) (order : List Pid) (hfw : forwardOnly (minit cfg c0) ops = true)
    (hbeg : begunWith cfg c0 k ops = some (tbl, input, order))
    (hops : ∀ op ∈ ops, MPOpP MsgOk op)
    (hnf : hasFailure (effsOf k (mprun (minit cfg c0) ops).2) = false) :
    ((effsOf k (mprun (minit cfg c0) ops).2).filterMap progOf).Pairwise ptLt := by
  have hp := (instance_projection cfg c0 ops k tbl input order hfw hbeg).1
  rw [hp] at hnf ⊢
  exact (progress_monotone_participant cfg tbl input order _ (opsOf_P MsgOk cfg c0 k ops hops) hnf).1

/-- a run that reports no failure at all reports none for any instance -/
theorem no_failure_per_instance (k : Nat) (l : List (Nat × Eff)) (h : hasFailure (l.map (·.2)) = false) :
    hasFailure (effsOf k l) = false :=
  effsOf_nofail k l h

/-! ### Non-vacuity: the two-instance execution `F3.Instance.exMOps` (`F3.Proofs.MultiParticipantEx`: four equal
members; instance 0 decides `[7,8]`; a message for instance 1 arrives while instance 0 is running and is queued; a
message for instance 0 arrives after it finished and is dropped; instance 1 begins, drains its queue of three messages
and decides `[8,5]`) -/

/-- hypotheses of `finished_instance_message_dropped` (18th call: a DECIDE for instance 0 while `cur = 1`) and of
`future_instance_message_queued` (7th call: a message for instance 1 while instance 0 is running; 19th call: a message
for instance 1, current but not begun), and the queue of instance 1 just before it begins -/
example :
    (0 : Nat) < (mprun (minit mxCfg) (exMOps.take 17)).1.cur ∧
    (mprun (minit mxCfg) (exMOps.take 6)).1.cur < 1 ∧
    (mprun (minit mxCfg) (exMOps.take 6)).1.active.isSome = true ∧
    ((mprun (minit mxCfg) (exMOps.take 18)).1.cur = 1 ∧
      (mprun (minit mxCfg) (exMOps.take 18)).1.active.isNone = true) ∧
    (queueOf (mprun (minit mxCfg) (exMOps.take 20)).1.queues 1).map (·.sender) = [2, 1, 4] := by
  decide +kernel

/-- hypotheses of `instance_counter_run`, `one_decision_per_instance`, `emit_once_consecutive_instances` and
`progress_monotone_consecutive_instances` (both instances), and what they yield here -/
example :
    noStartAt exMOps = true ∧ noBackward (minit mxCfg) exMOps = true ∧
    forwardOnly (minit mxCfg) exMOps = true ∧
    begunWith mxCfg 0 0 exMOps = some (mxTbl, [7, 8], mxOrder) ∧
    begunWith mxCfg 0 1 exMOps = some (mxTbl, [8, 5], [1, 4, 2]) ∧
    (∀ op ∈ exMOps, MPOpP MsgOk op) ∧
    hasFailure ((mprun (minit mxCfg) exMOps).2.map (·.2)) = false ∧
    (mprun (minit mxCfg) exMOps).1.cur = 2 ∧
    (mprun (minit mxCfg) exMOps).1.decisions.map (fun e => (e.1, e.2.value)) = [(0, [7, 8]), (1, [8, 5])] ∧
    (effsOf 0 (mprun (minit mxCfg) exMOps).2).filterMap slotOf =
      [(0, .quality), (0, .prepare), (0, .commit), (0, .decide)] ∧
    (effsOf 1 (mprun (minit mxCfg) exMOps).2).filterMap slotOf =
      [(0, .quality), (0, .prepare), (0, .commit), (0, .decide)] := by
  refine ⟨ex_forward.1, ex_forward.2.1, ex_forward.2.2, ex_opsOf.2.2.1, ex_opsOf.2.2.2.1, ex_msgs_ok,
    ex_projection.2.2.2.2, by decide +kernel⟩

/-- **A backward `StartInstanceAt` breaks "one decision per instance"**: after instance 0 was decided,
`StartInstanceAt 0` makes the participant run instance 0 again (here with another proposal) and hand the host a
second, different decision for instance 0; `decisions` is still only appended to. -/
example :
    noBackward (minit mxCfg) exBackOps = false ∧
    (mprun (minit mxCfg) (exBackOps.take 18)).1.cur = 0 ∧
    (mprun (minit mxCfg) (exBackOps.take 18)).1.decisions.map (fun e => (e.1, e.2.value)) = [(0, [7, 8])] ∧
    (mprun (minit mxCfg) exBackOps).1.decisions.map (fun e => (e.1, e.2.value)) = [(0, [7, 8]), (0, [8, 5])] :=
  ⟨ex_backward.1, by decide +kernel, by decide +kernel, ex_backward.2.1⟩

/-- **`forwardOnly` is needed for the per-instance statements**: `StartInstanceAt 0` while instance 0 is running does
not go backwards but restarts the instance; the participant then broadcasts QUALITY a second time for instance 0 —
for another chain if the host proposes another one. (The production host calls `StartInstanceAt` only to skip
ahead: `host.go: receiveCertificate` returns when `currentInstance >= nextInstance`.) -/
example :
    noBackward (minit mxCfg) exRestartOps = true ∧ forwardOnly (minit mxCfg) exRestartOps = false ∧
    (effsOf 0 (mprun (minit mxCfg) exRestartOps).2).filterMap slotOf =
      [(0, .quality), (0, .prepare), (0, .quality)] :=
  ⟨ex_restart.1, ex_restart.2.1, by decide +kernel⟩

end ConsecutiveInstances

/-! ## No internal error, no panic

Every `panic(...)` site and every returned error of `gpbft.go` is an explicit effect of the model (`Eff.panic site`,
`Eff.err kind`). All theorems above take "no failure was reported" as a hypothesis; here it is proved: on validated
inputs the only failures the instance ever reports are the four refusals at the door. -/
section NoFailure

/-- **No internal error or panic.** For every configuration, every power table with positive total power, every
non-empty input chain, every set `W` of existing votes and every sequence of API calls that begins with the one
`Start` (`beginInstance`) and continues with alarms and deliveries — at any times, in any order, duplicates and
equivocations included — each delivered message being either for another instance / supplemental data (`foreignOp`)
or a validated one (`OpValidG W t`, i.e. `MsgValid`: positive sender power, CONVERGE with a non-bottom value, the
justification that validation demands, DECIDE for round 0 …):

* every call either is refused at the door, leaving the state untouched (`refusedOp`, `step_refusedOp`), or reports
  no failure at all (`okRunI`, the core-only twin of `F3.Bridge.okRun`);
* no effect of the run is a `panic` — none of `duplicateMessage`, `nilJustification`, `signerNotInTable`,
  `invalidSignerIndex`, `quorumNotFound`, `multipleStrongQuorums`, `convergeJustRound`, `commitNoQuorum`,
  `decideNoQuorum`, `tryDecideNoQuorum`, `nextRoundNoJust` is reachable;
* every reported error is one of `afterTermination`, `wrongInstance`, `wrongSupp`, `wrongBase`, which a validated
  (Byzantine or late) message can legitimately trigger — never `convergeBottom`, `convergeNilJust`,
  `unexpectedPhase`, `noValuesAtConverge`, `cannotTransition`.

Neither distinctness of the table's ids nor any relation between `W` and the participant's own broadcasts is
needed: validity is monotone in `W`, and the structural part of the Layer-B invariant suffices. -/
theorem no_internal_error_or_panic (cfg : Cfg) (t : Table) (input : Chain) (W : Votes) (now0 : Int) (ops : List Op)
    (hin : input ≠ []) (hT : 0 < t.total)
    (hstart : ∀ op ∈ ops, op.isStart = false)
    (hvalid : ∀ op ∈ ops, foreignOp op = true ∨ OpValidG W t op) :
    okRunI (init cfg t input) (.start now0 :: ops) = true ∧
    ∀ e ∈ (run (init cfg t input) (.start now0 :: ops)).2,
      (∀ p, e ≠ Eff.panic p) ∧
      (∀ k, e = Eff.err k → k = .afterTermination ∨ k = .wrongInstance ∨ k = .wrongSupp ∨ k = .wrongBase) := by
  have hok := run_nf cfg t input W now0 ops hin hT (fun op hop => ⟨hstart op hop, hvalid op hop⟩)
  exact ⟨hok, okRunI_effects _ _ hok⟩

/-- the same for a run that is not interrupted by refusals: over validated messages of this instance, with its
supplemental data and base, delivered before termination, the run reports no failure whatsoever -/
theorem no_failure_without_refusals (cfg : Cfg) (t : Table) (input : Chain) (W : Votes) (now0 : Int) (ops : List Op)
    (hin : input ≠ []) (hT : 0 < t.total)
    (hstart : ∀ op ∈ ops, op.isStart = false)
    (hvalid : ∀ op ∈ ops, foreignOp op = true ∨ OpValidG W t op)
    (hnoref : ∀ e ∈ (run (init cfg t input) (.start now0 :: ops)).2, ∀ k, e = Eff.err k →
      k ≠ .afterTermination ∧ k ≠ .wrongInstance ∧ k ≠ .wrongSupp ∧ k ≠ .wrongBase) :
    hasFailure (run (init cfg t input) (.start now0 :: ops)).2 = false := by
  have h := (no_internal_error_or_panic cfg t input W now0 ops hin hT hstart hvalid).2
  unfold hasFailure
  rw [List.any_eq_false]
  intro e he
  cases e with
  | err k =>
    exfalso
    obtain ⟨h1, h2, h3, h4⟩ := hnoref _ he k rfl
    rcases (h _ he).2 k rfl with h' | h' | h' | h'
    · exact h1 h'
    · exact h2 h'
    · exact h3 h'
    · exact h4 h'
  | panic p => exact absurd rfl ((h _ he).1 p)
  | _ => simp

/-- the failure-free run behind a validated run (refused deliveries dropped) -/
theorem validated_run_clean (cfg : Cfg) (t : Table) (input : Chain) (W : Votes) (now0 : Int) (ops : List Op)
    (hin : input ≠ []) (hT : 0 < t.total)
    (hstart : ∀ op ∈ ops, op.isStart = false)
    (hvalid : ∀ op ∈ ops, foreignOp op = true ∨ OpValidG W t op) :
    ∃ ops', (∀ op ∈ ops', OpOk op) ∧ hasFailure (run (init cfg t input) ops').2 = false ∧
      (run (init cfg t input) ops').1 = (run (init cfg t input) (.start now0 :: ops)).1 ∧
      (run (init cfg t input) ops').2 = (run (init cfg t input) (.start now0 :: ops)).2.filter nonErr := by
  exact run_transfer (Φ := fun s es => ∃ ops', (∀ op ∈ ops', OpOk op) ∧
      hasFailure (run (init cfg t input) ops').2 = false ∧ (run (init cfg t input) ops').1 = s ∧
      (run (init cfg t input) ops').2 = es) cfg t input W now0 ops hin hT hstart hvalid
    fun ops' h1 h2 => ⟨ops', fun op hop => (h1 op hop).opOk, h2, rfl, rfl⟩

/-- **At most one message per instance, round and step — no failure hypothesis.** `emit_once` for every run of one
`Start` followed by alarms and validated (or foreign) deliveries. -/
theorem emit_once_unconditional (cfg : Cfg) (t : Table) (input : Chain) (W : Votes) (now0 : Int) (ops : List Op)
    (hin : input ≠ []) (hT : 0 < t.total)
    (hstart : ∀ op ∈ ops, op.isStart = false)
    (hvalid : ∀ op ∈ ops, foreignOp op = true ∨ OpValidG W t op) :
    ((run (init cfg t input) (.start now0 :: ops)).2.filterMap slotOf).Nodup := by
  obtain ⟨ops', h1, h2, _, h4⟩ := validated_run_clean cfg t input W now0 ops hin hT hstart hvalid
  have := emit_once cfg t input ops' h1 h2
  rwa [h4, filterMap_filter_nonErr slotOf (fun _ => rfl)] at this

/-- **Progress never moves backwards — no failure hypothesis.** -/
theorem progress_monotone_unconditional (cfg : Cfg) (t : Table) (input : Chain) (W : Votes) (now0 : Int)
    (ops : List Op) (hin : input ≠ []) (hT : 0 < t.total)
    (hstart : ∀ op ∈ ops, op.isStart = false)
    (hvalid : ∀ op ∈ ops, foreignOp op = true ∨ OpValidG W t op) :
    ((run (init cfg t input) (.start now0 :: ops)).2.filterMap progOf).Pairwise ptLt ∧
    ptLe (0, 0) (run (init cfg t input) (.start now0 :: ops)).1.pt := by
  obtain ⟨ops', h1, h2, h3, h4⟩ := validated_run_clean cfg t input W now0 ops hin hT hstart hvalid
  have := progress_monotone cfg t input ops' h1 h2
  rwa [h3, h4, filterMap_filter_nonErr progOf (fun _ => rfl)] at this

/-! ### Non-vacuity: the run `exOps` above with three more deliveries — a validated QUALITY vote on another base
(refused: `wrongBase`), a message of another instance (refused: `wrongInstance`) and a validated COMMIT for bottom —
meets every hypothesis; it reports exactly the two refusals and broadcasts QUALITY, PREPARE, COMMIT -/

def exNFOps : List Op :=
  [.recv 1 { sender := 1, round := 0, phase := .quality, value := [7, 8] },
   .recv 2 { sender := 3, round := 0, phase := .quality, value := [9, 9] },                  -- other base: refused
   .recv 2 { sender := 2, round := 0, phase := .quality, value := [7, 8] },
   .recv 3 { sender := 1, round := 0, phase := .prepare, value := [7, 8] },
   .recv 4 { sender := 2, round := 0, phase := .prepare, value := [7, 8], instOk := false },  -- other instance: refused
   .recv 4 { sender := 2, round := 0, phase := .prepare, value := [7, 8] },
   .recv 5 { sender := 3, round := 0, phase := .prepare, value := [7, 9] },
   .recv 6 { sender := 3, round := 0, phase := .prepare, value := [7, 8] },                  -- equivocation: ignored
   .alarm 500,
   .recv 501 { sender := 3, round := 0, phase := .commit, value := [] }]

example : ([7, 8] : Chain) ≠ [] ∧ 0 < exTbl.total ∧ (∀ op ∈ exNFOps, op.isStart = false) ∧
    (∀ op ∈ exNFOps, foreignOp op = true ∨ OpValidG WT exTbl op) ∧
    (run (init exCfg exTbl [7, 8]) (.start 0 :: exNFOps)).2.filter (fun e => !nonErr e) =
      [.err .wrongBase, .err .wrongInstance] ∧
    (run (init exCfg exTbl [7, 8]) (.start 0 :: exNFOps)).2.filterMap slotOf =
      [(0, .quality), (0, .prepare), (0, .commit)] := by
  refine ⟨by decide, by decide, ?_, ?_, by decide +kernel⟩
  · intro op hop
    simp only [exNFOps, List.mem_cons, List.mem_nil_iff, or_false] at hop
    rcases hop with rfl | rfl | rfl | rfl | rfl | rfl | rfl | rfl | rfl | rfl <;> rfl
  · intro op hop
    simp only [exNFOps, List.mem_cons, List.mem_nil_iff, or_false] at hop
    rcases hop with rfl | rfl | rfl | rfl | rfl | rfl | rfl | rfl | rfl | rfl <;>
      simp [foreignOp, foreignM, OpValidG, MsgValid, exTbl, Table.power]

/-! ### None of the hypotheses is idle

* total power zero (an empty committee passes `PowerTable.Validate`): three alarms take the instance through QUALITY,
  PREPARE and COMMIT with everything "strong", and `beginNextRound` panics — "beginConverge called but no
  justification for proposal", `gpbft.go:728`;
* an alarm before `Start`: `unexpectedPhase` ("unexpected phase INITIAL"); a second `Start`: `cannotTransition`;
* messages that validation would reject: a COMMIT for a value without justification panics ("nil justification",
  `gpbft.go:1116`), a CONVERGE for bottom is reported as `convergeBottom`. -/

example : (run (init exCfg { entries := [] } [7, 8]) [.start 0, .alarm 200, .alarm 400, .alarm 600]).2.filterMap
      (fun e => match e with | .panic p => some p | _ => none) = [.nextRoundNoJust] ∧
    (run (init exCfg exTbl [7, 8]) [.alarm 0]).2 = [.err .unexpectedPhase] ∧
    (run (init exCfg exTbl [7, 8]) [.start 0, .start 1]).2.filter (fun e => !nonErr e) = [.err .cannotTransition] ∧
    (run (init exCfg exTbl [7, 8])
      [.start 0, .recv 1 { sender := 1, round := 0, phase := .commit, value := [7, 8] }]).2.filterMap
      (fun e => match e with | .panic p => some p | _ => none) = [.nilJustification] ∧
    (run (init exCfg exTbl [7, 8])
      [.start 0, .recv 1 { sender := 1, round := 1, phase := .converge, value := [] }]).2.filter
      (fun e => !nonErr e) = [.err .convergeBottom] := by
  decide +kernel

/-- **No internal error or panic at the participant API.** For every configuration, power table with positive total,
non-empty input, drain order and every sequence of `ReceiveMessage` / `ReceiveAlarm` calls — messages arriving before
the instance has begun are queued and drained through `instance.ReceiveMany` at the first alarm — in which every
delivered message is of this instance (the Go participant keeps one queue per instance) and is a validated one unless
its supplemental data are not the instance's (`PMsgOK`): every call either is a refusal at the door by the running
instance or reports no failure (`okRunP`, the `ok` field of `HonestRunP`); no effect is a `panic`, and every
reported error is one of the four refusals. In particular the drain never aborts. -/
theorem no_internal_error_or_panic_participant (cfg : Cfg) (t : Table) (input : Chain) (W : Votes) (order : List Pid)
    (ops : List POp) (hin : input ≠ []) (hT : 0 < t.total)
    (hvalid : ∀ op ∈ ops, POpP (PMsgOK W t) op) :
    okRunP order (pinit cfg t input) ops = true ∧
    ∀ e ∈ (prun order (pinit cfg t input) ops).2,
      (∀ p, e ≠ Eff.panic p) ∧
      (∀ k, e = Eff.err k → k = .afterTermination ∨ k = .wrongInstance ∨ k = .wrongSupp ∨ k = .wrongBase) := by
  have hok := prun_ok cfg t input W order ops hin hT hvalid
  exact ⟨hok, okRunP_effects order _ ops hok⟩

/-- **At most one message per instance, round and step, at the participant API — no failure hypothesis.** -/
theorem emit_once_participant_unconditional (cfg : Cfg) (t : Table) (input : Chain) (W : Votes) (order : List Pid)
    (ops : List POp) (hin : input ≠ []) (hT : 0 < t.total)
    (hvalid : ∀ op ∈ ops, POpP (PMsgOK W t) op) :
    ((prun order (pinit cfg t input) ops).2.filterMap slotOf).Nodup := by
  have h := prun_wp_valid cfg t input W order ops hin hT hvalid
  have hn := h.bc_nodup
  rw [evs_bc] at hn
  exact (List.pairwise_map.1 hn).imp (fun h heq => h (by rw [heq]))

/-- **Progress never moves backwards, at the participant API — no failure hypothesis.** -/
theorem progress_monotone_participant_unconditional (cfg : Cfg) (t : Table) (input : Chain) (W : Votes)
    (order : List Pid) (ops : List POp) (hin : input ≠ []) (hT : 0 < t.total)
    (hvalid : ∀ op ∈ ops, POpP (PMsgOK W t) op) :
    ((prun order (pinit cfg t input) ops).2.filterMap progOf).Pairwise ptLt ∧
    ptLe (0, 0) (prun order (pinit cfg t input) ops).1.inst.pt := by
  have h := prun_wp_valid cfg t input W order ops hin hT hvalid
  have hs := h.prog_sorted
  rw [evs_prog] at hs
  exact ⟨hs.1, h.le⟩

/-- Non-vacuity: `exPOps` above (three messages queued before the instance begins, one of them a late-binding reject
dropped by the drain) with a delivery on another base to the running instance (refused: `wrongBase`) -/
example : ([7, 8] : Chain) ≠ [] ∧ 0 < exTbl.total ∧
    (∀ op ∈ exPOps ++ [.recv 600 { sender := 3, round := 0, phase := .quality, value := [9, 9] }],
      POpP (PMsgOK WT exTbl) op) ∧
    (prun [3, 1] (pinit exCfg exTbl [7, 8])
      (exPOps ++ [.recv 600 { sender := 3, round := 0, phase := .quality, value := [9, 9] }])).2.filter
        (fun e => !nonErr e) = [.err .wrongBase] := by
  refine ⟨by decide, by decide, ?_, by decide +kernel⟩
  intro op hop
  simp only [exPOps, List.cons_append, List.nil_append, List.mem_cons, List.mem_nil_iff, or_false] at hop
  rcases hop with rfl | rfl | rfl | rfl | rfl | rfl | rfl | rfl | rfl <;>
    simp [POpP, PMsgOK, MsgValid, exTbl, Table.power]

end NoFailure

/-! ## Run level: validity of every emitted message, the tight longest-prefix spec, the QUALITY tally, completeness of
the candidate set

Proofs in `F3.Proofs.EmittedValid{,Cands,Quality,Ex}` (core-only); `F3.Proofs.EmittedValidBridge` restates
`emitted_valid` over `F3.Bridge.ValidRun` / `NetworkV`. All theorems are about runs `Start :: ops` of `F3.Instance.step`
from `init`, `ops` being alarms and deliveries each of which is foreign (other instance / supplemental data) or
validated w.r.t. the set `W` of existing votes — the hypotheses of `no_internal_error_or_panic`; no failure
hypothesis. -/
section RunLevel
open F3.EmittedValid

/-- **Every message it emits is valid and acceptable to its peers.** If moreover `W` contains the participant's own
broadcasts and the participant has positive power, then every broadcast request `(r, ph, v, j)` of the run, seen as
the message `msgOf p r ph v j` a peer receives, satisfies `MsgValid W t` — the model of `gpbft/validator.go`, w.r.t.
the **same** evidence set `W` (every signer of an attached justification cast a vote that was delivered to `p`, or
signed a justification that was). Spelled out (`F3.EmittedValid.Shape`): QUALITY is for round 0 and not bottom;
CONVERGE is for a round `≥ 1`, not bottom, and carries `ConvJust` of the previous round (strong PREPARE quorum for the
value, or strong COMMIT quorum for bottom); PREPARE of round 0 carries no justification, of round `≥ 1` a `ConvJust`;
COMMIT for bottom carries none, for a value the `CommitJust` (strong PREPARE quorum of the same round for that value);
DECIDE is labelled round 0, not bottom, and carries a strong COMMIT quorum (any round) for the same value. -/
theorem emitted_valid (cfg : Cfg) (t : Table) (input : Chain) (W : Votes) (p : Pid) (now0 : Int) (ops : List Op)
    (hin : input ≠ []) (hT : 0 < t.total) (hpos : 0 < t.power p)
    (hstart : ∀ op ∈ ops, op.isStart = false)
    (hvalid : ∀ op ∈ ops, foreignOp op = true ∨ OpValidG W t op)
    (hown : ∀ r ph v tk j, Eff.broadcast r ph v tk j ∈ (run (init cfg t input) (.start now0 :: ops)).2 → W p r ph v) :
    ∀ r ph v tk j, Eff.broadcast r ph v tk j ∈ (run (init cfg t input) (.start now0 :: ops)).2 →
      MsgValid W t (msgOf p r ph v j) :=
  emitted_valid_run cfg t input W p now0 ops hin hT hpos hstart hvalid hown

/-- the phase-specific part, without the power hypothesis -/
theorem emitted_shapes (cfg : Cfg) (t : Table) (input : Chain) (W : Votes) (p : Pid) (now0 : Int) (ops : List Op)
    (hin : input ≠ []) (hT : 0 < t.total)
    (hstart : ∀ op ∈ ops, op.isStart = false)
    (hvalid : ∀ op ∈ ops, foreignOp op = true ∨ OpValidG W t op)
    (hown : ∀ r ph v tk j, Eff.broadcast r ph v tk j ∈ (run (init cfg t input) (.start now0 :: ops)).2 → W p r ph v) :
    ∀ r ph v tk j, Eff.broadcast r ph v tk j ∈ (run (init cfg t input) (.start now0 :: ops)).2 → Shape W t r ph v j :=
  run_shaped cfg t input W p now0 ops hin hT hstart hvalid hown

/-- Non-vacuity: the two-round run `r2Ops` of member 1 (`F3.Proofs.EmittedValidEx`: PREPARE split, COMMIT bottom,
CONVERGE and PREPARE of round 1 justified by the COMMIT-bottom quorum, COMMIT `[7]` by the PREPARE quorum of round 1,
DECIDE by the COMMIT quorum of round 1, one refusal after termination) meets every hypothesis; all seven broadcasts,
with the justifications the model attached, are accepted. -/
example :
    MsgValid r2W r2Tbl (msgOf 1 0 .quality [7, 8] none) ∧ MsgValid r2W r2Tbl (msgOf 1 0 .prepare [7, 8] none) ∧
    MsgValid r2W r2Tbl (msgOf 1 0 .commit [] none) ∧ MsgValid r2W r2Tbl (msgOf 1 1 .converge [7, 8] (some jB)) ∧
    MsgValid r2W r2Tbl (msgOf 1 1 .prepare [7] (some jB)) ∧ MsgValid r2W r2Tbl (msgOf 1 1 .commit [7] (some jP)) ∧
    MsgValid r2W r2Tbl (msgOf 1 0 .decide [7] (some jC)) := by
  have h := emitted_valid r2Cfg r2Tbl [7, 8] r2W 1 0 r2Ops (by decide) (by decide) (by decide) r2_noRestart r2_valid r2_own
  have key := forall_bcList (P := fun r ph v j => MsgValid r2W r2Tbl (msgOf 1 r ph v j)) h
  rw [r2_broadcasts] at key
  exact ⟨key (0, .quality, [7, 8], none) (by simp), key (0, .prepare, [7, 8], none) (by simp),
    key (0, .commit, [], none) (by simp), key (1, .converge, [7, 8], some jB) (by simp),
    key (1, .prepare, [7], some jB) (by simp), key (1, .commit, [7], some jP) (by simp),
    key (0, .decide, [7], some jC) (by simp)⟩

/-- `hpos` is needed: a participant without power runs the same code and broadcasts QUALITY — which every validator
rejects (`validator.go`: "sender with zero power"); all other hypotheses hold (`ops = []`). -/
example : Eff.broadcast 0 .quality [7, 8] false none ∈ (run (init r2Cfg r2Tbl [7, 8]) [.start 0]).2 ∧
    r2Tbl.power 9 = 0 ∧ ∀ W, ¬ MsgValid W r2Tbl (msgOf 9 0 .quality [7, 8] none) :=
  ⟨by decide, by decide, fun W h => absurd h.2.1 (by decide)⟩

/-! ### `longestPrefixWithQuorum`: the spec with its maximality clause -/

/-- **Nothing longer has a quorum.** No prefix of the preferred chain longer than `longestPrefixWithQuorum` has a
strong quorum in the tally (the clause missing from `longest_prefix_spec`). -/
theorem longest_prefix_maximal (q : Tally) (c : Chain) :
    (∀ x, x <+: c → (q.longestPrefixWithQuorum c).length < x.length → q.hasStrongFor x = false) ∧
    (∀ i, (q.longestPrefixWithQuorum c).length ≤ i → i < c.length → q.hasStrongFor (prefixTo c i) = false) :=
  ⟨fun x hx hl => F3.EmittedValid.longest_prefix_maximal q c x hx hl,
   fun i h1 h2 => F3.EmittedValid.longest_prefix_maximal q c _ (prefixTo_prefix c i)
     (by rw [prefixTo_length c i h2]; omega)⟩

/-- **With that clause the spec is tight**: a non-empty prefix of `c` that is the base or has a strong quorum, and
beyond which no prefix of `c` has one, is `longestPrefixWithQuorum c`. -/
theorem longest_prefix_characterised (q : Tally) (c L : Chain) (hc : c ≠ []) :
    L = q.longestPrefixWithQuorum c ↔
      (L <+: c ∧ L ≠ [] ∧ (L = baseChain c ∨ q.hasStrongFor L = true) ∧
        ∀ x, x <+: c → L.length < x.length → q.hasStrongFor x = false) := by
  constructor
  · rintro rfl
    obtain ⟨h1, h2⟩ := longest_prefix_facts q c hc
    exact ⟨h1, h2, longest_prefix_sat q c, (longest_prefix_maximal q c).1⟩
  · rintro ⟨h1, h2, h3, h4⟩
    obtain ⟨hpL, h2L⟩ := longest_prefix_facts q c hc
    have hl' : 0 < L.length := List.length_pos_iff.2 h2
    have hl : 0 < (q.longestPrefixWithQuorum c).length := List.length_pos_iff.2 h2L
    have hb := baseChain_length c hc
    have heq : L.length = (q.longestPrefixWithQuorum c).length := by
      rcases Nat.lt_trichotomy L.length (q.longestPrefixWithQuorum c).length with h | h | h
      · exfalso
        rcases longest_prefix_sat q c with hbL | hsL
        · rw [hbL, hb] at h; omega
        · have := h4 _ hpL h; rw [hsL] at this; cases this
      · exact h
      · exfalso
        rcases h3 with hbL | hsL
        · rw [hbL, hb] at h; omega
        · have := (longest_prefix_maximal q c).1 L h1 h; rw [hsL] at this; cases this
    exact (List.prefix_of_prefix_length_le h1 hpL (by omega)).eq_of_length heq

/-- `badLP` below satisfies the three conjuncts of `longest_prefix_spec` but not maximality: three
QUALITY votes `[7,8]`, input `[7,8,9]` — `longestPrefixWithQuorum` returns `[7,8]`, `badLP` the base `[7]` although
the longer prefix `[7,8]` has a strong quorum. Also non-vacuity of `longest_prefix_maximal` (a tally with quorums). -/
example :
    let q := qTally r2Tbl [(1, [7, 8]), (2, [7, 8]), (3, [7, 8])]
    let badLP := fun (q : Tally) (c : Chain) => if q.hasStrongFor c then c else baseChain c
    q.longestPrefixWithQuorum [7, 8, 9] = [7, 8] ∧ badLP q [7, 8, 9] = [7] ∧
    q.hasStrongFor [7, 8] = true ∧ ([7, 8] : Chain) <+: [7, 8, 9] ∧ q.hasStrongFor [7, 8, 9] = false := by
  refine ⟨by decide +kernel, by decide +kernel, by decide +kernel, ⟨[9], rfl⟩, by decide +kernel⟩

/-- **What the QUALITY tally holds.** For every run whatsoever: `quality` is `qTally` of the QUALITY votes that were
handed to the tally (`qvotesFrom`: QUALITY messages passing the door checks of `receiveOne`, in delivery order); and
with positive total power `hasStrongFor x` says: the distinct first-time senders (`firstVotes`: later votes of a
sender are ignored) whose vote has `x` as a prefix extending the base by at least one tipset hold a strong quorum. -/
theorem quality_tally_meaning (cfg : Cfg) (t : Table) (input : Chain) (ops : List Op) (hT : 0 < t.total) (x : Chain) :
    (run (init cfg t input) ops).1.quality = qTally t (qvotesFrom (init cfg t input) ops) ∧
    (run (init cfg t input) ops).1.quality.hasStrongFor x =
      strongQ t (sumP t (((firstVotes (qvotesFrom (init cfg t input) ops)).filter
        (fun e => decide (x <+: e.2 ∧ 2 ≤ x.length))).map (·.1))) := by
  refine ⟨quality_run cfg t input ops, ?_⟩
  rw [quality_run, qTally_hasStrongFor t _ hT x]
  unfold qPower qSupporters
  congr 4
  funext e
  rw [decide_eq_decide]
  exact F3.Sync.mem_qualityPrefixes e.2 x

/-- the first-time votes behind the tally: one per sender, each of them a tallied vote, every tallied sender present -/
theorem quality_first_votes (vs : List QVote) :
    ((firstVotes vs).map (·.1)).Nodup ∧ (∀ e ∈ firstVotes vs, e ∈ vs) ∧ ∀ e ∈ vs, ∃ e' ∈ firstVotes vs, e'.1 = e.1 :=
  firstVotes_spec vs

/-- **Round-0 PREPARE on runs.** In every validated run a PREPARE without justification is for round 0, is broadcast
by the call that takes the instance out of QUALITY, and its value is `longestPrefixWithQuorum input` over exactly
the QUALITY votes tallied up to and including that call (`prepare0_value` at run level). -/
theorem prepare0_run (cfg : Cfg) (t : Table) (input : Chain) (W : Votes) (now0 : Int) (ops : List Op)
    (hin : input ≠ []) (hT : 0 < t.total)
    (hstart : ∀ op ∈ ops, op.isStart = false)
    (hvalid : ∀ op ∈ ops, foreignOp op = true ∨ OpValidG W t op)
    (r : Nat) (v : Chain) (tk : Bool)
    (hm : Eff.broadcast r .prepare v tk none ∈ (run (init cfg t input) (.start now0 :: ops)).2) :
    r = 0 ∧ ∃ ops1 op ops2, ops = ops1 ++ op :: ops2 ∧
      (run (init cfg t input) (.start now0 :: ops1)).1.phase = .quality ∧
      (run (init cfg t input) (.start now0 :: (ops1 ++ [op]))).1.phase ≠ .quality ∧
      Eff.broadcast r .prepare v tk none ∈ (step (run (init cfg t input) (.start now0 :: ops1)).1 op).2 ∧
      v = (qTally t (qvotesFrom (init cfg t input) (.start now0 :: (ops1 ++ [op])))).longestPrefixWithQuorum input :=
  F3.EmittedValid.prepare0_run cfg t input W now0 ops hin hT hstart hvalid r v tk hm

/-- Non-vacuity on `r2Ops`: the tally holds the four QUALITY votes (the late one included); the round-0 PREPARE
`[7,8]` was broadcast at the third vote, over exactly the first three. -/
example :
    qvotesFrom (init r2Cfg r2Tbl [7, 8]) (.start 0 :: r2Ops) = [(1, [7, 8]), (2, [7, 8]), (3, [7, 8]), (4, [7, 9])] ∧
    Eff.broadcast 0 .prepare [7, 8] false none ∈ r2Run.2 ∧
    (run (init r2Cfg r2Tbl [7, 8]) (.start 0 :: r2Ops.take 2)).1.phase = .quality ∧
    (run (init r2Cfg r2Tbl [7, 8]) (.start 0 :: r2Ops.take 3)).1.phase = .prepare ∧
    (qTally r2Tbl (qvotesFrom (init r2Cfg r2Tbl [7, 8]) (.start 0 :: r2Ops.take 3))).longestPrefixWithQuorum [7, 8] = [7, 8] := by
  decide +kernel

/-- **Completeness of the candidates.** In every validated run, whenever the instance is in CONVERGE, PREPARE or
COMMIT (of any round), every non-empty prefix of the proposal formed from the QUALITY votes tallied so far — late
votes included — is a candidate; and every non-empty prefix of the value of the round-0 PREPARE (the proposal formed
when QUALITY ended) is a candidate from then on, in every phase. (Soundness is `CandOK`.) -/
theorem candidates_complete (cfg : Cfg) (t : Table) (input : Chain) (W : Votes) (now0 : Int) (ops : List Op)
    (hin : input ≠ []) (hT : 0 < t.total)
    (hstart : ∀ op ∈ ops, op.isStart = false)
    (hvalid : ∀ op ∈ ops, foreignOp op = true ∨ OpValidG W t op) :
    ((run (init cfg t input) (.start now0 :: ops)).1.phase = .converge ∨
      (run (init cfg t input) (.start now0 :: ops)).1.phase = .prepare ∨
      (run (init cfg t input) (.start now0 :: ops)).1.phase = .commit →
      ∀ x, x ≠ [] → x <+: (run (init cfg t input) (.start now0 :: ops)).1.quality.longestPrefixWithQuorum input →
        (run (init cfg t input) (.start now0 :: ops)).1.isCandidate x = true) ∧
    (∀ r v tk, Eff.broadcast r .prepare v tk none ∈ (run (init cfg t input) (.start now0 :: ops)).2 →
      ∀ x, x ≠ [] → x <+: v → (run (init cfg t input) (.start now0 :: ops)).1.isCandidate x = true) := by
  obtain ⟨hc, hp, _, _⟩ := run_cci cfg t input W now0 ops hin hT hstart hvalid
  exact cands_of_cci hc hp (by rw [run_eq_runFrom, runFrom_input']; rfl)

/-- **The restriction to CONVERGE / PREPARE / COMMIT is needed** ("once the phase is ≥ PREPARE of round 0" is false
as it stands): a DECIDE message (or a strong COMMIT quorum) takes an instance from QUALITY straight to DECIDE
(`skipToDecide` / `beginDecide`) without concluding QUALITY, so the candidates are not completed. Validated run
`cxOps` of member 4 (input `[7,8,9]`): in DECIDE the QUALITY proposal is `[7,8]`, which is not a candidate. Harmless:
candidates are read by `tryConverge` only, and DECIDE is never left for CONVERGE. -/
example :
    let s := (run (init r2Cfg r2Tbl [7, 8, 9]) (.start 0 :: cxOps)).1
    (∀ op ∈ cxOps, op.isStart = false) ∧ (∀ op ∈ cxOps, foreignOp op = true ∨ OpValidG (WofL cxVotes) r2Tbl op) ∧
    s.phase = .decide ∧ s.quality.longestPrefixWithQuorum [7, 8, 9] = [7, 8] ∧ s.isCandidate [7, 8] = false ∧
    s.candidates = [[7]] :=
  ⟨cx_noRestart, cx_valid, by decide +kernel⟩

/-- **The best ticket is adopted whenever its value is a prefix of the proposal formed from QUALITY.** In every
validated run that has reached CONVERGE: when the timeout has elapsed at the alarm, the value of the best ticket
*overall* (`findBest` with the trivial filter: first lowest rank among all CONVERGE values of the round, the own one
included) is PREPAREd, with its justification, provided it is a prefix of the proposal formed from the QUALITY votes
tallied so far, or of the value of the round-0 PREPARE. (`converge_adopts_best_valid` says the adopted value is the
best among the *admissible* ones; this is the half that needed completeness of the candidates.) -/
theorem converge_adopts_best_ticket (cfg : Cfg) (t : Table) (input : Chain) (W : Votes) (now0 : Int) (ops : List Op)
    (hin : input ≠ []) (hT : 0 < t.total)
    (hstart : ∀ op ∈ ops, op.isStart = false)
    (hvalid : ∀ op ∈ ops, foreignOp op = true ∨ OpValidG W t op) (now : Int) (b : ConvVal)
    (hph : (run (init cfg t input) (.start now0 :: ops)).1.phase = .converge)
    (hto : (run (init cfg t input) (.start now0 :: ops)).1.phaseTimeoutElapsed now = true)
    (hb : ((run (init cfg t input) (.start now0 :: ops)).1.getRound
      (run (init cfg t input) (.start now0 :: ops)).1.round).converged.findBest (fun _ => true) = some b)
    (hpre : b.chain <+: (run (init cfg t input) (.start now0 :: ops)).1.quality.longestPrefixWithQuorum input ∨
      ∃ r v tk, Eff.broadcast r .prepare v tk none ∈ (run (init cfg t input) (.start now0 :: ops)).2 ∧ b.chain <+: v) :
    Eff.broadcast (run (init cfg t input) (.start now0 :: ops)).1.round .prepare b.chain false (some b.just) ∈
      (step (run (init cfg t input) (.start now0 :: ops)).1 (.alarm now)).2 := by
  obtain ⟨hc, hp, hnfi, _⟩ := run_cci cfg t input W now0 ops hin hT hstart hvalid
  exact alarm_adopts_best_ticket hc hp (by rw [run_eq_runFrom, runFrom_input']; rfl) hnfi.1.core.rounds now b hph hto hb hpre

/-- Non-vacuity on `r2Ops`: before the alarm at 400 member 1 is in CONVERGE of round 1 with the timeout elapsed; the
best ticket overall is member 3's `[7]` (rank 1), a proper prefix of the QUALITY proposal `[7,8]`; every non-empty
prefix of `[7,8]` is a candidate; and the alarm PREPAREs `[7]` with the ticket's justification. -/
example :
    let s := (run (init r2Cfg r2Tbl [7, 8]) (.start 0 :: r2Ops.take 16)).1
    s.phase = .converge ∧ s.round = 1 ∧ s.phaseTimeoutElapsed 400 = true ∧
    ((s.getRound s.round).converged.findBest (fun _ => true)).map (fun b => (b.chain, b.rank, b.just)) =
      some ([7], some 1, jB) ∧
    s.quality.longestPrefixWithQuorum [7, 8] = [7, 8] ∧ s.isCandidate [7] = true ∧ s.isCandidate [7, 8] = true ∧
    Eff.broadcast 1 .prepare [7] false (some jB) ∈ (step s (.alarm 400)).2 := by
  decide +kernel

/-- …and the hypotheses of `candidates_complete` / `converge_adopts_best_ticket` hold of that prefix of the run -/
example : (∀ op ∈ r2Ops.take 16, op.isStart = false) ∧
    (∀ op ∈ r2Ops.take 16, foreignOp op = true ∨ OpValidG r2W r2Tbl op) :=
  ⟨fun op hop => r2_noRestart op (List.mem_of_mem_take hop), fun op hop => r2_valid op (List.mem_of_mem_take hop)⟩

end RunLevel

/-! ## Run level, at the participant API and across consecutive instances

The theorems of §RunLevel are about `run (init …) (Start :: ops)`: one `Start`, then `Receive` / `ReceiveAlarm` calls on
the *instance*. The implementation is driven through `gpbft.Participant` (`participant.go`): a message of the current
instance that arrives before the instance has begun is queued (`messageQueue.Add`: at most one message per sender, round
and phase; spammable messages beyond the look-ahead are not queued — `instance_queue_rule`), and the alarm that begins the
instance hands the queue to `instance.ReceiveMany`, sorted by (round, phase), senders in Go map order. `ReceiveMany` is not
a sequence of `Receive` calls: late-binding rejects are dropped silently and the round skip is tried once, after all
messages (highest round first). Models: `pstepWith order` / `prun order` (one instance, any drain order `order`),
`mpstep` / `mprun` (consecutive instances, each begun with the power table, proposal and drain order the host supplies).

Proofs in `F3.Proofs.EmittedValid{Participant,Multi,ParticipantEx}` (core-only). Hypotheses as in
`no_internal_error_or_panic_participant`: every delivered message is of this instance and validated w.r.t. the set `W` of
existing votes unless its supplemental data differ (`PMsgOK W t`); for `mprun`, per instance `k`: the messages *addressed
to `k`* are `PMsgOK W_k tbl_k` (`MPOpK k`) — every instance has its own power table, proposal and evidence set, and
nothing is assumed about messages of other instances. No failure hypothesis, any interleaving of early deliveries, the
beginning alarm, later deliveries and alarms, any drain order.

**What the model's justification does and does not carry.** `Just` is `(round, phase, value, signers)`; a Go
`Justification` also carries `Vote.Instance`, `Vote.SupplementalData` and the aggregate signature. Covered: the
phase-specific demands of `validator.go` on round, phase, value and signers of an attached justification (`Shape`,
`JustOk`: strictly increasing signer indices with positive power, strong quorum, every signer cast that vote in `W`);
the instance is covered *through the evidence set*: `emitted_valid_multi` is per instance, w.r.t. the votes `W_k` in
existence in instance `k`, so a justification emitted in instance `k` is backed by votes of instance `k`. Not covered —
the model has no field for it, and it is deliberately not changed here: `validateJustification`'s two equality checks
`msg.Vote.Instance == Justification.Vote.Instance` and `msg.Vote.SupplementalData.Eq(Justification.Vote.SupplementalData)`
for the *emitted* message (in Go: `buildJustification` fills both from `i.current.ID` / `i.supplementalData`, and a
forwarded justification came with a validated message of this instance, whose own two fields were compared with the
instance's by `Receive` — the model's `instOk` / `suppOk` flags are about the message, not about its justification);
and everything about signatures beyond the symbolic reading "`W p r ph v` = a validly signed vote exists" (aggregate
verification, the payload actually signed, which includes instance and supplemental data). -/
section RunLevelParticipant
open F3.EmittedValid

/-- **Every message the participant emits is valid — participant API.** For every configuration, power table with
positive total, non-empty input, drain order and every sequence of `ReceiveMessage` / `ReceiveAlarm` calls over messages
of this instance, validated w.r.t. `W` unless their supplemental data differ: if `W` contains the participant's own
broadcasts and the participant has positive power, every broadcast request of the run — those made while the pre-start
queue is drained included — is accepted by the validator model w.r.t. the same `W`. -/
theorem emitted_valid_participant (cfg : Cfg) (t : Table) (input : Chain) (W : Votes) (p : Pid) (order : List Pid)
    (ops : List POp) (hin : input ≠ []) (hT : 0 < t.total) (hpos : 0 < t.power p)
    (hvalid : ∀ op ∈ ops, POpP (PMsgOK W t) op)
    (hown : ∀ r ph v tk j, Eff.broadcast r ph v tk j ∈ (prun order (pinit cfg t input) ops).2 → W p r ph v) :
    ∀ r ph v tk j, Eff.broadcast r ph v tk j ∈ (prun order (pinit cfg t input) ops).2 →
      MsgValid W t (msgOf p r ph v j) :=
  emitted_valid_prun cfg t input W p order ops hin hT hpos hvalid hown

/-- the phase-specific part, without the power hypothesis -/
theorem emitted_shapes_participant (cfg : Cfg) (t : Table) (input : Chain) (W : Votes) (p : Pid) (order : List Pid)
    (ops : List POp) (hin : input ≠ []) (hT : 0 < t.total) (hvalid : ∀ op ∈ ops, POpP (PMsgOK W t) op)
    (hown : ∀ r ph v tk j, Eff.broadcast r ph v tk j ∈ (prun order (pinit cfg t input) ops).2 → W p r ph v) :
    ∀ r ph v tk j, Eff.broadcast r ph v tk j ∈ (prun order (pinit cfg t input) ops).2 → Shape W t r ph v j :=
  prun_shaped cfg t input W p order ops hin hT hvalid hown

/-- **… and in every instance of a multi-instance run.** In a run of the multi-instance participant from its initial
state in which `StartInstanceAt` only skips ahead (`forwardOnly`), let instance `k` have been begun with power table
`tbl`, proposal `input` (and drain order `order`), let the messages addressed to instance `k` be validated w.r.t. the set
`W` of votes existing *in instance `k`*, and let `W` contain the participant's own broadcasts of instance `k`: every
broadcast request tagged `k` is accepted by the validator model w.r.t. `tbl` and `W`. -/
theorem emitted_valid_multi (cfg : Cfg) (c0 : Nat) (ops : List MPOp) (k : Nat) (tbl : Table) (input : Chain)
    (order : List Pid) (W : Votes) (p : Pid) (hfw : forwardOnly (minit cfg c0) ops = true)
    (hbeg : begunWith cfg c0 k ops = some (tbl, input, order)) (hin : input ≠ []) (hT : 0 < tbl.total)
    (hpos : 0 < tbl.power p) (hvalid : ∀ op ∈ ops, MPOpK k (PMsgOK W tbl) op)
    (hown : ∀ r ph v tk j, (k, Eff.broadcast r ph v tk j) ∈ (mprun (minit cfg c0) ops).2 → W p r ph v) :
    ∀ r ph v tk j, (k, Eff.broadcast r ph v tk j) ∈ (mprun (minit cfg c0) ops).2 →
      MsgValid W tbl (msgOf p r ph v j) := by
  intro r ph v tk j hm
  exact msgValid_of_shape (hown r ph v tk j hm) hpos
    (mprun_shaped cfg c0 ops k tbl input order W p hfw hbeg hin hT hvalid hown r ph v tk j ((mem_effsOf k _ _).2 hm))

/-- Non-vacuity (`F3.Proofs.EmittedValidParticipantEx`): `p2Ops` is the two-round run of §RunLevel driven through the
participant API — six early messages, two of them refused by the queue, the instance begun by the alarm at 0 and the
queue drained in the order 3, 1, 2, 4; it meets every hypothesis, and its seven broadcasts are accepted. -/
example :
    MsgValid p2W r2Tbl (msgOf 1 0 .quality [7, 8] none) ∧ MsgValid p2W r2Tbl (msgOf 1 0 .prepare [7, 8] none) ∧
    MsgValid p2W r2Tbl (msgOf 1 0 .commit [] none) ∧ MsgValid p2W r2Tbl (msgOf 1 1 .converge [7, 8] (some jB)) ∧
    MsgValid p2W r2Tbl (msgOf 1 1 .prepare [7] (some jB)) ∧ MsgValid p2W r2Tbl (msgOf 1 1 .commit [7] (some jP)) ∧
    MsgValid p2W r2Tbl (msgOf 1 0 .decide [7] (some jC)) := by
  have h := emitted_valid_participant r2Cfg r2Tbl [7, 8] p2W 1 p2Order p2Ops (by decide) (by decide) (by decide)
    p2_valid p2_own
  have key := forall_bcList (P := fun r ph v j => MsgValid p2W r2Tbl (msgOf 1 r ph v j)) h
  rw [p2_broadcasts] at key
  exact ⟨key (0, .quality, [7, 8], none) (by simp), key (0, .prepare, [7, 8], none) (by simp),
    key (0, .commit, [], none) (by simp), key (1, .converge, [7, 8], some jB) (by simp),
    key (1, .prepare, [7], some jB) (by simp), key (1, .commit, [7], some jP) (by simp),
    key (0, .decide, [7], some jC) (by simp)⟩

/-- Non-vacuity of `emitted_valid_multi`: both instances of the two-instance run `exMOps` (member 1; instance 1's first
two QUALITY votes were queued while instance 0 was running resp. before instance 1 began) meet the hypotheses, each with
its own evidence set; e.g. the COMMIT of instance 0 and the DECIDE of instance 1 are accepted, each w.r.t. the votes of
its own instance. -/
example : MsgValid (WofL mx0Votes) mxTbl (msgOf 1 0 .commit [7, 8] (some mxJp)) ∧
    MsgValid (WofL mx1Votes) mxTbl (msgOf 1 0 .decide [8, 5] (some mxJc1)) := by
  have h0 := emitted_valid_multi mxCfg 0 exMOps 0 mxTbl [7, 8] mxOrder (WofL mx0Votes) 1 ex_forward.2.2
    ex_opsOf.2.2.1 (by decide) (by decide) (by decide) mx_valid0 mx_own0
  have h1 := emitted_valid_multi mxCfg 0 exMOps 1 mxTbl [8, 5] [1, 4, 2] (WofL mx1Votes) 1 ex_forward.2.2
    ex_opsOf.2.2.2.1 (by decide) (by decide) (by decide) mx_valid1 mx_own1
  have m0 : Eff.broadcast 0 .commit [7, 8] false (some mxJp) ∈ effsOf 0 (mprun (minit mxCfg) exMOps).2 := by
    decide +kernel
  have m1 : Eff.broadcast 0 .decide [8, 5] false (some mxJc1) ∈ effsOf 1 (mprun (minit mxCfg) exMOps).2 := by
    decide +kernel
  exact ⟨h0 _ _ _ _ _ ((mem_effsOf 0 _ _).1 m0), h1 _ _ _ _ _ ((mem_effsOf 1 _ _).1 m1)⟩

/-! ### rebroadcast requests

`Eff.rebroadcast r ph` is `host.RequestRebroadcast(Instant{id, r, ph})` (`tryRebroadcast`): a *request* that the host
re-publish the participant's own message of that instance, round and phase, if it has one (`host.go`:
`selfMessages[instance][round][phase]`; `F3.Equiv.step (.rebroadcast i r p)`; the network model `F3.Instance.sent`
ignores the requests since they add nothing to the pool). `wireOf p es` expands the requests of `es` against the
broadcasts requested earlier in `es`. -/

/-- **Whatever a rebroadcast request re-sends was broadcast before** — so everything the participant puts on the wire,
re-sent messages included, is `msgOf` of a broadcast effect of the run; and (with `emit_once`) a request re-sends at
most one message. -/
theorem rebroadcast_resends_own_broadcasts (p : Pid) (a b : List Eff) (r : Nat) (ph : Phase) :
    (∀ m ∈ resent p a r ph, ∃ v tk j, Eff.broadcast r ph v tk j ∈ a ∧ m = msgOf p r ph v j ∧
      m ∈ wireOf p (a ++ Eff.rebroadcast r ph :: b)) ∧
    (∀ m ∈ wireOf p (a ++ Eff.rebroadcast r ph :: b), ∃ r' ph' v tk j,
      Eff.broadcast r' ph' v tk j ∈ a ++ Eff.rebroadcast r ph :: b ∧ m = msgOf p r' ph' v j) ∧
    ((a.filterMap slotOf).Nodup → (resent p a r ph).length ≤ 1) :=
  ⟨fun _ hm => rebroadcast_resends_earlier hm, fun _ hm => mem_wireOf hm,
   fun hnd => resent_length_le_one slotOf (fun r ph => (r, ph)) (fun _ _ _ _ _ => rfl) p a hnd r ph⟩

/-- **Everything on the wire is valid, re-sent messages included** — participant API. -/
theorem wire_valid_participant (cfg : Cfg) (t : Table) (input : Chain) (W : Votes) (p : Pid) (order : List Pid)
    (ops : List POp) (hin : input ≠ []) (hT : 0 < t.total) (hpos : 0 < t.power p)
    (hvalid : ∀ op ∈ ops, POpP (PMsgOK W t) op)
    (hown : ∀ r ph v tk j, Eff.broadcast r ph v tk j ∈ (prun order (pinit cfg t input) ops).2 → W p r ph v) :
    ∀ m ∈ wireOf p (prun order (pinit cfg t input) ops).2, MsgValid W t m := by
  intro m hm
  obtain ⟨r, ph, v, tk, j, he, rfl⟩ := mem_wireOf hm
  exact emitted_valid_participant cfg t input W p order ops hin hT hpos hvalid hown r ph v tk j he

/-- … and per instance of a multi-instance run (requests of instance `k` expanded against the broadcasts of `k`). -/
theorem wire_valid_multi (cfg : Cfg) (c0 : Nat) (ops : List MPOp) (k : Nat) (tbl : Table) (input : Chain)
    (order : List Pid) (W : Votes) (p : Pid) (hfw : forwardOnly (minit cfg c0) ops = true)
    (hbeg : begunWith cfg c0 k ops = some (tbl, input, order)) (hin : input ≠ []) (hT : 0 < tbl.total)
    (hpos : 0 < tbl.power p) (hvalid : ∀ op ∈ ops, MPOpK k (PMsgOK W tbl) op)
    (hown : ∀ r ph v tk j, (k, Eff.broadcast r ph v tk j) ∈ (mprun (minit cfg c0) ops).2 → W p r ph v) :
    ∀ m ∈ wireOf p (effsOf k (mprun (minit cfg c0) ops).2), MsgValid W tbl m := by
  intro m hm
  obtain ⟨r, ph, v, tk, j, he, rfl⟩ := mem_wireOf hm
  exact emitted_valid_multi cfg c0 ops k tbl input order W p hfw hbeg hin hT hpos hvalid hown r ph v tk j
    ((mem_effsOf k _ _).1 he)

/-- Non-vacuity: `rbOps` (three QUALITY votes queued, begun at 0, alarms at 200 and 300) requests the rebroadcast of
QUALITY, COMMIT, PREPARE and CONVERGE of round 0; QUALITY and PREPARE are re-sent, nothing else; all four messages on
the wire are accepted. -/
example :
    wireOf 1 (prun [] (pinit r2Cfg r2Tbl [7, 8]) rbOps).2 =
      [msgOf 1 0 .quality [7, 8] none, msgOf 1 0 .prepare [7, 8] none,
       msgOf 1 0 .quality [7, 8] none, msgOf 1 0 .prepare [7, 8] none] ∧
    ∀ m ∈ wireOf 1 (prun [] (pinit r2Cfg r2Tbl [7, 8]) rbOps).2, MsgValid r2W r2Tbl m :=
  ⟨rb_wire.2, wire_valid_participant r2Cfg r2Tbl [7, 8] r2W 1 [] rbOps (by decide) (by decide) (by decide)
    rb_valid rb_own⟩

/-! ### the round-0 PREPARE value

`pvotesQ order p ops` are the QUALITY votes the participant run hands to the instance *while it is in QUALITY*, in the
order in which the instance sees them (`quality_votes_counted` below). -/

/-- **Round-0 PREPARE at the participant API.** In every validated participant run a PREPARE without justification is
for round 0, the instance has begun and left QUALITY, and the value is the longest prefix of the input with a strong
quorum (`longestPrefixWithQuorum`, tight by `longest_prefix_characterised`; `qTally` read by `qTally_hasStrongFor` /
`quality_tally_meaning`: first vote of every sender) among the QUALITY votes counted in the run. -/
theorem prepare0_participant (cfg : Cfg) (t : Table) (input : Chain) (W : Votes) (order : List Pid)
    (ops : List POp) (hin : input ≠ []) (hT : 0 < t.total) (hvalid : ∀ op ∈ ops, POpP (PMsgOK W t) op)
    (r : Nat) (v : Chain) (tk : Bool)
    (hm : Eff.broadcast r .prepare v tk none ∈ (prun order (pinit cfg t input) ops).2) :
    r = 0 ∧ (prun order (pinit cfg t input) ops).1.started = true ∧
      (prun order (pinit cfg t input) ops).1.inst.phase ≠ .quality ∧
      v = (qTally t (pvotesQ order (pinit cfg t input) ops)).longestPrefixWithQuorum input := by
  have h := prun_pcq cfg t input W order ops hin hT hvalid
  have hst : (prun order (pinit cfg t input) ops).1.started = true := by
    cases hst : (prun order (pinit cfg t input) ops).1.started with
    | true => rfl
    | false =>
      rw [(h.waiting hst).2.2] at hm
      cases hm
  obtain ⟨_, hI, _, _⟩ := h.post hst
  have hnq : (prun order (pinit cfg t input) ops).1.inst.phase ≠ .quality :=
    fun hq => (hI.inQ hq).2 r v tk hm
  refine ⟨?_, hst, hnq, hI.after hnq r v tk hm⟩
  have hsh := prun_shaped cfg t input WT 0 order ops hin hT
    (fun op hop => (hvalid op hop).mono (fun _ h => h.top)) (fun _ _ _ _ _ _ => trivial) r .prepare v tk none hm
  by_cases h0 : r = 0
  · exact h0
  · obtain ⟨j', hj', _⟩ := hsh.2 (by omega)
    cases hj'

/-- **Which QUALITY votes count.**
1. Call by call (`pvotesQ` concatenates `ptalliedQ`): a delivery before the instance has begun counts nothing (it is
   only queued: `prun_waiting`, the queue is `preQueue` = `messageQueue.Add` folded over the early deliveries, so a second
   message of a sender for the same round and phase and a spammable message beyond the look-ahead never reach the
   instance); the alarm that begins the instance counts `drainVotes` of `drainWith order queue` — the queued QUALITY
   messages that pass the door checks of `receiveOne`, in drain order, as long as the instance is still in QUALITY when
   their turn comes (a vote that ends QUALITY is counted, the ones after it are not); a later delivery counts iff it is a
   QUALITY message passing the door checks while the instance is in QUALITY; later alarms count nothing.
2. Every counted vote is the vote of a QUALITY message that was delivered (early or late).
3. While the instance is in QUALITY its tally is `qTally` of exactly the counted votes, and no justification-free
   PREPARE has been broadcast.
4. Whatever follows a point at which the instance has begun and is no longer in QUALITY counts nothing. -/
theorem quality_votes_counted (cfg : Cfg) (t : Table) (input : Chain) (W : Votes) (order : List Pid)
    (hin : input ≠ []) (hT : 0 < t.total) :
    (∀ (p : PState) (op : POp) (ops : List POp),
      pvotesQ order p (op :: ops) = ptalliedQ order p op ++ pvotesQ order (pstepWith order p op).1 ops) ∧
    (∀ (p : PState) (now : Int) (m : Msg), p.started = false → ptalliedQ order p (.recv now m) = []) ∧
    (∀ (p : PState) (now : Int), p.started = false → hasFailure (p.inst.beginQuality now).2 = false →
      ptalliedQ order p (.alarm now) = drainVotes now (p.inst.beginQuality now).1 (drainWith order p.queue)) ∧
    (∀ (p : PState) (now : Int) (m : Msg), p.started = true →
      ptalliedQ order p (.recv now m) =
        if p.inst.phase = .quality ∧ p.inst.recvPre m = .accept ∧ m.phase = .quality then [(m.sender, m.value)] else []) ∧
    (∀ (p : PState) (now : Int), p.started = true → ptalliedQ order p (.alarm now) = []) ∧
    (∀ (now : Int) (st : State) (m : Msg) (ms : List Msg),
      drainVotes now st (m :: ms) =
        if isLateBinding (st.receiveOne now m).1.2 then drainVotes now st ms
        else if hasFailure (st.receiveOne now m).1.2 then talliedQ st m
        else talliedQ st m ++ drainVotes now (st.receiveOne now m).1.1 ms) ∧
    (∀ (ops : List POp), ∀ v ∈ pvotesQ order (pinit cfg t input) ops,
      ∃ now m, POp.recv now m ∈ ops ∧ m.phase = .quality ∧ v = (m.sender, m.value)) ∧
    (∀ (ops : List POp), (∀ op ∈ ops, POpP (PMsgOK W t) op) →
      (prun order (pinit cfg t input) ops).1.inst.phase = .quality →
      (prun order (pinit cfg t input) ops).1.inst.quality = qTally t (pvotesQ order (pinit cfg t input) ops) ∧
      ∀ r v tk, Eff.broadcast r .prepare v tk none ∉ (prun order (pinit cfg t input) ops).2) ∧
    (∀ (ops1 ops2 : List POp), (∀ op ∈ ops1 ++ ops2, POpP (PMsgOK W t) op) →
      (prun order (pinit cfg t input) ops1).1.started = true →
      (prun order (pinit cfg t input) ops1).1.inst.phase ≠ .quality →
      pvotesQ order (pinit cfg t input) (ops1 ++ ops2) = pvotesQ order (pinit cfg t input) ops1) := by
  refine ⟨fun _ _ _ => rfl, fun p now m hs => by simp [ptalliedQ, hs], fun p now hs hf => by simp [ptalliedQ, hs, hf],
    fun p now m hs => ?_, fun p now hs => by simp [ptalliedQ, hs, POp.toOp, tallied],
    fun _ _ _ _ => rfl, fun ops v hv => ?_,
    fun ops hv hq => ?_,
    fun ops1 ops2 hv hs hnq => pvotesQ_after_quality cfg t input W order ops1 ops2 hin hT hv hs hnq⟩
  · simp only [ptalliedQ, hs, if_true, POp.toOp, tallied_toList, talliedL]
    by_cases hq : p.inst.phase = .quality <;> simp [hq]
  · obtain ⟨m, hm, h1, h2⟩ := pvotesQ_sound order _ ops v hv
    rcases hm with hm | ⟨now, hm⟩
    · simp [pinit] at hm
    · exact ⟨now, m, hm, h1, h2⟩
  · have h := prun_pcq cfg t input W order ops hin hT hv
    exact (h.post (h.started_of_phase (by rw [hq]; decide))).2.1.inQ hq

/-- **Queued votes count from the drain on, in drain order; what the queue refused does not count.** For a participant
run `pre ++ alarm :: rest` whose calls before the beginning alarm are the deliveries `pre`: the counted votes are
`drainVotes` over the drain (`drainWith order`, any map order) of the queue `preQueue look pre` — `messageQueue.Add`
(`instance_queue_rule`) folded over `pre` — followed by the votes counted afterwards; and every vote counted by the drain
is the vote of a QUALITY message *in that queue*: a second message of a sender for the same round and phase and a
spammable message beyond the look-ahead are not in it. -/
theorem counted_votes_from_queue (cfg : Cfg) (t : Table) (input : Chain) (order : List Pid) (pre rest : List POp)
    (now : Int) (hr : ∀ op ∈ pre, op.isRecv = true) :
    pvotesQ order (pinit cfg t input) (pre ++ .alarm now :: rest) =
      drainVotes now ((init cfg t input).beginQuality now).1 (drainWith order (preQueue cfg.maxLookahead pre)) ++
        pvotesQ order (prun order (pinit cfg t input) (pre ++ [.alarm now])).1 rest ∧
    (∀ v ∈ drainVotes now ((init cfg t input).beginQuality now).1 (drainWith order (preQueue cfg.maxLookahead pre)),
      ∃ m ∈ preQueue cfg.maxLookahead pre, m.phase = .quality ∧ v = (m.sender, m.value)) ∧
    (prun order (pinit cfg t input) pre).1.queue = preQueue cfg.maxLookahead pre := by
  refine ⟨?_, fun v hv => ?_, by rw [prun_waiting order cfg t input pre hr]⟩
  · have hsplit : pre ++ POp.alarm now :: rest = (pre ++ [.alarm now]) ++ rest := by simp
    rw [hsplit, pvotesQ_append, pvotesQ_append, pvotesQ_unstarted order _ pre rfl hr, List.nil_append,
      prun_waiting order cfg t input pre hr]
    have hnf : hasFailure ((init cfg t input).beginQuality now).2 = false := by
      simp [State.beginQuality, init, State.alarmAfter, State.resetReb, hasFailure]
    simp [pvotesQ, ptalliedQ, hnf]
  · obtain ⟨m, hm, h⟩ := drainVotes_sound _ _ _ v hv
    exact ⟨m, drainWith_mem order _ m hm, h⟩

/-- **The call that broadcasts the round-0 PREPARE** (`prepare0_run`'s localisation): it is the beginning alarm — the
PREPARE is then broadcast while the queue is drained — or a call that finds the instance in QUALITY; after that call the
instance has begun and left QUALITY, and the votes counted in the whole run are those counted up to and including it. -/
theorem prepare0_origin_participant (cfg : Cfg) (t : Table) (input : Chain) (W : Votes) (order : List Pid)
    (ops : List POp) (hin : input ≠ []) (hT : 0 < t.total) (hvalid : ∀ op ∈ ops, POpP (PMsgOK W t) op)
    (r : Nat) (v : Chain) (tk : Bool)
    (hm : Eff.broadcast r .prepare v tk none ∈ (prun order (pinit cfg t input) ops).2) :
    ∃ ops1 op ops2, ops = ops1 ++ op :: ops2 ∧
      Eff.broadcast r .prepare v tk none ∈ (pstepWith order (prun order (pinit cfg t input) ops1).1 op).2 ∧
      ((prun order (pinit cfg t input) ops1).1.started = false ∨
        (prun order (pinit cfg t input) ops1).1.inst.phase = .quality) ∧
      (prun order (pinit cfg t input) (ops1 ++ [op])).1.started = true ∧
      (prun order (pinit cfg t input) (ops1 ++ [op])).1.inst.phase ≠ .quality ∧
      pvotesQ order (pinit cfg t input) ops = pvotesQ order (pinit cfg t input) (ops1 ++ [op]) := by
  obtain ⟨ops1, op, ops2, he, hmo⟩ := mem_prun_split order _ ops _ hm
  have hv1 : ∀ o ∈ ops1, POpP (PMsgOK W t) o := fun o ho => hvalid o (by rw [he]; simp [ho])
  have hvo : POpP (PMsgOK W t) op := hvalid op (by rw [he]; simp)
  have hv1o : ∀ o ∈ ops1 ++ [op], POpP (PMsgOK W t) o := by
    intro o ho
    rcases List.mem_append.1 ho with ho | ho
    · exact hv1 o ho
    · simp only [List.mem_singleton] at ho; subst ho; exact hvo
  have h1 := prun_pcq cfg t input W order ops1 hin hT hv1
  have horig := pstep_prep0_origin cfg t input order _ op _ _ h1 (hvo.mono (fun _ h => h.top)) r v tk hmo
  have hm1 : Eff.broadcast r .prepare v tk none ∈ (prun order (pinit cfg t input) (ops1 ++ [op])).2 := by
    rw [prun_snoc]; exact List.mem_append_right _ hmo
  obtain ⟨_, hst, hnq, _⟩ := prepare0_participant cfg t input W order (ops1 ++ [op]) hin hT hv1o r v tk hm1
  have hsplit : ops = (ops1 ++ [op]) ++ ops2 := by rw [he]; simp
  refine ⟨ops1, op, ops2, he, hmo, horig, hst, hnq, ?_⟩
  have := pvotesQ_after_quality cfg t input W order (ops1 ++ [op]) ops2 hin hT (by rw [← hsplit]; exact hvalid) hst hnq
  rw [← hsplit] at this
  exact this

/-- … per instance of a multi-instance run: over the QUALITY votes counted by instance `k`, among the calls that concern
`k` (`opsOf`: the deliveries addressed to `k` while `k` had not finished — queued while `k` was a future instance or the
current one not yet begun — and the alarms while `k` was current). -/
theorem prepare0_multi (cfg : Cfg) (c0 : Nat) (ops : List MPOp) (k : Nat) (tbl : Table) (input : Chain)
    (order : List Pid) (W : Votes) (hfw : forwardOnly (minit cfg c0) ops = true)
    (hbeg : begunWith cfg c0 k ops = some (tbl, input, order)) (hin : input ≠ []) (hT : 0 < tbl.total)
    (hvalid : ∀ op ∈ ops, MPOpK k (PMsgOK W tbl) op) (r : Nat) (v : Chain) (tk : Bool)
    (hm : (k, Eff.broadcast r .prepare v tk none) ∈ (mprun (minit cfg c0) ops).2) :
    r = 0 ∧ v = (qTally tbl (pvotesQ order (pinit cfg tbl input) (opsOf cfg c0 k ops))).longestPrefixWithQuorum input := by
  have hp := (instance_projection cfg c0 ops k tbl input order hfw hbeg).1
  have hm' : Eff.broadcast r .prepare v tk none ∈ (prun order (pinit cfg tbl input) (opsOf cfg c0 k ops)).2 := by
    rw [← hp, mem_effsOf]; exact hm
  obtain ⟨h1, _, _, h4⟩ := prepare0_participant cfg tbl input W order _ hin hT (opsOf_PK _ cfg c0 k ops hvalid) r v tk hm'
  exact ⟨h1, h4⟩

/-- Non-vacuity on `p2Ops`: of the six early messages four are queued (member 2's second QUALITY vote and the round-3
COMMIT are not); the drain order is 3, 1, 2, 4; the counted votes are those of 3, 1 and 2 — already after the beginning
alarm (7 calls), during which PREPARE `[7,8]` is broadcast; member 4's vote is tallied (late) but not counted. And on
`exMOps`: the counted votes of the two instances. -/
example :
    ((prun p2Order (pinit r2Cfg r2Tbl [7, 8]) (p2Ops.take 6)).1.queue.map (fun m => (m.sender, m.round, m.phase, m.value)) =
      [(1, 0, .quality, [7, 8]), (2, 0, .quality, [7, 8]), (3, 0, .quality, [7, 8]), (4, 0, .quality, [7, 9])]) ∧
    (drainWith p2Order (prun p2Order (pinit r2Cfg r2Tbl [7, 8]) (p2Ops.take 6)).1.queue).map (·.sender) = [3, 1, 2, 4] ∧
    pvotesQ p2Order (pinit r2Cfg r2Tbl [7, 8]) p2Ops = [(3, [7, 8]), (1, [7, 8]), (2, [7, 8])] ∧
    pvotesQ p2Order (pinit r2Cfg r2Tbl [7, 8]) (p2Ops.take 7) = [(3, [7, 8]), (1, [7, 8]), (2, [7, 8])] ∧
    p2Run.1.inst.quality.senders = [3, 1, 2, 4] ∧
    Eff.broadcast 0 .prepare [7, 8] false none ∈ (prun p2Order (pinit r2Cfg r2Tbl [7, 8]) (p2Ops.take 7)).2 ∧
    (qTally r2Tbl [(3, [7, 8]), (1, [7, 8]), (2, [7, 8])]).longestPrefixWithQuorum [7, 8] = [7, 8] ∧
    pvotesQ mxOrder (pinit mxCfg mxTbl [7, 8]) (opsOf mxCfg 0 0 exMOps) = [(2, [7, 8]), (1, [7, 8]), (3, [7, 8])] ∧
    pvotesQ [1, 4, 2] (pinit mxCfg mxTbl [8, 5]) (opsOf mxCfg 0 1 exMOps) = [(1, [8, 5]), (2, [8, 5]), (3, [8, 5])] :=
  ⟨p2_quality.1, p2_quality.2.1, p2_quality.2.2.1, p2_quality.2.2.2.1, p2_quality.2.2.2.2.1, p2_quality.2.2.2.2.2.1,
   p2_quality.2.2.2.2.2.2, mx_quality.1, mx_quality.2⟩

/-- **Completeness of the candidates — participant API**: `candidates_complete` for the instance inside the
participant, whatever was queued and drained. -/
theorem candidates_complete_participant (cfg : Cfg) (t : Table) (input : Chain) (W : Votes) (order : List Pid)
    (ops : List POp) (hin : input ≠ []) (hT : 0 < t.total) (hvalid : ∀ op ∈ ops, POpP (PMsgOK W t) op) :
    ((prun order (pinit cfg t input) ops).1.inst.phase = .converge ∨
      (prun order (pinit cfg t input) ops).1.inst.phase = .prepare ∨
      (prun order (pinit cfg t input) ops).1.inst.phase = .commit →
      ∀ x, x ≠ [] → x <+: (prun order (pinit cfg t input) ops).1.inst.quality.longestPrefixWithQuorum input →
        (prun order (pinit cfg t input) ops).1.inst.isCandidate x = true) ∧
    (∀ r v tk, Eff.broadcast r .prepare v tk none ∈ (prun order (pinit cfg t input) ops).2 →
      ∀ x, x ≠ [] → x <+: v → (prun order (pinit cfg t input) ops).1.inst.isCandidate x = true) := by
  have h := prun_pcq cfg t input W order ops hin hT hvalid
  cases hst : (prun order (pinit cfg t input) ops).1.started with
  | false =>
    -- nothing has happened yet
    obtain ⟨hinit, _, heffs⟩ := h.waiting hst
    rw [hinit, heffs]
    refine ⟨fun hph => ?_, fun r v tk hm => by cases hm⟩
    rcases hph with h' | h' | h' <;> cases h'
  | true =>
    obtain ⟨hc, _, hp, hinp⟩ := h.post hst
    exact cands_of_cci hc hp hinp

/-- … for the running instance of a multi-instance run, while instance `k` is current. -/
theorem candidates_complete_multi (cfg : Cfg) (c0 : Nat) (ops : List MPOp) (k : Nat) (tbl : Table) (input : Chain)
    (order : List Pid) (W : Votes) (hfw : forwardOnly (minit cfg c0) ops = true)
    (hbeg : begunWith cfg c0 k ops = some (tbl, input, order)) (hin : input ≠ []) (hT : 0 < tbl.total)
    (hvalid : ∀ op ∈ ops, MPOpK k (PMsgOK W tbl) op)
    (hcur : (mprun (minit cfg c0) ops).1.cur = k) :
    ∃ p, (mprun (minit cfg c0) ops).1.active = some p ∧
      (p.inst.phase = .converge ∨ p.inst.phase = .prepare ∨ p.inst.phase = .commit →
        ∀ x, x ≠ [] → x <+: p.inst.quality.longestPrefixWithQuorum input → p.inst.isCandidate x = true) ∧
      (∀ r v tk, (k, Eff.broadcast r .prepare v tk none) ∈ (mprun (minit cfg c0) ops).2 →
        ∀ x, x ≠ [] → x <+: v → p.inst.isCandidate x = true) := by
  obtain ⟨hp, _, hact, _⟩ := instance_projection cfg c0 ops k tbl input order hfw hbeg
  obtain ⟨h1, h2⟩ := candidates_complete_participant cfg tbl input W order _ hin hT (opsOf_PK _ cfg c0 k ops hvalid)
  refine ⟨_, hact hcur, h1, fun r v tk hm => h2 r v tk ?_⟩
  rw [← hp, mem_effsOf]; exact hm

/-- **The best ticket is adopted — participant API**: `converge_adopts_best_ticket` at a `ReceiveAlarm` of the
participant. -/
theorem converge_adopts_best_ticket_participant (cfg : Cfg) (t : Table) (input : Chain) (W : Votes) (order : List Pid)
    (ops : List POp) (hin : input ≠ []) (hT : 0 < t.total) (hvalid : ∀ op ∈ ops, POpP (PMsgOK W t) op)
    (now : Int) (b : ConvVal)
    (hph : (prun order (pinit cfg t input) ops).1.inst.phase = .converge)
    (hto : (prun order (pinit cfg t input) ops).1.inst.phaseTimeoutElapsed now = true)
    (hb : ((prun order (pinit cfg t input) ops).1.inst.getRound
      (prun order (pinit cfg t input) ops).1.inst.round).converged.findBest (fun _ => true) = some b)
    (hpre : b.chain <+: (prun order (pinit cfg t input) ops).1.inst.quality.longestPrefixWithQuorum input ∨
      ∃ r v tk, Eff.broadcast r .prepare v tk none ∈ (prun order (pinit cfg t input) ops).2 ∧ b.chain <+: v) :
    Eff.broadcast (prun order (pinit cfg t input) ops).1.inst.round .prepare b.chain false (some b.just) ∈
      (pstepWith order (prun order (pinit cfg t input) ops).1 (.alarm now)).2 := by
  have h := prun_pcq cfg t input W order ops hin hT hvalid
  have hst := h.started_of_phase (by rw [hph]; decide)
  obtain ⟨hc, _, hp, hinp⟩ := h.post hst
  rw [pstep_started_eq order _ _ hst]
  exact alarm_adopts_best_ticket hc hp hinp (h.pinv.post hst).1.1.core.rounds now b hph hto hb hpre

/-- … at a `ReceiveAlarm` of the multi-instance participant while instance `k` is current (the host is not asked for a
table or a proposal then: `tbl'`, `input'`, `order'` are arbitrary). -/
theorem converge_adopts_best_ticket_multi (cfg : Cfg) (c0 : Nat) (ops : List MPOp) (k : Nat) (tbl : Table)
    (input : Chain) (order : List Pid) (W : Votes) (hfw : forwardOnly (minit cfg c0) ops = true)
    (hbeg : begunWith cfg c0 k ops = some (tbl, input, order)) (hin : input ≠ []) (hT : 0 < tbl.total)
    (hvalid : ∀ op ∈ ops, MPOpK k (PMsgOK W tbl) op)
    (hcur : (mprun (minit cfg c0) ops).1.cur = k) (p : PState)
    (hact : (mprun (minit cfg c0) ops).1.active = some p) (now : Int) (b : ConvVal)
    (hph : p.inst.phase = .converge) (hto : p.inst.phaseTimeoutElapsed now = true)
    (hb : (p.inst.getRound p.inst.round).converged.findBest (fun _ => true) = some b)
    (hpre : b.chain <+: p.inst.quality.longestPrefixWithQuorum input ∨
      ∃ r v tk, (k, Eff.broadcast r .prepare v tk none) ∈ (mprun (minit cfg c0) ops).2 ∧ b.chain <+: v)
    (tbl' : Table) (input' : Chain) (order' : List Pid) :
    Eff.broadcast p.inst.round .prepare b.chain false (some b.just) ∈
      (mpstep (mprun (minit cfg c0) ops).1 (.alarm now tbl' input' order')).2 := by
  obtain ⟨hp, _, hact', _⟩ := instance_projection cfg c0 ops k tbl input order hfw hbeg
  have hpe : p = (prun order (pinit cfg tbl input) (opsOf cfg c0 k ops)).1 := by
    have := hact' hcur
    rw [hact] at this
    exact Option.some.inj this
  have hpre' : b.chain <+: p.inst.quality.longestPrefixWithQuorum input ∨
      ∃ r v tk, Eff.broadcast r .prepare v tk none ∈ (prun order (pinit cfg tbl input) (opsOf cfg c0 k ops)).2 ∧
        b.chain <+: v := by
    rcases hpre with h | ⟨r, v, tk, hm, h⟩
    · exact Or.inl h
    · exact Or.inr ⟨r, v, tk, by rw [← hp, mem_effsOf]; exact hm, h⟩
  subst hpe
  have hst : (prun order (pinit cfg tbl input) (opsOf cfg c0 k ops)).1.started = true :=
    (prun_pcq cfg tbl input W order _ hin hT (opsOf_PK _ cfg c0 k ops hvalid)).started_of_phase (by rw [hph]; decide)
  have := converge_adopts_best_ticket_participant cfg tbl input W order _ hin hT (opsOf_PK _ cfg c0 k ops hvalid) now b
    hph hto hb hpre'
  rw [alarm_active_eq _ now tbl' input' order' _ hact, pstepWith_order_irrel order' order _ _ hst]
  exact this

/-- Non-vacuity on `p2Ops`: after 19 calls (six early deliveries, the beginning alarm, twelve deliveries) the instance
inside the participant is in CONVERGE of round 1 with the timeout elapsed at 400; the best ticket overall is member 3's
`[7]`, a proper prefix of the QUALITY proposal `[7,8]`; both prefixes are candidates; the alarm PREPAREs `[7]`. The
hypotheses hold of that prefix of the run. -/
example :
    (let p := (prun p2Order (pinit r2Cfg r2Tbl [7, 8]) (p2Ops.take 19)).1
     p.inst.phase = .converge ∧ p.inst.round = 1 ∧ p.inst.phaseTimeoutElapsed 400 = true ∧
     ((p.inst.getRound p.inst.round).converged.findBest (fun _ => true)).map (fun b => (b.chain, b.rank, b.just)) =
       some ([7], some 1, jB) ∧
     p.inst.quality.longestPrefixWithQuorum [7, 8] = [7, 8] ∧ p.inst.isCandidate [7] = true ∧
     p.inst.isCandidate [7, 8] = true ∧
     Eff.broadcast 1 .prepare [7] false (some jB) ∈ (pstepWith p2Order p (.alarm 400)).2) ∧
    (∀ op ∈ p2Ops.take 19, POpP (PMsgOK p2W r2Tbl) op) :=
  ⟨p2_converge, fun op hop => p2_valid op (List.mem_of_mem_take hop)⟩

end RunLevelParticipant

end F3.Props.C07

namespace F3.Props.C07
section Skeletons

/-- **The Go functions this property's models mirror still have the statement structure the models were written
against**: each regenerated skeleton (pre-order list of statement kinds, `tools/go2lean/skel.go`) equals the pinned
expectation of `F3/Proofs/SkelTie*.lean`. An added early return, cap, loop or dropped branch in one of these functions
breaks this obligation even when no regenerated *expression* changes. -/
theorem code_structure_as_modelled :
    F3.Gen.SkelGpbft.skelQueueAdd = F3.SkelTie.SkelGpbft.skelQueueAddExpected ∧
    F3.Gen.SkelGpbft.skelQueueDrain = F3.SkelTie.SkelGpbft.skelQueueDrainExpected ∧
    F3.Gen.SkelGpbft.skelReceiveMessage = F3.SkelTie.SkelGpbft.skelReceiveMessageExpected ∧
    F3.Gen.SkelGpbft.skelHandleDecision = F3.SkelTie.SkelGpbft.skelHandleDecisionExpected ∧
    F3.Gen.SkelGpbft.skelReceiveOne = F3.SkelTie.SkelGpbft.skelReceiveOneExpected ∧
    F3.Gen.SkelGpbft.skelPostReceive = F3.SkelTie.SkelGpbft.skelPostReceiveExpected ∧
    F3.Gen.SkelGpbft.skelTryQuality = F3.SkelTie.SkelGpbft.skelTryQualityExpected ∧
    F3.Gen.SkelGpbft.skelTryConverge = F3.SkelTie.SkelGpbft.skelTryConvergeExpected ∧
    F3.Gen.SkelGpbft.skelTryPrepare = F3.SkelTie.SkelGpbft.skelTryPrepareExpected ∧
    F3.Gen.SkelGpbft.skelTryCommit = F3.SkelTie.SkelGpbft.skelTryCommitExpected ∧
    F3.Gen.SkelGpbft.skelTryDecide = F3.SkelTie.SkelGpbft.skelTryDecideExpected ∧
    F3.Gen.SkelGpbft.skelBeginDecide = F3.SkelTie.SkelGpbft.skelBeginDecideExpected ∧
    F3.Gen.SkelGpbft.skelSkipToRound = F3.SkelTie.SkelGpbft.skelSkipToRoundExpected ∧
    F3.Gen.SkelGpbft.skelTryRebroadcast = F3.SkelTie.SkelGpbft.skelTryRebroadcastExpected ∧
    F3.Gen.SkelGpbft.skelReceiveEachPrefix = F3.SkelTie.SkelGpbft.skelReceiveEachPrefixExpected ∧
    F3.Gen.SkelGpbft.skelFindStrongQuorumFor = F3.SkelTie.SkelGpbft.skelFindStrongQuorumForExpected ∧
    F3.Gen.SkelGpbft.skelBeginInstance = F3.SkelTie.SkelGpbft.skelBeginInstanceExpected ∧
    F3.Gen.SkelGpbft.skelReceiveAlarm = F3.SkelTie.SkelGpbft.skelReceiveAlarmExpected ∧
    F3.Gen.SkelGpbft.skelHasBase = F3.SkelTie.SkelGpbft.skelHasBaseExpected ∧
    F3.Gen.SkelGpbft.skelTipSetEqual = F3.SkelTie.SkelGpbft.skelTipSetEqualExpected ∧
    F3.Gen.SkelGpbft.skelChainEq = F3.SkelTie.SkelGpbft.skelChainEqExpected ∧
    F3.Gen.SkelGpbft.skelReceiveMany = F3.SkelTie.SkelGpbft.skelReceiveManyExpected ∧
    F3.Gen.SkelGpbft.skelShouldSkipToRound = F3.SkelTie.SkelGpbft.skelShouldSkipToRoundExpected :=
  ⟨F3.SkelTie.SkelGpbft.skelQueueAdd_expected, F3.SkelTie.SkelGpbft.skelQueueDrain_expected, F3.SkelTie.SkelGpbft.skelReceiveMessage_expected, F3.SkelTie.SkelGpbft.skelHandleDecision_expected, F3.SkelTie.SkelGpbft.skelReceiveOne_expected, F3.SkelTie.SkelGpbft.skelPostReceive_expected, F3.SkelTie.SkelGpbft.skelTryQuality_expected, F3.SkelTie.SkelGpbft.skelTryConverge_expected, F3.SkelTie.SkelGpbft.skelTryPrepare_expected, F3.SkelTie.SkelGpbft.skelTryCommit_expected, F3.SkelTie.SkelGpbft.skelTryDecide_expected, F3.SkelTie.SkelGpbft.skelBeginDecide_expected, F3.SkelTie.SkelGpbft.skelSkipToRound_expected, F3.SkelTie.SkelGpbft.skelTryRebroadcast_expected, F3.SkelTie.SkelGpbft.skelReceiveEachPrefix_expected, F3.SkelTie.SkelGpbft.skelFindStrongQuorumFor_expected, F3.SkelTie.SkelGpbft.skelBeginInstance_expected, F3.SkelTie.SkelGpbft.skelReceiveAlarm_expected, F3.SkelTie.SkelGpbft.skelHasBase_expected, F3.SkelTie.SkelGpbft.skelTipSetEqual_expected, F3.SkelTie.SkelGpbft.skelChainEq_expected, F3.SkelTie.SkelGpbft.skelReceiveMany_expected, F3.SkelTie.SkelGpbft.skelShouldSkipToRound_expected⟩

end Skeletons
end F3.Props.C07
