import F3.Proofs.SkelTieGpbft
import F3.Proofs.InstanceGen2
import F3.Props.C07
import F3.Proofs.SyncGeneralNet
import F3.Model.NetTimed
import F3.Proofs.AlarmInvRun
import F3.Proofs.RoundNetMain
import F3.Proofs.RankedRuns
import F3.Proofs.SyncRuns
/-!
# C06 — termination (partial by nature)

Proved of the executable model. One call: no phase can get stuck once its exit condition holds (`*_leaves_partial`), a
strong DECIDE quorum terminates (`decide_quorum_terminates`), one validated DECIDE pulls a participant into DECIDE
(`decide_propagates`), a participant behind jumps ahead (`skip_rule`). One run: while the instance waits in a phase the
host's timer is armed, and the alarm ends the phase or re-arms it (`alarm_pending_validated`, `no_stuck_phase_validated`).
Honest network under the untimed synchrony order: round 0 decides the longest quorum-supported prefix of the inputs
(`general_sync_decides`); a round `r ≥ 1` decides the best ticket's value if that value is admissible at every member
(`round_r_decides`).
Not proved: a bound on the number of rounds after stabilisation. It depends on which CONVERGE ticket is lowest (the
output of a hash) and on real-time delivery, and without the admissibility premise it is false of the model
(`s13_rounds_end_in_bottom`). It is validated on every run of the live/sync harness modes (C06 oracle).
-/
namespace F3.Props.C06
open F3.Instance

/-- QUALITY ends at its timeout, whatever was received. -/
theorem quality_timeout_leaves_partial (s : State) (now : Int) (h : s.phase = .quality)
    (hto : s.phaseTimeoutElapsed now = true) : (s.tryQuality now).1.phase = .prepare := by
  obtain ⟨cs, e⟩ := F3.Sync.tryQuality_go s now h (by rw [hto, Bool.or_true])
  rw [e]; rfl

/-- CONVERGE ends at its timeout: PREPARE begins, unless no acceptable value exists (the error the C07
oracle watches for; excluded when the participant's own proposal is a candidate). -/
theorem converge_timeout_leaves_partial (s : State) (now : Int) (h : s.phase = .converge)
    (hto : s.phaseTimeoutElapsed now = true) :
    hasFailure (s.tryConverge now).2 = true ∨ (s.tryConverge now).1.phase = .prepare := by
  refine tryConverge_ind s now ?_ ?_ ?_ ?_ ?_
  · exact fun hn => absurd h hn
  · intro _ he; rw [hto] at he; cases he
  · intro _ he; rw [hto] at he; cases he
  · exact fun _ _ _ => Or.inl rfl
  · exact fun _ _ _ _ _ _ _ => Or.inr rfl

/-- PREPARE ends once its timer has fired and a strong quorum of senders has been heard (or earlier, on a
quorum for the proposal or on its impossibility). -/
theorem prepare_complete_leaves_partial (s : State) (now : Int) (h : s.phase = .prepare)
    (hdone : (s.prepFoundQuorum || s.prepFoundJust || s.prepNotPossible || s.prepComplete now) = true) :
    (s.tryPrepare now).1.phase = .commit := by
  rw [F3.Sync.tryPrepare_go s now h hdone, beginCommit_fst]

/-- COMMIT ends once its timer has fired and a strong quorum of senders has been heard: the participant
decides, or moves to the next round (or reports the failure the C07 oracle watches for). -/
theorem commit_complete_leaves_partial (s : State) (now : Int) (h : s.phase = .commit)
    (hc : (s.phaseTimeoutElapsed now && (s.getRound s.round).committed.fromStrong s.tbl) = true) :
    hasFailure (s.tryCommit now s.round).2 = true ∨ (s.tryCommit now s.round).1.phase = .decide ∨
      (s.tryCommit now s.round).1.round = s.round + 1 := by
  have hnr : ∀ st : State, st.round = s.round → (st.beginNextRound now).1.round = s.round + 1 := by
    intro st hst
    obtain ⟨_, _, _, _, _, e⟩ := beginNextRound_fst st now
    rw [e, ← hst]
  refine tryCommit_ind s now s.round
    ?_ ?_ ?_ ?_ ?_ ?_ ?_
  · exact fun _ => Or.inl rfl
  · exact fun _ _ _ => Or.inr (Or.inl (by rw [beginDecide_fst]))
  · intro hw _; simp [h] at hw
  · exact fun _ _ => Or.inr (Or.inr (hnr s rfl))
  · exact fun _ _ _ _ _ _ _ => Or.inr (Or.inr (hnr _ rfl))
  · intro _ _ _ hc'; rw [hc] at hc'; cases hc'
  · intro _ _ _ hc'; rw [hc] at hc'; cases hc'

/-- a strong quorum of DECIDE votes terminates the instance -/
theorem decide_quorum_terminates (s : State) (now : Int) (v : Chain)
    (hq : s.decision.findStrongQuorumValue = .one v) :
    hasFailure (s.tryDecide now).2 = true ∨ (s.tryDecide now).1.phase = .terminated := by
  refine tryDecide_ind s now ?_ ?_ ?_
  · exact fun _ _ => Or.inl rfl
  · exact fun _ _ _ _ => Or.inr rfl
  · intro hn; rw [hq] at hn; cases hn

/-- one validated DECIDE message moves a participant that is not yet in DECIDE into DECIDE (or beyond) -/
theorem decide_propagates (s : State) (now : Int) (m : Msg) (hp : s.phase.toNat < 5) :
    hasFailure (s.recvDecide now m).2 = true ∨ 5 ≤ (s.recvDecide now m).1.phase.toNat := by
  refine recvDecide_ind (P := fun r => hasFailure r.2 = true ∨ 5 ≤ r.1.phase.toNat) s now m ?_ ?_ ?_
  · exact fun _ => Or.inl rfl
  · intro _ q _
    apply andThen_or (P := fun st => 5 ≤ st.phase.toNat)
    have hph := skipToDecide_phase ({ s with decision := q } : State) m.value m.just
    rw [tryCurrentPhase_decide _ now hph]
    rcases tryDecide_cases (({ s with decision := q } : State).skipToDecide m.value m.just).1 now with hf | ⟨ht, _, _⟩ | ⟨hsame, _, _⟩
    · exact Or.inl hf
    · exact Or.inr (by rw [ht]; simp [Phase.toNat])
    · exact Or.inr (by rw [hsame, hph]; simp [Phase.toNat])
  · intro hd; rw [hd] at hp; simp [Phase.toNat] at hp

/-- the skip rule: a participant that holds a weak quorum of PREPAREs for a later round and a justified
CONVERGE value for it jumps to that round (unless it is already deciding) -/
theorem skip_rule (s : State) (now : Int) (round : Nat) (p : ConvVal)
    (hr : s.round < round) (hd : s.phase ≠ .decide)
    (hw : (s.getRound round).prepared.fromWeak s.tbl = true)
    (hb : (s.getRound round).converged.findBest (fun _ => true) = some p) (hne : p.chain ≠ []) :
    hasFailure (s.postReceive now round).2 = true ∨ (s.postReceive now round).1.round = round := by
  unfold State.postReceive
  dsimp only
  have h1 : (decide (round ≤ s.round) || s.phase == .decide) = false := by
    simp [hd]; omega
  simp only [h1, Bool.false_eq_true, if_false, hw, Bool.not_true, hb]
  have hne' : p.chain.isEmpty = false := by cases hc : p.chain <;> simp_all
  simp only [hne', Bool.false_eq_true, if_false]
  have hrr : ∀ (st : State) j, (st.beginConverge now j).1.round = st.round := by
    intro st j
    obtain ⟨_, _, _, _, _, e⟩ := beginConverge_fst st now j
    rw [e]
  right
  rw [hrr]
  split <;> split <;> simp

/-! ### the untimed core of "unanimous and synchronous ⇒ that chain is decided in round 0" (C02, second sentence)

Once a strong quorum for the unanimous value has been tallied, each phase ends with that value without waiting for
its timer: QUALITY → PREPARE for the input, PREPARE → COMMIT for the proposal, COMMIT → DECIDE for the quorum value,
DECIDE → termination (`decide_quorum_terminates`). That the quorum *is* tallied — for every delivery order of a
network of honest model participants whose deliveries respect the order implied by the synchrony bound — and that
the chain is then decided by everybody is `C02.unanimous_sync_invariant` / `C02.unanimous_sync_decides`
(`F3/Model/Net.lean`, `F3/Proofs/Sync*.lean`). -/

theorem unanimous_step_quality (s : State) (now : Int) (h : s.phase = .quality) (hp : s.proposal = s.input)
    (hq : s.quality.hasStrongFor s.input = true) :
    (s.tryQuality now).1.phase = .prepare ∧ (s.tryQuality now).1.proposal = s.input ∧
      Eff.broadcast s.round .prepare s.input false none ∈ (s.tryQuality now).2 := by
  have hl : s.quality.longestPrefixWithQuorum s.input = s.input :=
    (F3.Props.C07.longest_prefix_spec s.quality s.input).2.2 hq
  obtain ⟨cs, e⟩ := F3.Sync.tryQuality_go s now h (by rw [hp, hq]; rfl)
  rw [e, hl]
  exact ⟨rfl, rfl, by simp [State.beginPrepare, State.alarmAfter, State.resetReb]⟩

theorem unanimous_step_prepare (s : State) (now : Int) (h : s.phase = .prepare) (hne : s.proposal ≠ [])
    (hq : s.prepFoundQuorum = true) :
    (s.tryPrepare now).1.phase = .commit ∧ (s.tryPrepare now).1.value = s.proposal ∧
      (hasFailure (s.tryPrepare now).2 = true ∨
        ∃ j, Eff.broadcast s.round .commit s.proposal false (some j) ∈ (s.tryPrepare now).2) := by
  have hne' : s.proposal.isEmpty = false := by cases hc : s.proposal <;> simp_all
  rw [F3.Sync.tryPrepare_go s now h (by rw [hq]; rfl), F3.Sync.prepareValue_found s now (by rw [hq]; rfl)]
  unfold State.beginCommit State.alarmAfter State.resetReb
  simp only [hne', Bool.false_eq_true, if_false]
  split
  · rename_i j _
    exact ⟨rfl, rfl, Or.inr ⟨j, by simp⟩⟩
  · exact ⟨rfl, rfl, Or.inl (by simp)⟩

theorem unanimous_step_commit (s : State) (now : Int) (c : Chain) (hne : c ≠ [])
    (hq : (s.getRound s.round).committed.findStrongQuorumValue = .one c) :
    (s.tryCommit now s.round).1.phase = .decide ∧ (s.tryCommit now s.round).1.value = c ∧
      (hasFailure (s.tryCommit now s.round).2 = true ∨
        ∃ j, Eff.broadcast 0 .decide c false (some j) ∈ (s.tryCommit now s.round).2) := by
  have hne' : c.isEmpty = false := by cases c <;> simp_all
  rw [F3.Sync.tryCommit_one s now s.round c hne' hq]
  unfold State.beginDecide State.resetReb
  dsimp only
  split
  · rename_i sg _
    exact ⟨rfl, rfl, Or.inr ⟨{ round := s.round, phase := .commit, value := c, signers := sg }, by simp⟩⟩
  · exact ⟨rfl, rfl, Or.inl (by simp)⟩
  · exact ⟨rfl, rfl, Or.inl (by simp)⟩

/-- Non-vacuity of the hypotheses: a PREPARE-phase state whose timer has fired with all three members heard. -/
example : ∃ s : State, ∃ now : Int, s.phase = .prepare ∧
    (s.prepFoundQuorum || s.prepFoundJust || s.prepNotPossible || s.prepComplete now) = true := by
  let tbl : Table := { entries := [(1, 30000), (2, 20000), (3, 15534)] }
  let cfg : Cfg := { maxLookahead := 2, rebImmediateAfter := 3, timeout2 := [100], qualityTimeout2 := 100, rebAfter := [50] }
  let ops : List Op :=
    [.start 0, .alarm 200,
     .recv 201 { sender := 1, round := 0, phase := .prepare, value := [7] },
     .recv 202 { sender := 2, round := 0, phase := .prepare, value := [7, 8] }]
  refine ⟨(run (init cfg tbl [7, 8]) ops).1, 400, by decide, by decide⟩

/-! ## Arbitrary inputs sharing the base, all participants honest, synchrony: round 0 decides the longest
quorum-supported prefix

Generalisation of `C02.unanimous_sync_decides` from one common input chain to one input chain `inp p` per participant
(`F3/Proofs/SyncGeneral{Tally,Votes,Node,Net}.lean`). Setting: the participants `H` are exactly the members of the
power table (`tbl.entries.map (·.1) = H`, distinct), the total power is positive, all inputs start at the same base
`b`; the network, the executions (`execOk`: no faulty sender) and the untimed synchrony condition `SyncOrdered` are
those of `F3/Model/Net.lean`.

* `SyncGeneral.supp tbl H inp k` is the power of the participants whose input has prefix `k`, `SyncGeneral.SQ` says
  that it is a strong quorum by the model's own `strongQ`. Quorum-supported prefixes are totally ordered
  (`quorum_prefixes_ordered`: two strong quorums share a member, whose input extends both), so there is a longest
  one, `SyncGeneral.longestQuorumPrefix tbl H inp` (`longestQuorumPrefix_greatest`; the base always qualifies).
* What the model does (`general_sync_invariant`): after QUALITY participant `p` PREPAREs `propOf p`, the longest
  quorum-supported prefix of *its own* input — `P*` for those whose input extends `P*` (they hold a strong quorum),
  a proper prefix of `P*` for the others; the former COMMIT `P*` with a justification, the latter find their proposal
  impossible (or time out) and COMMIT bottom; everybody — also a participant still in QUALITY or PREPARE, and those
  that committed bottom — moves to DECIDE `P*` on a strong quorum of COMMITs for `P*`, and terminates on a strong
  quorum of DECIDEs. Nothing fails, nobody leaves round 0.
* Liveness (`general_sync_decides`): in a complete execution everybody has terminated with value `P*`, provided no
  participant is left waiting for its QUALITY timer. Unlike the unanimous case this proviso is needed also for long
  chains: `tryQuality` leaves QUALITY early only on a quorum for the participant's *own input*; a participant whose
  input is not itself quorum-supported (e.g. all inputs extend `P*` differently) waits for the timer. It suffices
  that, for every participant, the timer has fired or the own input is quorum-supported
  (`general_sync_decides_timers`). -/
section GeneralInputs
open F3.Net F3.SyncGeneral

/-- **Quorum-supported prefixes are totally ordered** (so "the longest" is well defined). -/
theorem quorum_prefixes_ordered (tbl : Table) (H : List Pid) (inp : Pid → Chain) (b : Nat)
    (hH : tbl.entries.map (·.1) = H) (hnd : H.Nodup) (hpos : 0 < tbl.total)
    (hbase : ∀ p ∈ H, (inp p).head? = some b) {k1 k2 : Chain}
    (h1 : SQ tbl H inp k1 = true) (h2 : SQ tbl H inp k2 = true) : k1 <+: k2 ∨ k2 <+: k1 :=
  (gctx_of tbl H inp b hH hnd hpos hbase).sq_comparable h1 h2

/-- **`longestQuorumPrefix` is the greatest quorum-supported chain**: it is non-empty, starts at the base, is
supported by a strong quorum, and every non-empty quorum-supported chain is a prefix of it. -/
theorem longestQuorumPrefix_greatest (tbl : Table) (H : List Pid) (inp : Pid → Chain) (b : Nat)
    (hH : tbl.entries.map (·.1) = H) (hnd : H.Nodup) (hpos : 0 < tbl.total)
    (hbase : ∀ p ∈ H, (inp p).head? = some b) :
    longestQuorumPrefix tbl H inp ≠ [] ∧ (longestQuorumPrefix tbl H inp).head? = some b ∧
    SQ tbl H inp (longestQuorumPrefix tbl H inp) = true ∧
    ∀ k, k ≠ [] → SQ tbl H inp k = true → k <+: longestQuorumPrefix tbl H inp := by
  have g := gctx_of tbl H inp b hH hnd hpos hbase
  exact ⟨g.longestQuorumPrefix_ne, g.longestQuorumPrefix_head, g.longestQuorumPrefix_sq, fun k hk hs => g.sq_le_longest hk hs⟩

/-- **After QUALITY** (tally level): every proposal is a quorum-supported prefix of the proposer's own input and of
`P*`; the participants whose input extends `P*` propose exactly `P*`, and they hold a strong quorum. -/
theorem proposals_after_quality (tbl : Table) (H : List Pid) (inp : Pid → Chain) (b : Nat)
    (hH : tbl.entries.map (·.1) = H) (hnd : H.Nodup) (hpos : 0 < tbl.total)
    (hbase : ∀ p ∈ H, (inp p).head? = some b) :
    (∀ p ∈ H, propOf tbl H inp p <+: inp p ∧ propOf tbl H inp p <+: longestQuorumPrefix tbl H inp ∧
      SQ tbl H inp (propOf tbl H inp p) = true ∧
      (propOf tbl H inp p = longestQuorumPrefix tbl H inp ↔ longestQuorumPrefix tbl H inp <+: inp p)) ∧
    strongQ tbl (((H.filter (fun p => propOf tbl H inp p == longestQuorumPrefix tbl H inp)).map tbl.power).sum) = true := by
  have g := gctx_of tbl H inp b hH hnd hpos hbase
  refine ⟨fun p hp => ⟨g.propOf_prefix hp, g.propOf_le_longest hp, g.propOf_sq hp, g.propOf_eq_longest_iff hp⟩, ?_⟩
  rw [← F3.Sync.sumP_eq_sum]
  exact g.majority_strong

/-- the only messages such a run puts on the wire: QUALITY(input), PREPARE(`propOf`), COMMIT(`P*` justified by
PREPAREs for `P*`, or bottom), DECIDE(`P*` justified by COMMITs for `P*`), all of round 0 -/
def GeneralMsg (tbl : Table) (H : List Pid) (inp : Pid → Chain) (m : Msg) : Prop :=
  m.round = 0 ∧
  ((m.phase = .quality ∧ m.value = inp m.sender ∧ m.just = none) ∨
   (m.phase = .prepare ∧ m.value = propOf tbl H inp m.sender ∧ m.just = none) ∨
   (m.phase = .commit ∧ m.value = cvOf tbl H inp m.sender ∧
      (m.value ≠ [] → ∃ j, m.just = some j ∧ j.round = 0 ∧ j.phase = .prepare ∧ j.value = longestQuorumPrefix tbl H inp)) ∨
   (m.phase = .decide ∧ m.value = longestQuorumPrefix tbl H inp ∧
      ∃ j, m.just = some j ∧ j.round = 0 ∧ j.phase = .commit ∧ j.value = longestQuorumPrefix tbl H inp))

/-- **Safety of the synchronous run with arbitrary inputs.** In every admissible, synchrony-ordered execution:
(a) no node ever reports a failure effect; (b) every message ever broadcast comes from a member of `H` and is a
`GeneralMsg`; (c) every node is still in round 0 and a node that has a termination value has decided `P*`. -/
theorem general_sync_invariant (tbl : Table) (H : List Pid) (inp : Pid → Chain) (cfg : Pid → Cfg) (b : Nat)
    (hH : tbl.entries.map (·.1) = H) (hnd : H.Nodup) (hpos : 0 < tbl.total)
    (hbase : ∀ p ∈ H, (inp p).head? = some b) (ops : List NetOp)
    (hexec : execOk (initNet tbl H cfg inp) ops = true) (hsync : SyncOrdered (initNet tbl H cfg inp) ops) :
    (runNet (initNet tbl H cfg inp) ops).fails = [] ∧
    (∀ m ∈ (runNet (initNet tbl H cfg inp) ops).pool, m.sender ∈ H ∧ GeneralMsg tbl H inp m) ∧
    (runNet (initNet tbl H cfg inp) ops).nodes.map (·.1) = H ∧
    (∀ p s, (p, s) ∈ (runNet (initNet tbl H cfg inp) ops).nodes →
      s.round = 0 ∧ ∀ d, s.termination = some d → d.value = longestQuorumPrefix tbl H inp) := by
  have g := gctx_of tbl H inp b hH hnd hpos hbase
  have hn := general_invariant_core g cfg ops hexec hsync
  refine ⟨hn.fails, fun m hm => ⟨(hn.pool m hm).2, gshape_cases (hn.pool m hm).1⟩, hn.ids, ?_⟩
  intro p s hp
  have hno := hn.node p s hp
  exact ⟨hno.inv.round, hno.inv.term⟩

/-- **The longest quorum-supported prefix is decided in round 0.** If moreover the execution is *complete* (every
member has started and every message ever broadcast has been handed to every member) and no member is still waiting
in QUALITY, then every member has terminated with decision `longestQuorumPrefix tbl H inp`. -/
theorem general_sync_decides (tbl : Table) (H : List Pid) (inp : Pid → Chain) (cfg : Pid → Cfg) (b : Nat)
    (hH : tbl.entries.map (·.1) = H) (hnd : H.Nodup) (hpos : 0 < tbl.total)
    (hbase : ∀ p ∈ H, (inp p).head? = some b) (ops : List NetOp)
    (hexec : execOk (initNet tbl H cfg inp) ops = true) (hsync : SyncOrdered (initNet tbl H cfg inp) ops)
    (hcomplete : complete (runNet (initNet tbl H cfg inp) ops) = true)
    (hquality : ∀ p s, (p, s) ∈ (runNet (initNet tbl H cfg inp) ops).nodes → s.phase ≠ .quality) :
    (∀ p ∈ H, ∃ s, (p, s) ∈ (runNet (initNet tbl H cfg inp) ops).nodes) ∧
    ∀ p s, (p, s) ∈ (runNet (initNet tbl H cfg inp) ops).nodes →
      s.phase = .terminated ∧ s.round = 0 ∧
      ∃ d, s.termination = some d ∧ d.value = longestQuorumPrefix tbl H inp := by
  have g := gctx_of tbl H inp b hH hnd hpos hbase
  obtain ⟨h1, h2⟩ := general_decides_core g cfg ops hexec hsync hcomplete hquality
  have hn := general_invariant_core g cfg ops hexec hsync
  exact ⟨h1, fun p s hp => ⟨(h2 p s hp).1, (hn.node p s hp).inv.round, (h2 p s hp).2⟩⟩

/-- ... in particular when, for every member, the QUALITY timer has fired while it was in QUALITY or its own input
is supported by a strong quorum (with at least one tipset beyond the base — QUALITY tallies nothing for the base). -/
theorem general_sync_decides_timers (tbl : Table) (H : List Pid) (inp : Pid → Chain) (cfg : Pid → Cfg) (b : Nat)
    (hH : tbl.entries.map (·.1) = H) (hnd : H.Nodup) (hpos : 0 < tbl.total)
    (hbase : ∀ p ∈ H, (inp p).head? = some b) (ops : List NetOp)
    (hexec : execOk (initNet tbl H cfg inp) ops = true) (hsync : SyncOrdered (initNet tbl H cfg inp) ops)
    (hcomplete : complete (runNet (initNet tbl H cfg inp) ops) = true)
    (htimers : ∀ p ∈ H, p ∈ (runNet (initNet tbl H cfg inp) ops).fired ∨
      (2 ≤ (inp p).length ∧ SQ tbl H inp (inp p) = true)) :
    (∀ p ∈ H, ∃ s, (p, s) ∈ (runNet (initNet tbl H cfg inp) ops).nodes) ∧
    ∀ p s, (p, s) ∈ (runNet (initNet tbl H cfg inp) ops).nodes →
      s.phase = .terminated ∧ s.round = 0 ∧
      ∃ d, s.termination = some d ∧ d.value = longestQuorumPrefix tbl H inp := by
  have g := gctx_of tbl H inp b hH hnd hpos hbase
  have hn := general_invariant_core g cfg ops hexec hsync
  exact general_sync_decides tbl H inp cfg b hH hnd hpos hbase ops hexec hsync hcomplete
    (fun p s hp => g_complete_not_quality g hn hcomplete hp (htimers p (hn.mem_H hp)))

/-- **Corollary (validity, cf. C02).** The value decided by such a run is non-empty, starts at the base and is a
prefix of the input of a set of participants holding a strong quorum of power. -/
theorem general_sync_validity (tbl : Table) (H : List Pid) (inp : Pid → Chain) (cfg : Pid → Cfg) (b : Nat)
    (hH : tbl.entries.map (·.1) = H) (hnd : H.Nodup) (hpos : 0 < tbl.total)
    (hbase : ∀ p ∈ H, (inp p).head? = some b) (ops : List NetOp)
    (hexec : execOk (initNet tbl H cfg inp) ops = true) (hsync : SyncOrdered (initNet tbl H cfg inp) ops)
    (p : Pid) (s : State) (hp : (p, s) ∈ (runNet (initNet tbl H cfg inp) ops).nodes) (d : Just)
    (hd : s.termination = some d) :
    d.value ≠ [] ∧ d.value.head? = some b ∧
    strongQ tbl (((H.filter (fun h => d.value.isPrefixOf (inp h))).map tbl.power).sum) = true := by
  have g := gctx_of tbl H inp b hH hnd hpos hbase
  have hv := ((general_sync_invariant tbl H inp cfg b hH hnd hpos hbase ops hexec hsync).2.2.2 p s hp).2 d hd
  rw [hv, ← F3.Sync.sumP_eq_sum]
  exact ⟨g.longestQuorumPrefix_ne, g.longestQuorumPrefix_head, g.longestQuorumPrefix_sq⟩

/-- with unanimous inputs the longest quorum-supported prefix is the common input chain -/
theorem longestQuorumPrefix_unanimous (tbl : Table) (H : List Pid) (c : Chain)
    (hH : tbl.entries.map (·.1) = H) (hnd : H.Nodup) (hpos : 0 < tbl.total) (hc : c ≠ []) :
    longestQuorumPrefix tbl H (fun _ => c) = c :=
  longestQuorumPrefix_of_const tbl H c hH hnd hpos hc

/-- **Corollary (unanimous inputs).** For `inp = fun _ => c` the general theorem specialises to the statement of
`C02.unanimous_sync_decides` (same conclusion, same `2 ≤ c.length ∨ timersFired` proviso), for the case that the
honest members are the whole table. -/
theorem general_sync_decides_unanimous (tbl : Table) (H : List Pid) (c : Chain) (cfg : Pid → Cfg)
    (hH : tbl.entries.map (·.1) = H) (hnd : H.Nodup) (hpos : 0 < tbl.total) (hc : c ≠ []) (ops : List NetOp)
    (hexec : execOk (initNet tbl H cfg (fun _ => c)) ops = true)
    (hsync : SyncOrdered (initNet tbl H cfg (fun _ => c)) ops)
    (hcomplete : complete (runNet (initNet tbl H cfg (fun _ => c)) ops) = true)
    (htimers : 2 ≤ c.length ∨ timersFired (runNet (initNet tbl H cfg (fun _ => c)) ops) = true) :
    (∀ p ∈ H, ∃ s, (p, s) ∈ (runNet (initNet tbl H cfg (fun _ => c)) ops).nodes) ∧
    ∀ p s, (p, s) ∈ (runNet (initNet tbl H cfg (fun _ => c)) ops).nodes →
      s.phase = .terminated ∧ ∃ d, s.termination = some d ∧ d.value = c := by
  obtain ⟨a, as, rfl⟩ : ∃ a as, c = a :: as := by
    cases c with
    | nil => exact absurd rfl hc
    | cons a as => exact ⟨a, as, rfl⟩
  have hbase : ∀ p ∈ H, ((fun _ => a :: as) p).head? = some a := fun _ _ => rfl
  have g := gctx_of tbl H (fun _ => a :: as) a hH hnd hpos hbase
  have hn := general_invariant_core g cfg ops hexec hsync
  have ht : ∀ p ∈ H, p ∈ (runNet (initNet tbl H cfg (fun _ => a :: as)) ops).fired ∨
      (2 ≤ ((fun _ => a :: as) p).length ∧ SQ tbl H (fun _ => a :: as) ((fun _ => a :: as) p) = true) := by
    intro p hp
    rcases htimers with hl | hf
    · exact Or.inr ⟨hl, sq_unanimous g⟩
    · left
      unfold timersFired at hf
      simp only [List.all_eq_true, List.contains_eq_mem, decide_eq_true_eq] at hf
      rw [← hn.ids] at hp
      obtain ⟨e, he, rfl⟩ := List.mem_map.1 hp
      exact hf e he
  obtain ⟨h1, h2⟩ := general_sync_decides_timers tbl H (fun _ => a :: as) cfg a hH hnd hpos hbase ops hexec hsync
    hcomplete ht
  refine ⟨h1, fun p s hp => ?_⟩
  obtain ⟨h3, _, d, h4, h5⟩ := h2 p s hp
  exact ⟨h3, d, h4, by rw [h5]; exact longestQuorumPrefix_const g⟩

/-! ### non-vacuity: four participants with diverging inputs and unequal power (`giNet`, `giOps`: `F3/Proofs/SyncRuns.lean`) -/

/-- the hypotheses of `general_sync_invariant` / `general_sync_decides_timers` hold of this execution ... -/
theorem gi_hyps :
    giTbl.entries.map (·.1) = [1, 2, 3, 4] ∧ [1, 2, 3, 4].Nodup ∧ 0 < giTbl.total ∧
    (∀ p ∈ [1, 2, 3, 4], (giInp p).head? = some 0) ∧
    execOk giNet giOps = true ∧ SyncOrdered giNet giOps ∧ complete (runNet giNet giOps) = true ∧
    (∀ p ∈ [1, 2, 3, 4], p ∈ (runNet giNet giOps).fired ∨
      (2 ≤ (giInp p).length ∧ SQ giTbl [1, 2, 3, 4] giInp (giInp p) = true)) :=
  gi_run.1

/-- ... the longest quorum-supported prefix is `0.1.2`, the proposals are `0.1.2`, `0.1.2`, `0.1`, `0` ... -/
example : longestQuorumPrefix giTbl [1, 2, 3, 4] giInp = [0, 1, 2] ∧
    [1, 2, 3, 4].map (propOf giTbl [1, 2, 3, 4] giInp) = [[0, 1, 2], [0, 1, 2], [0, 1], [0]] :=
  gi_run.2.2

set_option maxRecDepth 4000 in
/-- ... and, as the theorems say, nothing failed and everybody decided `0.1.2` in round 0 (members 3 and 4 after
committing bottom). -/
example :
    (runNet giNet giOps).fails = [] ∧
    (runNet giNet giOps).nodes.map (fun e => (e.1, e.2.phase, e.2.round, e.2.termination.map (·.value))) =
      [(1, .terminated, 0, some [0, 1, 2]), (2, .terminated, 0, some [0, 1, 2]),
       (3, .terminated, 0, some [0, 1, 2]), (4, .terminated, 0, some [0, 1, 2])] ∧
    ((runNet giNet giOps).pool.filter (fun m => m.phase == .commit)).map (fun m => (m.sender, m.value)) =
      [(3, []), (4, []), (1, [0, 1, 2]), (2, [0, 1, 2])] :=
  gi_run.2.1

/-- the general theorem applied to this execution -/
example : ∀ p s, (p, s) ∈ (runNet giNet giOps).nodes →
    s.phase = .terminated ∧ s.round = 0 ∧ ∃ d, s.termination = some d ∧ d.value = [0, 1, 2] := by
  obtain ⟨h1, h2, h3, h4, h5, h6, h7, h8⟩ := gi_hyps
  have h := (general_sync_decides_timers giTbl [1, 2, 3, 4] giInp (fun _ => giCfg) 0 h1 h2 h3 h4 giOps h5 h6 h7 h8).2
  rw [gi_run.2.2.1] at h
  exact h

def geTbl : Table := { entries := [(1, 10), (2, 10), (3, 10), (4, 10)] }
def geInpA : Pid → Chain := fun p => match p with | 1 => [0, 1, 2] | 2 => [0, 1, 2] | 3 => [0, 1, 3] | _ => [0, 1]
def geInpB : Pid → Chain := fun p => match p with | 1 => [0, 1, 2] | 2 => [0, 1, 2] | 3 => [0, 1, 2] | _ => [0, 9]

/-- Equal power, inputs `0.1.2`, `0.1.2`, `0.1.3`, `0.1`: `0.1.2` has only 20 of 40, the longest quorum-supported
prefix is `0.1` (every proposal is `0.1`); a minority diverging right after the base (`0.1.2` three times, `0.9`
once): `0.1.2`, the minority proposes the base. -/
example :
    longestQuorumPrefix geTbl [1, 2, 3, 4] geInpA = [0, 1] ∧
    [1, 2, 3, 4].map (propOf geTbl [1, 2, 3, 4] geInpA) = [[0, 1], [0, 1], [0, 1], [0, 1]] ∧
    longestQuorumPrefix geTbl [1, 2, 3, 4] geInpB = [0, 1, 2] ∧
    [1, 2, 3, 4].map (propOf geTbl [1, 2, 3, 4] geInpB) = [[0, 1, 2], [0, 1, 2], [0, 1, 2], [0]] := by
  decide +kernel

/-! ### the real-time bound does *not* imply the synchrony order when inputs differ

`C02.timed_sync_ordered` derives `SyncOrdered` from the real-time assumption `TimedSync Δ` for a *unanimous* input. For
differing inputs this fails, and with it the round-0 decision: `tryQuality` ends QUALITY as soon as the participant's
*own input* has a strong quorum, so a participant whose input is quorum-supported enters PREPARE (and arms its `2Δ`
PREPARE timer) up to a whole QUALITY timeout before the participants whose input is not, and the timer expires before
their PREPAREs arrive. Below (`Δ = 10`, both timeouts `2Δ = 20`, every delay `< Δ`, all four participants honest):
member 1 (power 40, input `0.1.2` = `P*`, quorum at time 2, PREPARE timer 22) is handed member 3's PREPARE for `0.1` at
26: timer expired, senders heard 40+10+20 = 70 of 100 (a strong quorum), only 40 for `0.1.2` ⇒ `prepComplete` ⇒ it
COMMITs bottom, one tick before member 2's PREPARE for `0.1.2` would have completed the quorum. Bottom then holds
70 of 100 COMMITs and everybody moves to round 1. (Not a safety problem — the next round takes over — but the
"decided in round 0" claim needs the order `SyncOrdered`, which real-time synchrony gives only for unanimous inputs.) -/

def rtTbl : Table := { entries := [(1, 40), (2, 30), (3, 20), (4, 10)] }
def rtCfg : Cfg := { maxLookahead := 2, rebImmediateAfter := 3, timeout2 := [20], qualityTimeout2 := 20, rebAfter := [50] }
def rtInp : Pid → Chain := fun p => match p with | 1 => [0, 1, 2] | 2 => [0, 1, 2, 6] | 3 => [0, 1, 3] | _ => [0, 1]
def rtNet : Net := initNet rtTbl [1, 2, 3, 4] (fun _ => rtCfg) rtInp
def rtQ (p : Pid) : Msg := { sender := p, round := 0, phase := .quality, value := rtInp p }
def rtP (p : Pid) (v : Chain) : Msg := { sender := p, round := 0, phase := .prepare, value := v }
def rtC0 (p : Pid) : Msg := { sender := p, round := 0, phase := .commit, value := [] }
def rtC2 : Msg :=
  { sender := 2, round := 0, phase := .commit, value := [0, 1, 2],
    just := some { round := 0, phase := .prepare, value := [0, 1, 2], signers := [0, 1] } }
def rtAll (now : Int) (m : Msg) : List NetOp := [.deliver 1 now m, .deliver 2 now m, .deliver 3 now m, .deliver 4 now m]
/-- members 1 and 4 leave QUALITY at 2 and 3 (own input quorum-supported), members 2 and 3 at their timer (20) -/
def rtOps : List NetOp :=
  [.start 1 0, .start 2 0, .start 3 0, .start 4 0] ++
  rtAll 1 (rtQ 1) ++ rtAll 2 (rtQ 2) ++ rtAll 3 (rtQ 3) ++ rtAll 4 (rtQ 4) ++
  rtAll 5 (rtP 1 [0, 1, 2]) ++ rtAll 6 (rtP 4 [0, 1]) ++ rtAll 7 (rtC0 4) ++
  [.alarm 2 20, .alarm 3 20,
   .deliver 1 26 (rtP 3 [0, 1]), .deliver 1 27 (rtP 2 [0, 1, 2]),
   .deliver 2 27 (rtP 3 [0, 1]), .deliver 3 27 (rtP 3 [0, 1]), .deliver 4 27 (rtP 3 [0, 1]),
   .deliver 2 28 (rtP 2 [0, 1, 2]), .deliver 3 28 (rtP 2 [0, 1, 2]), .deliver 4 28 (rtP 2 [0, 1, 2])] ++
  rtAll 30 (rtC0 1) ++ rtAll 31 (rtC0 3) ++ rtAll 32 rtC2

set_option maxRecDepth 4000 in
/-- **Finding.** All participants honest, every message delivered in less than `Δ`, timeouts `2Δ` (`TimedSync 10`),
inputs sharing the base — and round 0 does not decide: the execution is not `SyncOrdered`, a proposer of the longest
quorum-supported prefix `0.1.2` COMMITs bottom, bottom gathers a strong quorum and all four move to round 1. -/
example :
    execOk rtNet rtOps = true ∧ TimedSync 10 rtNet rtOps ∧ ¬ SyncOrdered rtNet rtOps ∧
    longestQuorumPrefix rtTbl [1, 2, 3, 4] rtInp = [0, 1, 2] ∧ propOf rtTbl [1, 2, 3, 4] rtInp 1 = [0, 1, 2] ∧
    (runNet rtNet rtOps).fails = [] ∧
    ((runNet rtNet rtOps).pool.filter (fun m => m.phase == .commit)).map (fun m => (m.sender, m.value)) =
      [(4, []), (1, []), (3, []), (2, [0, 1, 2])] ∧
    (runNet rtNet rtOps).nodes.map (fun e => (e.1, e.2.phase, e.2.round, e.2.termination.map (·.value))) =
      [(1, .converge, 1, none), (2, .converge, 1, none), (3, .converge, 1, none), (4, .converge, 1, none)] := by
  unfold SyncOrdered
  decide +kernel

end GeneralInputs

/-! ## Run level: the host's timer stays armed, ticket ranks, and what the round bound depends on

`F3/Proofs/AlarmInv{,Step,Run}.lean` (namespace `F3.Liveness`): the ghost *host timer* of a run and the invariant `Armed`;
`F3/Model/NetRanked.lean`: the network of `F3/Model/Net.lean` with CONVERGE ticket ranks; `F3/Proofs/RoundDecides.lean`:
what a round `r ≥ 1` does when the best ticket's value is admissible everywhere. -/
section RunLevel
open F3.Liveness F3.Net F3.NetRanked

/-- **`alarm_pending_inv` for validated runs.** One `Start`, then any alarms and validated (or foreign) deliveries — the
hypotheses of `C07.no_internal_error_or_panic` — by an environment that behaves like the host (`hostOk`: time does not
run backwards, `ReceiveAlarm` only when the pending alarm is due). Then after the run (`ops` is arbitrary: after every
prefix, `alarm_pending_every_prefix`) the instance inside the host is the plain `run`, and while it is in
QUALITY / CONVERGE / PREPARE / COMMIT of a round `≤ rebImmediateAfter` the host's single timer is armed: the pending
alarm is the phase timeout (no rebroadcast scheduled) or the scheduled rebroadcast time (phase timeout passed). -/
theorem alarm_pending_validated (cfg : Cfg) (t : Table) (input : Chain) (W : Votes) (now0 : Int) (ops : List Op)
    (hin : input ≠ []) (hT : 0 < t.total)
    (hstart : ∀ op ∈ ops, op.isStart = false)
    (hvalid : ∀ op ∈ ops, foreignOp op = true ∨ OpValidG W t op)
    (hhost : hostOk (initHost cfg t input now0) (.start now0 :: ops) = true) :
    (hostRun (initHost cfg t input now0) (.start now0 :: ops)).st = (run (init cfg t input) (.start now0 :: ops)).1 ∧
    Armed (hostRun (initHost cfg t input now0) (.start now0 :: ops)).st
      (hostRun (initHost cfg t input now0) (.start now0 :: ops)).timer
      (hostRun (initHost cfg t input now0) (.start now0 :: ops)).clock ∧
    (InScope (run (init cfg t input) (.start now0 :: ops)).1 →
      ∃ tm, (hostRun (initHost cfg t input now0) (.start now0 :: ops)).timer = some tm) := by
  have hok := (F3.Props.C07.no_internal_error_or_panic cfg t input W now0 ops hin hT hstart hvalid).1
  have hst : (hostRun (initHost cfg t input now0) (.start now0 :: ops)).st =
      (run (init cfg t input) (.start now0 :: ops)).1 := hostRun_st _ _
  have ha := alarm_pending_inv cfg t input now0 ops hok hhost
  exact ⟨hst, ha, fun hs => ha.some (by rw [hst]; exact hs)⟩

/-- ... in every state the run passes through -/
theorem alarm_pending_every_prefix (cfg : Cfg) (t : Table) (input : Chain) (W : Votes) (now0 : Int) (ops : List Op)
    (hin : input ≠ []) (hT : 0 < t.total)
    (hstart : ∀ op ∈ ops, op.isStart = false)
    (hvalid : ∀ op ∈ ops, foreignOp op = true ∨ OpValidG W t op)
    (hhost : hostOk (initHost cfg t input now0) (.start now0 :: ops) = true) (k : Nat) :
    InScope (run (init cfg t input) (.start now0 :: ops.take k)).1 →
      ∃ tm, (hostRun (initHost cfg t input now0) (.start now0 :: ops.take k)).timer = some tm :=
  (alarm_pending_validated cfg t input W now0 (ops.take k) hin hT
    (fun op h => hstart op (List.mem_of_mem_take h)) (fun op h => hvalid op (List.mem_of_mem_take h))
    (by have := hostOk_take _ _ (k + 1) hhost; simpa using this)).2.2

/-- **`no_stuck_phase` for validated runs.** If the run is continued by the alarm (fired by the host: due, and no
earlier than the last call) while the instance is in scope, then the alarm finds the phase timeout expired and:
QUALITY → PREPARE; CONVERGE → PREPARE; PREPARE → COMMIT, COMMIT → DECIDE or CONVERGE of the next round, or (PREPARE /
COMMIT with no strong quorum of senders heard) the instance stays, requests the scheduled rebroadcast round and re-arms
the timer; afterwards an alarm is pending again unless the instance is in DECIDE. -/
theorem no_stuck_phase_validated (cfg : Cfg) (t : Table) (input : Chain) (W : Votes) (now0 now : Int) (ops : List Op)
    (hin : input ≠ []) (hT : 0 < t.total)
    (hstart : ∀ op ∈ ops, op.isStart = false)
    (hvalid : ∀ op ∈ ops, foreignOp op = true ∨ OpValidG W t op)
    (hhost : hostOk (initHost cfg t input now0) (.start now0 :: (ops ++ [.alarm now])) = true)
    (hs : InScope (run (init cfg t input) (.start now0 :: ops)).1) :
    let s := (run (init cfg t input) (.start now0 :: ops)).1
    s.phaseTimeoutElapsed now = true ∧
    (s.phase = .quality → (step s (.alarm now)).1.phase = .prepare ∧ (step s (.alarm now)).1.round = s.round) ∧
    (s.phase = .converge → (step s (.alarm now)).1.phase = .prepare ∧ (step s (.alarm now)).1.round = s.round) ∧
    (s.phase = .prepare →
      ((step s (.alarm now)).1.phase = .commit ∧ (step s (.alarm now)).1.round = s.round) ∨
      (Rearmed s (step s (.alarm now)) ∧ (s.getRound s.round).prepared.fromStrong s.tbl = false)) ∧
    (s.phase = .commit →
      (step s (.alarm now)).1.phase = .decide ∨
      ((step s (.alarm now)).1.phase = .converge ∧ (step s (.alarm now)).1.round = s.round + 1) ∨
      (Rearmed s (step s (.alarm now)) ∧ (s.getRound s.round).committed.fromStrong s.tbl = false)) ∧
    ((step s (.alarm now)).1.phase = .decide ∨ ∃ t', lastAlarm none (step s (.alarm now)).2 = some t') := by
  intro s
  have hok := (F3.Props.C07.no_internal_error_or_panic cfg t input W now0 (ops ++ [.alarm now]) hin hT
    (fun op h => by
      rcases List.mem_append.1 h with h | h
      · exact hstart op h
      · simp at h; subst h; rfl)
    (fun op h => by
      rcases List.mem_append.1 h with h | h
      · exact hvalid op h
      · simp at h; subst h; exact Or.inr trivial)).1
  obtain ⟨hok1, hlast⟩ := okRunI_snoc _ (.start now0 :: ops) (.alarm now) hok
  obtain ⟨hh1, hh2⟩ := hostOk_snoc _ (.start now0 :: ops) (.alarm now) hhost
  have hst : (hostRun (initHost cfg t input now0) (.start now0 :: ops)).st = s := hostRun_st _ _
  have ha := alarm_pending_inv cfg t input now0 ops hok1 hh1
  rw [hst] at ha
  have hnf : hasFailure (step s (.alarm now)).2 = false := by
    rcases hlast with h | h
    · cases h
    · exact h
  unfold hostOpOk at hh2
  rw [Bool.and_eq_true, decide_eq_true_eq] at hh2
  obtain ⟨tm, htm⟩ := ha.some hs
  rw [htm] at ha hh2
  have hdue : tm ≤ now := by simpa using hh2.2
  exact no_stuck_phase s tm _ now ha hs hh2.1 hdue hnf

/-! ### where the invariant fails: the `tryRebroadcast` alarm gaps (DECIDE; rounds beyond `rebImmediateAfter`)

`tryRebroadcast` run *before* the phase timeout (DECIDE, or a round `> rebImmediateAfter`) schedules rebroadcasts with
the current time as offset. When the next rebroadcast time lies at or beyond the (possibly stale) phase timeout it sets
the alarm back to the phase timeout (`gpbft.go`: "Reverted to phase timeout"). When that alarm fires, the rebroadcast
timeout has not elapsed, the `switch` of `tryRebroadcast` takes its `default:` branch and no alarm is set: the host's
one-shot timer is dead until some message happens to arrive after the rebroadcast time. -/

def gapTbl : Table := { entries := [(1, 10), (2, 10), (3, 10), (4, 10)] }
/-- rebroadcast after 30, then 200 (any back-off whose second step overshoots the phase timeout) -/
def gapCfg : Cfg := { maxLookahead := 2, rebImmediateAfter := 3, timeout2 := [100, 130], qualityTimeout2 := 100, rebAfter := [30, 200] }
def gapDecide : Msg :=
  { sender := 2, round := 0, phase := .decide, value := [7, 8],
    just := some { round := 0, phase := .commit, value := [7, 8], signers := [0, 1, 2] } }
/-- `Start` at 0 (QUALITY timeout 100); one DECIDE arrives at 10: skip to DECIDE, first rebroadcast scheduled for 40 —
before the stale QUALITY timeout, so the alarm is moved to 40; the alarm fires at 40: rebroadcast, next one due at 240,
beyond 100, so the alarm is "reverted" to 100; the alarm fires at 100: rebroadcast not due, nothing is armed. -/
def gapDecideOps : List Op := [.start 0, .recv 10 gapDecide, .alarm 40, .alarm 100]

/-- **Finding (alarm gap in DECIDE).** An admissible host run without any failure after which the instance sits in
DECIDE, not terminated, with *no alarm pending* (and its last alarm request, `setAlarm 100`, already consumed). -/
theorem decide_alarm_gap :
    okRunI (init gapCfg gapTbl [7, 8]) gapDecideOps = true ∧
    hasFailure (run (init gapCfg gapTbl [7, 8]) gapDecideOps).2 = false ∧
    hostOk (initHost gapCfg gapTbl [7, 8] 0) gapDecideOps = true ∧
    (hostRun (initHost gapCfg gapTbl [7, 8] 0) gapDecideOps).st.phase = .decide ∧
    (hostRun (initHost gapCfg gapTbl [7, 8] 0) gapDecideOps).st.rebTimeout = some 240 ∧
    (hostRun (initHost gapCfg gapTbl [7, 8] 0) gapDecideOps).timer = none ∧
    (hostRun (initHost gapCfg gapTbl [7, 8] 0) (gapDecideOps.take 3)).timer = some 100 := by
  decide +kernel

/-- the same configuration with rebroadcast immediately from round 1 on -/
def gapCfg0 : Cfg := { gapCfg with rebImmediateAfter := 0 }
def gapJ : Just := { round := 0, phase := .commit, value := [], signers := [0, 1, 2] }
def gapCv (p : Pid) : Msg := { sender := p, round := 1, phase := .converge, value := [7], rank := p, just := some gapJ }
def gapPv (p : Pid) : Msg := { sender := p, round := 1, phase := .prepare, value := [7], just := some gapJ }
/-- the participant is pulled into round 1 by a weak quorum of PREPAREs (skip rule) at 12, leaves CONVERGE at its
timeout 142 and PREPAREs (timeout 272); a CONVERGE arriving at 150 runs `tryRebroadcast` (round 1 > 0): rebroadcast
scheduled for 180, alarm moved there; alarm at 180: rebroadcast, next one due at 380 ≥ 272: alarm reverted to 272;
alarm at 272: no strong quorum of PREPARE senders, rebroadcast not due — nothing is armed. -/
def gapLateOps : List Op :=
  [.start 0, .recv 10 (gapCv 2), .recv 11 (gapPv 2), .recv 12 (gapPv 3), .alarm 142, .recv 150 (gapCv 3), .alarm 180, .alarm 272]

/-- **Finding (alarm gap in a round beyond `rebroadcastImmediatelyAfterRound`).** The same gap in PREPARE of round 1
with `rebImmediateAfter = 0` (Go's default is 3: rounds ≥ 4): after the alarm at the phase timeout the participant is
in PREPARE without a strong quorum of senders and no alarm is pending; only the next delivery after time 380 wakes it
up (`.recv 400 _` re-arms). The bound `s.round ≤ rebImmediateAfter` in `InScope` is therefore necessary. -/
theorem late_round_alarm_gap :
    okRunI (init gapCfg0 gapTbl [7, 8]) gapLateOps = true ∧
    hasFailure (run (init gapCfg0 gapTbl [7, 8]) gapLateOps).2 = false ∧
    hostOk (initHost gapCfg0 gapTbl [7, 8] 0) gapLateOps = true ∧
    (hostRun (initHost gapCfg0 gapTbl [7, 8] 0) gapLateOps).st.phase = .prepare ∧
    (hostRun (initHost gapCfg0 gapTbl [7, 8] 0) gapLateOps).st.round = 1 ∧
    (hostRun (initHost gapCfg0 gapTbl [7, 8] 0) gapLateOps).timer = none ∧
    (hostRun (initHost gapCfg0 gapTbl [7, 8] 0) (gapLateOps ++ [.recv 300 (gapCv 4)])).timer = none ∧
    (hostRun (initHost gapCfg0 gapTbl [7, 8] 0) (gapLateOps ++ [.recv 300 (gapCv 4), .recv 400 (gapCv 1)])).timer = some 600 := by
  decide +kernel

/-- with `rebImmediateAfter = 3` the same deliveries stay in scope: rebroadcast waits for the phase timeout 272, the
alarm at 272 schedules the first rebroadcast (302), the alarm at 302 the next (502) — as `alarm_pending_inv` says, the
timer is armed after every call -/
def gapInOps : List Op :=
  [.start 0, .recv 10 (gapCv 2), .recv 11 (gapPv 2), .recv 12 (gapPv 3), .alarm 142, .recv 150 (gapCv 3), .alarm 272, .alarm 302]
example : hostOk (initHost gapCfg gapTbl [7, 8] 0) gapInOps = true ∧
    (List.range 8).map (fun k => (hostRun (initHost gapCfg gapTbl [7, 8] 0) (gapInOps.take (k + 1))).timer) =
      [some 100, some 100, some 100, some 142, some 272, some 272, some 302, some 502] := by
  decide +kernel

/-! ### the ranked network (`F3/Model/NetRanked.lean`): a second round converges on the best ticket

A two-round scenario: four equal members, inputs `7.8` (members 1–3) and `7.9` (member 4). Members 1 and 2
hold the QUALITY quorum for `7.8` and PREPARE it; members 3 and 4 leave QUALITY by their timers before the votes arrive
and PREPARE the base `7` (member 3 learns `7.8` as a candidate from the late QUALITY votes). PREPARE splits 2/2, all
four COMMIT bottom, round 1: CONVERGE `7.8`, `7.8`, `7`, `7`. The scripts (`rkScript`, …) and their evaluation are in
`F3/Proofs/RankedRuns.lean`. -/

/-- **With distinct ticket ranks round 1 converges** (no hand-injected ranks: the deliveries are the pool messages).
Member 3 holds the best ticket, its CONVERGE value `7` is a candidate at every member (the base), everybody PREPAREs
and COMMITs `7` in round 1 and decides it; nothing fails. -/
theorem ranked_round1_converges :
    bestTicket rkRank rkAll 1 3 = true ∧
    (runScript rkRank rkNet rkScript).1.fails = [] ∧
    (runScript rkRank rkNet rkScript).1.nodes.map (fun e => (e.1, e.2.round, e.2.phase, e.2.termination.map (·.value))) =
      [(1, 1, .terminated, some [7]), (2, 1, .terminated, some [7]), (3, 1, .terminated, some [7]),
       (4, 1, .terminated, some [7])] ∧
    ((runScript rkRank rkNet rkScript).1.pool.filter (fun m => m.round == 1)).map
        (fun m => (m.sender, m.phase, m.value, m.rank)) =
      [(1, .converge, [7, 8], 6), (2, .converge, [7, 8], 7), (3, .converge, [7], 1), (4, .converge, [7], 9),
       (1, .prepare, [7], 0), (2, .prepare, [7], 0), (3, .prepare, [7], 0), (4, .prepare, [7], 0),
       (1, .commit, [7], 0), (2, .commit, [7], 0), (3, .commit, [7], 0), (4, .commit, [7], 0)] :=
  rk_whole ▸ rk_runs.1

/-- the events of that run are admissible (`execOkR`: only pool messages, to started members) -/
theorem ranked_round1_admissible : execOkR rkRank rkNet (runScript rkRank rkNet rkScript).2 = true := by
  rw [execOkR_runScript_split _ _ _ 6, Bool.and_eq_true]
  exact ⟨rk_runs.2.1, rk_runs.2.2.1.2.2.2.1⟩

/-- **Without a ticket order (`F3.Net`: every rank 0) the same schedule never converges**: on a rank tie `findBest` keeps
the value inserted first — the member's own — so every member re-PREPAREs its own value in round 1, PREPARE splits 2/2
again, and everybody moves on to round 2. -/
theorem unranked_round1_does_not_converge :
    (runScript (fun _ _ => 0) rkNet rkScript).1.nodes.map (fun e => (e.1, e.2.round, e.2.phase, e.2.termination.map (·.value))) =
      [(1, 2, .converge, none), (2, 2, .converge, none), (3, 2, .converge, none), (4, 2, .converge, none)] ∧
    ((runScript (fun _ _ => 0) rkNet rkScript).1.pool.filter (fun m => m.round == 1 && m.phase == .prepare)).map
        (fun m => (m.sender, m.value)) = [(1, [7, 8]), (2, [7, 8]), (3, [7]), (4, [7])] := by
  decide +kernel

/-! ### S13 in the ranked model: the unconditional round bound is false

Known finding S13 (`known_findings.json`): every strong quorum needs a member `M` whose input is incompatible with the
proposal `V` the others stand on. Four equal members (a strong quorum needs three); member 4 broadcasts its QUALITY
vote for `7.8` and is silent from then on (crashed: within the `< 1/3` budget), its vote reaches members 1 and 2 only.
Members 1, 2 (input `7.8`) hold a QUALITY quorum for `7.8` and stand on it; member 3 = `M` (input `7.9`) knows only
the base `7` as candidate. From then on the run is perfectly synchronous among 1, 2, 3 (every message of a phase is
handed to all three before any timeout is evaluated). In every round the CONVERGE value `7.8` of members 1 and 2 is
justified by the COMMIT-bottom quorum of the previous round, hence admissible at `M` only as a candidate — which it is
not; `M`'s value `7` is a candidate at 1 and 2. So a round decides iff `M` holds the best ticket. -/

/-- **S13, the stall.** `M` never holds the best ticket: rounds 0, 1, 2, 3 all end with COMMIT bottom from every live
member (PREPARE `7.8`, `7.8`, `7` each time), nothing fails, nobody decides, everybody is in CONVERGE of round 4 — and
so on for as many rounds as `M` loses the lottery: no bound on the number of rounds after stabilisation holds of the
model. The premise of the conditional round theorem that fails is admissibility: the best ticket's value `7.8` is not a
candidate at `M`, and its justification is a COMMIT (bottom) quorum, not a PREPARE quorum. -/
theorem s13_rounds_end_in_bottom :
    execOkR s13Lose s13Net (runScript s13Lose s13Net (s13Script [1, 2, 3])).2 = true ∧
    (runScript s13Lose s13Net (s13Script [1, 2, 3])).1.fails = [] ∧
    (runScript s13Lose s13Net (s13Script [1, 2, 3])).1.nodes.map
        (fun e => (e.1, e.2.round, e.2.phase, e.2.termination.map (·.value))) =
      [(1, 4, .converge, none), (2, 4, .converge, none), (3, 4, .converge, none), (4, 0, .quality, none)] ∧
    (runScript s13Lose s13Net (s13Script [1, 2, 3])).1.nodes.map (fun e => (e.2.proposal, e.2.candidates)) =
      [([7, 8], [[7], [7, 8]]), ([7, 8], [[7], [7, 8]]), ([7], [[7]]), ([7, 8], [[7]])] ∧
    ((runScript s13Lose s13Net (s13Script [1, 2, 3])).1.pool.filter (fun m => m.phase == .commit)).all
        (fun m => m.value == []) = true ∧
    ((runScript s13Lose s13Net (s13Script [1, 2, 3])).1.pool.filter (fun m => m.phase == .prepare)).map
        (fun m => (m.sender, m.round, m.value)) =
      [(1, 0, [7, 8]), (2, 0, [7, 8]), (3, 0, [7]), (1, 1, [7, 8]), (2, 1, [7, 8]), (3, 1, [7]),
       (1, 2, [7, 8]), (2, 2, [7, 8]), (3, 2, [7]), (1, 3, [7, 8]), (2, 3, [7, 8]), (3, 3, [7])] ∧
    ((runScript s13Lose s13Net (s13Script [1, 2, 3])).1.pool.filter (fun m => m.phase == .converge && m.sender == 1)).all
        (fun m => m.value == [7, 8] && (m.just.map (fun j => (j.phase, j.value))) == some (.commit, [])) = true := by
  rw [s13_whole s13Lose 17, execOkR_runScript_split _ _ _ 17, Bool.and_eq_true]
  exact ⟨⟨s13_lose_runs.1.1, s13_lose_runs.2.2.2.2.2.1⟩, s13_lose_runs.1.2⟩

/-- **S13, the way out.** Same inputs, same schedule, but `M` holds the best ticket of round 2: its value `7` is a
candidate everywhere, everybody PREPAREs and COMMITs `7` in round 2 and decides it. -/
theorem s13_decides_when_M_wins :
    (runScript s13Win2 s13Net (s13Script [1, 2, 3])).1.fails = [] ∧
    (runScript s13Win2 s13Net (s13Script [1, 2, 3])).1.nodes.map
        (fun e => (e.1, e.2.round, e.2.phase, e.2.termination.map (·.value))) =
      [(1, 2, .terminated, some [7]), (2, 2, .terminated, some [7]), (3, 2, .terminated, some [7]),
       (4, 0, .quality, none)] :=
  s13_whole s13Win2 12 ▸ s13_win2_runs.1

/-! ### round `r ≥ 1`, stage by stage (node level; for the network-level composition see §RoundR below and the header of
`F3/Proofs/RoundDecides.lean`) -/

/-- **Round `r`, CONVERGE stage** (`F3/Proofs/RoundDecides.lean`). A participant in CONVERGE of any round whose timer has
expired, whose converge state holds only CONVERGE messages of honest participants (`ConvOK val rk`: participant `q`
sent value `val q` with ticket rank `rk q` — what `NetRanked` delivers), among them that of the strictly best ticket
holder `w`, PREPAREs `val w`, *if `val w` is admissible at this participant* (`admissible` = the filter of
`tryConverge`: a candidate, or justified by PREPAREs and still reachable in the previous round's COMMIT tally). This is
the premise that fails in S13. -/
theorem round_converge_stage (s : State) (now : Int) (val : Pid → Chain) (rk : Pid → Nat) (w : Pid)
    (hph : s.phase = .converge) (hel : s.phaseTimeoutElapsed now = true)
    (hok : ConvOK val rk (s.getRound s.round).converged)
    (hw : w ∈ (s.getRound s.round).converged.senders)
    (hbest : ∀ q ∈ (s.getRound s.round).converged.senders, q = w ∨ rk w < rk q)
    (hne : val w ≠ [])
    (hadm : ∀ cv ∈ (s.getRound s.round).converged.values, cv.chain = val w → admissible s cv = true) :
    hasFailure (s.tryConverge now).2 = false ∧
    (s.tryConverge now).1.phase = .prepare ∧ (s.tryConverge now).1.round = s.round ∧
    (s.tryConverge now).1.proposal = val w ∧ (s.tryConverge now).1.value = val w ∧
    ∃ j, Eff.broadcast s.round .prepare (val w) false (some j) ∈ (s.tryConverge now).2 :=
  converge_adopts_best s now val rk w hph hel hok hw hbest hne hadm

/-- **Round `r`, PREPARE stage.** A participant in PREPARE of any round with proposal `v`, whose PREPARE tally of that
round satisfies the run-level tally invariant (`TallyWF`, part of `GInv`), has heard a strong quorum `H`, and has heard
only votes for `v`, COMMITs `v` with a justification (without waiting for the timer). -/
theorem round_prepare_stage_partial (s : State) (now : Int) (V : Pid → Chain → Prop) (v : Chain) (H : List Pid)
    (hph : s.phase = .prepare) (hprop : s.proposal = v) (hv : v ≠ [])
    (hwf : TallyWF V s.tbl (s.getRound s.round).prepared)
    (hne : H ≠ []) (hnd : H.Nodup) (hq : strongQ s.tbl (sumP s.tbl H) = true)
    (hall : ∀ x ∈ H, x ∈ (s.getRound s.round).prepared.senders)
    (huni : ∀ x c, x ∈ (s.getRound s.round).prepared.senders → V x c → c = v) :
    (s.tryPrepare now).1.phase = .commit ∧ (s.tryPrepare now).1.value = v ∧
    (hasFailure (s.tryPrepare now).2 = true ∨
      ∃ j, Eff.broadcast s.round .commit v false (some j) ∈ (s.tryPrepare now).2) := by
  have hs : s.prepFoundQuorum = true := by
    unfold State.prepFoundQuorum
    rw [hprop]
    exact unanimous_tally_strong hwf v H hne hnd hq hall huni
  have := unanimous_step_prepare s now hph (by rw [hprop]; exact hv) hs
  rw [hprop] at this
  exact this

/-- **Round `r`, DECIDE stage**: a DECIDE tally that has heard a strong quorum `H`, all for `v`, holds a strong quorum
for `v` (`decide_quorum_terminates` then terminates the instance). -/
theorem round_decide_tally_partial (s : State) (V : Pid → Chain → Prop) (v : Chain) (H : List Pid)
    (hwf : TallyWF V s.tbl s.decision)
    (hne : H ≠ []) (hnd : H.Nodup) (hq : strongQ s.tbl (sumP s.tbl H) = true)
    (hall : ∀ x ∈ H, x ∈ s.decision.senders)
    (huni : ∀ x c, x ∈ s.decision.senders → V x c → c = v) :
    s.decision.hasStrongFor v = true :=
  unanimous_tally_strong hwf v H hne hnd hq hall huni

end RunLevel

end F3.Props.C06

namespace F3.Props.C06
section Regenerated2
/-! ## Regenerated (2): timers, rebroadcast, round skipping and the PREPARE / COMMIT exits of `gpbft/gpbft.go`

Termination rests on *when* the instance model moves on, rebroadcasts and re-arms its alarm. Those
decisions are re-stated by hand in `F3/Model/Instance.lean`; the theorems below (proved in
`F3/Proofs/InstanceGen2.lean`, namespace `F3.Gen2Tie`) equate each of them with the definition
`tools/go2lean` regenerates from the Go source on every run (`targets.d/Gpbft2.json` →
`F3/Gen/Gpbft2.lean`), so that an edit of the Go site either keeps the equality or breaks this file. -/
open F3.Instance

/-- `phaseTimeoutElapsed` = `atOrAfter(now, phaseTimeout)` (`After || Equal`) -/
theorem phase_timeout_is_regenerated (s : State) (now : Int) :
    s.phaseTimeoutElapsed now =
      F3.Gen.Gpbft2.atOrAfter (decide (now > s.phaseTimeout)) (decide (now = s.phaseTimeout)) :=
  F3.Gen2Tie.phaseTimeoutElapsed_is_atOrAfter s now

/-- `shouldRebroadcast` of the model = of the source -/
theorem should_rebroadcast_is_regenerated (s : State) (now : Int) :
    s.shouldRebroadcast now =
      F3.Gen.Gpbft2.shouldRebroadcast s.round s.cfg.rebImmediateAfter (s.phaseTimeoutElapsed now) :=
  F3.Gen2Tie.shouldRebroadcast_is_regenerated s now

/-- no skip to a round that is not ahead, none in DECIDE: the first guard of `shouldSkipToRound` -/
theorem skip_refused_is_regenerated (s : State) (now : Int) (round : Nat)
    (h : F3.Gen.Gpbft2.skipToRoundRefused s.phase.toNat s.round round = true) :
    s.postReceive now round = (s, []) :=
  F3.Gen2Tie.postReceive_refused s now round h

/-- the guard itself, as an equation -/
theorem skip_guard_is_regenerated (s : State) (round : Nat) :
    (decide (round ≤ s.round) || s.phase == .decide) =
      F3.Gen.Gpbft2.skipToRoundRefused s.phase.toNat s.round round :=
  F3.Gen2Tie.skip_guard_is_regenerated s round

/-- first rebroadcast: the offset of the alarm (statement: `F3.Gen2Tie.first_rebroadcast_offset_is_regenerated`) -/
theorem first_rebroadcast_is_regenerated :
    type_of% @F3.Gen2Tie.first_rebroadcast_offset_is_regenerated :=
  @F3.Gen2Tie.first_rebroadcast_offset_is_regenerated

/-- successive rebroadcasts: rebroadcast, count, next timeout, alarm choice, in the source's order
(statement: `F3.Gen2Tie.next_rebroadcast_is_regenerated`) -/
theorem next_rebroadcast_is_regenerated : type_of% @F3.Gen2Tie.next_rebroadcast_is_regenerated :=
  @F3.Gen2Tie.next_rebroadcast_is_regenerated

/-- what is rebroadcast and in which order = `rebroadcast()` of the source -/
theorem rebroadcast_plan_is_regenerated (s : State) :
    rebroadcastEffs s = F3.Gen2Tie.rebPlan s (F3.Gen.Gpbft2.rebroadcast s.phase.toNat s.round) :=
  F3.Gen2Tie.rebroadcast_plan_is_regenerated s

/-- a COMMIT re-tries the current phase exactly under `tryToCompleteCurrentPhase` of the source -/
theorem commit_retry_is_regenerated (st : State) (m : Msg) :
    (st.phase == .prepare && st.round == m.round && !m.value.isEmpty) =
      F3.Gen.Gpbft2.commitRetriesCurrentPhase false st.phase.toNat st.round m.round m.value.isEmpty :=
  F3.Gen2Tie.commit_retry_is_regenerated st m

/-- the round assertion of `beginConverge` (domain: past round 0, `uint64` rounds) -/
theorem converge_round_guard_is_regenerated (s : State) (now : Int) (j : Just)
    (h1 : 1 ≤ s.round) (h2 : s.round < 2 ^ 64) (h3 : j.round < 2 ^ 64) :
    F3.Gen.Gpbft2.convergeJustWrongRound s.round j.round = (j.round + 1 != s.round) ∧
    (F3.Gen.Gpbft2.convergeJustWrongRound s.round j.round = true →
      s.beginConverge now j = (s, [.panic .convergeJustRound])) :=
  F3.Gen2Tie.converge_round_guard_is_regenerated s now j h1 h2 h3

/-- the end of PREPARE = the two `if` chains of `tryPrepare` -/
theorem try_prepare_is_regenerated (s : State) (now : Int) (hp : s.phase = .prepare) :
    s.tryPrepare now =
      (F3.Gen.Gpbft2.tryPrepare s.prepFoundJust s.prepFoundQuorum (s.prepComplete now) s.prepNotPossible
        (s.shouldRebroadcast now)).2.foldl (F3.Gen2Tie.prepAct now) (s, []) :=
  F3.Gen2Tie.tryPrepare_is_regenerated s now hp

/-- the `switch` of `tryCommit` (statement: `F3.Gen2Tie.tryCommit_is_regenerated`) -/
theorem try_commit_is_regenerated : type_of% @F3.Gen2Tie.tryCommit_is_regenerated :=
  @F3.Gen2Tie.tryCommit_is_regenerated

-- non-vacuity: the regenerated decisions take every branch
example : (F3.Gen.Gpbft2.tryCommit false true 4 3 false false 3 false).2 = [1, 2] ∧
    (F3.Gen.Gpbft2.tryCommit false true 4 3 false true 3 false).2 = [3] ∧
    (F3.Gen.Gpbft2.tryCommit false false 4 3 true true 3 false).2 = [4, 3] ∧
    (F3.Gen.Gpbft2.tryCommit false false 4 3 false true 3 true).2 = [5] ∧
    (F3.Gen.Gpbft2.tryCommit true false 3 3 true true 3 true).2 = [] := by decide
example : (F3.Gen.Gpbft2.tryPrepare false true false false false).2 = [1, 3] ∧
    (F3.Gen.Gpbft2.tryPrepare false false true false false).2 = [2, 3] ∧
    (F3.Gen.Gpbft2.tryPrepare false false false false true).2 = [4] := by decide
example : F3.Gen.Gpbft2.rebroadcast 3 2 = [1, 14, 13, 12, 24, 23, 22] ∧ F3.Gen.Gpbft2.rebroadcast 3 0 = [1, 14, 13, 12] ∧
    F3.Gen.Gpbft2.rebroadcast 5 7 = [5] ∧ F3.Gen.Gpbft2.rebroadcast 6 7 = [] := by decide

end Regenerated2
end F3.Props.C06

namespace F3.Props.C06
section RoundR
open F3.Instance F3.Net F3.NetRanked F3.Liveness

/-! ## the conditional round theorem, network level

`F3/Proofs/RoundNet{Defs,Tally,Node,Net,Main}.lean` (namespace `F3.Liveness`). Setting: the ranked network
`F3/Model/NetRanked.lean`; `H` is the list of live members — distinct members of the power table that together hold a
strong quorum (the all-honest whole-table network is `H = tbl.entries.map (·.1)`; members outside `H` are silent:
crashed, as member 4 of the S13 runs); total power positive.

* `RoundStart rankOf t H r b val jst n` (`roundStartB`, decidable): `r ≥ 1`; every member `p ∈ H` is in CONVERGE of round
  `r`, its converge state holds exactly its own value `val p` (justification `jst p`), its PREPARE / COMMIT tallies of
  round `r`, its DECIDE tally and round `r+1` are empty, it has not terminated; the pool holds the CONVERGE of round `r`
  of every member (value `val p`, ticket `rankOf p r`, justification `jst p`) and no other message of round `r` and no
  DECIDE; no such message has been handed to a member yet. This is the state in which `ranked_round1_converges` and the
  S13 runs find themselves after a round that ended in COMMIT ⊥ for everybody.
* `SyncOrderedR rankOf r H n ops` (`syncOkR`, decidable): only members of `H` act and there is no `Start`; only CONVERGE /
  PREPARE / COMMIT of round `r` and DECIDE are handed over — **re-deliveries of messages of older rounds are excluded**
  (not proved harmless: a re-delivered COMMIT of round `r-1` can complete a late strong quorum, which is a legitimate
  DECIDE from round `r`, and a late QUALITY vote changes the candidates, i.e. admissibility); a member that evaluates
  its CONVERGE timeout of round `r` as expired — in `ReceiveAlarm` or in the `tryCurrentPhase` at the end of `Receive`,
  the message being delivered counting as handed over — has been handed the CONVERGE of every member of `H`.
  **No condition on the PREPARE and COMMIT timeouts is needed**: everybody votes `val w`, so "timeout expired and a strong
  quorum of senders heard" already is a strong quorum for `val w` (total power positive); a PREPARE or COMMIT alarm that
  fires early only rebroadcasts. (The S13 script fires the COMMIT alarms before any COMMIT is handed over — a per-phase
  condition in the style of `Net.SyncOrdered` would reject that run.)
* premise: the strictly best ticket of round `r` belongs to `w` (`bestTicket`) and `val w` passes the filter of
  `tryConverge` at every member under the justification of every member that sends it (`admAllB`: `admAt x (val w) (jst q)`
  for every member state `x` and every `q` with `val q = val w`; which entry of the converge state carries `val w`
  depends on the order of delivery — the first CONVERGE for a value, or the member's own — hence "every `q`").
* conclusion (`round_r_invariant`, every admissible synchronous execution): no failure effect is added, every PREPARE /
  COMMIT of round `r` and every DECIDE on the wire is for `val w`, every member stays in round `r`, and a decision is
  `val w`; (`round_r_decides`) if the execution is complete for round `r` and nobody is left waiting for its CONVERGE
  timer (the proviso of `general_sync_decides`, CONVERGE ends by timer only), every member has terminated in round `r` with
  decision `val w` and has broadcast DECIDE `val w`. "Every member PREPAREs and COMMITs `val w`" is *not* a consequence: a
  member still in CONVERGE is pulled into DECIDE by one DECIDE (or by a COMMIT quorum) and never PREPAREs
  (`round_r_member_skips_prepare`); what holds is `RoundFacts.node`: a member in PREPARE / COMMIT has broadcast PREPARE
  `val w`, a member in COMMIT has broadcast COMMIT `val w`. -/

/-- **Round `r`, COMMIT stage (node level).** A participant whose COMMIT tally of its current round satisfies the
run-level tally invariant (`TallyWF`, part of `GInv`) and has heard a whole strong quorum `H`, every heard vote being for
`v ≠ ⊥`, moves to DECIDE with value `v` and broadcasts DECIDE `v` justified by the COMMITs of that round; nothing
fails (total power positive). -/
theorem round_commit_stage (s : State) (now : Int) (V : Pid → Chain → Prop) (v : Chain) (H : List Pid) (hv : v ≠ [])
    (hpos : 0 < s.tbl.total) (hwf : TallyWF V s.tbl (s.getRound s.round).committed)
    (hne : H ≠ []) (hnd : H.Nodup) (hq : strongQ s.tbl (sumP s.tbl H) = true)
    (hall : ∀ x ∈ H, x ∈ (s.getRound s.round).committed.senders)
    (huni : ∀ x c, x ∈ (s.getRound s.round).committed.senders → V x c → c = v) :
    hasFailure (s.tryCommit now s.round).2 = false ∧
    (s.tryCommit now s.round).1.phase = .decide ∧ (s.tryCommit now s.round).1.value = v ∧
    (s.tryCommit now s.round).1.round = s.round ∧
    ∃ sg, Eff.broadcast 0 .decide v false (some { round := s.round, phase := .commit, value := v, signers := sg }) ∈
      (s.tryCommit now s.round).2 :=
  commit_stage_node s now V v H hv hpos hwf hne hnd hq hall huni

/-- **Round `r`, DECIDE stage (node level).** A DECIDE tally that has heard a whole strong quorum `H`, all for `v`:
the participant terminates with decision `v`; nothing fails. -/
theorem round_decide_stage (s : State) (now : Int) (V : Pid → Chain → Prop) (v : Chain) (H : List Pid)
    (hpos : 0 < s.tbl.total) (hwf : TallyWF V s.tbl s.decision)
    (hne : H ≠ []) (hnd : H.Nodup) (hq : strongQ s.tbl (sumP s.tbl H) = true)
    (hall : ∀ x ∈ H, x ∈ s.decision.senders)
    (huni : ∀ x c, x ∈ s.decision.senders → V x c → c = v) :
    hasFailure (s.tryDecide now).2 = false ∧ (s.tryDecide now).1.phase = .terminated ∧
    ∃ d, (s.tryDecide now).1.termination = some d ∧ d.value = v ∧ d.phase = .decide :=
  decide_stage_node s now V v H hpos hwf hne hnd hq hall huni

/-- **Round `r`, safety.** See the section header; `RoundFacts` is spelled out in `F3/Proofs/RoundNetMain.lean`. -/
theorem round_r_invariant (rankOf : Pid → Nat → Nat) (t : Table) (H : List Pid) (r b : Nat) (val : Pid → Chain)
    (jst : Pid → Just) (w : Pid) (n : Net) (ops : List NetOp)
    (hstart : RoundStart rankOf t H r b val jst n) (hbest : bestTicket rankOf H r w = true)
    (hadm : admAllB H w val jst n = true)
    (hexec : execOkR rankOf n ops = true) (hsync : SyncOrderedR rankOf r H n ops) :
    RoundFacts H r (val w) n.fails (runNetR rankOf n ops) :=
  F3.Liveness.round_r_invariant rankOf t H r b val jst w n ops hstart hbest hadm hexec hsync

/-- **Round `r` decides `val w`** when the strictly best ticket holder's value is admissible everywhere. -/
theorem round_r_decides (rankOf : Pid → Nat → Nat) (t : Table) (H : List Pid) (r b : Nat) (val : Pid → Chain)
    (jst : Pid → Just) (w : Pid) (n : Net) (ops : List NetOp)
    (hstart : RoundStart rankOf t H r b val jst n) (hbest : bestTicket rankOf H r w = true)
    (hadm : admAllB H w val jst n = true)
    (hexec : execOkR rankOf n ops = true) (hsync : SyncOrderedR rankOf r H n ops)
    (hcomplete : completeR r H (runNetR rankOf n ops) = true)
    (hconv : noneInConverge H (runNetR rankOf n ops) = true) :
    ∀ p ∈ H, ∃ x d, (runNetR rankOf n ops).node? p = some x ∧ x.phase = .terminated ∧ x.round = r ∧
      x.termination = some d ∧ d.value = val w ∧
      ∃ m ∈ (runNetR rankOf n ops).pool, m.sender = p ∧ m.phase = .decide ∧ m.value = val w :=
  F3.Liveness.round_r_decides rankOf t H r b val jst w n ops hstart hbest hadm hexec hsync hcomplete hconv

/-! ### non-vacuity (1): round 1 of `ranked_round1_converges` -/

/-- the hypotheses of `round_r_decides` hold of round 1 of that run (whole table, `w` = member 3, `val w = 7`) -/
theorem rk_round1_hyps :
    RoundStart rkRank rkTbl rkAll 1 7 (valOf rkStart 1) (jstOf rkStart 1) rkStart ∧
    bestTicket rkRank rkAll 1 3 = true ∧
    admAllB rkAll 3 (valOf rkStart 1) (jstOf rkStart 1) rkStart = true ∧
    execOkR rkRank rkStart rkRoundOps = true ∧
    SyncOrderedR rkRank 1 rkAll rkStart rkRoundOps ∧
    completeR 1 rkAll (runNetR rkRank rkStart rkRoundOps) = true ∧
    noneInConverge rkAll (runNetR rkRank rkStart rkRoundOps) = true ∧
    valOf rkStart 1 3 = [7] ∧ rkAll = rkTbl.entries.map (·.1) :=
  rk_runs.2.2.1

/-- the theorem applied to it: all four members terminate in round 1 with decision `7` -/
theorem rk_round1_decides_by_theorem :
    ∀ p ∈ rkAll, ∃ x d, (runNetR rkRank rkStart rkRoundOps).node? p = some x ∧ x.phase = .terminated ∧ x.round = 1 ∧
      x.termination = some d ∧ d.value = [7] := by
  obtain ⟨h1, h2, h3, h4, h5, h6, h7, h8, _⟩ := rk_round1_hyps
  exact round_r_decides_value h1 h2 h3 h4 h5 h6 h7 h8

/-- it is the run of `ranked_round1_converges` -/
example : (runNetR rkRank rkStart rkRoundOps).nodes.map (fun e => (e.1, e.2.round, e.2.phase, e.2.termination.map (·.value))) =
    (runScript rkRank rkNet rkScript).1.nodes.map (fun e => (e.1, e.2.round, e.2.phase, e.2.termination.map (·.value))) :=
  rk_whole ▸ rfl

/-! ### "every member PREPAREs `val w`" is not a consequence

Same start; members 1–3 run the round among themselves (3 of 4 equal members are a strong quorum); member 4, whose
CONVERGE timer (233 on its clock) has not fired, is handed their DECIDEs at its time 200: it skips to DECIDE and
terminates with `7` without ever broadcasting a PREPARE or COMMIT of round 1. All hypotheses of `round_r_decides` hold. -/

theorem round_r_member_skips_prepare :
    execOkR rkRank rkStart rkSkipOps = true ∧ SyncOrderedR rkRank 1 rkAll rkStart rkSkipOps ∧
    completeR 1 rkAll (runNetR rkRank rkStart rkSkipOps) = true ∧
    noneInConverge rkAll (runNetR rkRank rkStart rkSkipOps) = true ∧
    decidedB rkAll 1 [7] (runNetR rkRank rkStart rkSkipOps) = true ∧
    ((runNetR rkRank rkStart rkSkipOps).pool.filter (fun m => m.sender == 4 && m.round == 1)).map (·.phase) = [.converge] :=
  rk_runs.2.2.2.1

/-! ### the CONVERGE clause of `SyncOrderedR` is necessary — and it must cover deliveries, not only alarms

Same start. Members 1 and 2 are handed their *own* CONVERGE at time 300, after their CONVERGE timeout (233): no alarm is
involved, `tryConverge` runs at the end of `Receive`, finds the timeout expired and only the member's own value in the
converge state, and PREPAREs it (`7.8`). Members 3 and 4 are handed all four CONVERGEs before their alarm and PREPARE the
best ticket's value `7`. PREPARE splits 2/2, everybody COMMITs ⊥, round 2 begins — although the best ticket's value
was admissible everywhere, nothing was lost and every message was delivered. The very first event violates
`SyncOrderedR`. -/

theorem round_r_late_converge_delivery_splits :
    execOkR rkRank rkStart rkLateOps = true ∧ completeR 1 rkAll (runNetR rkRank rkStart rkLateOps) = true ∧
    (runNetR rkRank rkStart rkLateOps).fails = [] ∧
    ¬ SyncOrderedR rkRank 1 rkAll rkStart (rkLateOps.take 1) ∧
    ((runNetR rkRank rkStart rkLateOps).pool.filter (fun m => m.round == 1 && m.phase != .converge)).map
        (fun m => (m.sender, m.phase, m.value)) =
      [(1, .prepare, [7, 8]), (2, .prepare, [7, 8]), (3, .prepare, [7]), (4, .prepare, [7]),
       (1, .commit, []), (2, .commit, []), (3, .commit, []), (4, .commit, [])] ∧
    (runNetR rkRank rkStart rkLateOps).nodes.map (fun e => (e.1, e.2.round, e.2.phase)) =
      [(1, 2, .converge), (2, 2, .converge), (3, 2, .converge), (4, 2, .converge)] :=
  rk_runs.2.2.2.2

/-! ### non-vacuity (2) and S13: `s13_decides_when_M_wins`, `s13_rounds_end_in_bottom`

`s13Script [1, 2, 3]` has 7 stages for round 0 and 5 per later round: round `r` starts after `7 + 5 (r - 1)` stages. Live
members `[1, 2, 3]` (3 of 4 equal members: a strong quorum), member 4 silent. -/

/-- round 2 of `s13_decides_when_M_wins` (`M` = member 3 holds the best ticket; its value `7` is a candidate
everywhere): the hypotheses of `round_r_decides` hold -/
theorem s13_round2_hyps :
    RoundStart s13Win2 rkTbl s13Live 2 7 (valOf (s13Start s13Win2 12) 2) (jstOf (s13Start s13Win2 12) 2) (s13Start s13Win2 12) ∧
    bestTicket s13Win2 s13Live 2 3 = true ∧
    admAllB s13Live 3 (valOf (s13Start s13Win2 12) 2) (jstOf (s13Start s13Win2 12) 2) (s13Start s13Win2 12) = true ∧
    execOkR s13Win2 (s13Start s13Win2 12) (s13RoundOps s13Win2 12) = true ∧
    SyncOrderedR s13Win2 2 s13Live (s13Start s13Win2 12) (s13RoundOps s13Win2 12) ∧
    completeR 2 s13Live (runNetR s13Win2 (s13Start s13Win2 12) (s13RoundOps s13Win2 12)) = true ∧
    noneInConverge s13Live (runNetR s13Win2 (s13Start s13Win2 12) (s13RoundOps s13Win2 12)) = true ∧
    valOf (s13Start s13Win2 12) 2 3 = [7] :=
  s13_win2_runs.2.1

theorem s13_round2_decides_by_theorem :
    ∀ p ∈ s13Live, ∃ x d, (runNetR s13Win2 (s13Start s13Win2 12) (s13RoundOps s13Win2 12)).node? p = some x ∧
      x.phase = .terminated ∧ x.round = 2 ∧ x.termination = some d ∧ d.value = [7] := by
  obtain ⟨h1, h2, h3, h4, h5, h6, h7, h8⟩ := s13_round2_hyps
  exact round_r_decides_value h1 h2 h3 h4 h5 h6 h7 h8

/-- **The theorem does not contradict S13: the premise that fails is admissibility.** In `s13_rounds_end_in_bottom`
(member 1 holds the best ticket of every round) rounds 1, 2 and 3 all start in a `RoundStart`, the best ticket is strict,
round 3 (the last one the script runs) is admissible, round-synchronous and complete — but `val 1 = 7.8` is not
admissible at `M` (`admAllB = false` in every round), and the members are in CONVERGE of round 4. The same holds of round 1
of `s13_decides_when_M_wins` (member 1 wins round 1). -/
theorem s13_admissibility_fails :
    (RoundStart s13Lose rkTbl s13Live 1 7 (valOf (s13Start s13Lose 7) 1) (jstOf (s13Start s13Lose 7) 1) (s13Start s13Lose 7) ∧
     RoundStart s13Lose rkTbl s13Live 2 7 (valOf (s13Start s13Lose 12) 2) (jstOf (s13Start s13Lose 12) 2) (s13Start s13Lose 12) ∧
     RoundStart s13Lose rkTbl s13Live 3 7 (valOf (s13Start s13Lose 17) 3) (jstOf (s13Start s13Lose 17) 3) (s13Start s13Lose 17)) ∧
    (bestTicket s13Lose s13Live 1 1 = true ∧ bestTicket s13Lose s13Live 2 1 = true ∧ bestTicket s13Lose s13Live 3 1 = true) ∧
    (admAllB s13Live 1 (valOf (s13Start s13Lose 7) 1) (jstOf (s13Start s13Lose 7) 1) (s13Start s13Lose 7) = false ∧
     admAllB s13Live 1 (valOf (s13Start s13Lose 12) 2) (jstOf (s13Start s13Lose 12) 2) (s13Start s13Lose 12) = false ∧
     admAllB s13Live 1 (valOf (s13Start s13Lose 17) 3) (jstOf (s13Start s13Lose 17) 3) (s13Start s13Lose 17) = false) ∧
    (valOf (s13Start s13Lose 17) 3 1 = [7, 8] ∧ (jstOf (s13Start s13Lose 17) 3 1).phase = .commit ∧
     ((s13Start s13Lose 17).node? 3).map (·.candidates) = some [[7]]) ∧
    (execOkR s13Lose (s13Start s13Lose 17) (s13RoundOps s13Lose 17) = true ∧
     SyncOrderedR s13Lose 3 s13Live (s13Start s13Lose 17) (s13RoundOps s13Lose 17) ∧
     completeR 3 s13Live (runNetR s13Lose (s13Start s13Lose 17) (s13RoundOps s13Lose 17)) = true ∧
     (runNetR s13Lose (s13Start s13Lose 17) (s13RoundOps s13Lose 17)).nodes.map (fun e => (e.1, e.2.round, e.2.phase)) =
       [(1, 4, .converge), (2, 4, .converge), (3, 4, .converge), (4, 0, .quality)]) ∧
    (bestTicket s13Win2 s13Live 1 1 = true ∧
     admAllB s13Live 1 (valOf (s13Start s13Win2 7) 1) (jstOf (s13Start s13Win2 7) 1) (s13Start s13Win2 7) = false) := by
  obtain ⟨h1, h2, h3, h4, h5⟩ := s13_lose_runs.2
  exact ⟨h1, h2, h3, h4, h5, s13_win2_runs.2.2⟩

end RoundR
end F3.Props.C06

namespace F3.Props.C06
section Skeletons

/-- **The Go functions this property's models mirror still have the statement structure the models were written
against**: each regenerated skeleton (pre-order list of statement kinds, `tools/go2lean/skel.go`) equals the
expectation recorded in `F3/Proofs/SkelTie*.lean`. An added early return, cap, loop or dropped branch in one of these functions
breaks this obligation even when no regenerated *expression* changes. -/
theorem code_structure_as_modelled :
    F3.Gen.SkelGpbft.skelQueueAdd = F3.SkelTie.SkelGpbft.skelQueueAddExpected ∧
    F3.Gen.SkelGpbft.skelQueueDrain = F3.SkelTie.SkelGpbft.skelQueueDrainExpected ∧
    F3.Gen.SkelGpbft.skelReceiveMessage = F3.SkelTie.SkelGpbft.skelReceiveMessageExpected ∧
    F3.Gen.SkelGpbft.skelHandleDecision = F3.SkelTie.SkelGpbft.skelHandleDecisionExpected ∧
    F3.Gen.SkelGpbft.skelReceiveOne = F3.SkelTie.SkelGpbft.skelReceiveOneExpected ∧
    F3.Gen.SkelGpbft.skelPostReceive = F3.SkelTie.SkelGpbft.skelPostReceiveExpected ∧
    F3.Gen.SkelGpbft.skelTryQuality = F3.SkelTie.SkelGpbft.skelTryQualityExpected ∧
    F3.Gen.SkelGpbft.skelTryConverge = F3.SkelTie.SkelGpbft.skelTryConvergeExpected ∧
    F3.Gen.SkelGpbft.skelTryPrepare = F3.SkelTie.SkelGpbft.skelTryPrepareExpected ∧
    F3.Gen.SkelGpbft.skelTryCommit = F3.SkelTie.SkelGpbft.skelTryCommitExpected ∧
    F3.Gen.SkelGpbft.skelTryDecide = F3.SkelTie.SkelGpbft.skelTryDecideExpected ∧
    F3.Gen.SkelGpbft.skelBeginDecide = F3.SkelTie.SkelGpbft.skelBeginDecideExpected ∧
    F3.Gen.SkelGpbft.skelSkipToRound = F3.SkelTie.SkelGpbft.skelSkipToRoundExpected ∧
    F3.Gen.SkelGpbft.skelTryRebroadcast = F3.SkelTie.SkelGpbft.skelTryRebroadcastExpected ∧
    F3.Gen.SkelGpbft.skelReceiveEachPrefix = F3.SkelTie.SkelGpbft.skelReceiveEachPrefixExpected ∧
    F3.Gen.SkelGpbft.skelFindStrongQuorumFor = F3.SkelTie.SkelGpbft.skelFindStrongQuorumForExpected ∧
    F3.Gen.SkelGpbft.skelBeginInstance = F3.SkelTie.SkelGpbft.skelBeginInstanceExpected ∧
    F3.Gen.SkelGpbft.skelReceiveAlarm = F3.SkelTie.SkelGpbft.skelReceiveAlarmExpected ∧
    F3.Gen.SkelGpbft.skelHasBase = F3.SkelTie.SkelGpbft.skelHasBaseExpected ∧
    F3.Gen.SkelGpbft.skelTipSetEqual = F3.SkelTie.SkelGpbft.skelTipSetEqualExpected ∧
    F3.Gen.SkelGpbft.skelChainEq = F3.SkelTie.SkelGpbft.skelChainEqExpected ∧
    F3.Gen.SkelGpbft.skelReceiveMany = F3.SkelTie.SkelGpbft.skelReceiveManyExpected ∧
    F3.Gen.SkelGpbft.skelShouldSkipToRound = F3.SkelTie.SkelGpbft.skelShouldSkipToRoundExpected :=
  ⟨F3.SkelTie.SkelGpbft.skelQueueAdd_expected, F3.SkelTie.SkelGpbft.skelQueueDrain_expected, F3.SkelTie.SkelGpbft.skelReceiveMessage_expected, F3.SkelTie.SkelGpbft.skelHandleDecision_expected, F3.SkelTie.SkelGpbft.skelReceiveOne_expected, F3.SkelTie.SkelGpbft.skelPostReceive_expected, F3.SkelTie.SkelGpbft.skelTryQuality_expected, F3.SkelTie.SkelGpbft.skelTryConverge_expected, F3.SkelTie.SkelGpbft.skelTryPrepare_expected, F3.SkelTie.SkelGpbft.skelTryCommit_expected, F3.SkelTie.SkelGpbft.skelTryDecide_expected, F3.SkelTie.SkelGpbft.skelBeginDecide_expected, F3.SkelTie.SkelGpbft.skelSkipToRound_expected, F3.SkelTie.SkelGpbft.skelTryRebroadcast_expected, F3.SkelTie.SkelGpbft.skelReceiveEachPrefix_expected, F3.SkelTie.SkelGpbft.skelFindStrongQuorumFor_expected, F3.SkelTie.SkelGpbft.skelBeginInstance_expected, F3.SkelTie.SkelGpbft.skelReceiveAlarm_expected, F3.SkelTie.SkelGpbft.skelHasBase_expected, F3.SkelTie.SkelGpbft.skelTipSetEqual_expected, F3.SkelTie.SkelGpbft.skelChainEq_expected, F3.SkelTie.SkelGpbft.skelReceiveMany_expected, F3.SkelTie.SkelGpbft.skelShouldSkipToRound_expected⟩

end Skeletons
end F3.Props.C06
