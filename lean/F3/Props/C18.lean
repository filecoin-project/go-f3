import F3.Proofs.SkelTieChainX
import F3.Proofs.ChainXWanted
import F3.Proofs.ChainXValidate
import F3.Proofs.GenTie
import F3.Gen.ChainX
/-!
# C18 — Chain exchange: admitted chains are retrievable by key, wanted chains are kept

All theorems are about `F3.ChainX` (model of `chainexchange/pubsub.go`, executed by the driver against
the real code on every run) over `F3.Lru` (model of hashicorp/golang-lru/v2, differential-tested
against the real cache). The property is stated over the observable history by `F3.ChainX.Spec`
(`Tracker`, `judgeLookup`, `mustNotAdmit`); `spec_sound` says the model satisfies it for EVERY
operation history and all capacities ≥ 1, and the driver evaluates the same `judgeLookup` /
`mustNotAdmit` on the implementation's own answers.
-/
namespace F3.Props.C18
open F3 F3.Lru F3.ChainX F3.ChainX.Spec

/-- Size never exceeds the capacity and keys stay unique, after any operation list. -/
theorem lru_invariants {κ ν : Type} [DecidableEq κ] (c : Cache κ ν) (h : WF c) (os : List (Lru.Op κ ν)) :
    (Lru.run c os).items.length ≤ (Lru.run c os).cap ∧ (keysOf (Lru.run c os).items).Nodup :=
  ⟨(run_wf os h).len, (run_wf os h).nodup⟩

/-- Recency order: a key stays cached — with everything more recently used than it among the keys
touched since — for as long as fewer than `cap` distinct other keys have been touched (`Add`, `Get`,
`ContainsOrAdd`), whatever the operations are (explicit `Remove` of that key excepted). -/
theorem lru_retention {κ ν : Type} [DecidableEq κ] {c : Cache κ ν} {k : κ} {F : List κ}
    (os : List (Lru.Op κ ν)) (hw : WF c) (h : Holds c k F) (hno : ∀ o ∈ os, o ≠ Lru.Op.remove k)
    (hlen : (accKeys k F os).length < c.cap) :
    k ∈ keysOf (Lru.run c os).items ∧ ∀ x ∈ front (Lru.run c os).items k, x ∈ accKeys k F os :=
  run_holds os hw h hno hlen

/-- `Get` promotes, `Peek`/`Contains` do not reorder, `Add` of a new key into a full cache evicts
exactly the oldest entry. -/
theorem lru_semantics {κ ν : Type} [DecidableEq κ] (c : Cache κ ν) (k : κ) (v : ν) :
    (∀ w, c.peek k = some w → (c.get k).1.items.head? = some (k, w)) ∧
    (Lru.step c (.peek k)).1 = c ∧ (Lru.step c (.contains k)).1 = c ∧
    (c.peek k = none → c.items.length + 1 > c.cap → (c.add k v).1.items = ((k, v) :: c.items).dropLast) := by
  refine ⟨?_, rfl, rfl, ?_⟩
  · intro w hw
    unfold Cache.peek at hw
    simp [Cache.get, hw]
  · intro hn hfull
    unfold Cache.peek at hn
    simp [Cache.add, hn, hfull]

/-- Undecodable, empty, malformed, past, too distant (when `ID+lookahead` does not wrap), outside the
timestamp window, or contradicting the current instance's base: never accepted. -/
theorem validator_rejects (o : Opts) (p : Progress) (now : Int) (m : Option Msg) (r : Reason)
    (h : mustNotAdmit o p now m = some r) : validate o p now m ≠ .accept := by
  cases m with
  | none => exact fun e => by cases e
  | some m =>
    -- every test the validator passed answers one clause of the specification
    intro hacc
    obtain ⟨h1, h2, h3, h4, h5, h6, h7⟩ := (validate_accept_iff o p now m).1 hacc
    have hnone : mustNotAdmit o p now (some m) = none := (mustNotAdmit_none_iff o p now m).2
      ⟨h1, h2, h3, fun hw => h4 (by rw [Nat.mod_eq_of_lt hw.1]; exact hw.2), h7, h6,
        fun inp hin hb => h5 ⟨by rw [hin]; rfl, hb.1, by rw [hin]; exact hb.2⟩⟩
    rw [hnone] at h; cases h

/-- Nothing is cached unless the validator accepts. -/
theorem not_admitted_no_effect (s : State) (p : Progress) (now : Int) (m : Option Msg)
    (h : (feed s p now m).2 ≠ .accept) : (feed s p now m).1 = s := by
  rcases feed_cases s p now m with ⟨msg, _, e⟩ | ⟨e1, _⟩
  · rw [e] at h; exact absurd rfl h
  · exact e1

/-- Conversely (no `uint64` wrap of `ID + lookahead`): a message with none of the listed defects is
accepted — the validator rejects for the listed reasons only. -/
theorem validator_accepts (o : Opts) (p : Progress) (now : Int) (m : Msg)
    (hwrap : p.id + o.lookahead < u64) (h : mustNotAdmit o p now (some m) = none) :
    validate o p now (some m) = .accept := by
  obtain ⟨h1, h2, h3, h4, h5, h6, h7⟩ := (mustNotAdmit_none_iff o p now m).1 h
  refine (validate_accept_iff o p now m).2
    ⟨h1, h2, h3, fun hd => h4 ⟨hwrap, by rwa [Nat.mod_eq_of_lt hwrap] at hd⟩, ?_, h6, h5⟩
  rintro ⟨hs, he, hb⟩
  obtain ⟨inp, hin⟩ := Option.isSome_iff_exists.mp hs
  rw [hin] at hb
  exact h7 inp hin ⟨he, hb⟩

/-- Pruning removes exactly the instances below the bound. -/
theorem prune_exact (s : State) (n i : Nat) :
    IMap.find? (prune s n).wanted i = (if i < n then none else IMap.find? s.wanted i) ∧
    IMap.find? (prune s n).discovered i = (if i < n then none else IMap.find? s.discovered i) ∧
    (prune s n).opts = s.opts :=
  ⟨IMap.find?_prune _ _ _, IMap.find?_prune _ _ _, rfl⟩

/-- …in terms of the instance lists the harness dumps. -/
theorem prune_instances (s : State) (n i : Nat) :
    (i ∈ IMap.instances (prune s n).wanted ↔ i ∈ IMap.instances s.wanted ∧ ¬ i < n) ∧
    (i ∈ IMap.instances (prune s n).discovered ↔ i ∈ IMap.instances s.discovered ∧ ¬ i < n) := by
  simp only [IMap.mem_instances_iff, (prune_exact s n i).1, (prune_exact s n i).2.1]
  by_cases h : i < n <;> simp [h]

/-- **Main theorem.** For all capacities ≥ 1 and ALL operation histories (lookups, admitted and
rejected broadcasts incl. floods, own broadcasts, prunes, any progress/clock values), whatever lookup
comes next, the specification has no complaint: the returned chain's key is the requested key; a
chain is found only if one with that key reached the node for that instance since the last prune
covering it; a key that was asked for and whose chain arrived is found while fewer than `maxWanted`
other keys were solicited since (unsolicited traffic never counts); an admitted, never-solicited key
is found while fewer than `maxDiscovered` other keys were admitted since. -/
theorem spec_sound (o : Opts) (hw : 0 < o.maxWanted) (hd : 0 < o.maxDiscovered) (ops : List Op) (i : Nat) (k : Key) :
    judgeLookup (history o ops).2 i k (getChain (history o ops).1 i k).2.1 = .ok :=
  judge_ok (history_tinv o hw hd ops) i k

/-- A lookup never returns a chain whose key differs from the requested key. -/
theorem lookup_key_correct (o : Opts) (hw : 0 < o.maxWanted) (hd : 0 < o.maxDiscovered) (ops : List Op)
    (i : Nat) (k : Key) (c : Chain) (h : (getChain (run (init o) ops) i k).2.1 = some c) : c = k ∧ k ≠ [] := by
  have hs := spec_sound o hw hd ops i k
  rw [history_state, h] at hs
  exact ⟨(judge_some_ok hs).1, (judge_some_ok hs).2.1⟩

/-- Chains the node asked for are retained in preference to unsolicited ones up to the configured
capacity: if the history obliges the wanted guarantee, the lookup succeeds with that chain. -/
theorem wanted_retained (o : Opts) (hw : 0 < o.maxWanted) (hd : 0 < o.maxDiscovered) (ops : List Op)
    (i : Nat) (k : Key) (hk : k ≠ []) (h : mustFindW (history o ops).2 i k = true) :
    (getChain (history o ops).1 i k).2.1 = some k := by
  exact found_of_must hk (spec_sound o hw hd ops i k) (Or.inl h)

/-- After a node admits a chain broadcast, that chain and every prefix (each a separately tracked
key) stays retrievable for that instance until `maxDiscovered` distinct other keys have been admitted
there or the instance is pruned. -/
theorem admitted_retrievable (o : Opts) (hw : 0 < o.maxWanted) (hd : 0 < o.maxDiscovered) (ops : List Op)
    (i : Nat) (k : Key) (hk : k ≠ []) (h : mustFindD (history o ops).2 i k = true) :
    (getChain (history o ops).1 i k).2.1 = some k := by
  exact found_of_must hk (spec_sound o hw hd ops i k) (Or.inr h)

/-- Nothing is found for an instance unless a chain with that key reached the node for that instance
after the last prune covering it (so a pruned instance answers nothing until new chains arrive). -/
theorem no_phantom (o : Opts) (hw : 0 < o.maxWanted) (hd : 0 < o.maxDiscovered) (ops : List Op)
    (i : Nat) (k : Key) (c : Chain) (h : (getChain (history o ops).1 i k).2.1 = some c) :
    mayFind (history o ops).2 i k = true := by
  have hs := spec_sound o hw hd ops i k
  rw [h] at hs
  exact (judge_some_ok hs).2.2

/-- Right after `prune n`, no lookup at an instance below `n` succeeds. -/
theorem pruned_instances_answer_nothing (o : Opts) (hw : 0 < o.maxWanted) (hd : 0 < o.maxDiscovered) (ops : List Op)
    (n i : Nat) (k : Key) (hi : i < n) : (getChain (history o (ops ++ [Op.prune n])).1 i k).2.1 = none := by
  have e : (history o (ops ++ [Op.prune n])).2 = onPrune (history o ops).2 n := by
    unfold history
    rw [runBoth_append, runBoth_prune_snd]
  have key : ∀ c, (getChain (history o (ops ++ [Op.prune n])).1 i k).2.1 ≠ some c := by
    intro c hr
    have hm := no_phantom o hw hd (ops ++ [Op.prune n]) i k c hr
    rw [e] at hm
    simp [mayFind, onPrune, hi] at hm
  cases hr : (getChain (history o (ops ++ [Op.prune n])).1 i k).2.1 with
  | none => rfl
  | some c => exact absurd hr (key c)

/-- In any state, reachable or not: a delivered broadcast never removes a key from a wanted cache and never changes
a stored chain; the only change it can make is replacing a placeholder by the chain it stands for. -/
theorem unsolicited_keeps_wanted (s : State) (p : Progress) (now : Int) (m : Option Msg) (i : Nat) (K : Key) :
    (W (feed s p now m).1 i).peek K = (W s i).peek K ∨
    ((W s i).peek K = some .placeholder ∧ (W (feed s p now m).1 i).peek K = some (.chain K)) :=
  feed_keeps s p now m i K

/-- A discovery matching a placeholder lands in the wanted cache. -/
theorem discovery_fills_placeholder (s : State) (p : Progress) (now : Int) (msg : Msg)
    (hacc : (feed s p now (some msg)).2 = .accept) (q : Key) (hq : q ∈ prefixes (chainIds msg.chain))
    (hp : (W s msg.inst).peek q = some .placeholder) :
    (W (feed s p now (some msg)).1 msg.inst).peek q = some (.chain q) := by
  rw [feed_accept hacc, (cacheAsDiscovered_local s msg.inst (chainIds msg.chain)).2.1 msg.inst, if_pos rfl]
  exact discFold_fills _ _ _ hq hp

/-- **Ask, receive, flood, ask again.** From any reachable state: look a key up (miss or hit), let
ANY burst of deliveries pass, let a broadcast containing that key as a prefix be admitted for that
instance, let ANY further burst of deliveries pass (floods of any size, any content, accepted or
not): the lookup then returns the chain. Unsolicited traffic alone can never evict a key that was
asked for. -/
theorem wanted_survives_any_flood (o : Opts) (hw : 0 < o.maxWanted) (hd : 0 < o.maxDiscovered) (ops : List Op)
    (i : Nat) (K : Key) (hK : K ≠ []) (fs₁ fs₂ : List (Progress × Int × Option Msg))
    (p : Progress) (now : Int) (msg : Msg) (hinst : msg.inst = i) (hpre : K ∈ prefixes (chainIds msg.chain))
    (hacc : (feed (feeds (getChain (run (init o) ops) i K).1 fs₁) p now (some msg)).2 = .accept) :
    (getChain (feeds (feed (feeds (getChain (run (init o) ops) i K).1 fs₁) p now (some msg)).1 fs₂) i K).2.1
      = some K := by
  have hT := history_tinv o hw hd ops
  rw [history_state] at hT
  generalize run (init o) ops = s0 at hT hacc ⊢
  -- after the lookup: placeholder or chain; bursts keep that; the admitted broadcast fills a placeholder
  have h1 := getChain_leaves_wanted hT i hK
  generalize (getChain s0 i K).1 = s1 at h1 hacc ⊢
  have h2 : (W (feeds s1 fs₁) i).peek K = some .placeholder ∨ (W (feeds s1 fs₁) i).peek K = some (.chain K) := by
    rcases feeds_keep s1 fs₁ i K with e | ⟨_, e⟩
    · rw [e]; exact h1
    · exact Or.inr e
  generalize feeds s1 fs₁ = s2 at h2 hacc ⊢
  have h3 : (W (feed s2 p now (some msg)).1 i).peek K = some (.chain K) := by
    rcases h2 with h2 | h2
    · subst hinst; exact discovery_fills_placeholder s2 p now msg hacc K hpre h2
    · rcases unsolicited_keeps_wanted s2 p now (some msg) i K with e | ⟨e, _⟩
      · rw [e]; exact h2
      · rw [h2] at e; cases e
  generalize (feed s2 p now (some msg)).1 = s3 at h3 ⊢
  have h4 : (W (feeds s3 fs₂) i).peek K = some (.chain K) := by
    rcases feeds_keep s3 fs₂ i K with e | ⟨e, _⟩
    · rw [e]; exact h3
    · rw [h3] at e; cases e
  exact getChain_of_wanted _ i hK h4

/-- **After a node admits a chain broadcast, that chain and every prefix can be retrieved by key.**
For a chain no longer than the discovered capacity none of whose prefixes has been seen or asked for
at that instance since the last prune, in any reachable state: right after admission every prefix
lookup returns that prefix. (`admitted_retrievable` covers re-announced and older keys, `wanted_retained`
and `wanted_survives_any_flood` the solicited ones.) -/
theorem fresh_admission_retrievable (o : Opts) (hw : 0 < o.maxWanted) (hd : 0 < o.maxDiscovered) (ops : List Op)
    (p : Progress) (now : Int) (msg : Msg)
    (hacc : (feed (history o ops).1 p now (some msg)).2 = .accept)
    (hfresh : ∀ q ∈ prefixes (chainIds msg.chain),
      (history o ops).2.w msg.inst q = none ∧ (history o ops).2.d msg.inst q = none)
    (hlen : (chainIds msg.chain).length ≤ o.maxDiscovered) :
    ∀ q ∈ prefixes (chainIds msg.chain),
      (getChain (feed (history o ops).1 p now (some msg)).1 msg.inst q).2.1 = some q := by
  intro q hq
  have hT := history_tinv o hw hd ops
  have hop := history_opts o ops
  generalize history o ops = H at hT hacc hfresh hop ⊢
  obtain ⟨s, t⟩ := H
  simp only at hT hacc hfresh hop ⊢
  rw [feed_accept hacc]
  have hT' := tinv_cacheAsDiscovered msg.inst (chainIds msg.chain) hT
  -- the tracker after the admission: no wanted entry for `q`, a discovered entry of fewer keys than the chain has
  have hwn : ∀ x ∈ prefixes (chainIds msg.chain), t.w msg.inst x = none := fun x hx => (hfresh x hx).1
  obtain ⟨hsz, hsome⟩ := admFold_d msg.inst q _ t hwn
  rw [(hfresh q hq).2, length_prefixes] at hsz
  have hmust : mustFindD ((prefixes (chainIds msg.chain)).foldl (onAdmittedPrefix msg.inst) t) msg.inst q = true := by
    unfold mustFindD
    rw [admFold_w msg.inst _ t hwn, (hfresh q hq).1, hT'.capD, (cacheAsDiscovered_local s msg.inst (chainIds msg.chain)).1, hop]
    cases hds : ((prefixes (chainIds msg.chain)).foldl (onAdmittedPrefix msg.inst) t).d msg.inst q with
    | none => exact absurd hds (hsome (Or.inl hq))
    | some ds =>
      rw [hds] at hsz
      simp only [dsize] at hsz
      simp only [decide_eq_true_eq]
      omega
  exact found_of_must (prefixes_ne_nil hq) (judge_ok hT' msg.inst q) (Or.inr hmust)

/-- the prefixes of a chain are exactly its non-empty initial segments -/
theorem prefixes_exact (c p : Chain) : p ∈ prefixes c ↔ (p <+: c ∧ p ≠ []) :=
  ⟨fun h => ⟨prefix_of_mem_prefixes h, prefixes_ne_nil h⟩, fun h => mem_prefixes_of_prefix h.1 h.2⟩

/-- With `wanted` fetched from the discovered map (as go-f3 did before the repair, DESIGN §7 S6), the history
*ask K, receive K, receive one unsolicited chain* (discovered capacity 1) loses K although it was asked
for and delivered with no other key solicited: the wanted guarantee fails. -/
theorem s6_variant_violates :
    mustFindW (historyS6 ⟨4, 1, 3, 10000⟩ s6ops).2 6 k12 = true ∧
    (getChain (historyS6 ⟨4, 1, 3, 10000⟩ s6ops).1 6 k12).2.1 = none := by
  decide

/-- the same history on the model of the repaired code: the guarantee applies and is met -/
example : mustFindW (history ⟨4, 1, 3, 10000⟩ s6ops).2 6 k12 = true ∧
    (getChain (history ⟨4, 1, 3, 10000⟩ s6ops).1 6 k12).2.1 = some k12 := by decide

/-- admission guarantee with hypotheses met: a 3-tipset chain admitted into a discovered cache of
capacity 3 — every prefix is retrievable -/
example : let h := history ⟨2, 3, 3, 10000⟩ [.feed ⟨6, some [1]⟩ 1000 (some ⟨6, [okTip 1 1, okTip 2 2, okTip 3 3], 995⟩)]
    mustFindD h.2 6 [1, 2, 3] = true ∧ mustFindD h.2 6 [1, 2] = true ∧ mustFindD h.2 6 [1] = true ∧
    (getChain h.1 6 [1, 2, 3]).2.1 = some [1, 2, 3] := by decide

/-- …and with capacity 2 the longest prefix is the one that is given up (no claim, not found) -/
example : let h := history ⟨2, 2, 3, 10000⟩ [.feed ⟨6, some [1]⟩ 1000 (some ⟨6, [okTip 1 1, okTip 2 2, okTip 3 3], 995⟩)]
    mustFindD h.2 6 [1, 2, 3] = false ∧ (getChain h.1 6 [1, 2, 3]).2.1 = none ∧
    (getChain h.1 6 [1, 2]).2.1 = some [1, 2] := by decide

/-- `wanted_survives_any_flood` with hypotheses met (capacities 1/1, two unsolicited chains after) -/
example : let s1 := (getChain (run (init ⟨1, 1, 3, 10000⟩) []) 6 [1, 2]).1
    let m : Msg := ⟨6, [okTip 1 1, okTip 2 2], 1000⟩
    (feed (feeds s1 []) ⟨6, none⟩ 1000 (some m)).2 = .accept ∧ [1, 2] ∈ prefixes (chainIds m.chain) ∧
    (getChain (feeds (feed (feeds s1 []) ⟨6, none⟩ 1000 (some m)).1
      [(⟨6, none⟩, 1000, some ⟨6, [okTip 1 1, okTip 3 3], 1000⟩), (⟨6, none⟩, 1000, some ⟨6, [okTip 4 1], 1000⟩)]) 6 [1, 2]).2.1
      = some [1, 2] := by decide

/-- `fresh_admission_retrievable` with hypotheses met after a non-trivial history -/
example : let ops : List Op := [.get 6 [9], .bcast 6 [7, 8], .prune 3]
    let m : Msg := ⟨6, [okTip 1 1, okTip 2 2], 1000⟩
    (feed (history ⟨2, 2, 3, 10000⟩ ops).1 ⟨6, none⟩ 1000 (some m)).2 = .accept ∧
    (∀ q ∈ prefixes (chainIds m.chain), (history ⟨2, 2, 3, 10000⟩ ops).2.w 6 q = none ∧
      (history ⟨2, 2, 3, 10000⟩ ops).2.d 6 q = none) := by decide

/-- validator: each reason occurs -/
example : validate ⟨2, 2, 3, 10⟩ ⟨6, some [1]⟩ 1000 none = .reject .undecodable ∧
    validate ⟨2, 2, 3, 10⟩ ⟨6, some [1]⟩ 1000 (some ⟨6, [], 1000⟩) = .reject .empty ∧
    validate ⟨2, 2, 3, 10⟩ ⟨6, some [1]⟩ 1000 (some ⟨6, [okTip 1 2, okTip 2 2], 1000⟩) = .reject .malformed ∧
    validate ⟨2, 2, 3, 10⟩ ⟨6, some [1]⟩ 1000 (some ⟨5, [okTip 1 1], 1000⟩) = .ignore .past ∧
    validate ⟨2, 2, 3, 10⟩ ⟨6, some [1]⟩ 1000 (some ⟨10, [okTip 1 1], 1000⟩) = .ignore .tooDistant ∧
    validate ⟨2, 2, 3, 10⟩ ⟨6, some [1]⟩ 1000 (some ⟨9, [okTip 1 1], 1000⟩) = .accept ∧
    validate ⟨2, 2, 3, 10⟩ ⟨6, some [1]⟩ 1000 (some ⟨6, [okTip 2 1], 1000⟩) = .reject .wrongBase ∧
    validate ⟨2, 2, 3, 10⟩ ⟨6, some [1]⟩ 1000 (some ⟨6, [okTip 1 1], 989⟩) = .ignore .tsOld ∧
    validate ⟨2, 2, 3, 10⟩ ⟨6, some [1]⟩ 1000 (some ⟨6, [okTip 1 1], 990⟩) = .accept ∧
    validate ⟨2, 2, 3, 10⟩ ⟨6, some [1]⟩ 1000 (some ⟨6, [okTip 1 1], 1001⟩) = .ignore .tsFuture := by decide

/-- prune: instance 5 goes, 6 and 7 stay -/
example : let s := run (init ⟨2, 2, 3, 10⟩) [.get 5 [1], .get 6 [1], .get 7 [1], .prune 6]
    IMap.instances s.wanted = [6, 7] := by decide

/-! The pubsub validator as it stands in `chainexchange/pubsub.go`: `F3.Gen.ChainX.validatePubSubMessage` is translated on every run (`tools/go2lean/targets.d/ChainX.json`)
from the statements of `validatePubSubMessage` after decoding: the zero-chain test, `Chain.Validate()`,
the tagless `switch` on the instance window (`uint64` addition wrapped) and on the base of the current
instance, the timestamp window, with the codes 0 = `ValidationAccept`, 1 = `ValidationReject`,
2 = `ValidationIgnore`. `IsZero()`, the error of `Validate()`, `msgBase.Equal(currentBase)`, the clock
reading and `maxTimestampAge.Milliseconds()` are parameters. -/

/-- what pubsub sees of a verdict (the model additionally records the reason) -/
def verdictCode : Verdict → Int
  | .accept => 0
  | .reject _ => 1
  | .ignore _ => 2

/-- **The model's validator is the source's.** For every option set, progress, clock reading and decoded
message — all `uint64` values and beyond, wrap-around of `current.ID + maxInstanceLookahead` included —
the verdict class (accept / reject / ignore) of `F3.ChainX.validate` is what the regenerated body of
`validatePubSubMessage` returns: same order of checks, same window bounds, same comparisons. -/
theorem validator_is_regenerated (o : Opts) (p : Progress) (now : Int) (m : Msg) :
    verdictCode (validate o p now (some m)) =
      F3.Gen.ChainX.validatePubSubMessage
        (decide ((p.input.getD []).head? = (chainIds m.chain).head?)) (decide (m.chain = [])) now m.inst m.ts p.id
        p.input.isSome (!chainValid m.chain) o.maxAgeMs o.lookahead := by
  unfold validate F3.Gen.ChainX.validatePubSubMessage F3.ChainX.u64
  rw [F3.Proofs.GenTie.u64_natCast_add]
  -- One test per `if` on both sides and the code taken at the leaves: then both sides run the same tests in the same
  -- order (the source tests the two instance bounds in one `case` and repeats the timestamp window in both branches
  -- of the base test).
  simp only [apply_ite verdictCode, Bool.or_eq_true, Bool.and_eq_true, decide_eq_true_eq, Bool.not_eq_true',
    decide_eq_false_iff_not, Int.ofNat_lt, Int.natCast_inj, gt_iff_lt, ne_eq, F3.Proofs.GenTie.ite_or_chain,
    F3.Proofs.GenTie.ite_and_chain, ite_not]
  rfl

-- non-vacuity: the three codes from the generated code, incl. the wrapped look-ahead bound
example : F3.Gen.ChainX.validatePubSubMessage true false 1000 9 1000 6 true false 10 3 = 0 ∧
    F3.Gen.ChainX.validatePubSubMessage true false 1000 10 1000 6 true false 10 3 = 2 ∧
    F3.Gen.ChainX.validatePubSubMessage false false 1000 6 1000 6 true false 10 3 = 1 ∧
    F3.Gen.ChainX.validatePubSubMessage false false 1000 6 1000 6 false false 10 3 = 0 ∧
    F3.Gen.ChainX.validatePubSubMessage true false 1000 6 989 6 true false 10 3 = 2 ∧
    F3.Gen.ChainX.validatePubSubMessage true false 1000 (2 ^ 64 - 1) 1000 (2 ^ 64 - 2) true false 10 3 = 2 := by decide

end F3.Props.C18

namespace F3.Props.C18
section Skeletons

/-- **The Go functions this property's models mirror still have the statement structure the models were written
against**: each regenerated skeleton (pre-order list of statement kinds, `tools/go2lean/skel.go`) equals the
expectation written down in `F3/Proofs/SkelTie*.lean`. An added early return, cap, loop or dropped branch in one of these functions
breaks this obligation even when no regenerated *expression* changes. -/
theorem code_structure_as_modelled :
    F3.Gen.SkelChainX.skelGetChainByInstance = F3.SkelTie.SkelChainX.skelGetChainByInstanceExpected ∧
    F3.Gen.SkelChainX.skelGetChainsWantedAt = F3.SkelTie.SkelChainX.skelGetChainsWantedAtExpected ∧
    F3.Gen.SkelChainX.skelCacheAsDiscovered = F3.SkelTie.SkelChainX.skelCacheAsDiscoveredExpected :=
  ⟨F3.SkelTie.SkelChainX.skelGetChainByInstance_expected, F3.SkelTie.SkelChainX.skelGetChainsWantedAt_expected, F3.SkelTie.SkelChainX.skelCacheAsDiscovered_expected⟩

end Skeletons
end F3.Props.C18
