import F3.Proofs.SkelTieCertX
import F3.Model.CertX
import F3.Spec.CertX
import F3.Proofs.CertX
import F3.Proofs.CertXPoll
import F3.Proofs.CertXGen
import F3.Spec.CertXArrivals
import F3.Proofs.CertXArrivals
/-!
# C16 — Certificate exchange serves exact store slices; pollers store only verified certificates

About the executable model `F3/Model/CertX.lean` (driven against `certexchange.Server`,
`certexchange.Client` and `polling.Poller` by `lean/Driver/CertX.lean`). Instance numbers are
`uint64` in the code; the theorems assume the store does not reach `2^64` (`NoWrap`), the model and
the correspondence check cover the wrap-around behaviour itself.
-/
namespace F3.Props.C16
open F3.Certs F3.CertX

/-- the store's instance numbers stay below `2^64` -/
def NoWrap (s : Store) : Prop := s.first + s.certs.length < 2 ^ 64

/-- **The response is a slice of the store.** Whatever is served is, in order, the stored
certificates at instances `first, first+1, …`; at most `min limit 256` of them; every one of them
below the advertised pending instance, which is the store's. -/
theorem serve_slice (s : Store) (r : Request) (h : Header) (cs : List Cert) (hs : NoWrap s)
    (hserve : serve s r = some (h, cs)) :
    cs.length ≤ min r.limit maxResponseLen ∧ h.pending = s.pending ∧
    ∀ i (hi : i < cs.length),
      s.first ≤ r.first ∧ s.certs[r.first - s.first + i]? = some cs[i] ∧ r.first + i < h.pending := by
  obtain ⟨hp, hcs⟩ := serve_certs hs hserve
  have hlen := congrArg List.length hcs
  refine ⟨?_, hp, fun i hi => ?_⟩
  · rw [hlen]
    split
    · exact List.length_take_le ..
    · exact Nat.zero_le _
  · have hf : s.first ≤ r.first := by
      by_cases hf : s.first ≤ r.first
      · exact hf
      · rw [hlen, if_neg hf] at hi; cases hi
    rw [if_pos hf] at hcs
    rw [hlen, if_pos hf, List.length_take, List.length_drop] at hi
    refine ⟨hf, ?_, ?_⟩
    · rw [← List.getElem?_eq_getElem, hcs, List.getElem?_take_of_lt (by omega), List.getElem?_drop]
    · rw [hp, pending_eq hs, if_neg (fun he => by rw [he] at hi; simp at hi)]
      omega

/-- **Exact count**: the honest server sends everything it has from `first` up to the limit. -/
theorem serve_count (s : Store) (r : Request) (h : Header) (cs : List Cert) (hs : NoWrap s)
    (hserve : serve s r = some (h, cs)) :
    cs.length = if s.first ≤ r.first ∧ r.first < s.pending
      then min (min r.limit maxResponseLen) (s.pending - r.first) else 0 := by
  rw [(serve_certs hs hserve).2, pending_eq hs]
  by_cases he : s.certs = []
  · rw [if_pos he, he]
    simp
  · rw [if_neg he]
    by_cases hf : s.first ≤ r.first
    · rw [if_pos hf, List.length_take, List.length_drop]
      by_cases hp : r.first < s.first + s.certs.length
      · rw [if_pos ⟨hf, hp⟩]
        congr 1; omega
      · rw [if_neg (fun h => hp h.2), show s.certs.length - (r.first - s.first) = 0 by omega, Nat.min_zero]
    · rw [if_neg hf, if_neg (fun h => hf h.1)]
      rfl

/-- **Power table on request**: the header carries the store's table for `first` exactly when it was
asked for and `first` is not beyond the pending instance; a request that cannot be answered that way
fails without a header. -/
theorem serve_pt (s : Store) (r : Request) :
    (∀ h cs, serve s r = some (h, cs) →
      h.pt = if r.includePT ∧ r.first ≤ s.pending then s.getPowerTable r.first else none) ∧
    (serve s r = none ↔ r.includePT = true ∧ r.first ≤ s.pending ∧ s.getPowerTable r.first = none) := by
  rw [serve_eq]
  by_cases hc : r.first ≤ s.pending ∧ r.includePT = true
  · have hc' : r.includePT = true ∧ r.first ≤ s.pending := ⟨hc.2, hc.1⟩
    simp only [if_pos hc, if_pos hc']
    cases s.getPowerTable r.first with
    | none => exact ⟨fun h cs hh => (nomatch hh), fun _ => ⟨hc.2, hc.1, rfl⟩, fun _ => rfl⟩
    | some t => exact ⟨fun h cs hh => by cases hh; rfl, fun hh => (nomatch hh), fun hh => (nomatch hh.2.2)⟩
  · have hc' : ¬ (r.includePT = true ∧ r.first ≤ s.pending) := fun x => hc ⟨x.2, x.1⟩
    simp only [if_neg hc, if_neg hc']
    exact ⟨fun h cs hh => by cases hh; rfl, fun hh => (nomatch hh), fun x => absurd ⟨x.2.1, x.1⟩ hc⟩

/-- **The client rejects out-of-sequence responses**: whatever the peer sends, what the client hands
on is at most `limit` certificates, numbered `first, first+1, …` (mod 2^64), a prefix of the decodable
part of the stream; and it stops only at the end of the stream, at the limit, at an undecodable item
or at a certificate with the wrong instance. -/
theorem client_rejects_out_of_sequence (first limit : Nat) (items : List (Option Cert)) :
    (clientRecv first limit 0 items).length ≤ limit ∧
    (∀ j (hj : j < (clientRecv first limit 0 items).length),
      ((clientRecv first limit 0 items)[j]).inst = u64 (first + j)) ∧
    ((clientRecv first limit 0 items).map some) <+: items ∧
    ((clientRecv first limit 0 items).length = items.length ∨
      limit ≤ (clientRecv first limit 0 items).length ∨
      items[(clientRecv first limit 0 items).length]? = some none ∨
      ∃ c, items[(clientRecv first limit 0 items).length]? = some (some c) ∧
        c.inst ≠ u64 (first + (clientRecv first limit 0 items).length)) := by
  refine ⟨?_, ?_, clientRecv_prefix first limit 0 items, ?_⟩
  · have := clientRecv_length first limit 0 items; omega
  · intro j hj
    have := clientRecv_seq first limit 0 items j hj
    simpa using this
  · have := clientRecv_stop first limit 0 items
    simpa using this

/-- the store's certificates carry the instance numbers of their positions -/
def Contig (s : Store) : Prop := ∀ j (hj : j < s.certs.length), s.certs[j].inst = s.first + j

/-- **Honest server through the real client**: the client hands on exactly what the server sent
(nothing is cut as out of sequence), so the API-level result is the same store slice. -/
theorem client_server_roundtrip (s : Store) (r : Request) (h : Header) (cs : List Cert) (hs : NoWrap s)
    (hcontig : Contig s) (hserve : serve s r = some (h, cs)) :
    clientRecv r.first r.limit 0 (cs.map some) = cs := by
  obtain ⟨hlen, hpend, hget⟩ := serve_slice s r h cs hs hserve
  apply clientRecv_all 0 cs (by omega)
  intro i hi
  obtain ⟨hfirst, hstored, hlt⟩ := hget i hi
  obtain ⟨hj, hc⟩ := List.getElem?_eq_some_iff.mp hstored
  rw [← hc, hcontig _ hj, Nat.zero_add, u64_of_lt (by unfold NoWrap at hs; omega)]
  omega

open F3.Spec.Certs F3.Spec.CertX

/-- **A polling node stores only certificates that validate against its own current power table and
advances exactly by them — whatever the peer sends.** For every responder (any function from the
request to a response stream: forged, reordered, duplicated, truncated, oversized, any advertised
pending instance, over any number of requests): the store afterwards is the store before extended
by certificates `acc` that validate one after another from the poller's `NextInstance` /
`PowerTable`; `NextInstance` / `PowerTable` afterwards are exactly the instance / table reached by
`acc`; the poller is again consistent with its store; and `NewCertificates` counts `acc`. -/
theorem poll_stores_valid_prefix (net : Nat) (respond : Nat → Nat → Resp) (fuel n : Nat)
    (st : PState) (res : PollRes) (hc : Consistent st)
    (hroom : st.store.nextInst + fuel * maxRequestLength < 2 ^ 64)
    (st' : PState) (res' : PollRes) (h : poll net respond fuel n st res = (st', res')) :
    ∃ acc, st'.store = { st.store with certs := st.store.certs ++ acc } ∧
      PollRun net (st.next, st.table) acc (st'.next, st'.table) ∧ Consistent st' ∧
      res'.newCerts = res.newCerts + acc.length :=
  poll_spec net respond fuel n st res hc hroom st' res' h

/-- **Per response: the longest valid prefix, and the classification.** Processing the certificates
`ds` the client hands on for one response stores a prefix `acc` of them, all valid in sequence, and
stops exactly when: the stream is exhausted (`cont`); or the next certificate is *not* valid for the
poller's table and instance — then the status is `illegal` and nothing of it is stored; or the next
certificate is valid but would leave an empty power table, which the store refuses — an internal
error. So `acc` is the longest valid prefix of `ds` (up to the empty-table refusal). -/
theorem poll_response_prefix (net : Nat) (st : PState) (res : PollRes) (ds : List Cert)
    (hc : Consistent st) (hroom : st.store.nextInst + ds.length < 2 ^ 64) :
    ∃ st' res' out acc rest, pollCerts net st res ds = (st', res', out) ∧ ds = acc ++ rest ∧
      st'.store = { st.store with certs := st.store.certs ++ acc } ∧
      PollRun net (st.next, st.table) acc (st'.next, st'.table) ∧ Consistent st' ∧
      (out = .cont → rest = [] ∧ res'.status = res.status) ∧
      (out = .illegal → ∃ c rest', rest = c :: rest' ∧
        (∀ nt, ¬ CertValid net st'.table st'.next none c nt) ∧ res'.status = .illegal) ∧
      (out = .internal → ∃ c rest', rest = c :: rest' ∧
        CertValid net st'.table st'.next none c [] ∧ res'.internal = true) := by
  obtain ⟨st', res', out, acc, rest, hp, ho⟩ := pollCerts_spec net st res ds hc hroom
  refine ⟨st', res', out, acc, rest, hp, ho.split, ho.store, ho.run, ho.cons,
    fun h => ⟨(ho.cont h).1, (ho.cont h).2.1⟩, fun h => ?_, ho.internal⟩
  obtain ⟨c, rest', h1, h2, h3, _⟩ := ho.illegal h
  exact ⟨c, rest', h1, h2, h3⟩

/-- One round of `Poll` from a consistent state, spelled out (status classification): a failed
request is `failed`; otherwise `hit` is recorded iff the peer's pending instance is not behind ours,
the delivered certificates are processed as in `poll_response_prefix`, and the loop continues only
if the peer claims more and gave at least one certificate. -/
theorem poll_round (net : Nat) (respond : Nat → Nat → Resp) (fuel n : Nat) (st : PState) (res : PollRes)
    (hc : Consistent st) (hroom : st.store.nextInst < 2 ^ 64) :
    poll net respond (fuel + 1) n st res =
      match respond n st.next with
      | .fail => (st, { res with status := .failed })
      | .ok pending items =>
        match pollCerts net st (if st.next ≤ pending then { res with status := .hit } else res)
            (clientRecv st.next maxRequestLength 0 items) with
        | (st', res', .cont) =>
          if pending ≤ st'.next then (st', res')
          else if res'.received = res.received then (st', { res' with status := .failed })
          else poll net respond fuel (n + 1) st' res'
        | (st', res', _) => (st', res') := by
  rw [poll_succ, catchUp_head hc.next hroom]
  rfl

/-- A poller created from a store (with a canonical initial table) starts consistent. -/
theorem new_poller_consistent (s : Store) (st : PState) (hw : NoWrap s)
    (hinit : applyDiff s.init [] = .ok s.init) (h : newPoller s = some st) : Consistent st := by
  rw [newPoller_eq, pending_eq hw, Option.map_eq_some_iff] at h
  obtain ⟨t, ht, rfl⟩ := h
  by_cases he : s.certs = []
  · -- an empty store answers for instance 0 only if it starts there, with its initial table
    rw [if_pos he] at ht ⊢
    have hn : s.nextInst = s.first := by unfold Store.nextInst; rw [he]; rfl
    have hf : s.first = 0 := by
      unfold Store.getPowerTable at ht
      by_cases hf : 0 < s.first
      · rw [if_pos hf] at ht; cases ht
      · omega
    have hlt : s.latestTable = some s.init := by rw [latestTable_eq, he]; rfl
    have : t = s.init := by
      unfold Store.latestTable at hlt; rw [hn, hf, ht] at hlt; exact Option.some.inj hlt
    subst this
    exact ⟨by rw [hn, hf], hlt, hinit⟩
  · rw [if_neg he] at ht ⊢
    exact ⟨rfl, ht, latestTable_canon he ht⟩

/-- Whatever the batch validator of C04 accepts (from any base), the poller accepts certificate by
certificate. (The converse does not hold: the poller passes no base tipset, so it does not check
that consecutive chains link; linkage of quorum-signed decisions is a consequence of agreement,
C01/C03, not of this check.) -/
theorem validRun_pollRun (net : Nat) (s s' : VState) (cs : List Cert)
    (h : ValidRun net s cs s') : PollRun net (s.next, s.table) cs (s'.next, s'.table) := by
  induction h with
  | nil s => exact PollRun.nil _
  | @cons s c nt cs s' hv _ ih =>
    refine PollRun.cons ⟨hv.inst, hv.chain_valid, hv.chain_nonempty, ?_, hv.signed, hv.delta, hv.committed⟩ ih
    intro b hb; cases hb

/-- `CatchUp` after certificates reached the store through another channel (GPBFT itself): the
poller jumps to the store's next instance and latest table, and is consistent again. -/
theorem catchUp_resync (st : PState) (lt : Table) (hw : NoWrap st.store)
    (hne : st.store.certs ≠ []) (hlt : st.store.latestTable = some lt)
    (hcanon : applyDiff lt [] = .ok lt) (hbehind : st.next ≠ st.store.nextInst) :
    catchUp st = some ⟨st.store.nextInst, lt, st.store⟩ ∧
      Consistent ⟨st.store.nextInst, lt, st.store⟩ :=
  ⟨catchUp_behind hw hne hlt hbehind, rfl, hlt, hcanon⟩

/-- What `PollRun` means, unrolled: the accepted certificates have consecutive instance numbers
from `NextInstance` and each is a valid certificate for the table reached by its predecessors. -/
theorem pollRun_instances (net : Nat) (x y : Nat × Table) (acc : List Cert) (h : PollRun net x acc y)
    (hx : x.1 < 2 ^ 64) :
    (∀ i (hi : i < acc.length), acc[i].inst = u64 (x.1 + i)) ∧ y.1 = u64 (x.1 + acc.length) := by
  induction h with
  | nil x => exact ⟨fun i hi => (nomatch hi), (u64_of_lt hx).symm⟩
  | cons hv _ ih => exact consecutive_cons hv.inst hx (ih (u64_lt _)).1 (ih (u64_lt _)).2

/-! ### Non-vacuity -/

deriving instance DecidableEq for Except

namespace Ex
def t : Table := [⟨1, 30, 7⟩, ⟨2, 20, 8⟩]
def b (e : Int) : Tip := ⟨e, 1, 8, 1, 38, 0⟩
def c (i : Nat) : Cert :=
  ⟨i, [b (i : Int), b ((i : Int) + 1)], 0, CidTok.table t, some [0, 1], SigTok.garbage 0, []⟩
def st : Store := ⟨3, t, [c 3, c 4, c 5, c 6]⟩
end Ex

example : serve Ex.st ⟨4, 2, true⟩ = some (⟨7, some Ex.t⟩, [Ex.c 4, Ex.c 5]) := by decide +kernel
example : serve Ex.st ⟨4, 0, false⟩ = some (⟨7, none⟩, []) := by decide +kernel
example : serve Ex.st ⟨5, 1000, false⟩ = some (⟨7, none⟩, [Ex.c 5, Ex.c 6]) := by decide +kernel
example : serve Ex.st ⟨7, 5, true⟩ = some (⟨7, some Ex.t⟩, []) := by decide +kernel
example : serve Ex.st ⟨2, 5, true⟩ = none := by decide +kernel
example : clientRecv 4 3 0 [some (Ex.c 4), some (Ex.c 5), some (Ex.c 5), some (Ex.c 7)] = [Ex.c 4, Ex.c 5] := by
  decide +kernel
example : clientRecv 4 1 0 [some (Ex.c 4), some (Ex.c 5)] = [Ex.c 4] := by decide +kernel

namespace Ex
def t0 : Table := [⟨1, 30, 7⟩, ⟨2, 20, 8⟩, ⟨3, 10, 9⟩]
def mk (inst : Nat) (ss : List Nat) (net : Nat) : Cert :=
  { inst := inst, chain := [b (inst : Int), b ((inst : Int) + 1)], comm := 0, pt := CidTok.table t0,
    signers := some ss,
    sig := SigTok.agg (ss.map (fun i => (i, keyAt t0 i)))
      ⟨net, inst, 0, decidePhase, 0, CidTok.table t0, [b (inst : Int), b ((inst : Int) + 1)]⟩,
    delta := [] }
def p0 : PState := ⟨0, t0, ⟨0, t0, []⟩⟩
end Ex

-- a consistent poller, and a Byzantine stream: two good certificates, one signed for another
-- network, one more good one. Exactly the first two are stored; the peer is classified illegal.
example : newPoller ⟨0, Ex.t0, []⟩ = some Ex.p0 := by decide +kernel
example : applyDiff Ex.t0 [] = .ok Ex.t0 := by decide +kernel
example : poll 1 (scriptResponder [.ok 4 [some (Ex.mk 0 [0, 1] 1), some (Ex.mk 1 [0, 1] 1),
      some (Ex.mk 2 [0, 1] 2), some (Ex.mk 3 [0, 1] 1)]]) 5 0 Ex.p0 {} =
    (⟨2, Ex.t0, ⟨0, Ex.t0, [Ex.mk 0 [0, 1] 1, Ex.mk 1 [0, 1] 1]⟩⟩,
     { status := .illegal, received := 2, newCerts := 2, internal := false }) := by decide +kernel
-- out of sequence (instance 1 first): the client drops everything; the peer claimed more: failed
example : (poll 1 (scriptResponder [.ok 4 [some (Ex.mk 1 [0, 1] 1)]]) 5 0 Ex.p0 {}).2.status = .failed := by
  decide +kernel
-- honest two-request catch-up
example : (poll 1 (scriptResponder [.ok 2 [some (Ex.mk 0 [0, 1] 1)], .ok 2 [some (Ex.mk 1 [0, 1] 1)]])
    5 0 Ex.p0 {}).1.next = 2 := by decide +kernel

/-! ## Regenerated: the range arithmetic of `handleRequest` as it stands in `certexchange/server.go`

`F3.Gen.CertX.{serveLimit, servePending, servePowerTableGuard, serveCertsGuard, serveEnd}` are translated
from the source on every run (`tools/go2lean/targets.d/CertX.json`; the `256` of the clamp comes with `serveLimit`, which
`serveLimit_eq` ties to the model's `maxResponseLen`): the clamp of `limit`, `PendingInstance = latest + 1`, the two guards, and
`end := first + limit - 1` with its clamp — all `uint64`, wrap included. -/

/-- `handleRequest` with every piece of its range arithmetic replaced by the regenerated definition; the
store calls (`Latest`, `GetPowerTable`, `GetRange`) are the model's. -/
def serveGen (s : Store) (r : Request) : Option (Header × List Cert) :=
  let limit := F3.Gen.CertX.serveLimit r.limit
  let pending := F3.Gen.CertX.servePending ((s.latest?.getD 0 : Nat) : Int) s.latest?.isSome 0
  let pt : Option (Option Table) :=
    if F3.Gen.CertX.servePowerTableGuard r.first r.includePT pending then
      match s.getPowerTable r.first with
      | none => none
      | some t => some (some t)
    else some none
  match pt with
  | none => none
  | some pt =>
    let certs :=
      if F3.Gen.CertX.serveCertsGuard limit r.first pending then
        s.getRange r.first (F3.Gen.CertX.serveEnd limit r.first pending).toNat
      else []
    some (⟨pending.toNat, pt⟩, certs)

/-- **The model's `serve` is the source's arithmetic.** For every store whose latest instance is a
`uint64` and every request with `uint64` fields — including `first + limit` wrapping around and
`latest = 2^64 - 1` — the hand-written `serve` (about which `serve_slice`, `serve_count`, … are stated and
which the driver executes) equals `handleRequest` assembled from the definitions regenerated from
`server.go`. An edit of the clamp, of a guard or of the `end` computation either keeps this or breaks it. -/
theorem serve_is_regenerated (s : Store) (r : Request) (hf : r.first < 2 ^ 64) (hl : r.limit < 2 ^ 64)
    (hlat : ∀ l, s.latest? = some l → l < 2 ^ 64) : serve s r = serveGen s r := by
  unfold serve serveGen
  have hp : s.pending < 2 ^ 64 := by
    unfold Store.pending
    split
    · unfold F3.Certs.u64; omega
    · omega
  have hmin : min r.limit maxResponseLen < 2 ^ 64 := by omega
  have hcerts : (if (decide (r.first < s.pending) && decide (0 < min r.limit maxResponseLen)) = true then
        s.getRange r.first (serveEnd r.first (min r.limit maxResponseLen) s.pending) else []) =
      (if (decide (r.first < s.pending) && decide (0 < min r.limit maxResponseLen)) = true then
        s.getRange r.first
          (F3.Gen.CertX.serveEnd ((min r.limit maxResponseLen : Nat) : Int) r.first s.pending).toNat else []) := by
    by_cases hc : (decide (r.first < s.pending) && decide (0 < min r.limit maxResponseLen)) = true
    · have hc' := hc
      simp only [Bool.and_eq_true, decide_eq_true_eq] at hc'
      rw [if_pos hc, if_pos hc, F3.Proofs.CertXGen.serveEnd_eq _ _ _ hf hp hmin hc'.1 hc'.2, Int.toNat_natCast]
    · rw [if_neg hc, if_neg hc]
  simp only [F3.Proofs.CertXGen.serveLimit_eq, F3.Proofs.CertXGen.servePending_eq s,
    F3.Proofs.CertXGen.servePowerTableGuard_eq, F3.Proofs.CertXGen.serveCertsGuard_eq, Int.toNat_natCast]
  rw [hcerts]
  rfl

-- non-vacuity: a served range, the limit clamp, an empty range; and the wrap-around of `first + limit`
example : serveGen Ex.st ⟨4, 2, true⟩ = some (⟨7, some Ex.t⟩, [Ex.c 4, Ex.c 5]) ∧
    serveGen Ex.st ⟨5, 1000, false⟩ = some (⟨7, none⟩, [Ex.c 5, Ex.c 6]) ∧
    serveGen Ex.st ⟨7, 5, true⟩ = some (⟨7, some Ex.t⟩, []) := by decide +kernel
example : F3.Gen.CertX.serveEnd 256 (2 ^ 64 - 10) (2 ^ 64 - 1) = 2 ^ 64 - 2 ∧
    F3.Gen.CertX.serveEnd 2 4 7 = 5 ∧ F3.Gen.CertX.serveLimit 1000 = 256 := by decide +kernel

/-! ## Polling while certificates also reach the store through another channel

`pollWithArrivals` (driven by the correspondence check as well): after `CatchUp` of the first request and
before its response is read, `arrivals` are `Put` into the poller's own store by somebody else (GPBFT
finalising the instance itself). This is the only window in which a received certificate can already be in
the store — the `isFresh = false` branch of `Poll`, which must still advance `NextInstance` **and**
`PowerTable`. `st0` is the poller after `CatchUp`, `pre = putAll st0.store arrivals` its store once the
arrivals are in (what the store refuses is ignored), `handedOver respond st0.next` what `Client.Request`
gives to `Poll` out of the answer to the first request. -/
section Arrivals
open F3.Spec.Certs F3.Spec.CertX

/-- **Whatever a peer sends and whatever arrives meanwhile, the poller stores only certificates that
validate against its own current power table, in sequence.** For every responder, fuel, list of arrivals:
the arrivals only append to the store (`added`, a sublist of them); the final store is `pre` extended by
`new`; the poller first walks over `skipped` — a prefix of what the client handed over, all for instances
`pre` already holds, each validated by `stepCert` from the poller's instance / table at that point and *not*
stored — reaching instance `m` with table `tm`; and `new` validates in sequence either from there (then `m`
is the store's next instance as soon as anything is stored) or, when the first response ended before the
poller reached the head of its store, from the store's own head `(pre.nextInst, latest table)` to which
`CatchUp` of the second request took it. As soon as anything is stored the poller is `Consistent` with its
store again — without any assumption on the peer: `Put` re-checks the delta and the table commitment
against the store's own latest table. `NewCertificates` counts `new`. -/
theorem poll_with_arrivals_store (net : Nat) (respond : Nat → Nat → Resp) (fuel : Nat) (arrivals : List Cert)
    (st st0 : PState) (res : PollRes) (hcu : catchUp st = some st0) (hc : Consistent st0)
    (hroom : st0.store.nextInst + arrivals.length + (fuel + 1) * maxRequestLength < 2 ^ 64)
    (st' : PState) (res' : PollRes) (h : pollWithArrivals net respond fuel arrivals st res = (st', res')) :
    (∃ added, added.Sublist arrivals ∧
      putAll st0.store arrivals = { st0.store with certs := st0.store.certs ++ added }) ∧
    ∃ skipped new m tm,
      st'.store = { putAll st0.store arrivals with certs := (putAll st0.store arrivals).certs ++ new } ∧
      skipped <+: handedOver respond st0.next ∧
      (∀ c ∈ skipped, c.inst < (putAll st0.store arrivals).nextInst) ∧
      PollRun net (st0.next, st0.table) skipped (m, tm) ∧
      ((PollRun net (m, tm) new (st'.next, st'.table) ∧ (new ≠ [] → m = (putAll st0.store arrivals).nextInst)) ∨
       (m < (putAll st0.store arrivals).nextInst ∧
          ∃ lt, (putAll st0.store arrivals).latestTable = some lt ∧
            PollRun net ((putAll st0.store arrivals).nextInst, lt) new (st'.next, st'.table))) ∧
      (new ≠ [] → Consistent st') ∧ res'.newCerts = res.newCerts + new.length := by
  obtain ⟨added, hshape, hsub, _⟩ := putAll_shape st0.store arrivals
  refine ⟨⟨added, hsub, hshape⟩, ?_⟩
  obtain ⟨skipped, new, m, tm, hstore, hpre, hrunS, hmid, hmle, _, hnc, hcons, hd⟩ :=
    pollWithArrivals_spec net respond fuel arrivals st st0 res hcu hc hroom _ rfl st' res' h
  obtain ⟨_, _, hnhi⟩ := putAll_bounds st0.store arrivals
  refine ⟨skipped, new, m, tm, hstore, hpre, ?_, hrunS, ?_, hcons, hnc⟩
  · intro c hc'
    obtain ⟨i, hi, rfl⟩ := List.getElem_of_mem hc'
    rw [(pollRun_instances net _ _ _ hrunS (by show st0.next < 2 ^ 64; omega)).1 i hi, u64_of_lt (by show st0.next + i < 2 ^ 64; omega)]
    show st0.next + i < _
    omega
  · rcases hd with hd | ⟨h1, _, h2⟩
    · exact Or.inl hd
    · exact Or.inr ⟨h1, h2⟩

/-- **… and advances exactly to a point of its store**, provided the certificates the peer sends for
instances the store already holds carry the stored power-table deltas (`Genuine`; implied by "they are the
stored certificates", `GenuineEq`, and with less than a third of faulty power two validly signed
certificates for one instance decide the same value, hence commit to the same next table). Then afterwards
`NextInstance` has not moved back, is at most the store's next instance, and `PowerTable` is the store's
table for `NextInstance` — in whichever branch (`isFresh` or not) each certificate was processed. This is
exactly what `CatchUp` needs to make the poller `Consistent` again (`in_sync_catch_up`), and it survives
the store growing further (`in_sync_store_grows`). Without `Genuine` the statement is false: see the
`example` after `Ex.forged`. -/
theorem poll_with_arrivals_in_sync (net : Nat) (respond : Nat → Nat → Resp) (fuel : Nat) (arrivals : List Cert)
    (st st0 : PState) (res : PollRes) (hcu : catchUp st = some st0) (hc : Consistent st0)
    (hroom : st0.store.nextInst + arrivals.length + (fuel + 1) * maxRequestLength < 2 ^ 64)
    (hg : Genuine (putAll st0.store arrivals) (handedOver respond st0.next))
    (st' : PState) (res' : PollRes) (h : pollWithArrivals net respond fuel arrivals st res = (st', res')) :
    st0.next ≤ st'.next ∧ st'.next ≤ st'.store.nextInst ∧
      st'.store.getPowerTable st'.next = some st'.table ∧ InSync st' := by
  suffices hs : InSync st' ∧ st0.next ≤ st'.next from ⟨hs.2, hs.1.hi, hs.1.table, hs.1⟩
  obtain ⟨skipped, new, m, tm, hstore, hpre, hrunS, hmid, hmle, hmle', _, hcons, hd⟩ :=
    pollWithArrivals_spec net respond fuel arrivals st st0 res hcu hc hroom _ rfl st' res' h
  refine ⟨?_, by omega⟩
  rcases hd with ⟨hrun, _⟩ | ⟨_, hc', _⟩
  · by_cases hn : new = []
    · subst hn
      have hl0 := Lag.of_consistent hc
      obtain ⟨hfirst, hnlo, hnhi⟩ := putAll_bounds st0.store arrivals
      have ht0 : (putAll st0.store arrivals).getPowerTable st0.next = some st0.table := by
        rw [getPowerTable_putAll _ _ hl0.hi, hc.next]; exact hc.table
      generalize putAll st0.store arrivals = pre at hstore hg hmle hfirst hnlo hnhi ht0
      have hs : st'.store = pre := by rw [hstore]; exact store_append_nil _
      have hy := pollRun_nil_inv hrun
      have hy1 : st'.next = m := (Prod.mk.inj hy).1
      have hy2 : st'.table = tm := (Prod.mk.inj hy).2
      have hres := skipRun_table (s := pre) hrunS (by show pre.first ≤ st0.next; rw [hfirst]; exact hl0.lo)
        (by show st0.next + skipped.length ≤ pre.nextInst; omega) (by omega) ht0 hc.canon
        (fun c hc' => hg c (hpre.subset hc'))
      refine ⟨?_, ?_, ?_, ?_⟩
      · rw [hs, hy1, hfirst]; have := hl0.lo; omega
      · rw [hs, hy1]; exact hmle
      · rw [hs, hy1, hy2]; exact hres.1
      · rw [hy2]; exact hres.2
    · exact InSync.of_consistent (hcons hn)
  · exact InSync.of_consistent hc'

/-- the hypothesis of `poll_with_arrivals_in_sync` in its familiar form: the peer sends, for instances the
store holds, the stored certificates -/
theorem genuine_of_stored (s : Store) (ds : List Cert) (h : GenuineEq s ds) : Genuine s ds :=
  fun c hc h1 h2 => ⟨c, h c hc h1 h2, rfl⟩

/-- **No arrivals: `Poll`.** `pollWithArrivals` conservatively extends `poll`. -/
theorem poll_with_arrivals_no_arrivals (net : Nat) (respond : Nat → Nat → Resp) (fuel : Nat) (st : PState)
    (res : PollRes) : pollWithArrivals net respond fuel [] st res = poll net respond (fuel + 1) 0 st res := by
  rw [pollWithArrivals_eq, poll_succ]
  cases catchUp st with
  | none => rfl
  | some st0 => rfl

/-- a poller that is a point of its store is made `Consistent` by the `CatchUp` at the start of the next
`Poll` (so the precondition `hcu`/`hc` of the two theorems above is what the previous poll left behind) -/
theorem in_sync_catch_up (st st0 : PState) (hs : InSync st) (hw : NoWrap st.store)
    (h : catchUp st = some st0) : Consistent st0 ∧ st0.store = st.store := by
  rw [catchUp_eq hw] at h
  by_cases hn : st.next = st.store.nextInst
  · rw [if_pos (Or.inr hn)] at h
    cases h
    exact ⟨⟨hn, by unfold Store.latestTable; rw [← hn]; exact hs.table, hs.canon⟩, rfl⟩
  · have hne := certs_ne_nil hs.lo (by have := hs.hi; omega)
    rw [if_neg (not_or.mpr ⟨hne, hn⟩)] at h
    obtain ⟨lt, hlat, rfl⟩ := Option.map_eq_some_iff.mp h
    exact ⟨⟨rfl, hlat, latestTable_canon hne hlat⟩, rfl⟩

/-- … and stays a point of its store when the store grows behind its back -/
theorem in_sync_store_grows (st : PState) (hs : InSync st) (ext : List Cert) :
    InSync { st with store := { st.store with certs := st.store.certs ++ ext } } := by
  refine ⟨hs.lo, ?_, ?_, hs.canon⟩
  · show st.next ≤ ({ st.store with certs := st.store.certs ++ ext } : Store).nextInst
    rw [nextInst_append]; exact Nat.le_trans hs.hi (Nat.le_add_right ..)
  · show ({ st.store with certs := st.store.certs ++ ext } : Store).getPowerTable st.next = some st.table
    rw [getPowerTable_append _ _ _ hs.hi]; exact hs.table

/-! ### Non-vacuity: a store whose table evolves -/

namespace Ex
def t1 : Table := [⟨1, 30, 7⟩, ⟨2, 20, 8⟩, ⟨3, 15, 9⟩]
def t2 : Table := [⟨1, 30, 7⟩, ⟨3, 15, 9⟩]
/-- certificate for `inst`, signed (network 1) by the signers `ss` of table `t`, moving the table to `nt` -/
def mkD (inst : Nat) (t nt : Table) (delta : Diff) (ss : List Nat) : Cert :=
  { inst := inst, chain := [b (inst : Int), b ((inst : Int) + 1)], comm := 0, pt := CidTok.table nt,
    signers := some ss,
    sig := SigTok.agg (ss.map (fun i => (i, keyAt t i)))
      ⟨1, inst, 0, decidePhase, 0, CidTok.table nt, [b (inst : Int), b ((inst : Int) + 1)]⟩,
    delta := delta }
def d0 : Cert := mkD 0 t0 t0 [] [0, 1]
/-- participant 3 gains power: `t0 → t1` -/
def d1 : Cert := mkD 1 t0 t1 [⟨3, 5, 0⟩] [0, 1]
def d2 : Cert := mkD 2 t1 t1 [] [0, 1]
/-- participant 2 leaves: `t1 → t2` -/
def d3 : Cert := mkD 3 t1 t2 [⟨2, -20, 0⟩] [0, 1]
/-- signed by participants 1 and 3 — a quorum of `t2` only -/
def d4 : Cert := mkD 4 t2 t2 [] [0, 1]
/-- the poller: two certificates stored, the second changed the table -/
def q0 : PState := ⟨2, t1, ⟨0, t0, [d0, d1]⟩⟩
/-- the peer serves three certificates from the poller's `NextInstance` -/
def peer : Nat → Nat → Resp := scriptResponder [.ok 5 [some d2, some d3, some d4]]
/-- another decision of instance 1: the table stays `t0` -/
def d1' : Cert := mkD 1 t0 t0 [] [0, 1]
/-- what a peer sends for instance 1 when the store holds `d1'`: validly signed under `t0` as well, but with
another delta (`t0 → t1`) -/
def forged : Cert := mkD 1 t0 t1 [⟨3, 5, 0⟩] [0, 1]
def r0 : PState := ⟨1, t0, ⟨0, t0, [d0]⟩⟩
end Ex

-- the poller is consistent (so `CatchUp` leaves it alone) …
example : catchUp Ex.q0 = some Ex.q0 ∧ Consistent Ex.q0 :=
  ⟨by decide, ⟨by decide, by decide, by decide⟩⟩
example : Ex.q0.store.nextInst + [Ex.d2, Ex.d3].length + (5 + 1) * maxRequestLength < 2 ^ 64 := by decide +kernel
-- … instances 2 and 3 are decided locally while the request is in flight; both are accepted by the store,
-- the second changes the table
example : putAll Ex.q0.store [Ex.d2, Ex.d3] = ⟨0, Ex.t0, [Ex.d0, Ex.d1, Ex.d2, Ex.d3]⟩ := by decide +kernel
example : handedOver Ex.peer Ex.q0.next = [Ex.d2, Ex.d3, Ex.d4] := by decide +kernel
example : GenuineEq (putAll Ex.q0.store [Ex.d2, Ex.d3]) (handedOver Ex.peer Ex.q0.next) := by
  unfold GenuineEq; decide +kernel
-- the poll: 2 and 3 are validated and passed over (table moves `t1 → t1 → t2`), 4 — signed by a quorum of
-- `t2` only — is validated against `t2` and stored: received 3, new 1
example : pollWithArrivals 1 Ex.peer 5 [Ex.d2, Ex.d3] Ex.q0 {} =
    (⟨5, Ex.t2, ⟨0, Ex.t0, [Ex.d0, Ex.d1, Ex.d2, Ex.d3, Ex.d4]⟩⟩,
     { status := .hit, received := 3, newCerts := 1, internal := false }) := by decide +kernel
example : (pollWithArrivals 1 Ex.peer 5 [Ex.d2, Ex.d3] Ex.q0 {}).1.store.getPowerTable 5 = some Ex.t2 := by decide +kernel
-- `d4` does not validate against the table before the passed-over certificates: a poller that advanced
-- `NextInstance` but not `PowerTable` in the not-fresh branch would call the peer illegal
example : (pollCert 1 ⟨4, Ex.t1, ⟨0, Ex.t0, [Ex.d0, Ex.d1, Ex.d2, Ex.d3]⟩⟩ {} Ex.d4).2.2 = .illegal := by decide +kernel
-- the first response ends before the head of the store: the second request's `CatchUp` takes over
-- (second disjunct of `poll_with_arrivals_store`)
example : pollWithArrivals 1 (scriptResponder [.ok 5 [some Ex.d2], .ok 5 [some Ex.d4]]) 5 [Ex.d2, Ex.d3] Ex.q0 {} =
    (⟨5, Ex.t2, ⟨0, Ex.t0, [Ex.d0, Ex.d1, Ex.d2, Ex.d3, Ex.d4]⟩⟩,
     { status := .hit, received := 2, newCerts := 1, internal := false }) := by decide +kernel
example : pollWithArrivals 1 Ex.peer 5 [] Ex.q0 {} = poll 1 Ex.peer 6 0 Ex.q0 {} := by decide +kernel
-- `InSync` of a lagging poller, `CatchUp` from it
example : InSync (⟨2, Ex.t1, ⟨0, Ex.t0, [Ex.d0, Ex.d1, Ex.d2, Ex.d3]⟩⟩ : PState) :=
  ⟨by decide, by decide, by decide, by decide⟩
example : catchUp ⟨2, Ex.t1, ⟨0, Ex.t0, [Ex.d0, Ex.d1, Ex.d2, Ex.d3]⟩⟩ =
    some ⟨4, Ex.t2, ⟨0, Ex.t0, [Ex.d0, Ex.d1, Ex.d2, Ex.d3]⟩⟩ := by decide +kernel

/-- **Without `Genuine` the conclusion of `poll_with_arrivals_in_sync` fails.** The poller stands at
instance 1 with `t0`; instance 1 is decided locally meanwhile (`d1'`, table unchanged); the peer answers with
`forged`: another certificate for instance 1, validly signed by a quorum of `t0` (so more than a third of
the power signed two decisions), whose delta moves the table to `t1`. Every hypothesis but `Genuine` holds;
the certificate validates, is not stored (the instance is there), and the poller ends at instance 2 holding
`t1` while its store's table for instance 2 is `t0`. -/
example :
    catchUp Ex.r0 = some Ex.r0 ∧ Ex.r0.store.nextInst + [Ex.d1'].length + (5 + 1) * maxRequestLength < 2 ^ 64 ∧
    putAll Ex.r0.store [Ex.d1'] = ⟨0, Ex.t0, [Ex.d0, Ex.d1']⟩ ∧
    pollWithArrivals 1 (scriptResponder [.ok 2 [some Ex.forged]]) 5 [Ex.d1'] Ex.r0 {} =
      (⟨2, Ex.t1, ⟨0, Ex.t0, [Ex.d0, Ex.d1']⟩⟩, { status := .hit, received := 1, newCerts := 0, internal := false }) ∧
    (⟨0, Ex.t0, [Ex.d0, Ex.d1']⟩ : Store).getPowerTable 2 = some Ex.t0 ∧ Ex.t0 ≠ Ex.t1 := by decide +kernel
example : Consistent Ex.r0 := ⟨by decide, by decide, by decide⟩
example : ¬ Genuine (putAll Ex.r0.store [Ex.d1']) (handedOver (scriptResponder [.ok 2 [some Ex.forged]]) Ex.r0.next) := by
  intro hg
  obtain ⟨stored, h1, h2⟩ := hg Ex.forged (by decide) (by decide) (by decide)
  have h3 : stored = Ex.d1' := by
    have : (putAll Ex.r0.store [Ex.d1']).certs[Ex.forged.inst - (putAll Ex.r0.store [Ex.d1']).first]? = some Ex.d1' := by
      decide
    rw [this] at h1; exact (Option.some.inj h1).symm
  rw [h3] at h2
  exact absurd h2 (by decide)

end Arrivals

section EmptyResponse
open F3.CertX

/-- **A response that carries no usable certificate while advertising more ends the poll as `failed`** — whatever
the peer handed over in earlier responses of the same poll (`res` is arbitrary), no further request is sent
(the result does not depend on `fuel` or on later answers of `respond`). This is the rule the repair S14
restored: before it the Go loop tested the cumulative count, so one certificate handed over once let a peer keep
the poll spinning (replayed on the implementation by the `POLL-SPIN` oracle of `f3d_certx`). -/
theorem poll_empty_response_fails (net : Nat) (respond : Nat → Nat → Resp) (fuel n : Nat) (st st1 : PState)
    (res : PollRes) (pending : Nat) (items : List (Option Cert))
    (hc : catchUp st = some st1) (hr : respond n st1.next = .ok pending items)
    (hnone : clientRecv st1.next maxRequestLength 0 items = []) (hp : st1.next < pending) :
    poll net respond (fuel + 1) n st res = (st1, { res with status := .failed }) := by
  unfold poll
  simp only [hc, hr, hnone, pollCerts]
  have h1 : ¬ pending ≤ st1.next := by omega
  have h2 : st1.next ≤ pending := by omega
  simp only [h1, h2, if_true, if_false]

/-- an empty response hands over nothing (`hnone` of `poll_empty_response_fails`) -/
theorem clientRecv_nil (first limit : Nat) : clientRecv first limit 0 [] = [] := rfl

/-- nor does a response that begins with an undecodable item -/
theorem clientRecv_garbage (first limit : Nat) (rest : List (Option Cert)) :
    clientRecv first limit 0 (none :: rest) = [] := rfl

-- non-vacuity: one genuine certificate, then "I have more" with nothing, for ever: the poll ends after the second
-- answer — same result for fuel 2 and fuel 40 (the third and later answers are never looked at), one certificate
-- received and stored
example :
    poll 1 (fun k _ => if k = 0 then .ok 9 [some Ex.d1] else .ok 9 []) 2 0 Ex.r0 {} =
      poll 1 (fun k _ => if k = 0 then .ok 9 [some Ex.d1] else .ok 9 []) 40 0 Ex.r0 {} ∧
    (poll 1 (fun k _ => if k = 0 then .ok 9 [some Ex.d1] else .ok 9 []) 40 0 Ex.r0 {}).2 =
      { status := .failed, received := 1, newCerts := 1, internal := false } := by decide +kernel

end EmptyResponse

end F3.Props.C16

namespace F3.Props.C16
section Skeletons

/-- **The Go functions this property's models mirror still have the statement structure the models were written
against**: each regenerated skeleton (pre-order list of statement kinds, `tools/go2lean/skel.go`) equals the pinned
expectation of `F3/Proofs/SkelTie*.lean`. An added early return, cap, loop or dropped branch in one of these functions
breaks this obligation even when no regenerated *expression* changes. -/
theorem code_structure_as_modelled :
    F3.Gen.SkelCertX.skelClientRequest = F3.SkelTie.SkelCertX.skelClientRequestExpected ∧
    F3.Gen.SkelCertX.skelPollerPoll = F3.SkelTie.SkelCertX.skelPollerPollExpected ∧
    F3.Gen.SkelCertX.skelNewPoller = F3.SkelTie.SkelCertX.skelNewPollerExpected :=
  ⟨F3.SkelTie.SkelCertX.skelClientRequest_expected, F3.SkelTie.SkelCertX.skelPollerPoll_expected, F3.SkelTie.SkelCertX.skelNewPoller_expected⟩

end Skeletons
end F3.Props.C16
