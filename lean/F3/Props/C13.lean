import F3.Proofs.SkelTieValidate
import F3.Proofs.ValidatorGen2
import F3.Proofs.ValidatorTwoStage
import F3.Proofs.ValidatorCached
/-!
# C13 — Two-stage (partial, then full) validation equals one-shot validation

Theorems about `F3.Validator.partially`, `complete`, `fully`, `validate`, `strip`, `completeMessage`
(the executable model of `gpbft/validator.go` and of `pmsg`'s strip / infer / complete that the driver
`f3d_validate` replays against the production code). They hold for every partial message (any
announced key — matching, zero, of another chain, junk; any placeholder values), every completing
chain, every pair of progress states (the two stages run at different times) and every pair of cache
histories (the two paths share one cache with separate namespaces; `CacheSound`, defined in
`Proofs/ValidatorCached.lean`, is the invariant that `Props/C05.lean` proves of every reachable cache).
-/
namespace F3.Props.C13
open F3.Msg F3.Validator F3.Cache F3.Spec.ValidMsg

/-- **Two stages = one shot.** The two-stage path (partial validation under the announced key at
progress `p1`, completion with chain `x` by the production inference, full validation at progress
`p2`) accepts **iff** the chain's key is the announced key, the placeholder values that travelled in
place of the chains are well-formed, the message was relevant when the first stage ran, and one-shot
validation of the completed message (at `p2`, with any sound cache) accepts. -/
theorem two_stage_eq_one_shot (cfg : Cfg) (comt : Nat → Option Committee) (p1 p2 : Progress)
    (cache cache' : VCache) (hs : CacheSound cfg comt cache) (hs' : CacheSound cfg comt cache')
    (pm : PMsg) (x : Chain) :
    twoStage cfg comt p1 p2 cache pm x = .accept ↔
      (keyOf x = pm.key ∧ placeholdersOK pm ∧ byProgress cfg p1 pm.msg.vote = none ∧
        (validate cfg comt p2 cache' (complete pm x).msg).1 = .accept) := by
  rw [twoStage_accept_iff, partially_eq hs p1 pm, validate_eq hs' p2 _, pureVerdict_accept_iff, fully_accept_iff,
    pureVerdict_accept_iff]
  constructor
  · rintro ⟨⟨hp1, c, hc, hb⟩, hx, hK, hp2, hfull⟩
    have hph : placeholdersOK pm := chainValid_of_checkBody hb
    exact ⟨hK.symm, hph, hp1, hp2, c, hc, by
      rw [checkBody_completed cfg c pm x hK hph, hb, show chainValid x = true from hx, hfull]; rfl⟩
  · rintro ⟨hK, hph, hp1, hp2, c, hc, hb⟩
    rw [checkBody_completed cfg c pm x hK.symm hph, Bool.and_eq_true, Bool.and_eq_true] at hb
    exact ⟨⟨hp1, c, hc, hb.1⟩, hb.2.1, hK.symm, hp2, hb.2.2⟩

/-- In particular a chain whose key differs from the announced key is never admitted. -/
theorem two_stage_binds_key (cfg : Cfg) (comt : Nat → Option Committee) (p1 p2 : Progress)
    (cache : VCache) (hs : CacheSound cfg comt cache) (pm : PMsg) (x : Chain)
    (h : twoStage cfg comt p1 p2 cache pm x = .accept) : keyOf x = pm.key :=
  ((two_stage_eq_one_shot cfg comt p1 p2 cache cache hs hs pm x).mp h).1

/-- Everything the two-stage path admits is valid: the completed message satisfies `validMsg`
(so a justification for a different value is never admitted). -/
theorem two_stage_sound (cfg : Cfg) (comt : Nat → Option Committee) (p1 p2 : Progress)
    (cache : VCache) (hs : CacheSound cfg comt cache) (pm : PMsg) (x : Chain)
    (hw : WireMsg (complete pm x).msg)
    (h : twoStage cfg comt p1 p2 cache pm x = .accept) :
    ∃ c, comt pm.msg.vote.inst = some c ∧ validMsg cfg.net c (complete pm x).msg := by
  have h1 := ((two_stage_eq_one_shot cfg comt p1 p2 cache cache hs hs pm x).mp h).2.2.2
  rw [validate_eq hs p2 _, pureVerdict_accept_iff] at h1
  obtain ⟨c, hc, hb⟩ := h1.2
  exact ⟨c, hc, checkBody_sound hw hb⟩

/-- **Equal verdict class.** When both stages run at the same progress, the chain matches the announced
key and the placeholders are well-formed, the two-stage verdict *equals* the one-shot verdict of the
completed message — accept, invalid, too old, not relevant, no committee alike. -/
theorem two_stage_verdict_eq (cfg : Cfg) (comt : Nat → Option Committee) (p : Progress)
    (cache cache' : VCache) (hs : CacheSound cfg comt cache) (hs' : CacheSound cfg comt cache')
    (pm : PMsg) (x : Chain) (hK : pm.key = keyOf x) (hph : placeholdersOK pm) :
    twoStage cfg comt p p cache pm x = (validate cfg comt p cache' (complete pm x).msg).1 := by
  rw [validate_eq hs' p _]
  unfold twoStage
  rw [partially_eq hs p pm]
  cases hb : byProgress cfg p pm.msg.vote with
  | some e =>
    rw [pureVerdict_of_some hb, pureVerdict_of_some (m := (complete pm x).msg) hb]
    rcases byProgress_sentinel _ _ _ _ hb with rfl | rfl | rfl <;> rfl
  | none =>
    rw [pureVerdict_of_none hb, pureVerdict_of_none (m := (complete pm x).msg) hb,
      fully_of_relevant (pm := complete pm x) hb hK, checkMsg_eq, checkMsg_eq]
    show _ = (comt pm.msg.vote.inst).elim _ _
    cases comt pm.msg.vote.inst with
    | none => rfl
    | some c =>
      simp only [Option.elim, checkBody_completed cfg c pm x hK hph]
      cases checkBody cfg c (some pm.key) pm.msg <;> rfl

/-- The statement in the shape of the property: for a partial message whose placeholders are well-formed
(in particular every message in stripped form, whose placeholders are bottom) and with both stages at the
same progress, the two-stage path accepts **iff** the chain's key is the announced key and one-shot
validation of the completed message accepts. -/
theorem two_stage_eq_one_shot_same_progress (cfg : Cfg) (comt : Nat → Option Committee) (p : Progress)
    (cache cache' : VCache) (hs : CacheSound cfg comt cache) (hs' : CacheSound cfg comt cache')
    (pm : PMsg) (x : Chain) (hph : placeholdersOK pm) :
    twoStage cfg comt p p cache pm x = .accept ↔
      (keyOf x = pm.key ∧ (validate cfg comt p cache' (complete pm x).msg).1 = .accept) := by
  have eq := fun hK : keyOf x = pm.key => two_stage_verdict_eq cfg comt p cache cache' hs hs' pm x hK.symm hph
  exact ⟨fun h => have hK := ((two_stage_eq_one_shot cfg comt p p cache cache' hs hs' pm x).mp h).1
    ⟨hK, eq hK ▸ h⟩, fun ⟨hK, h⟩ => eq hK ▸ h⟩

/-- **The duplicated table.** The "abbreviated" expectation table inside `FullyValidateMessage` equals
the main table of `validateJustification` restricted to its value column, for every phase pair. -/
theorem full_table_eq_main_table (ph round jph : Nat) :
    fullTable ph jph = (expectation ph round jph).map (·.2) :=
  fullTable_eq_expectation ph round jph

/-- **Strip / complete round trip.** Stripping a valid message (`ToPartialGMessage`) and completing
the result with the original chain (`Vote.Value = chain; inferJustificationVoteValue`) reproduces the
original message, announced key included. -/
theorem strip_complete_roundtrip (net : Nat) (c : Committee) (m : Msg) (hv : validMsg net c m) :
    complete (strip m) m.vote.value = ⟨m, keyOf m.vote.value⟩ := by
  have hj : (m.just.map fun j => inferJust m.vote.phase m.vote.value { j with vote := { j.vote with value := [] } }) =
      m.just := by
    cases h : m.just with
    | none => rfl
    | some j => exact congrArg some (infer_restores hv j h)
  have hmsg : (complete (strip m) m.vote.value).msg = m := by rw [complete_strip_msg, hj]
  have hkey : (complete (strip m) m.vote.value).key = keyOf m.vote.value := strip_key m
  calc complete (strip m) m.vote.value
      = ⟨(complete (strip m) m.vote.value).msg, (complete (strip m) m.vote.value).key⟩ := rfl
    _ = ⟨m, keyOf m.vote.value⟩ := by rw [hmsg, hkey]

/-- The same through `CompleteMessage` with a chain store that knows the chain: a zero key returns the
message as received, any other key is looked up. -/
theorem complete_message_roundtrip (net : Nat) (c : Committee) (m : Msg) (hv : validMsg net c m)
    (lookup : VKey → Option Chain) (hl : m.vote.value ≠ [] → lookup (keyOf m.vote.value) = some m.vote.value) :
    completeMessage lookup (strip m) = some m := by
  have hrt := strip_complete_roundtrip net c m hv
  unfold completeMessage
  rw [strip_key]
  by_cases hz : m.vote.value = []
  · have hzero : (keyOf m.vote.value).isZero = true := by rw [isZero_keyOf, hz]; rfl
    simp only [hzero, if_true, Option.some.injEq]
    -- with a bottom value stripping changes nothing that inference would not restore
    have : (complete (strip m) m.vote.value).msg = (strip m).msg := by
      rw [complete_strip_msg, hz]
      unfold strip
      cases m.just with
      | none => simp
      | some j => simp [inferJust_nil]
    rw [← this, hrt]
  · have hzero : (keyOf m.vote.value).isZero = false := by
      rw [isZero_keyOf]
      cases h : m.vote.value with
      | nil => exact absurd h hz
      | cons a t => rfl
    simp only [hzero, Bool.false_eq_true, if_false, hl hz]
    rw [hrt]

/-- Consequently the production flow *strip at the sender, two stages at the receiver* accepts a valid
relevant message exactly like one-shot validation of the original would. -/
theorem two_stage_of_stripped (cfg : Cfg) (comt : Nat → Option Committee) (p : Progress)
    (cache cache' : VCache) (hs : CacheSound cfg comt cache) (hs' : CacheSound cfg comt cache')
    (c : Committee) (m : Msg) (hv : validMsg cfg.net c m) :
    twoStage cfg comt p p cache (strip m) m.vote.value = (validate cfg comt p cache' m).1 := by
  have hrt := strip_complete_roundtrip cfg.net c m hv
  rw [two_stage_verdict_eq cfg comt p cache cache' hs hs' (strip m) m.vote.value (strip_key m)
    (placeholdersOK_strip m), hrt]

def tipA : Tip := ⟨1, 10, 4, 38⟩
def tipB : Tip := ⟨2, 11, 4, 38⟩
def c0 : Committee := ⟨[⟨101, 30000, 11⟩, ⟨102, 20000, 12⟩, ⟨103, 15535, 13⟩], 7⟩
def comt0 : Nat → Option Committee := fun i => if i ≤ 20 then some c0 else none
def cfg0 : Cfg := ⟨0, 10⟩
def j0 : Just :=
  ⟨⟨5, 0, PREPARE, 0, [tipA, tipB]⟩, [0, 1],
    .tok [(0, 11), (1, 12)] (.vote 0 5 0 PREPARE 0 (keyOf [tipA, tipB])), true⟩
def m0 : Msg :=
  ⟨101, ⟨5, 0, COMMIT, 0, [tipA, tipB]⟩, .tok 11 (.vote 0 5 0 COMMIT 0 (keyOf [tipA, tipB])), .garbage 0, some j0, true⟩
def prog0 : Progress := ⟨5, 0, COMMIT⟩
def cache0 : VCache := GroupedSet.new 2 2

-- the stripped form carries bottoms and the key; the two-stage path accepts it with the right chain …
example : (strip m0).msg.vote.value = [] ∧ (strip m0).key = keyOf [tipA, tipB] := by decide
example : twoStage cfg0 comt0 prog0 prog0 cache0 (strip m0) [tipA, tipB] = .accept := by decide
-- … rejects it with another chain
example : twoStage cfg0 comt0 prog0 prog0 cache0 (strip m0) [tipA] = .invalid := by decide
-- … and a partial message announced under another key is rejected at stage one (signature is over the key)
example : twoStage cfg0 comt0 prog0 prog0 cache0 { strip m0 with key := keyOf [tipA] } [tipA] = .invalid := by decide
example : complete (strip m0) m0.vote.value = ⟨m0, keyOf m0.vote.value⟩ := by decide
-- the placeholder hypothesis is needed: stage one runs `ECChain.Validate` on whatever travels in the place of
-- the stripped chain, so a partial message carrying a malformed placeholder (here two tipsets with
-- decreasing epochs) is rejected although the completed message is valid — the two-stage path is
-- (harmlessly) stricter than one-shot validation of the completed message on such crafted inputs
def pmTampered : PMsg :=
  { strip m0 with msg := { (strip m0).msg with vote := { (strip m0).msg.vote with value := [tipB, tipA] } } }
example : twoStage cfg0 comt0 prog0 prog0 cache0 pmTampered [tipA, tipB] = .invalid ∧
    (validate cfg0 comt0 prog0 cache0 (complete pmTampered [tipA, tipB]).msg).1 = .accept := by decide
example : placeholdersOK (strip m0) := placeholdersOK_strip m0

end F3.Props.C13

namespace F3.Props.C13
section Regenerated2
open F3.Msg F3.Validator
/-! ## Regenerated: `voteForBottom` and the value rules of `FullyValidateMessage`

Against `F3/Gen/Validate2.lean` (`targets.d/Validate2.json`); the table look-up is in `F3/Proofs/ValidatorGen2.lean`. -/

/-- `voteForBottom` = the source's `(value.IsZero() && !partial) || (partial && valueKey.IsZero())`, for full
(`vk = none`) and partial (`vk = some k`) validation; in full mode the key is not looked at (`kz` arbitrary) -/
theorem vote_for_bottom_is_regenerated (vk : Option VKey) (m : Msg) (kz : Bool) :
    voteForBottom vk m =
      F3.Gen.Validate2.voteForBottom (match vk with | some k => k.isZero | none => kz) vk.isSome
        m.vote.value.isEmpty := by
  cases vk <;> simp [voteForBottom, F3.Gen.Validate2.voteForBottom]

/-- the abbreviated expectation table of stage two = the source's map literal: `some true` = the vote value
(`pmsg.Vote.Value`, code 1), `some false` = bottom (`&ECChain{}`, code 0). Both in the model and in the source it is
the main table's value column. -/
theorem full_table_is_regenerated (ph jph : Nat) :
    fullTable ph jph =
      (F3.Gen2Tie.lookup2 F3.Gen.Validate2.fullExpectations ph jph).bind
        (fun cells => match cells with | [k] => some (k == 1) | _ => none) := by
  rw [fullTable_eq_expectation ph 0 jph, F3.Gen2Tie.expectation_is_regenerated ph 0 jph]
  exact (F3.Gen2Tie.fullExpectations_eq_justExpectations ph jph 0).symm

/-- the zero-key rules of stage two (statement: `F3.Gen2Tie.fullZeroKey_is_regenerated`) -/
theorem full_zero_key_is_regenerated : type_of% @F3.Gen2Tie.fullZeroKey_is_regenerated :=
  @F3.Gen2Tie.fullZeroKey_is_regenerated

example : F3.Gen.Validate2.fullZeroKeyRules true true true false = 1 ∧
    F3.Gen.Validate2.fullZeroKeyRules false true true true = 2 ∧
    F3.Gen.Validate2.fullZeroKeyRules false false true false = 0 := by decide

end Regenerated2
end F3.Props.C13

namespace F3.Props.C13
section Skeletons

/-- **The Go functions this property's models mirror still have the statement structure the models were written
against**: each regenerated skeleton (pre-order list of statement kinds, `tools/go2lean/skel.go`) equals the recorded
expectation of `F3/Proofs/SkelTie*.lean`. An added early return, cap, loop or dropped branch in one of these functions
breaks this obligation even when no regenerated *expression* changes. -/
theorem code_structure_as_modelled :
    F3.Gen.SkelValidate.skelValidateJustification = F3.SkelTie.SkelValidate.skelValidateJustificationExpected ∧
    F3.Gen.SkelValidate.skelFullyValidate = F3.SkelTie.SkelValidate.skelFullyValidateExpected ∧
    F3.Gen.SkelValidate.skelSuppEq = F3.SkelTie.SkelValidate.skelSuppEqExpected ∧
    F3.Gen.SkelValidate.skelInferJustValue = F3.SkelTie.SkelValidate.skelInferJustValueExpected ∧
    F3.Gen.SkelValidate.skelToPartial = F3.SkelTie.SkelValidate.skelToPartialExpected ∧
    F3.Gen.SkelValidate.skelValidateMessage = F3.SkelTie.SkelValidate.skelValidateMessageExpected :=
  ⟨F3.SkelTie.SkelValidate.skelValidateJustification_expected, F3.SkelTie.SkelValidate.skelFullyValidate_expected, F3.SkelTie.SkelValidate.skelSuppEq_expected, F3.SkelTie.SkelValidate.skelInferJustValue_expected, F3.SkelTie.SkelValidate.skelToPartial_expected, F3.SkelTie.SkelValidate.skelValidateMessage_expected⟩

end Skeletons
end F3.Props.C13
