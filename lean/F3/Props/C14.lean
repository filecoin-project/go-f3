import F3.Proofs.CodecBytes
import F3.Proofs.CodecMerkle
import F3.Proofs.CodecPayload
import F3.Proofs.CodecCbor
import F3.Proofs.CodecAlloc
import F3.Gen.Schema
import F3.Proofs.CodecDemo
import F3.Proofs.CodecCollision
import F3.Proofs.CodecHashLen
/-!
# C14 — Encodings: signed bytes bind every field, chain keys agree, codecs round-trip

Models: `F3.Payload` (signing payload, tipset, VRF input, chain key), `F3.Merkle` (`Tree`,
`BatchTree`), `F3.Cbor` (generic cbor-gen codec) over the schema table `F3.Gen.Schema`, which is
re-extracted from the Go struct definitions, cborgen tags and generated limits on every run. The
driver `Driver/Codec.lean` executes these same definitions against the implementation.

Hash functions are parameters (`H` = keccak-256 for the merkle tree, `B` = blake2b-256 for the
tipset-key CID). **No theorem that is meant to apply to the real code assumes anything false of them.**
"The key determines the chain" is stated as a *collision-resistance reduction*: two different chains
with the same key (two different payloads with the same signed bytes) **exhibit**, among the finitely
many strings the two computations actually hashed (`F3.HashInputs.hashed`, `keyHashedH`, `keyHashedB`),
either two different strings with the same digest, or a string with the all-zero digest (which
merkle.go uses as the empty-subtree marker and chain.go as the key of the zero chain), or a digest
whose length is not 32 (impossible for the executable hashes: `keccak256_length`, `blake2b256_length`).
These are the primary results: `tree_collision_extract`, `tree_find_collision` (the colliding pair is
*computed* by `findCollision`), `tipset_collision_extract`, `chainKey_collision_extract`,
`signed_bytes_collision_extract`, and their instances at the executable hashes the driver runs
(`chainKey_collision_extract_real`, `signed_bytes_collision_extract_real`).

`tipset_inj`, `tree_inj`, `chainKey_inj`, `signed_bytes_sensitive` are **idealised-hash
corollaries**: they assume `HashOK H` / `CidHashOK B`, i.e. *global injectivity* of a function with
32-byte output, which no real hash (and in particular neither executable hash) satisfies; the witness
`demoHash` exists only because `Bytes = List Nat` has non-byte elements. They are derived from the
reductions (injective ⇒ no collision in the list ⇒ equality) and say what the encoding *layout* achieves
once the hash is taken out of the picture. `tree_inj_or_collision` is stated for reference only: its
alternatives quantify over all strings and are therefore trivially true of every real hash.

Key agreement (`batch_eq_tree`, `keys_agree`) holds for every function `H`, `B` whatsoever.

Runtime sub-claim NOT proved here (validated by the malformed stream of `h_codec` only): that the
*Go* decoders and zstd do not panic and that the Go allocator's measured total stays below
`Schema.allocBound`. What is proved is the model-level counterpart (`decode_alloc_bounded`): the
`make` requests of the decoder model, which mirrors the generated code's check-then-allocate order.
-/
namespace F3.Props.C14
open F3.Codec F3.Merkle F3.Payload F3.Cbor F3.HashInputs
open F3.Codec.Hash (keccak256 blake2b256)

/-! ## (a) what is signed -/

/-- For a fixed network name the bytes of `MarshalForSigningWithValueKey` determine phase, round,
instance, commitments, chain key and power-table CID (no assumption on the CID's length). -/
theorem payload_inj_fixed_net {p q : SigInput} (hp : p.WF) (hq : q.WF) (hnet : p.net = q.net)
    (h : payloadBytes p = payloadBytes q) : p = q :=
  F3.Payload.payload_inj_fixed_net hp hq hnet h

/-- With power-table CIDs of equal length the bytes determine *all* fields, network name included. -/
theorem payload_inj_cidlen {p q : SigInput} (hp : p.WF) (hq : q.WF) (hcid : p.ptCid.length = q.ptCid.length)
    (h : payloadBytes p = payloadBytes q) : p = q :=
  F3.Payload.payload_inj_cidlen hp hq hcid h

/-- Single-field sensitivity: two different inputs that agree on the network name, or whose CIDs have
the same length, never give the same signed bytes. Every change of exactly one field is covered. -/
theorem payload_sensitive {p q : SigInput} (hp : p.WF) (hq : q.WF) (hne : p ≠ q)
    (hside : p.net = q.net ∨ p.ptCid.length = q.ptCid.length) : payloadBytes p ≠ payloadBytes q :=
  F3.Payload.payload_sensitive hp hq hne hside

/-- Changing only the network name changes the signed bytes. -/
theorem payload_net_sensitive (p : SigInput) (hp : p.WF) (net' : Bytes) (hne : net' ≠ p.net) :
    payloadBytes { p with net := net' } ≠ payloadBytes p := by
  apply F3.Payload.payload_sensitive (p := { p with net := net' }) (q := p)
    ⟨hp.phase, hp.round, hp.inst, hp.commitments, hp.key⟩ hp
  · intro h; exact hne (congrArg SigInput.net h)
  · exact Or.inr rfl

/-- The caveat is real: network name and power-table CID are two variable-length fields separated by
fixed-width data only, so when the CID lengths differ two different inputs can collide. -/
theorem payload_not_jointly_injective :
    ∃ p q : SigInput, p.WF ∧ q.WF ∧ p ≠ q ∧ payloadBytes p = payloadBytes q := by
  refine ⟨⟨[97], 58, 0, 0, List.replicate 32 0, List.replicate 32 0, [0]⟩,
          ⟨[97, 58], 0, 0, 0, List.replicate 32 0, List.replicate 32 0, []⟩, ?_, ?_, ?_, ?_⟩
  · exact ⟨by decide, by norm_num, by norm_num, by decide, by decide⟩
  · exact ⟨by decide, by norm_num, by norm_num, by decide, by decide⟩
  · decide
  · decide

/-- `TipSet.MarshalForSigning`, reduction form (no hypothesis on the CID hash `B`): equal bytes give equal
epoch and commitments outright, and equal tipsets (key and power-table CID too) unless blake2b is
exhibited to fail on the two tipset keys: the two CBOR-encoded keys are different strings with the
same digest, or one of their digests is not 32 bytes long. The key enters the signed bytes only
through its CID, so this is the best possible. -/
theorem tipset_collision_extract (B : Bytes → Bytes) {s t : TipSet} (hs : s.WF) (ht : t.WF)
    (h : tipsetBytes B s = tipsetBytes B t) :
    s.epoch = t.epoch ∧ s.commitments = t.commitments ∧
    (s = t ∨
     (tsKeyPreimage s.key ≠ tsKeyPreimage t.key ∧ B (tsKeyPreimage s.key) = B (tsKeyPreimage t.key)) ∨
     (B (tsKeyPreimage s.key)).length ≠ 32 ∨ (B (tsKeyPreimage t.key)).length ≠ 32) :=
  F3.HashInputs.tipset_extract B hs ht h

/-- Idealised-hash corollary of `tipset_collision_extract` (`CidHashOK B` = globally injective with
32-byte output; false of every real hash): `TipSet.MarshalForSigning` determines epoch, commitments,
tipset key and power-table CID. -/
theorem tipset_inj {B : Bytes → Bytes} (hB : CidHashOK B) {s t : TipSet} (hs : s.WF) (ht : t.WF)
    (h : tipsetBytes B s = tipsetBytes B t) : s = t :=
  F3.Payload.tipset_inj hB hs ht h

/-- The VRF input determines beacon, instance and round for a fixed network name. -/
theorem vrf_inj_fixed_net {v w : VrfInput} (hv : v.WF) (hw : w.WF) (hnet : v.net = w.net)
    (h : vrfBytes v = vrfBytes w) : v = w :=
  F3.Payload.vrf_inj_fixed_net hv hw hnet h

/-- With beacons of equal length it determines the network name too. -/
theorem vrf_inj_beaconlen {v w : VrfInput} (hv : v.WF) (hw : w.WF) (hlen : v.beacon.length = w.beacon.length)
    (h : vrfBytes v = vrfBytes w) : v = w :=
  F3.Payload.vrf_inj_beaconlen hv hw hlen h

/-- Changing any one of beacon, instance, round, network name changes the VRF input. -/
theorem vrf_sensitive {v w : VrfInput} (hv : v.WF) (hw : w.WF) (hne : v ≠ w)
    (hside : v.net = w.net ∨ v.beacon.length = w.beacon.length) : vrfBytes v ≠ vrfBytes w :=
  fun h => hne (hside.elim (fun hn => F3.Payload.vrf_inj_fixed_net hv hw hn h)
    (fun hb => F3.Payload.vrf_inj_beaconlen hv hw hb h))

/-- Network name and beacon meet at a `:` and are not jointly determined. -/
theorem vrf_not_jointly_injective : ∃ v w : VrfInput, v.WF ∧ w.WF ∧ v ≠ w ∧ vrfBytes v = vrfBytes w := by
  refine ⟨⟨[97], [98, 58, 99], 0, 0⟩, ⟨[97, 58, 98], [99], 0, 0⟩, ?_, ?_, ?_, ?_⟩
  · exact ⟨by norm_num, by norm_num⟩
  · exact ⟨by norm_num, by norm_num⟩
  · decide
  · decide

/-! ## (b) chain keys -/

/-- `merkle.BatchTree(values)[k] = merkle.Tree(values[:k+1])` for every list and every `k`. -/
theorem batch_eq_tree (H : Bytes → Bytes) (vs : List Bytes) (k : Nat) (hk : k < vs.length) :
    (batchTree H vs)[k]? = some (tree H (vs.take (k + 1))) :=
  batchTree_get H vs k hk

/-- **Merkle reduction** (no hypothesis on `H`). If two lists have the same root then they are the same
list — same number, order and content of values — or the hash is exhibited to fail *on the strings the
two computations hashed* (`hashed H vs`: one `1 :: value` per leaf, one `0 :: left ++ right` per
internal node): two different hashed strings with the same digest, a hashed string with the all-zero
digest (the empty-subtree marker), or a digest that is not 32 bytes long. -/
theorem tree_collision_extract (H : Bytes → Bytes) (vs ws : List Bytes) (h : tree H vs = tree H ws) :
    vs = ws ∨
    (∃ a ∈ hashed H vs, ∃ b ∈ hashed H ws, a ≠ b ∧ H a = H b) ∨
    (∃ a ∈ hashed H vs ++ hashed H ws, H a = zeroDigest) ∨
    (∃ a ∈ hashed H vs ++ hashed H ws, (H a).length ≠ 32) :=
  F3.HashInputs.tree_extract H vs ws h

/-- The reduction is effective: for two *different* lists with the same root, if none of the hashed
strings has the zero digest or a digest of the wrong length (finitely many decidable checks), the
search `findCollision` over the two lists of hashed strings **returns** a collision. -/
theorem tree_find_collision (H : Bytes → Bytes) (vs ws : List Bytes) (h : tree H vs = tree H ws) (hne : vs ≠ ws)
    (hz : ∀ a ∈ hashed H vs ++ hashed H ws, H a ≠ zeroDigest)
    (hlen : ∀ a ∈ hashed H vs ++ hashed H ws, (H a).length = 32) :
    ∃ a b, findCollision H (hashed H vs) (hashed H ws) = some (a, b) ∧
      a ∈ hashed H vs ∧ b ∈ hashed H ws ∧ a ≠ b ∧ H a = H b := by
  rcases tree_collision_extract H vs ws h with e | hc | ⟨a, ha, hza⟩ | ⟨a, ha, hla⟩
  · exact absurd e hne
  · exact findCollision_of_collision H hc
  · exact absurd hza (hz a ha)
  · exact absurd (hlen a ha) hla

/-- Whatever `findCollision` returns is a collision between the two lists (soundness of the search). -/
theorem find_collision_sound (H : Bytes → Bytes) (X Y : List Bytes) (a b : Bytes)
    (h : findCollision H X Y = some (a, b)) : a ∈ X ∧ b ∈ Y ∧ a ≠ b ∧ H a = H b :=
  findCollision_sound H h

/-- Idealised-hash corollary of `tree_collision_extract` (`HashOK H` = globally injective, 32-byte,
never zero; false of every real hash): the root determines the list. -/
theorem tree_inj {H : Bytes → Bytes} (hH : HashOK H) (vs ws : List Bytes) (h : tree H vs = tree H ws) : vs = ws :=
  F3.Merkle.tree_inj H hH vs ws h

/-- Weak form, for reference (corollary of `tree_collision_extract`): the alternatives range over
*all* strings, so for every real hash the second one holds by counting and the statement carries no
information. Use `tree_collision_extract` / `tree_find_collision`. -/
theorem tree_inj_or_collision (H : Bytes → Bytes) (vs ws : List Bytes) (h : tree H vs = tree H ws) :
    vs = ws ∨ (∃ a b, a ≠ b ∧ H a = H b) ∨ (∃ a, (H a).length ≠ 32) ∨ (∃ a, H a = zeroDigest) := by
  rcases tree_collision_extract H vs ws h with e | ⟨a, _, b, _, hne, he⟩ | ⟨a, _, hz⟩ | ⟨a, _, hl⟩
  · exact Or.inl e
  · exact Or.inr (Or.inl ⟨a, b, hne, he⟩)
  · exact Or.inr (Or.inr (Or.inr ⟨a, hz⟩))
  · exact Or.inr (Or.inr (Or.inl ⟨a, hl⟩))

/-- `merkle.Tree` never reaches its panic for the depth it computes. -/
theorem tree_never_panics (vs : List Bytes) : panics (depth vs.length) vs = false := by
  cases vs with
  | nil => cases depth ([] : List Bytes).length <;> rfl
  | cons v vs => exact panics_false_of_fits _ _ (depth_fits _)

/-- **Chain-key reduction** (no hypothesis on `H`, `B`). Two chains with the same `ECChain.Key()` are the
same chain — length, order, and epoch / key / power-table CID / commitments of every tipset — or
`HashBreak H B c d` holds: among the strings hashed by the two key computations (`keyHashedH`: the
leaf strings `1 :: TipSet.MarshalForSigning` and node strings of the merkle tree; `keyHashedB`: the
CBOR-encoded tipset keys that go into the tipset CIDs) there is a keccak collision between the two
sides, a string with the zero keccak digest, a blake2b collision between the two sides, or a digest
of the wrong length. -/
theorem chainKey_collision_extract (H B : Bytes → Bytes) (c d : List TipSet)
    (hc : ∀ t ∈ c, t.WF) (hd : ∀ t ∈ d, t.WF) (h : chainKey H B c = chainKey H B d) :
    c = d ∨
    Collision H (keyHashedH H B c) (keyHashedH H B d) ∨
    ZeroPreimage H (keyHashedH H B c ++ keyHashedH H B d) ∨
    Collision B (keyHashedB c) (keyHashedB d) ∨
    WrongLen H (keyHashedH H B c ++ keyHashedH H B d) ∨
    WrongLen B (keyHashedB c ++ keyHashedB d) :=
  F3.HashInputs.chainKey_extract H B c d hc hd h

/-- The chain-key reduction at the hashes the driver executes (`F3.Codec.Hash.keccak256`,
`blake2b256`; their output length is a lemma): two *different* chains with the same key make
`findCollision` return a keccak-256 collision among the hashed merkle strings, or a blake2b-256
collision among the encoded tipset keys, or one of the hashed merkle strings is a keccak-256 preimage
of the all-zero digest. -/
theorem chainKey_collision_extract_real (c d : List TipSet) (hc : ∀ t ∈ c, t.WF) (hd : ∀ t ∈ d, t.WF)
    (h : chainKey keccak256 blake2b256 c = chainKey keccak256 blake2b256 d) (hne : c ≠ d) :
    (∃ a b, findCollision keccak256 (keyHashedH keccak256 blake2b256 c) (keyHashedH keccak256 blake2b256 d) = some (a, b) ∧
        a ≠ b ∧ keccak256 a = keccak256 b) ∨
    (∃ a b, findCollision blake2b256 (keyHashedB c) (keyHashedB d) = some (a, b) ∧
        a ≠ b ∧ blake2b256 a = blake2b256 b) ∨
    (∃ a ∈ keyHashedH keccak256 blake2b256 c ++ keyHashedH keccak256 blake2b256 d, keccak256 a = zeroDigest) := by
  rcases chainKey_collision_extract keccak256 blake2b256 c d hc hd h with e | hb
  · exact absurd e hne
  · rcases hashBreak_real hb with hk | hz | hbl
    · obtain ⟨a, b, hf, _, _, hab, he⟩ := findCollision_of_collision keccak256 hk
      exact Or.inl ⟨a, b, hf, hab, he⟩
    · exact Or.inr (Or.inr hz)
    · obtain ⟨a, b, hf, _, _, hab, he⟩ := findCollision_of_collision blake2b256 hbl
      exact Or.inr (Or.inl ⟨a, b, hf, hab, he⟩)

/-- The strings in question are genuine byte strings: for chains whose tipsets carry byte values
(every element `< 256`) and hashes with byte output — in particular the executable ones — every string
hashed by the key computation has all its elements `< 256`. So an exhibited collision is a collision
of the real function on real inputs, not an artefact of `Bytes = List Nat`. -/
theorem hashed_inputs_are_bytes (c : List TipSet)
    (hc : ∀ t ∈ c, IsBytes t.key ∧ IsBytes t.commitments ∧ IsBytes t.powerTable) :
    (∀ a ∈ keyHashedH keccak256 blake2b256 c, IsBytes a) ∧ (∀ a ∈ keyHashedB c, IsBytes a) :=
  keyHashed_isBytes keccak256 blake2b256 keccak256_isBytes blake2b256_isBytes c hc

/-- The executable hashes return 32 bytes on every input. -/
theorem real_hash_length (a : Bytes) : (keccak256 a).length = 32 ∧ (blake2b256 a).length = 32 :=
  ⟨keccak256_length a, blake2b256_length a⟩

/-- Idealised-hash corollary of `chainKey_collision_extract` (`HashOK H`, `CidHashOK B`: globally
injective; false of every real hash): the chain key determines the chain. -/
theorem chainKey_inj {H B : Bytes → Bytes} (hH : HashOK H) (hB : CidHashOK B) (c d : List TipSet)
    (hc : ∀ t ∈ c, t.WF) (hd : ∀ t ∈ d, t.WF) (h : chainKey H B c = chainKey H B d) : c = d :=
  F3.Payload.chainKey_inj hH hB c d hc hd h

/-- Direct, batch and cached keys agree: entry `i` of `KeysForPrefixes()` — which is also what
`AllPrefixes()` stores in the key cache of its `i`-th prefix — is `Prefix(i).Key()`. -/
theorem keys_agree (H B : Bytes → Bytes) (c : List TipSet) (i : Nat) (hi : i < c.length) :
    (keysForPrefixes H B c)[i]? = some (chainKey H B (chainPrefix c i)) :=
  keysForPrefixes_get H B c i hi

/-- Phase, round, instance and commitments of the complete signed bytes (`Payload.MarshalForSigning`)
sit at fixed offsets after the network name: for a fixed network name they are determined by the
signed bytes whatever the hashes and whatever the chains. -/
theorem signed_bytes_scalars_fixed_net (H B : Bytes → Bytes)
    (net : Bytes) (ph1 ph2 r1 r2 i1 i2 : Nat) (cm1 cm2 pt1 pt2 : Bytes) (c1 c2 : List TipSet)
    (hph : ph1 < 256 ∧ ph2 < 256) (hr : r1 < 2 ^ 64 ∧ r2 < 2 ^ 64) (hi : i1 < 2 ^ 64 ∧ i2 < 2 ^ 64)
    (hcm : cm1.length = 32 ∧ cm2.length = 32)
    (h : signedBytes H B net ph1 r1 i1 cm1 pt1 c1 = signedBytes H B net ph2 r2 i2 cm2 pt2 c2) :
    ph1 = ph2 ∧ r1 = r2 ∧ i1 = i2 ∧ cm1 = cm2 := by
  unfold signedBytes at h
  obtain ⟨e1, e2, e3, e4, _⟩ := payload_scalars_fixed_net
    (p := ⟨net, ph1, r1, i1, cm1, chainKey H B c1, pt1⟩) (q := ⟨net, ph2, r2, i2, cm2, chainKey H B c2, pt2⟩)
    hph.1 hph.2 hr.1 hr.2 hi.1 hi.2 hcm.1 hcm.2 rfl h
  exact ⟨e1, e2, e3, e4⟩

/-- **Signed-payload reduction.** The complete signed bytes as a function of network, phase, round,
instance, supplemental data and the *content of the chain*. For a fixed network name and a merkle hash
with 32-byte output (a lemma for the executable keccak-256, the `Digest` array type in Go): equal
signed bytes give equal phase, round, instance, commitments and power-table CID, and equal chains —
every tipset's epoch, key, power-table CID and commitments, the chain's length and order — unless
`HashBreak H B c1 c2` is exhibited among the strings hashed for the two chain keys. -/
theorem signed_bytes_collision_extract (H B : Bytes → Bytes) (hlen : ∀ a, (H a).length = 32)
    (net : Bytes) (ph1 ph2 r1 r2 i1 i2 : Nat) (cm1 cm2 pt1 pt2 : Bytes) (c1 c2 : List TipSet)
    (hph : ph1 < 256 ∧ ph2 < 256) (hr : r1 < 2 ^ 64 ∧ r2 < 2 ^ 64) (hi : i1 < 2 ^ 64 ∧ i2 < 2 ^ 64)
    (hcm : cm1.length = 32 ∧ cm2.length = 32) (hc1 : ∀ t ∈ c1, t.WF) (hc2 : ∀ t ∈ c2, t.WF)
    (h : signedBytes H B net ph1 r1 i1 cm1 pt1 c1 = signedBytes H B net ph2 r2 i2 cm2 pt2 c2) :
    ph1 = ph2 ∧ r1 = r2 ∧ i1 = i2 ∧ cm1 = cm2 ∧ pt1 = pt2 ∧ (c1 = c2 ∨ HashBreak H B c1 c2) := by
  unfold signedBytes at h
  obtain ⟨e1, e2, e3, e4, e5⟩ := payload_scalars_fixed_net
    (p := ⟨net, ph1, r1, i1, cm1, chainKey H B c1, pt1⟩) (q := ⟨net, ph2, r2, i2, cm2, chainKey H B c2, pt2⟩)
    hph.1 hph.2 hr.1 hr.2 hi.1 hi.2 hcm.1 hcm.2 rfl h
  obtain ⟨ek, ept⟩ := List.append_inj e5
    (by rw [chainKey_length_of_len hlen, chainKey_length_of_len hlen])
  exact ⟨e1, e2, e3, e4, ept, chainKey_extract H B c1 c2 hc1 hc2 ek⟩

/-- The general form, without any hypothesis on the hashes and with the side condition under which the
payload layout is injective at all (same network name, or power-table CIDs of equal length): equal
signed bytes give equal inputs — network, phase, round, instance, commitments, power-table CID, chain —
or `HashBreak H B c1 c2`. -/
theorem signed_bytes_collision_extract_side (H B : Bytes → Bytes)
    (net1 net2 : Bytes) (ph1 ph2 r1 r2 i1 i2 : Nat) (cm1 cm2 pt1 pt2 : Bytes) (c1 c2 : List TipSet)
    (hph : ph1 < 256 ∧ ph2 < 256) (hr : r1 < 2 ^ 64 ∧ r2 < 2 ^ 64) (hi : i1 < 2 ^ 64 ∧ i2 < 2 ^ 64)
    (hcm : cm1.length = 32 ∧ cm2.length = 32) (hc1 : ∀ t ∈ c1, t.WF) (hc2 : ∀ t ∈ c2, t.WF)
    (hside : net1 = net2 ∨ pt1.length = pt2.length)
    (h : signedBytes H B net1 ph1 r1 i1 cm1 pt1 c1 = signedBytes H B net2 ph2 r2 i2 cm2 pt2 c2) :
    (net1, ph1, r1, i1, cm1, pt1, c1) = (net2, ph2, r2, i2, cm2, pt2, c2) ∨ HashBreak H B c1 c2 := by
  rcases chainKey_length_or H B c1 with l1 | bad
  swap
  · exact Or.inr ((hashBreak_iff ..).mpr (Or.inl (Or.inr (Or.inr (bad.mono (List.subset_append_left _ _))))))
  rcases chainKey_length_or H B c2 with l2 | bad
  swap
  · exact Or.inr ((hashBreak_iff ..).mpr (Or.inl (Or.inr (Or.inr (bad.mono (List.subset_append_right _ _))))))
  unfold signedBytes at h
  have w1 : SigInput.WF ⟨net1, ph1, r1, i1, cm1, chainKey H B c1, pt1⟩ := ⟨hph.1, hr.1, hi.1, hcm.1, l1⟩
  have w2 : SigInput.WF ⟨net2, ph2, r2, i2, cm2, chainKey H B c2, pt2⟩ := ⟨hph.2, hr.2, hi.2, hcm.2, l2⟩
  have heq : (⟨net1, ph1, r1, i1, cm1, chainKey H B c1, pt1⟩ : SigInput) =
      ⟨net2, ph2, r2, i2, cm2, chainKey H B c2, pt2⟩ := by
    rcases hside with hn | hl
    · exact payload_inj_fixed_net w1 w2 hn h
    · exact payload_inj_cidlen w1 w2 hl h
  simp only [SigInput.mk.injEq] at heq
  obtain ⟨e1, e2, e3, e4, e5, e6, e7⟩ := heq
  rcases chainKey_extract H B c1 c2 hc1 hc2 e6 with ec | bad
  · exact Or.inl (by rw [e1, e2, e3, e4, e5, e7, ec])
  · exact Or.inr bad

/-- The signed-payload reduction at the hashes the driver executes: two payloads for the same network
with the same signed bytes agree on phase, round, instance, commitments and power-table CID, and on
the chain unless a keccak-256 collision, a keccak-256 preimage of the zero digest, or a blake2b-256
collision is exhibited among the strings hashed for the two chain keys. -/
theorem signed_bytes_collision_extract_real
    (net : Bytes) (ph1 ph2 r1 r2 i1 i2 : Nat) (cm1 cm2 pt1 pt2 : Bytes) (c1 c2 : List TipSet)
    (hph : ph1 < 256 ∧ ph2 < 256) (hr : r1 < 2 ^ 64 ∧ r2 < 2 ^ 64) (hi : i1 < 2 ^ 64 ∧ i2 < 2 ^ 64)
    (hcm : cm1.length = 32 ∧ cm2.length = 32) (hc1 : ∀ t ∈ c1, t.WF) (hc2 : ∀ t ∈ c2, t.WF)
    (h : signedBytes keccak256 blake2b256 net ph1 r1 i1 cm1 pt1 c1 =
         signedBytes keccak256 blake2b256 net ph2 r2 i2 cm2 pt2 c2) :
    ph1 = ph2 ∧ r1 = r2 ∧ i1 = i2 ∧ cm1 = cm2 ∧ pt1 = pt2 ∧
    (c1 = c2 ∨
     Collision keccak256 (keyHashedH keccak256 blake2b256 c1) (keyHashedH keccak256 blake2b256 c2) ∨
     ZeroPreimage keccak256 (keyHashedH keccak256 blake2b256 c1 ++ keyHashedH keccak256 blake2b256 c2) ∨
     Collision blake2b256 (keyHashedB c1) (keyHashedB c2)) := by
  obtain ⟨e1, e2, e3, e4, e5, hc⟩ := signed_bytes_collision_extract keccak256 blake2b256 keccak256_length
    net ph1 ph2 r1 r2 i1 i2 cm1 cm2 pt1 pt2 c1 c2 hph hr hi hcm hc1 hc2 h
  refine ⟨e1, e2, e3, e4, e5, ?_⟩
  rcases hc with e | hb
  · exact Or.inl e
  · exact Or.inr (hashBreak_real hb)

/-- Idealised-hash corollary of `signed_bytes_collision_extract_side` (`HashOK H`, `CidHashOK B`:
globally injective; false of every real hash): two inputs that differ anywhere — in any tipset's epoch,
key, power-table CID or commitments, in the chain's length or order, or in any scalar — and that agree
on the network name or on the CID length, are signed differently. -/
theorem signed_bytes_sensitive {H B : Bytes → Bytes} (hH : HashOK H) (hB : CidHashOK B)
    (net1 net2 : Bytes) (ph1 ph2 r1 r2 i1 i2 : Nat) (cm1 cm2 pt1 pt2 : Bytes) (c1 c2 : List TipSet)
    (hph : ph1 < 256 ∧ ph2 < 256) (hr : r1 < 2 ^ 64 ∧ r2 < 2 ^ 64) (hi : i1 < 2 ^ 64 ∧ i2 < 2 ^ 64)
    (hcm : cm1.length = 32 ∧ cm2.length = 32) (hc1 : ∀ t ∈ c1, t.WF) (hc2 : ∀ t ∈ c2, t.WF)
    (hne : (net1, ph1, r1, i1, cm1, pt1, c1) ≠ (net2, ph2, r2, i2, cm2, pt2, c2))
    (hside : net1 = net2 ∨ pt1.length = pt2.length) :
    signedBytes H B net1 ph1 r1 i1 cm1 pt1 c1 ≠ signedBytes H B net2 ph2 r2 i2 cm2 pt2 c2 := by
  intro h
  rcases signed_bytes_collision_extract_side H B net1 net2 ph1 ph2 r1 r2 i1 i2 cm1 cm2 pt1 pt2 c1 c2
    hph hr hi hcm hc1 hc2 hside h with e | hb
  · exact hne e
  · exact not_hashBreak_of_ok hH hB c1 c2 hb

/-! ## (c) codecs -/

/-- Decoding an encoding gives the value back and leaves exactly the bytes that followed it. -/
theorem decode_encode (s : Schema) (hwf : s.wf = true) (v : Value) (b rest : Bytes)
    (h : encode s v = some b) : decode s (b ++ rest) = .ok (v, rest) :=
  F3.Cbor.decode_encode s hwf v b rest h

/-- No encoding is a proper prefix of another one (streams of values need no framing). -/
theorem encode_prefix_free (s : Schema) (hwf : s.wf = true) (v1 v2 : Value) (b1 b2 t : Bytes)
    (h1 : encode s v1 = some b1) (h2 : encode s v2 = some b2) (hp : b2 = b1 ++ t) : v1 = v2 ∧ t = [] :=
  F3.Cbor.encode_prefix_free s hwf v1 v2 b1 b2 t h1 h2 hp

/-- Encoding is a function of the value (determinism) and different values have different encodings. -/
theorem encode_det (s : Schema) (hwf : s.wf = true) (v1 v2 : Value) (b1 b2 : Bytes)
    (h1 : encode s v1 = some b1) (h2 : encode s v2 = some b2) : v1 = v2 ↔ b1 = b2 := by
  constructor
  · intro hv; subst hv; rw [h1] at h2; exact Option.some.inj h2
  · intro hb; subst hb; exact (F3.Cbor.encode_prefix_free s hwf v1 v2 b1 b1 [] h1 h2 (List.append_nil b1).symm).1

/-- A length above the limit is refused from the head alone, whatever follows (nothing, in
particular): byte strings, fixed arrays, slices. -/
theorem decode_rejects_overlimit (l : Lim) (e : Schema) (a b maj n : Nat) (hm : maj < 8) (hn : n < 2 ^ 64)
    (h : n > l.dec) (rest : Bytes) :
    decode (.bytes l) (hdr maj n ++ rest) = .error .overlimit ∧
    decode (.fixed a b l) (hdr maj n ++ rest) = .error .overlimit ∧
    decode (.array l e) (hdr maj n ++ rest) = .error .overlimit := by
  simp only [decode, readHdr_hdr maj n hm hn rest, h, if_true, and_self]

/-- The same for the library leaf codecs: bit fields (32 KiB), big integers (128 B), CIDs (512 B),
and the `uint8` range check. -/
theorem decode_rejects_overlimit_leaf (n : Nat) (hn : n < 2 ^ 64) (rest : Bytes) :
    (n > 32768 → ∀ maj < 8, decode .bitfield (hdr maj n ++ rest) = .error .overlimit) ∧
    (n > 128 → decode .bigint (hdr 2 n ++ rest) = .error .overlimit) ∧
    (n > 512 → decode .cid (hdr 6 42 ++ (hdr 2 n ++ rest)) = .error .overlimit) ∧
    (∀ max, n > max → decode (.uint max) (hdr 0 n ++ rest) = .error .overlimit) := by
  refine ⟨fun h maj hm => ?_, fun h => ?_, fun h => ?_, fun max h => ?_⟩
  · simp only [decode, readHdr_hdr maj n hm hn rest, h, if_true]
  · have h0 : n ≠ 0 := by omega
    simp only [decode, readHdr_hdr 2 n (by omega) hn rest, h, h0, ne_eq, not_true_eq_false, if_true, if_false]
  · simp only [decode, readHdr_hdr 6 42 (by omega) (by omega) _, readHdr_hdr 2 n (by omega) hn rest, h,
      ne_eq, not_true_eq_false, if_true, if_false]
  · simp only [decode, readHdr_hdr 0 n (by omega) hn rest, h, ne_eq, not_true_eq_false, if_true, if_false]

/-- Oversized input is never accepted, at any nesting depth: whatever the decoder returns has the shape
of the schema and every length in it (byte strings, slices, CIDs, bit fields, integers' ranges) is
within the limit the decoder enforces — which on the extracted table is the documented one
(`documented_is_enforced`). -/
theorem decode_accepts_only_within_limits (s : Schema) (hwf : s.wf = true) (b : Bytes) (v : Value) (rest : Bytes)
    (h : decode s b = .ok (v, rest)) : Value.within s v = true :=
  decode_ok_within s hwf b v rest h

/-- Allocation, model level: on *any* input (accepted, truncated, oversized, garbage) the requests of
the decoder (`allocReq`: every `make` of the generated code, placed after its limit check) sum to at
most `allocPerByte · |input| + staticPrealloc`: they are backed by consumed input or are one of the
finitely many limit-checked buffers. -/
theorem decode_alloc_bounded (s : Schema) (hwf : s.wf = true) (b : Bytes) :
    allocReq s b ≤ s.allocPerByte * b.length + s.staticPrealloc :=
  allocReq_le s hwf s.allocPerByte (Nat.le_refl _) b

/-- On accepted input nothing is allocated that the consumed bytes do not pay for. -/
theorem decode_alloc_backed (s : Schema) (hwf : s.wf = true) (b : Bytes) (v : Value) (r : Bytes)
    (h : decode s b = .ok (v, r)) : allocReq s b + s.allocPerByte * r.length ≤ s.allocPerByte * b.length :=
  alloc_backed s hwf s.allocPerByte (Nat.le_refl _) b v r h

/-- The facts extracted from the working tree are consistent: every generated codec has the same
limits on the encoding side, on the decoding side and in the struct tag; struct, encoder and decoder
list the fields in the same order; nothing in the generated code was left unmapped; `ECChain` goes
through `LegacyECChain`. -/
theorem schema_table_wf :
    (∀ p ∈ Gen.Schema.table, p.2.wf = true) ∧ (∀ p ∈ Gen.Schema.fieldOrderOk, p.2 = true) ∧
    Gen.Schema.problems = [] ∧ Gen.Schema.ecchainViaLegacy = true ∧ Gen.Schema.table.length = 16 := by
  decide

/-- Every wire and storage type round-trips through its generated codec. -/
theorem roundtrip_every_type (name : String) (s : Schema) (hmem : (name, s) ∈ Gen.Schema.table)
    (v : Value) (b rest : Bytes) (h : encode s v = some b) : decode s (b ++ rest) = .ok (v, rest) :=
  F3.Cbor.decode_encode s (schema_table_wf.1 (name, s) hmem) v b rest h

/-- For every wire and storage type the oracle's allocation bound (`Schema.allocBound`) dominates what the
model decoder can request. -/
theorem alloc_bound_every_type (name : String) (s : Schema) (hmem : (name, s) ∈ Gen.Schema.table) (b : Bytes) :
    allocReq s b ≤ s.allocBound b.length := by
  have := decode_alloc_bounded s (schema_table_wf.1 (name, s) hmem) b
  unfold Schema.allocBound; omega

/-- On every wire and storage type the documented limits are the enforced ones. -/
theorem documented_is_enforced (name : String) (s : Schema) (hmem : (name, s) ∈ Gen.Schema.table) :
    s.documented = s :=
  Schema.documented_eq_of_wf s (schema_table_wf.1 (name, s) hmem)

/-- The limits the property names, as found in the source. -/
theorem documented_limits :
    Gen.Schema.gpbft_TipSet =
      .tuple 4 4 (.tcons .int64 (.tcons (.bytes ⟨760, 760, 760⟩) (.tcons .cid (.tcons (.fixed 32 32 ⟨32, 32, 32⟩) .tnil)))) ∧
    Gen.Schema.gpbft_GMessage =
      .tuple 5 5 (.tcons (.uint 18446744073709551615) (.tcons Gen.Schema.gpbft_Payload (.tcons (.bytes ⟨96, 96, 96⟩)
        (.tcons (.bytes ⟨96, 96, 96⟩) (.tcons (.nullable Gen.Schema.gpbft_Justification) .tnil))))) ∧
    Gen.Schema.gpbft_Justification =
      .tuple 3 3 (.tcons Gen.Schema.gpbft_Payload (.tcons .bitfield (.tcons (.bytes ⟨96, 96, 96⟩) .tnil))) ∧
    Gen.Schema.gpbft_PowerEntry =
      .tuple 3 3 (.tcons (.uint 18446744073709551615) (.tcons .bigint (.tcons (.bytes ⟨48, 48, 48⟩) .tnil))) ∧
    Gen.Schema.gpbft_PartialGMessage =
      .tuple 2 2 (.tcons (.nullable Gen.Schema.gpbft_GMessage) (.tcons (.fixed 32 32 ⟨32, 32, 32⟩) .tnil)) ∧
    Gen.Schema.tipsetKeyMaxLen = 760 ∧ Gen.Schema.chainMaxLen = 128 ∧ Gen.Schema.cidMaxLen = 38 ∧
    Gen.Schema.digestLength = 32 ∧ Gen.Schema.maxDecompressedSize = 1048576 := by
  decide

/-- The domain-separation tags of the source are the ones the payload model writes. -/
theorem domain_tags_match :
    Gen.Schema.domainSeparationTag = Payload.domainTag ∧
    Gen.Schema.domainSeparationTagVRF = Payload.domainTagVRF := by
  decide

/-- Through the compressing codec: if zstd inverts itself on inputs up to the cap, values round-trip. -/
theorem zstd_roundtrip (z : Zstd) (hz : ∀ x, x.length ≤ z.cap → z.decompress (z.compress x) = some x)
    (s : Schema) (hwf : s.wf = true) (v : Value) (c : Bytes) (h : z.encode s v = some c) :
    z.decode s c = .ok (v, []) :=
  Zstd.decode_encode z hz s hwf v c h

/-- `ZSTD.Encode` only emits frames whose content the bounded decoder is allowed to expand. -/
theorem zstd_encode_within_cap (z : Zstd) (s : Schema) (v : Value) (c : Bytes) (h : z.encode s v = some c) :
    ∃ b, encode s v = some b ∧ b.length ≤ z.cap ∧ c = z.compress b :=
  Zstd.encode_within_cap z s v c h

/-! ### the idealised-hash corollaries

An injective "hash" with 32-element, non-zero output exists in the model (`F3.Codec.demoHash`) only
because `Bytes = List Nat` has infinitely many 32-element lists; this shows the hypotheses `HashOK` /
`CidHashOK` of the idealised corollaries consistent, nothing more. -/

example : HashOK demoHash :=
  ⟨fun a b h => by
      simp only [demoHash, List.cons.injEq, and_true] at h
      exact Encodable.encode_injective (by omega),
   fun a => by simp [demoHash],
   fun a h => by
      simp only [demoHash, zeroDigest] at h
      have := List.head_eq_of_cons_eq (h.trans (by rfl : List.replicate 32 0 = 0 :: List.replicate 31 0))
      omega⟩

example : CidHashOK demoHash :=
  ⟨fun a b h => by
      simp only [demoHash, List.cons.injEq, and_true] at h
      exact Encodable.encode_injective (by omega),
   fun a => by simp [demoHash]⟩

/-- `tree_find_collision` instantiated with the executable keccak-256: the length side condition is
discharged by `keccak256_length`; what remains is "no hashed string has the zero digest", a finite
decidable check on the two lists. -/
example (vs ws : List Bytes) (h : tree keccak256 vs = tree keccak256 ws) (hne : vs ≠ ws)
    (hz : ∀ a ∈ hashed keccak256 vs ++ hashed keccak256 ws, keccak256 a ≠ zeroDigest) :
    ∃ a b, findCollision keccak256 (hashed keccak256 vs) (hashed keccak256 ws) = some (a, b) ∧
      a ≠ b ∧ keccak256 a = keccak256 b := by
  obtain ⟨a, b, hf, _, _, hab, he⟩ :=
    tree_find_collision keccak256 vs ws h hne hz (fun a _ => keccak256_length a)
  exact ⟨a, b, hf, hab, he⟩

/-- the global hypothesis of `signed_bytes_collision_extract` holds of the executable keccak-256 -/
example : ∀ a, (keccak256 a).length = 32 := keccak256_length

/-! ### the reductions evaluated (toy hash, see `F3.Codec.toyHash`)

The hypotheses "same root / same key / same signed bytes, different inputs" cannot be exhibited for
keccak-256 or blake2b-256 — that would be a break of the hash — so the branch of the reductions that
returns a collision is exercised with `toyHash`, whose collisions are known. -/

/-- the global hypothesis of `signed_bytes_collision_extract` holds of the toy hash -/
example : ∀ a, (toyHash a).length = 32 := by simp [toyHash]

open F3.Codec.Demo

/-- the tipsets used below are well-typed -/
example : ∀ t ∈ [tsA, tsA', tsA'', tsB, tsB'], t.WF := by
  intro t ht
  simp only [List.mem_cons, List.not_mem_nil, or_false] at ht
  rcases ht with rfl | rfl | rfl | rfl | rfl <;> exact ⟨by norm_num [tsA, tsA', tsA'', tsB, tsB'], by decide⟩

/-- all hypotheses of `tree_find_collision` hold of a concrete pair of different lists, and the search
returns the collision between the two leaf strings -/
example :
    tree toyHash [[1, 2], [3]] = tree toyHash [[2, 1], [3]] ∧ [[1, 2], [3]] ≠ [[2, 1], [3]] ∧
    (∀ a ∈ hashed toyHash [[1, 2], [3]] ++ hashed toyHash [[2, 1], [3]], toyHash a ≠ zeroDigest) ∧
    (∀ a ∈ hashed toyHash [[1, 2], [3]] ++ hashed toyHash [[2, 1], [3]], (toyHash a).length = 32) ∧
    findCollision toyHash (hashed toyHash [[1, 2], [3]]) (hashed toyHash [[2, 1], [3]]) = some ([1, 1, 2], [1, 2, 1]) := by
  decide +kernel

/-- a change of length: one value against three gives different roots -/
example : tree toyHash [[1, 2]] ≠ tree toyHash [[1, 2], [3], [4]] := by decide +kernel

/-- two different chains (first tipset key `[1,2,3]` / `[3,2,1]`) with the same chain key: the
hypotheses of `chainKey_collision_extract` hold and the exhibited failure is the collision of the CID
hash on the two encoded tipset keys -/
example :
    chainKey toyHash toyHash [tsA, tsB] = chainKey toyHash toyHash [tsA', tsB] ∧ [tsA, tsB] ≠ [tsA', tsB] ∧
    findCollision toyHash (keyHashedB [tsA, tsB]) (keyHashedB [tsA', tsB]) = some ([67, 1, 2, 3], [67, 3, 2, 1]) := by
  decide +kernel

/-- … and a pair that differs in a power-table CID: the exhibited failure is a collision of the merkle
hash on the two leaf strings -/
example :
    chainKey toyHash toyHash [tsA, tsB] = chainKey toyHash toyHash [tsA'', tsB] ∧ [tsA, tsB] ≠ [tsA'', tsB] ∧
    (findCollision toyHash (keyHashedH toyHash toyHash [tsA, tsB]) (keyHashedH toyHash toyHash [tsA'', tsB])).isSome = true ∧
    findCollision toyHash (keyHashedB [tsA, tsB]) (keyHashedB [tsA'', tsB]) = none := by
  decide +kernel

/-- distinct chains whose keys differ (a changed tipset key; a changed length), and on which the
decidable event `HashBreak` evaluates to false -/
example :
    chainKey toyHash toyHash [tsA, tsB] ≠ chainKey toyHash toyHash [tsA, tsB'] ∧
    chainKey toyHash toyHash [tsA, tsB, tsA] ≠ chainKey toyHash toyHash [tsA, tsB] ∧
    ¬ HashBreak toyHash toyHash [tsA, tsB] [tsA, tsB'] := by
  decide +kernel

/-- the hypotheses of `signed_bytes_collision_extract` hold of two payloads with different chains and the
same signed bytes -/
example :
    signedBytes toyHash toyHash [102] 3 7 12 (List.replicate 32 1) [1, 113, 0, 0] [tsA, tsB] =
    signedBytes toyHash toyHash [102] 3 7 12 (List.replicate 32 1) [1, 113, 0, 0] [tsA', tsB] ∧
    HashBreak toyHash toyHash [tsA, tsB] [tsA', tsB] := by
  decide +kernel

/-- the hypothesis of `hashed_inputs_are_bytes` holds of a concrete chain -/
example : ∀ t ∈ [tsA, tsB], IsBytes t.key ∧ IsBytes t.commitments ∧ IsBytes t.powerTable := by
  unfold IsBytes; decide

example : SigInput.WF ⟨[102], 3, 7, 12, List.replicate 32 1, List.replicate 32 2, [1, 113, 0, 0]⟩ :=
  ⟨by decide, by norm_num, by norm_num, by decide, by decide⟩

example : TipSet.WF ⟨-5, [1, 2, 3], [1, 113, 0, 0], List.replicate 32 9⟩ :=
  ⟨by norm_num, by decide⟩

/-- a concrete tipset value is in the domain of the extracted `TipSet` codec and round-trips -/
example : encode Gen.Schema.gpbft_TipSet
    (.cons (.int (-3)) (.cons (.bytes [1, 2, 3]) (.cons (.bytes [1, 113, 0, 2, 7, 7]) (.cons (.bytes (List.replicate 32 9)) .nil)))) =
    some ([132, 34, 67, 1, 2, 3, 216, 42, 71, 0, 1, 113, 0, 2, 7, 7, 88, 32] ++ List.replicate 32 9) := by
  decide

/-- an over-limit head exists for every finite limit: the hypotheses of `decode_rejects_overlimit` are satisfiable -/
example : decode (.bytes ⟨760, 760, 760⟩) (hdr 2 761) = .error .overlimit := by decide

end F3.Props.C14
