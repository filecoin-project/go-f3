import F3.Proofs.InstanceGuards
import F3.Model.Valid
/-!
# The executable validity checker is sound

`msgValidB votes t m = true` implies `MsgValid (WofL votes) t m`, the validity the guard proofs assume of delivered
messages, w.r.t. the votes in existence given as a list.
-/
namespace F3.EmittedValid
open F3.Instance

/-- the votes in existence, given as a list (`F3.Bridge.Wof`, core-only) -/
def WofL (votes : List Vote) : Votes := fun x r ph v => (x, r, ph, v) ∈ votes

theorem increasing_pairwise' : ∀ l : List Nat, increasing l = true → l.Pairwise (· < ·)
  | [], _ => List.Pairwise.nil
  | [_], _ => by simp
  | a :: b :: l, h => by
    simp only [increasing, Bool.and_eq_true, decide_eq_true_eq] at h
    have ih := increasing_pairwise' (b :: l) h.2
    refine List.Pairwise.cons ?_ ih
    intro x hx
    rcases List.mem_cons.1 hx with rfl | hx
    · exact h.1
    · exact Nat.lt_trans h.1 ((List.pairwise_cons.1 ih).1 x hx)

theorem justOkB_sound' (votes : List Vote) (t : Table) (j : Just) (h : justOkB votes t j = true) :
    JustOk (WofL votes) t j := by
  unfold justOkB at h
  simp only [Bool.and_eq_true, List.all_eq_true] at h
  obtain ⟨⟨hinc, hall⟩, hs⟩ := h
  refine ⟨increasing_pairwise' _ hinc, ?_, hs, ?_⟩
  · intro i hi
    have := hall i hi
    split at this
    · rename_i e he
      simp only [Bool.and_eq_true, decide_eq_true_eq] at this
      have hlt : i < t.entries.length := by
        rcases Nat.lt_or_ge i t.entries.length with h | h
        · exact h
        · rw [List.getElem?_eq_none h] at he; cases he
      exact ⟨hlt, by unfold Table.powerAt; rw [he]; exact this.1.1⟩
    · cases this
  · intro i hi
    have := hall i hi
    split at this
    · rename_i e he
      simp only [Bool.and_eq_true, decide_eq_true_eq, beq_iff_eq, List.contains_iff_mem] at this
      exact ⟨e.1, this.1.2, this.2⟩
    · cases this

theorem isEmpty_false_ne' {c : Chain} (h : (!c.isEmpty) = true) : c ≠ [] := by
  cases c <;> simp_all

theorem just_check {o : Option Just} {check : Just → Bool}
    (h : (match o with | some j => check j | none => false) = true) : ∃ j, o = some j ∧ check j = true := by
  cases o with
  | none => cases h
  | some j => exact ⟨j, rfl, h⟩

theorem msgValidB_sound' (votes : List Vote) (t : Table) (m : Msg) (h : msgValidB votes t m = true) :
    MsgValid (WofL votes) t m := by
  unfold msgValidB at h
  simp only [Bool.and_eq_true, decide_eq_true_eq, List.contains_iff_mem] at h
  obtain ⟨⟨hw, hp⟩, hs⟩ := h
  refine ⟨hw, hp, ?_⟩
  unfold msgShapeB at hs
  cases hph : m.phase <;> simp only [hph] at hs ⊢
  · cases hs
  · simp only [Bool.and_eq_true, beq_iff_eq, Bool.and_true] at hs
    exact ⟨hs.1, isEmpty_false_ne' hs.2⟩
  · simp only [Bool.and_eq_true, decide_eq_true_eq] at hs
    obtain ⟨⟨hr, hne⟩, hj⟩ := hs
    refine ⟨hr, isEmpty_false_ne' hne, ?_⟩
    obtain ⟨j, hmj, hj⟩ := just_check hj
    simp only [justFor, hph, Bool.and_eq_true, beq_iff_eq, Bool.or_eq_true, List.isEmpty_iff] at hj
    exact ⟨j, hmj, justOkB_sound' _ _ _ hj.1.1, hj.1.2, hj.2⟩
  · have hj := hs
    refine ⟨?_, ?_⟩
    · intro hr
      simp only [hr, beq_self_eq_true, if_true, Option.isNone_iff_eq_none] at hj
      exact hj
    · intro hr
      have hr' : (m.round == 0) = false := by simp; omega
      simp only [hr', Bool.false_eq_true, if_false] at hj
      obtain ⟨j, hmj, hj⟩ := just_check hj
      simp only [justFor, hph, Bool.and_eq_true, beq_iff_eq, Bool.or_eq_true, List.isEmpty_iff] at hj
      exact ⟨j, hmj, justOkB_sound' _ _ _ hj.1.1, hj.1.2, hj.2⟩
  · constructor
    · intro hv
      simp only [hv, List.isEmpty_nil, if_true, Option.isNone_iff_eq_none] at hs
      exact hs
    · intro hv
      have : m.value.isEmpty = false := by cases hc : m.value <;> simp_all
      simp only [this, Bool.false_eq_true, if_false] at hs
      obtain ⟨j, hmj, hs⟩ := just_check hs
      simp only [justFor, hph, Bool.and_eq_true, beq_iff_eq] at hs
      exact ⟨j, hmj, justOkB_sound' _ _ _ hs.1.1.1, hs.1.1.2, hs.1.2, hs.2⟩
  · simp only [Bool.and_eq_true, beq_iff_eq] at hs
    obtain ⟨⟨hr, hne⟩, hj⟩ := hs
    refine ⟨hr, isEmpty_false_ne' hne, ?_⟩
    obtain ⟨j, hmj, hj⟩ := just_check hj
    simp only [justFor, hph, Bool.and_eq_true, beq_iff_eq] at hj
    exact ⟨j, hmj, justOkB_sound' _ _ _ hj.1.1, hj.1.2, hj.2⟩
  · cases hs

end F3.EmittedValid
