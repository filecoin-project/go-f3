import F3.Gen.SkelNode
/-!
Hand-written expectations for the REGENERATED skeletons of `F3.Gen.SkelNode` (tools/go2lean/skel.go): the pre-order
list of the statements of a Go function as `<depth>:<kind>`. The expression-level tie theorems pin what single
conditions say; these pin that nothing was added around them (an extra early return, a cap, a dropped branch). A
structural change of the function — harmful or not — breaks the `rfl` below and with it the obligation of every
property importing this file; the check then searches for a failing input as for any broken obligation.
-/
namespace F3.SkelTie.SkelNode
open F3.Gen.SkelNode

/-- the structure the model of `ProcessBroadcast` was written against -/
def skelProcessBroadcastExpected : List String :=
  ["0:call:ef.lk.Lock", "0:defer", "0:if", "1:call:log.Warnw", "1:return1", "0:if", "1:assign=", "1:assign=",
   "1:assign=", "0:assign:=", "0:assign:=", "0:assign:=", "0:if", "1:if", "2:call:log.Warnw", "2:return1",
   "1:else", "2:call:log.Warnw", "2:assign=", "0:elseif", "1:assign=", "0:assign:=",
   "0:call:senders.addSender", "0:assign=", "0:if", "1:return1", "0:call:log.Warnw", "0:return1"]

theorem skelProcessBroadcast_expected : skelProcessBroadcast = skelProcessBroadcastExpected := rfl

/-- the structure the model of `BroadcastMessage` was written against -/
def skelBroadcastMessageExpected : List String :=
  ["0:if", "1:return1", "0:assign:=", "0:if", "1:call:log.Errorw", "0:call:h.msgsMutex.Lock", "0:if",
   "1:assign=", "0:assign:=", "0:assign=", "0:call:h.msgsMutex.Unlock", "0:if", "1:return1", "0:if",
   "1:call:log.Warnw", "0:assign:=", "0:if", "1:return1", "0:assign:=", "0:if", "1:return1", "0:assign=",
   "0:if", "1:return1", "0:return1"]

theorem skelBroadcastMessage_expected : skelBroadcastMessage = skelBroadcastMessageExpected := rfl

end F3.SkelTie.SkelNode
