import F3.Proofs.StorePut
import F3.Gen.Store
import F3.Proofs.GenTie
/-! Helper lemmas for `C09.put_admission_is_regenerated`: the admission outcome of the model's `put`
as a function of its comparisons. -/
namespace F3.Proofs.StoreGen
open F3.Store

/-- which of the admission outcomes of `Put` an outcome of the model is: 0 = stale re-put accepted as a
no-op, 1–4 = the four admission errors, 5 = the certificate is the successor: the admission comparisons let it
through (whatever the table computation that follows makes of it) -/
def admissionCode (o : Out Mem) : Int :=
  match o.res with
  | .error .beforeFirst => 1
  | .error .bottom => 2
  | .error .invalidChain => 3
  | .error .gap => 4
  | .error _ => 5
  | .ok _ => if o.ws = [] then 0 else 5

/-- Whatever happens to the successor after the admission comparisons is not an admission error. -/
theorem putNext_code (cfg : Cfg) (m : Mem) (c : Cert) : admissionCode (putNext cfg m c) = 5 := by
  unfold putNext
  cases tableStep m.latestTable c.delta with
  | error e => rfl
  | ok t =>
    dsimp only
    iterate 2 (split; · rfl)
    cases notifyAll m.subs c <;> rfl

theorem put_head_code (cfg : Cfg) (m : Mem) (c : Cert) :
    admissionCode (put cfg m c) =
      if c.inst < m.first then 1 else if c.chain = .zero then 2 else if c.chain = .invalid then 3
      else if c.inst > m.next then 4 else if c.inst < m.next then 0 else 5 := by
  rw [put_eq]
  simp only [apply_ite admissionCode, putNext_code]
  rfl

/-- `nextCert` as `Put` computes it (`firstInstance`, or `latest + 1` wrapped to `uint64`) is `Mem.next` as long
as `latest + 1` does not wrap. -/
theorem nextCert_eq_next (m : Mem) (hl : ∀ l, m.latest = some l → l.inst + 1 < 2 ^ 64) :
    (if m.latest.isSome then F3.GoInt.u64 ((((m.latest.map (·.inst)).getD 0 : Nat) : Int) + 1) else (m.first : Int))
      = (m.next : Int) := by
  unfold Mem.next
  cases h : m.latest with
  | none => rfl
  | some l =>
    have := hl l h
    simp only [Option.isSome_some, Option.map_some, Option.getD_some, if_true]
    exact F3.Proofs.GenTie.u64_of_lt _ (by omega) (by omega)

end F3.Proofs.StoreGen
