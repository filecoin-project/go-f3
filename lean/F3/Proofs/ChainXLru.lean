import F3.Model.Lru
/-!
Facts about the LRU model `F3.Lru`. `WF` (size ≤ capacity, distinct keys) is kept by every operation. Retention:
`Holds c k F` says `k` is cached and the keys used more recently than `k` are among `F`; it survives operations on
other keys while `F` stays below the capacity (`holds_add_other`). `Access` packages what operations on one key
mean for every other key.
-/
set_option linter.unusedSectionVars false
namespace F3.Lru
variable {κ ν : Type} [DecidableEq κ]

def keysOf (l : List (κ × ν)) : List κ := l.map Prod.fst

/-- keys stored strictly in front of (more recently used than) `k` -/
def front : List (κ × ν) → κ → List κ
  | [], _ => []
  | (k', _) :: t, k => if k' = k then [] else k' :: front t k

structure WF (c : Cache κ ν) : Prop where
  nodup : (keysOf c.items).Nodup
  len : c.items.length ≤ c.cap
  pos : 0 < c.cap

theorem wf_empty {cap : Nat} (h : 0 < cap) : WF (empty cap : Cache κ ν) :=
  ⟨by simp [empty, keysOf], by simp [empty], h⟩

@[simp] theorem keysOf_nil : keysOf ([] : List (κ × ν)) = [] := rfl
@[simp] theorem keysOf_cons (e : κ × ν) (l : List (κ × ν)) : keysOf (e :: l) = e.1 :: keysOf l := rfl

theorem find?_cons (a : κ) (v : ν) (t : List (κ × ν)) (k : κ) :
    find? ((a, v) :: t) k = if a = k then some v else find? t k := rfl

theorem find?_none_iff {l : List (κ × ν)} {k : κ} : find? l k = none ↔ k ∉ keysOf l := by
  induction l with
  | nil => simp [find?]
  | cons e t ih =>
    obtain ⟨k', v⟩ := e
    by_cases h : k' = k
    · simp [find?, h]
    · have h' : ¬ k = k' := fun e => h e.symm
      simp [find?, h, h', ih]

theorem find?_some_mem {l : List (κ × ν)} {k : κ} {v : ν} (h : find? l k = some v) : (k, v) ∈ l := by
  induction l with
  | nil => simp [find?] at h
  | cons e t ih =>
    obtain ⟨k', v'⟩ := e
    by_cases hk : k' = k
    · simp [find?, hk] at h; simp [hk, h]
    · simp [find?, hk] at h; exact List.mem_cons_of_mem _ (ih h)

theorem find?_isSome_iff {l : List (κ × ν)} {k : κ} : (find? l k).isSome = true ↔ k ∈ keysOf l := by
  cases h : find? l k with
  | none => simp [find?_none_iff.mp h]
  | some v =>
    have : k ∈ keysOf l := List.mem_map.mpr ⟨(k, v), find?_some_mem h, rfl⟩
    simp [this]

theorem contains_iff {c : Cache κ ν} {k : κ} : c.contains k = true ↔ k ∈ keysOf c.items := by
  simp [Cache.contains, find?_isSome_iff]

theorem find?_of_mem_nodup {l : List (κ × ν)} {k : κ} {v : ν} (hn : (keysOf l).Nodup) (h : (k, v) ∈ l) :
    find? l k = some v := by
  induction l with
  | nil => simp at h
  | cons e t ih =>
    obtain ⟨k', v'⟩ := e
    simp only [keysOf_cons, List.nodup_cons] at hn
    by_cases hk : k' = k
    · subst hk
      rcases List.mem_cons.mp h with h | h
      · simp [find?] ; exact (Prod.mk.inj h).2.symm
      · exact absurd (List.mem_map.mpr ⟨(k', v), h, rfl⟩) hn.1
    · rcases List.mem_cons.mp h with h | h
      · exact absurd (Prod.mk.inj h).1.symm hk
      · simp [find?, hk, ih hn.2 h]

theorem without_nil (k : κ) : without ([] : List (κ × ν)) k = [] := rfl

theorem without_cons_eq {e : κ × ν} {k : κ} (t : List (κ × ν)) (h : e.1 = k) :
    without (e :: t) k = without t k := by
  simp [without, h]

theorem without_cons_ne {e : κ × ν} {k : κ} (t : List (κ × ν)) (h : e.1 ≠ k) :
    without (e :: t) k = e :: without t k := by
  simp [without, h]

theorem mem_keysOf_without {l : List (κ × ν)} {k x : κ} : x ∈ keysOf (without l k) ↔ x ∈ keysOf l ∧ x ≠ k := by
  simp only [keysOf, without, List.mem_map, List.mem_filter, decide_eq_true_eq]
  constructor
  · rintro ⟨e, ⟨he, hne⟩, rfl⟩; exact ⟨⟨e, he, rfl⟩, hne⟩
  · rintro ⟨⟨e, he, rfl⟩, hne⟩; exact ⟨e, ⟨he, hne⟩, rfl⟩

theorem not_mem_keysOf_without (l : List (κ × ν)) (k : κ) : k ∉ keysOf (without l k) := by
  simp [mem_keysOf_without]

theorem nodup_without {l : List (κ × ν)} (k : κ) (h : (keysOf l).Nodup) : (keysOf (without l k)).Nodup :=
  ((List.filter_sublist (l := l)).map Prod.fst).nodup h

theorem length_without_le (l : List (κ × ν)) (k : κ) : (without l k).length ≤ l.length := by
  unfold without; exact List.length_filter_le _ _

theorem length_without_lt {l : List (κ × ν)} {k : κ} (h : k ∈ keysOf l) : (without l k).length < l.length := by
  obtain ⟨e, he, rfl⟩ := List.mem_map.mp h
  exact List.length_filter_lt_length_iff_exists.mpr ⟨e, he, by simp⟩

theorem find?_without (l : List (κ × ν)) (k k' : κ) :
    find? (without l k) k' = if k' = k then none else find? l k' := by
  induction l with
  | nil => simp [without_nil, find?]
  | cons e t ih =>
    obtain ⟨a, v⟩ := e
    by_cases ha : a = k
    · rw [without_cons_eq t (show (a, v).1 = k from ha), ih, find?_cons]
      by_cases hk : k' = k
      · simp [hk]
      · have : ¬ a = k' := fun h => hk (h ▸ ha)
        simp [hk, this]
    · rw [without_cons_ne t (show (a, v).1 ≠ k from ha), find?_cons, find?_cons, ih]
      by_cases hak : a = k'
      · have : ¬ k' = k := fun h => ha (hak.trans h)
        simp [hak, this]
      · simp [hak]

theorem front_cons (a : κ) (v : ν) (t : List (κ × ν)) (k : κ) :
    front ((a, v) :: t) k = if a = k then [] else a :: front t k := rfl

theorem front_subset_keys (l : List (κ × ν)) (k : κ) : ∀ x ∈ front l k, x ∈ keysOf l := by
  induction l with
  | nil => simp [front]
  | cons e t ih =>
    obtain ⟨a, v⟩ := e
    by_cases h : a = k
    · simp [front, h]
    · intro x hx
      simp only [front, h, if_false, List.mem_cons] at hx
      rcases hx with hx | hx
      · simp [hx]
      · simp [ih x hx]

theorem not_mem_front (l : List (κ × ν)) (k : κ) : k ∉ front l k := by
  induction l with
  | nil => simp [front]
  | cons e t ih =>
    obtain ⟨a, v⟩ := e
    by_cases h : a = k
    · simp [front, h]
    · simp only [front, h, if_false, List.mem_cons, not_or]
      exact ⟨fun h' => h h'.symm, ih⟩

theorem nodup_front {l : List (κ × ν)} (k : κ) (h : (keysOf l).Nodup) : (front l k).Nodup := by
  induction l with
  | nil => simp [front]
  | cons e t ih =>
    obtain ⟨a, v⟩ := e
    simp only [keysOf_cons, List.nodup_cons] at h
    by_cases ha : a = k
    · simp [front, ha]
    · simp only [front, ha, if_false, List.nodup_cons]
      exact ⟨fun hm => h.1 (front_subset_keys t k a hm), ih h.2⟩

theorem front_without_subset (l : List (κ × ν)) {k x : κ} (hxk : x ≠ k) :
    ∀ y ∈ front (without l x) k, y ∈ front l k := by
  induction l with
  | nil => simp [without_nil, front]
  | cons e t ih =>
    obtain ⟨a, v⟩ := e
    by_cases hax : a = x
    · have hak : ¬ a = k := fun h => hxk (hax ▸ h)
      rw [without_cons_eq t (show (a, v).1 = x from hax), front_cons]
      intro y hy
      simp only [hak, if_false, List.mem_cons]
      exact Or.inr (ih y hy)
    · rw [without_cons_ne t (show (a, v).1 ≠ x from hax), front_cons, front_cons]
      by_cases hak : a = k
      · simp [hak]
      · intro y hy
        simp only [hak, if_false, List.mem_cons] at hy ⊢
        rcases hy with hy | hy
        · exact Or.inl hy
        · exact Or.inr (ih y hy)

theorem mem_keysOf_of_dropLast {l : List (κ × ν)} {k : κ} (h : k ∈ keysOf l.dropLast) : k ∈ keysOf l :=
  ((List.dropLast_sublist l).map Prod.fst).subset h

theorem nodup_dropLast {l : List (κ × ν)} (h : (keysOf l).Nodup) : (keysOf l.dropLast).Nodup :=
  ((List.dropLast_sublist l).map Prod.fst).nodup h

theorem find?_dropLast {l : List (κ × ν)} {k : κ} (hk : k ∈ keysOf l.dropLast) :
    find? l.dropLast k = find? l k := by
  induction l with
  | nil => simp at hk
  | cons e t ih =>
    cases t with
    | nil => simp at hk
    | cons e' t' =>
      obtain ⟨a, v⟩ := e
      rw [List.dropLast_cons_cons] at hk ⊢
      rw [find?_cons, find?_cons]
      by_cases ha : a = k
      · simp [ha]
      · simp only [ha, if_false]
        simp only [keysOf_cons, List.mem_cons] at hk
        rcases hk with hk | hk
        · exact absurd hk.symm ha
        · exact ih hk

theorem front_dropLast {l : List (κ × ν)} {k : κ} (hk : k ∈ keysOf l.dropLast) :
    front l.dropLast k = front l k := by
  induction l with
  | nil => simp at hk
  | cons e t ih =>
    cases t with
    | nil => simp at hk
    | cons e' t' =>
      obtain ⟨a, v⟩ := e
      rw [List.dropLast_cons_cons] at hk ⊢
      rw [front_cons, front_cons]
      by_cases ha : a = k
      · simp [ha]
      · simp only [ha, if_false]
        simp only [keysOf_cons, List.mem_cons] at hk
        rcases hk with hk | hk
        · exact absurd hk.symm ha
        · rw [ih hk]

theorem mem_dropLast_or_last {l : List (κ × ν)} {k : κ} (hn : (keysOf l).Nodup) (hk : k ∈ keysOf l) :
    k ∈ keysOf l.dropLast ∨ (front l k).length + 1 = l.length := by
  induction l with
  | nil => simp at hk
  | cons e t ih =>
    obtain ⟨a, v⟩ := e
    cases t with
    | nil =>
      simp only [keysOf_cons, keysOf_nil, List.mem_singleton] at hk
      right; simp [front_cons, hk]
    | cons e' t' =>
      rw [List.dropLast_cons_cons]
      simp only [keysOf_cons, List.nodup_cons] at hn
      by_cases ha : a = k
      · left; simp [ha]
      · have hk' : k ∈ keysOf (e' :: t') := by
          simp only [keysOf_cons, List.mem_cons] at hk ⊢
          rcases hk with hk | hk
          · exact absurd hk.symm ha
          · exact hk
        rcases ih (by simpa using hn.2) hk' with h | h
        · left; simp only [keysOf_cons, List.mem_cons]; exact Or.inr h
        · right; rw [front_cons]; simp only [ha, if_false, List.length_cons] at h ⊢; omega

theorem wf_promote {c : Cache κ ν} {k : κ} (v : ν) (h : WF c) (hk : k ∈ keysOf c.items) :
    WF { c with items := (k, v) :: without c.items k } := by
  refine ⟨?_, ?_, h.pos⟩
  · simp only [keysOf_cons, List.nodup_cons]
    exact ⟨not_mem_keysOf_without _ _, nodup_without k h.nodup⟩
  · have := length_without_lt hk
    have := h.len
    simp only [List.length_cons]; omega

theorem wf_add {c : Cache κ ν} (k : κ) (v : ν) (h : WF c) : WF (c.add k v).1 := by
  unfold Cache.add
  cases hf : find? c.items k with
  | some v' =>
    exact wf_promote v h (find?_isSome_iff.mp (by simp [hf]))
  | none =>
    have hk : k ∉ keysOf c.items := find?_none_iff.mp hf
    have hn : (keysOf ((k, v) :: c.items)).Nodup := by
      simp only [keysOf_cons, List.nodup_cons]; exact ⟨hk, h.nodup⟩
    by_cases hc : c.items.length + 1 > c.cap
    · simp only [hc, if_true]
      refine ⟨nodup_dropLast hn, ?_, h.pos⟩
      have := h.len
      simp only [List.length_dropLast_cons]; omega
    · simp only [hc, if_false]
      refine ⟨hn, ?_, h.pos⟩
      simp only [List.length_cons]; omega

theorem wf_get {c : Cache κ ν} (k : κ) (h : WF c) : WF (c.get k).1 := by
  unfold Cache.get
  cases hf : find? c.items k with
  | none => exact h
  | some v => exact wf_promote v h (find?_isSome_iff.mp (by simp [hf]))

theorem wf_containsOrAdd {c : Cache κ ν} (k : κ) (v : ν) (h : WF c) : WF (c.containsOrAdd k v).1 := by
  unfold Cache.containsOrAdd
  by_cases hc : c.contains k = true
  · simp [hc, h]
  · simp only [hc]; exact wf_add k v h

theorem wf_remove {c : Cache κ ν} (k : κ) (h : WF c) : WF (c.remove k).1 := by
  refine ⟨nodup_without k h.nodup, ?_, h.pos⟩
  have := length_without_le c.items k
  have := h.len
  simp only [Cache.remove]; omega

theorem wf_step {c : Cache κ ν} (o : Op κ ν) (h : WF c) : WF (step c o).1 := by
  cases o with
  | add k v => exact wf_add k v h
  | get k => exact wf_get k h
  | peek k => exact h
  | contains k => exact h
  | containsOrAdd k v => exact wf_containsOrAdd k v h
  | remove k => exact wf_remove k h

theorem run_wf {c : Cache κ ν} (os : List (Op κ ν)) (h : WF c) : WF (run c os) := by
  induction os generalizing c with
  | nil => exact h
  | cons o os ih => exact ih (wf_step o h)

@[simp] theorem cap_add (c : Cache κ ν) (k : κ) (v : ν) : (c.add k v).1.cap = c.cap := by
  unfold Cache.add
  split
  · rfl
  · split <;> rfl

@[simp] theorem cap_get (c : Cache κ ν) (k : κ) : (c.get k).1.cap = c.cap := by
  unfold Cache.get; split <;> rfl

@[simp] theorem cap_containsOrAdd (c : Cache κ ν) (k : κ) (v : ν) : (c.containsOrAdd k v).1.cap = c.cap := by
  unfold Cache.containsOrAdd; split <;> simp

@[simp] theorem cap_remove (c : Cache κ ν) (k : κ) : (c.remove k).1.cap = c.cap := rfl

theorem get_snd (c : Cache κ ν) (k : κ) : (c.get k).2 = c.peek k := by
  unfold Cache.get Cache.peek
  cases find? c.items k <;> rfl

theorem find?_promote {l : List (κ × ν)} {k : κ} {v : ν} (h : find? l k = some v) (k' : κ) :
    find? ((k, v) :: without l k) k' = find? l k' := by
  rw [find?_cons, find?_without]
  by_cases hk : k = k'
  · subst hk; simp [h]
  · have : ¬ k' = k := fun e => hk e.symm
    simp [hk, this]

theorem peek_get (c : Cache κ ν) (k k' : κ) : (c.get k).1.peek k' = c.peek k' := by
  unfold Cache.get Cache.peek
  cases hf : find? c.items k with
  | none => rfl
  | some v => exact find?_promote hf k'

theorem peek_remove (c : Cache κ ν) (k k' : κ) : (c.remove k).1.peek k' = if k' = k then none else c.peek k' := by
  simp [Cache.remove, Cache.peek, find?_without]

theorem add_head {c : Cache κ ν} (k : κ) (v : ν) (h : WF c) : ∃ t, (c.add k v).1.items = (k, v) :: t := by
  unfold Cache.add
  split
  · exact ⟨_, rfl⟩
  · split
    · rename_i hc
      cases hi : c.items with
      | nil => have := h.pos; simp [hi] at hc; omega
      | cons e t => exact ⟨_, List.dropLast_cons_cons ..⟩
    · exact ⟨_, rfl⟩

theorem peek_add_self {c : Cache κ ν} (k : κ) (v : ν) (h : WF c) : (c.add k v).1.peek k = some v := by
  obtain ⟨t, e⟩ := add_head k v h
  unfold Cache.peek
  rw [e, find?_cons, if_pos rfl]

theorem peek_add_other (c : Cache κ ν) {k k' : κ} (v : ν) (hne : k' ≠ k) :
    (c.add k v).1.peek k' = c.peek k' ∨ (c.add k v).1.peek k' = none := by
  unfold Cache.add Cache.peek
  have hne' : ¬ k = k' := fun e => hne e.symm
  cases hf : find? c.items k with
  | some v' =>
    left
    simp only [find?_cons, hne', if_false, find?_without, hne]
  | none =>
    by_cases hc : c.items.length + 1 > c.cap
    · simp only [hc, if_true]
      by_cases hm : k' ∈ keysOf ((k, v) :: c.items).dropLast
      · left; rw [find?_dropLast hm, find?_cons]; simp [hne']
      · right; exact find?_none_iff.mpr hm
    · left; simp [hc, find?_cons, hne']

theorem peek_containsOrAdd_self {c : Cache κ ν} (k : κ) (v : ν) (h : WF c) :
    (c.containsOrAdd k v).1.peek k = if c.contains k then c.peek k else some v := by
  unfold Cache.containsOrAdd
  by_cases hc : c.contains k = true
  · simp [hc]
  · simp only [hc]; exact peek_add_self k v h

theorem peek_containsOrAdd_other (c : Cache κ ν) {k k' : κ} (v : ν) (hne : k' ≠ k) :
    (c.containsOrAdd k v).1.peek k' = c.peek k' ∨ (c.containsOrAdd k v).1.peek k' = none := by
  unfold Cache.containsOrAdd
  by_cases hc : c.contains k = true
  · simp [hc]
  · simp only [hc]; exact peek_add_other c v hne

theorem peek_isSome_iff {c : Cache κ ν} {k : κ} : (c.peek k).isSome = true ↔ k ∈ keysOf c.items :=
  find?_isSome_iff

theorem peek_none_iff {c : Cache κ ν} {k : κ} : c.peek k = none ↔ k ∉ keysOf c.items :=
  find?_none_iff

theorem peek_add_origin {c : Cache κ ν} (hw : WF c) (k k' : κ) (v w : ν) (h : (c.add k v).1.peek k' = some w) :
    (k' = k ∧ w = v) ∨ c.peek k' = some w := by
  by_cases hk : k' = k
  · subst hk
    rw [peek_add_self k' v hw] at h
    cases h; exact Or.inl ⟨rfl, rfl⟩
  · rcases peek_add_other c v hk with h' | h'
    · right; rw [← h']; exact h
    · rw [h'] at h; cases h

theorem mem_insNew {α : Type} [DecidableEq α] {x y : α} {F : List α} : y ∈ insNew x F ↔ y = x ∨ y ∈ F := by
  unfold insNew
  by_cases h : x ∈ F
  · simp only [h, if_true]
    constructor
    · exact Or.inr
    · rintro (rfl | h') <;> assumption
  · simp [h]

theorem nodup_insNew {α : Type} [DecidableEq α] {x : α} {F : List α} (h : F.Nodup) : (insNew x F).Nodup := by
  unfold insNew
  by_cases hx : x ∈ F
  · simp [hx, h]
  · simp [hx, h]

theorem length_le_insNew {α : Type} [DecidableEq α] (x : α) (F : List α) : F.length ≤ (insNew x F).length := by
  unfold insNew
  by_cases hx : x ∈ F <;> simp [hx]

theorem insNew_idem {α : Type} [DecidableEq α] (x : α) (F : List α) : insNew x (insNew x F) = insNew x F := by
  have : x ∈ insNew x F := mem_insNew.mpr (Or.inl rfl)
  generalize insNew x F = G at this ⊢
  unfold insNew
  simp [this]

theorem length_insNew_le {α : Type} [DecidableEq α] (x : α) (F : List α) : (insNew x F).length ≤ F.length + 1 := by
  unfold insNew; split <;> simp

/-- `k` is cached and `F` over-approximates the keys used more recently than `k` (in the proofs: the keys touched
since `k` was last touched) -/
def Holds (c : Cache κ ν) (k : κ) (F : List κ) : Prop :=
  k ∈ keysOf c.items ∧ ∀ x ∈ front c.items k, x ∈ F

theorem holds_mono {c : Cache κ ν} {k : κ} {F F' : List κ} (h : Holds c k F) (hs : ∀ x ∈ F, x ∈ F') : Holds c k F' :=
  ⟨h.1, fun x hx => hs x (h.2 x hx)⟩

theorem holds_insNew {c : Cache κ ν} {k x : κ} {F : List κ} (h : Holds c k F) : Holds c k (insNew x F) :=
  holds_mono h (fun _ hy => mem_insNew.mpr (Or.inr hy))

theorem holds_head {c : Cache κ ν} {k : κ} {v : ν} {t : List (κ × ν)} (h : c.items = (k, v) :: t) (F : List κ) :
    Holds c k F := by
  refine ⟨by simp [h], ?_⟩
  simp [h, front_cons]

theorem holds_add_self {c : Cache κ ν} (k : κ) (v : ν) (h : WF c) (F : List κ) : Holds (c.add k v).1 k F :=
  have ⟨_, e⟩ := add_head k v h
  holds_head e F

theorem holds_get_self {c : Cache κ ν} {k : κ} (hk : k ∈ keysOf c.items) (F : List κ) : Holds (c.get k).1 k F := by
  unfold Cache.get
  cases hf : find? c.items k with
  | none => exact absurd hk (find?_none_iff.mp hf)
  | some v => exact holds_head (v := v) (t := without c.items k) rfl F

theorem holds_promote_other {c : Cache κ ν} {k x : κ} {F : List κ} (v : ν) (h : Holds c k F) (hx : x ≠ k) :
    Holds { c with items := (x, v) :: without c.items x } k (insNew x F) := by
  have hx' : ¬ x = k := hx
  refine ⟨?_, ?_⟩
  · simp only [keysOf_cons, List.mem_cons]
    exact Or.inr (mem_keysOf_without.mpr ⟨h.1, fun e => hx e.symm⟩)
  · intro y hy
    simp only [front_cons, hx', if_false, List.mem_cons] at hy
    rcases hy with hy | hy
    · exact mem_insNew.mpr (Or.inl hy)
    · exact mem_insNew.mpr (Or.inr (h.2 y (front_without_subset c.items hx y hy)))

/-- **LRU retention.** Adding another key keeps `k` (with its value) as long as the keys touched since
`k` was last touched, the new one included, number fewer than the capacity. -/
theorem holds_add_other {c : Cache κ ν} {k x : κ} {F : List κ} (v : ν) (hw : WF c) (h : Holds c k F)
    (hx : x ≠ k) (hlen : (insNew x F).length < c.cap) :
    Holds (c.add x v).1 k (insNew x F) ∧ (c.add x v).1.peek k = c.peek k := by
  have hx' : ¬ x = k := hx
  have hkx : k ≠ x := fun e => hx e.symm
  unfold Cache.add Cache.peek
  cases hf : find? c.items x with
  | some v' =>
    refine ⟨holds_promote_other v h hx, ?_⟩
    simp only [find?_cons, hx', if_false, find?_without, hkx]
  | none =>
    have hxn : x ∉ keysOf c.items := find?_none_iff.mp hf
    have hcons : Holds { c with items := (x, v) :: c.items } k (insNew x F) := by
      refine ⟨by simp [h.1], ?_⟩
      intro y hy
      simp only [front_cons, hx', if_false, List.mem_cons] at hy
      rcases hy with hy | hy
      · exact mem_insNew.mpr (Or.inl hy)
      · exact mem_insNew.mpr (Or.inr (h.2 y hy))
    by_cases hc : c.items.length + 1 > c.cap
    · simp only [hc, if_true]
      have hn : (keysOf ((x, v) :: c.items)).Nodup := by
        simp only [keysOf_cons, List.nodup_cons]; exact ⟨hxn, hw.nodup⟩
      rcases mem_dropLast_or_last hn hcons.1 with hm | hlast
      · refine ⟨⟨hm, ?_⟩, ?_⟩
        · rw [front_dropLast hm]; exact hcons.2
        · rw [find?_dropLast hm, find?_cons]; simp [hx']
      · exfalso
        have h1 : (front ((x, v) :: c.items) k).length ≤ (insNew x F).length :=
          (nodup_front k hn).length_le_of_subset (fun y hy => hcons.2 y hy)
        simp only [List.length_cons] at hlast
        omega
    · simp only [hc, if_false]
      exact ⟨hcons, by simp [find?_cons, hx']⟩

theorem holds_get_other {c : Cache κ ν} {k x : κ} {F : List κ} (h : Holds c k F) (hx : x ≠ k) :
    Holds (c.get x).1 k (insNew x F) := by
  unfold Cache.get
  cases hf : find? c.items x with
  | none => exact holds_insNew h
  | some v => exact holds_promote_other v h hx

theorem holds_remove_other {c : Cache κ ν} {k x : κ} {F : List κ} (h : Holds c k F) (hx : x ≠ k) :
    Holds (c.remove x).1 k F := by
  refine ⟨mem_keysOf_without.mpr ⟨h.1, fun e => hx e.symm⟩, ?_⟩
  intro y hy
  exact h.2 y (front_without_subset c.items hx y hy)

theorem holds_peek_isSome {c : Cache κ ν} {k : κ} {F : List κ} (h : Holds c k F) : (c.peek k).isSome = true :=
  peek_isSome_iff.mpr h.1

theorem without_without (l : List (κ × ν)) (k : κ) : without (without l k) k = without l k := by
  induction l with
  | nil => simp [without_nil]
  | cons e t ih =>
    by_cases h : e.1 = k
    · rw [without_cons_eq t h, ih]
    · rw [without_cons_ne t h, without_cons_ne _ h, ih]

theorem get_absent {c : Cache κ ν} {k : κ} (h : c.peek k = none) : (c.get k).1 = c := by
  unfold Cache.get; unfold Cache.peek at h; simp [h]

theorem get_remove (c : Cache κ ν) (k : κ) : ((c.get k).1.remove k).1 = (c.remove k).1 := by
  unfold Cache.get
  cases hf : find? c.items k with
  | none => rfl
  | some v =>
    simp only [Cache.remove]
    rw [without_cons_eq _ (show ((k, v) : κ × ν).1 = k from rfl), without_without]

theorem peek_add_present {c : Cache κ ν} {k k' : κ} (v : ν) (hk : k ∈ keysOf c.items) (hne : k' ≠ k) :
    (c.add k v).1.peek k' = c.peek k' := by
  unfold Cache.add Cache.peek
  have hne' : ¬ k = k' := fun e => hne e.symm
  cases hf : find? c.items k with
  | some v' => simp only [find?_cons, hne', if_false, find?_without, hne]
  | none => exact absurd hk (find?_none_iff.mp hf)

theorem peek_add_self_present {c : Cache κ ν} {k : κ} (v : ν) (hk : k ∈ keysOf c.items) :
    (c.add k v).1.peek k = some v := by
  unfold Cache.add Cache.peek
  cases hf : find? c.items k with
  | some v' => simp [find?_cons]
  | none => exact absurd hk (find?_none_iff.mp hf)

/-- `c'` results from `c` by operations on the key `p` alone (`Get`, `Add`, `ContainsOrAdd`, `Remove` of `p`, any
number of them): no other key gains or changes a value, and a key whose more recently used keys are among `F`
stays cached with its value, `p` now possibly in front of it, provided `F` with `p` stays below the capacity. -/
structure Access (c c' : Cache κ ν) (p : κ) : Prop where
  wf : WF c'
  cap : c'.cap = c.cap
  origin : ∀ K v, K ≠ p → c'.peek K = some v → c.peek K = some v
  holds : ∀ K F, K ≠ p → Holds c K F → (insNew p F).length < c.cap →
    Holds c' K (insNew p F) ∧ c'.peek K = c.peek K

theorem Access.refl {c : Cache κ ν} (hw : WF c) (p : κ) : Access c c p :=
  ⟨hw, rfl, fun _ _ _ h => h, fun _ _ _ h _ => ⟨holds_insNew h, rfl⟩⟩

theorem Access.trans {c c' c'' : Cache κ ν} {p : κ} (h1 : Access c c' p) (h2 : Access c' c'' p) : Access c c'' p := by
  refine ⟨h2.wf, h2.cap.trans h1.cap, fun K v hK h => h1.origin K v hK (h2.origin K v hK h), fun K F hK h hl => ?_⟩
  obtain ⟨a, b⟩ := h1.holds K F hK h hl
  obtain ⟨a', b'⟩ := h2.holds K _ hK a (by rw [insNew_idem, h1.cap]; exact hl)
  rw [insNew_idem] at a'
  exact ⟨a', b'.trans b⟩

theorem Access.get {c : Cache κ ν} (hw : WF c) (p : κ) : Access c (c.get p).1 p :=
  ⟨wf_get p hw, cap_get c p, fun K v _ h => by rwa [peek_get] at h,
   fun K _ hK h _ => ⟨holds_get_other h (Ne.symm hK), peek_get c p K⟩⟩

theorem Access.add {c : Cache κ ν} (hw : WF c) (p : κ) (v : ν) : Access c (c.add p v).1 p := by
  refine ⟨wf_add p v hw, cap_add c p v, fun K w hK h => ?_, fun K _ hK h hl => holds_add_other v hw h (Ne.symm hK) hl⟩
  rcases peek_add_origin hw p K v w h with ⟨e, _⟩ | h'
  · exact absurd e hK
  · exact h'

theorem Access.containsOrAdd {c : Cache κ ν} (hw : WF c) (p : κ) (v : ν) : Access c (c.containsOrAdd p v).1 p := by
  unfold Cache.containsOrAdd
  split
  · exact Access.refl hw p
  · exact Access.add hw p v

theorem Access.remove {c : Cache κ ν} (hw : WF c) (p : κ) : Access c (c.remove p).1 p :=
  ⟨wf_remove p hw, rfl, fun K v hK h => by rwa [peek_remove, if_neg hK] at h,
   fun K _ hK h _ => ⟨holds_insNew (holds_remove_other h (Ne.symm hK)), by rw [peek_remove, if_neg hK]⟩⟩

/-- the key an operation touches in a way that can push other keys back -/
def Op.touches : Op κ ν → Option κ
  | .add k _ => some k
  | .get k => some k
  | .containsOrAdd k _ => some k
  | .peek _ => none
  | .contains _ => none
  | .remove _ => none

/-- distinct keys other than `k` touched by an operation list, accumulated onto `F` -/
def accKeys (k : κ) (F : List κ) : List (Op κ ν) → List κ
  | [] => F
  | o :: os =>
    match o.touches with
    | some x => if x = k then accKeys k F os else accKeys k (insNew x F) os
    | none => accKeys k F os

theorem length_le_accKeys (k : κ) (F : List κ) (os : List (Op κ ν)) : F.length ≤ (accKeys k F os).length := by
  induction os generalizing F with
  | nil => exact Nat.le_refl _
  | cons o os ih =>
    unfold accKeys
    cases ho : o.touches with
    | none => exact ih F
    | some x =>
      by_cases hx : x = k
      · simp only [hx, if_true]; exact ih F
      · simp only [hx, if_false]
        exact Nat.le_trans (length_le_insNew x F) (ih _)

theorem step_cap (c : Cache κ ν) (o : Op κ ν) : (step c o).1.cap = c.cap := by
  cases o <;> simp [step]

theorem step_access {c : Cache κ ν} {o : Op κ ν} {x : κ} (hw : WF c) (ho : o.touches = some x) :
    Access c (step c o).1 x := by
  cases o <;> cases ho
  · exact Access.add hw _ _
  · exact Access.get hw _
  · exact Access.containsOrAdd hw _ _

/-- If `k` is cached with the keys in front of it among `F`, no operation removes `k` explicitly, and `F` plus the
distinct other keys touched by the operations number fewer than the capacity, then `k` is still cached afterwards. -/
theorem run_holds {c : Cache κ ν} {k : κ} {F : List κ} (os : List (Op κ ν)) (hw : WF c) (h : Holds c k F)
    (hno : ∀ o ∈ os, o ≠ Op.remove k) (hlen : (accKeys k F os).length < c.cap) :
    Holds (run c os) k (accKeys k F os) := by
  induction os generalizing c F with
  | nil => exact h
  | cons o os ih =>
    have hno' : ∀ o' ∈ os, o' ≠ Op.remove k := fun o' ho' => hno o' (List.mem_cons_of_mem _ ho')
    have hne : o ≠ Op.remove k := hno o (List.mem_cons_self ..)
    have hcap := step_cap c o
    unfold accKeys at hlen ⊢
    cases ho : o.touches with
    | none =>
      -- `Peek`, `Contains`, `Remove` of another key: nothing moves in front of `k`
      simp only [ho] at hlen
      refine ih (wf_step o hw) ?_ hno' (by rw [hcap]; exact hlen)
      cases o with
      | peek x => exact h
      | contains x => exact h
      | remove x => exact holds_remove_other h (fun e => hne (by rw [e]))
      | _ => cases ho
    | some x =>
      simp only [ho] at hlen ⊢
      by_cases hx : x = k
      · -- `k` itself is touched: it is at the front afterwards, or (`ContainsOrAdd`) nothing changes
        subst hx
        rw [if_pos rfl] at hlen ⊢
        refine ih (wf_step o hw) ?_ hno' (by rw [hcap]; exact hlen)
        cases o with
        | add y v => cases ho; exact holds_add_self _ v hw F
        | get y => cases ho; exact holds_get_self h.1 F
        | containsOrAdd y v =>
          cases ho
          have e : (step c (Op.containsOrAdd x v)).1 = c := by
            simp [step, Cache.containsOrAdd, contains_iff.mpr h.1]
          rw [e]; exact h
        | _ => cases ho
      · rw [if_neg hx] at hlen ⊢
        have h1 : (insNew x F).length < c.cap := Nat.lt_of_le_of_lt (length_le_accKeys k _ os) hlen
        exact ih (wf_step o hw) ((step_access hw ho).holds k F (Ne.symm hx) h h1).1 hno' (by rw [hcap]; exact hlen)

end F3.Lru
