import F3.Model.CodecBytes
import Mathlib.Tactic.NormNum
/-! The byte helpers of the encoding models (C14): big-endian digits are read back and are injective below
`256 ^ k`; the shortest CBOR head, range by range, and its length. -/
namespace F3.Codec

theorem beN_length (k n : Nat) : (beN k n).length = k := by
  induction k generalizing n with
  | zero => rfl
  | succ k ih => simp [beN, ih]

theorem beN_lt (k n : Nat) : ∀ x ∈ beN k n, x < 256 := by
  induction k generalizing n with
  | zero => intro x hx; simp [beN] at hx
  | succ k ih =>
    intro x hx
    simp only [beN, List.mem_append, List.mem_singleton] at hx
    rcases hx with hx | hx
    · exact ih _ x hx
    · subst hx; exact Nat.mod_lt _ (by decide)

theorem beN_inj (k : Nat) : ∀ a b : Nat, a < 256 ^ k → b < 256 ^ k → beN k a = beN k b → a = b := by
  induction k with
  | zero => intro a b ha hb _; simp at ha hb; omega
  | succ k ih =>
    intro a b ha hb h
    simp only [beN] at h
    have hl : (beN k (a / 256)).length = (beN k (b / 256)).length := by simp [beN_length]
    obtain ⟨h1, h2⟩ := List.append_inj h hl
    have h2' : a % 256 = b % 256 := by simpa using h2
    have ha' : a / 256 < 256 ^ k := by
      rw [Nat.div_lt_iff_lt_mul (by decide)]; rw [Nat.pow_succ] at ha; exact ha
    have hb' : b / 256 < 256 ^ k := by
      rw [Nat.div_lt_iff_lt_mul (by decide)]; rw [Nat.pow_succ] at hb; exact hb
    have h3 := ih _ _ ha' hb' h1
    omega

theorem fromBE_append_singleton (b : Bytes) (x : Nat) : fromBE (b ++ [x]) = fromBE b * 256 + x := by
  simp [fromBE, List.foldl_append]

theorem fromBE_beN (k : Nat) : ∀ n, n < 256 ^ k → fromBE (beN k n) = n := by
  induction k with
  | zero => intro n hn; simp at hn; subst hn; rfl
  | succ k ih =>
    intro n hn
    have hn' : n / 256 < 256 ^ k := by
      rw [Nat.div_lt_iff_lt_mul (by decide)]; rw [Nat.pow_succ] at hn; exact hn
    simp only [beN, fromBE_append_singleton, ih _ hn']
    omega

theorem be64_length (n : Nat) : (be64 n).length = 8 := beN_length _ _

theorem be64_inj {a b : Nat} (ha : a < 2 ^ 64) (hb : b < 2 ^ 64) (h : be64 a = be64 b) : a = b := by
  unfold be64 at h
  rw [Nat.mod_eq_of_lt ha, Nat.mod_eq_of_lt hb] at h
  exact beN_inj 8 a b (by norm_num at ha ⊢; exact ha) (by norm_num at hb ⊢; exact hb) h

/-- the model of a Go `uint64` field: two naturals are the same `uint64` iff equal mod 2^64 -/
theorem be64_eq_iff (a b : Nat) : be64 a = be64 b ↔ a % 2 ^ 64 = b % 2 ^ 64 := by
  constructor
  · intro h
    have := be64_inj (a := a % 2 ^ 64) (b := b % 2 ^ 64) (Nat.mod_lt _ (by norm_num)) (Nat.mod_lt _ (by norm_num))
      (by simpa [be64] using h)
    exact this
  · intro h; unfold be64; rw [h]

theorem i64bits_lt (e : Int) : i64bits e < 2 ^ 64 := by
  unfold i64bits
  have h1 : 0 ≤ e % 2 ^ 64 := Int.emod_nonneg _ (by norm_num)
  have h2 : e % 2 ^ 64 < 2 ^ 64 := Int.emod_lt_of_pos _ (by decide)
  omega

theorem i64bits_inj {a b : Int} (ha : -(2 ^ 63) ≤ a ∧ a < 2 ^ 63) (hb : -(2 ^ 63) ≤ b ∧ b < 2 ^ 63)
    (h : i64bits a = i64bits b) : a = b := by
  unfold i64bits at h
  have h1 : 0 ≤ a % 2 ^ 64 := Int.emod_nonneg _ (by norm_num)
  have h2 : 0 ≤ b % 2 ^ 64 := Int.emod_nonneg _ (by norm_num)
  have h3 : a % 2 ^ 64 = b % 2 ^ 64 := by omega
  omega

theorem be64i_length (e : Int) : (be64i e).length = 8 := be64_length _

theorem be64i_inj {a b : Int} (ha : -(2 ^ 63) ≤ a ∧ a < 2 ^ 63) (hb : -(2 ^ 63) ≤ b ∧ b < 2 ^ 63)
    (h : be64i a = be64i b) : a = b :=
  i64bits_inj ha hb (be64_inj (i64bits_lt a) (i64bits_lt b) h)

/-- The shortest head, range by range: below 24 the initial byte carries `n` itself, above it carries the
width code 24…27 and the 1, 2, 4 or 8 big-endian bytes of `n` follow. -/
theorem hdr_cases (maj n : Nat) :
    (n < 24 ∧ hdr maj n = [maj * 32 + n]) ∨
    (24 ≤ n ∧ n < 256 ∧ hdr maj n = [maj * 32 + 24, n]) ∨
    (256 ≤ n ∧ n < 65536 ∧ hdr maj n = (maj * 32 + 25) :: beN 2 n) ∨
    (65536 ≤ n ∧ n < 4294967296 ∧ hdr maj n = (maj * 32 + 26) :: beN 4 n) ∨
    (4294967296 ≤ n ∧ hdr maj n = (maj * 32 + 27) :: beN 8 n) := by
  unfold hdr
  by_cases h1 : n < 24
  · exact Or.inl ⟨h1, if_pos h1⟩
  by_cases h2 : n < 256
  · exact Or.inr (Or.inl ⟨by omega, h2, by rw [if_neg h1, if_pos h2]⟩)
  by_cases h3 : n < 65536
  · exact Or.inr (Or.inr (Or.inl ⟨by omega, h3, by rw [if_neg h1, if_neg h2, if_pos h3]⟩))
  by_cases h4 : n < 4294967296
  · exact Or.inr (Or.inr (Or.inr (Or.inl ⟨by omega, h4, by rw [if_neg h1, if_neg h2, if_neg h3, if_pos h4]⟩)))
  · exact Or.inr (Or.inr (Or.inr (Or.inr ⟨by omega, by rw [if_neg h1, if_neg h2, if_neg h3, if_neg h4]⟩)))

def hdrLen (n : Nat) : Nat :=
  if n < 24 then 1 else if n < 256 then 2 else if n < 65536 then 3 else if n < 4294967296 then 5 else 9

theorem hdr_length (maj n : Nat) : (hdr maj n).length = hdrLen n := by
  simp only [hdr, hdrLen, apply_ite List.length, List.length_cons, List.length_nil, beN_length]

/-- a step function whose steps 1 < 2 < 3 < 5 < 9 are taken at increasing thresholds -/
theorem hdrLen_mono {a b : Nat} (h : a ≤ b) : hdrLen a ≤ hdrLen b := by
  unfold hdrLen
  grind

theorem hdr_append_inj {maj : Nat} {a b : Bytes} (h : hdr maj a.length ++ a = hdr maj b.length ++ b) : a = b := by
  have hl := congrArg List.length h
  simp only [List.length_append, hdr_length] at hl
  -- head length plus payload length is strictly increasing in the payload length
  have hab : a.length = b.length := by
    rcases Nat.le_total a.length b.length with hle | hle <;> have := hdrLen_mono hle <;> omega
  rw [hab] at h
  exact List.append_cancel_left h

theorem append_inj_len {a b c d : Bytes} (h : a ++ b = c ++ d) (hl : a.length = c.length) : a = c ∧ b = d :=
  List.append_inj h hl

theorem append_inj_len_right {a b c d : Bytes} (h : a ++ b = c ++ d) (hl : b.length = d.length) : a = c ∧ b = d :=
  List.append_inj' h hl

end F3.Codec
