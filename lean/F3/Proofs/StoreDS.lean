import F3.Model.Store
/-! The datastore model (`dsGet` / `dsPut` / `dsDel` / `applyWs`) and crash triples for sequences of writes (`Crash`). -/
namespace F3.Store

@[simp] theorem dsGet_nil (k : Key) : dsGet [] k = none := rfl

theorem dsGet_cons (k' : Key) (v : Val) (r : DS) (k : Key) :
    dsGet ((k', v) :: r) k = if k' = k then some v else dsGet r k := rfl

theorem dsDel_nil (k : Key) : dsDel [] k = [] := rfl

theorem dsDel_cons (k' : Key) (v : Val) (r : DS) (k : Key) :
    dsDel ((k', v) :: r) k = if k' = k then dsDel r k else (k', v) :: dsDel r k := by
  by_cases h : k' = k <;> simp [dsDel, h]

theorem dsGet_dsDel_same (ds : DS) (k : Key) : dsGet (dsDel ds k) k = none := by
  induction ds with
  | nil => rfl
  | cons kv r ih =>
    obtain ⟨k', v⟩ := kv
    rw [dsDel_cons]
    by_cases h : k' = k
    · simp [h, ih]
    · simp [h, dsGet_cons, ih]

theorem dsGet_dsDel_other (ds : DS) {k k' : Key} (h : k' ≠ k) : dsGet (dsDel ds k) k' = dsGet ds k' := by
  induction ds with
  | nil => rfl
  | cons kv r ih =>
    obtain ⟨k1, v⟩ := kv
    rw [dsDel_cons]
    by_cases h1 : k1 = k
    · simp [h1, dsGet_cons, ih]
      intro e; exact absurd e.symm h
    · by_cases h2 : k1 = k'
      · subst h2
        simp [h1, dsGet_cons]
      · simp [h1, dsGet_cons, h2, ih]

theorem dsGet_dsPut_same (ds : DS) (k : Key) (v : Val) : dsGet (dsPut ds k v) k = some v := by
  simp [dsPut, dsGet_cons]

theorem dsGet_dsPut_other (ds : DS) {k k' : Key} (v : Val) (h : k' ≠ k) :
    dsGet (dsPut ds k v) k' = dsGet ds k' := by
  have : k ≠ k' := fun e => h e.symm
  simp [dsPut, dsGet_cons, this, dsGet_dsDel_other ds h]

theorem dsGet_dsPut (ds : DS) (k k' : Key) (v : Val) :
    dsGet (dsPut ds k v) k' = if k' = k then some v else dsGet ds k' := by
  by_cases h : k' = k
  · subst h; simp [dsGet_dsPut_same]
  · simp [h, dsGet_dsPut_other ds v h]

theorem dsGet_dsDel (ds : DS) (k k' : Key) :
    dsGet (dsDel ds k) k' = if k' = k then none else dsGet ds k' := by
  by_cases h : k' = k
  · subst h; simp [dsGet_dsDel_same]
  · simp [h, dsGet_dsDel_other ds h]

@[simp] theorem applyWs_nil (ds : DS) : applyWs ds [] = ds := rfl
@[simp] theorem applyWs_cons (ds : DS) (w : W) (ws : List W) : applyWs ds (w :: ws) = applyWs (applyW ds w) ws := rfl
theorem applyWs_append (ds : DS) (a b : List W) : applyWs ds (a ++ b) = applyWs (applyWs ds a) b := by
  simp [applyWs, List.foldl_append]

def W.key : W → Key
  | .put k _ => k
  | .del k => k

theorem dsGet_applyW_other (ds : DS) (w : W) {k : Key} (h : k ≠ w.key) : dsGet (applyW ds w) k = dsGet ds k := by
  cases w with
  | put k' v => exact dsGet_dsPut_other ds v h
  | del k' => exact dsGet_dsDel_other ds h

theorem dsGet_applyWs_other (ds : DS) (ws : List W) {k : Key} (h : ∀ w ∈ ws, k ≠ w.key) :
    dsGet (applyWs ds ws) k = dsGet ds k := by
  induction ws generalizing ds with
  | nil => rfl
  | cons w r ih =>
    rw [applyWs_cons, ih _ (fun w' hw' => h w' (List.mem_cons_of_mem _ hw')), dsGet_applyW_other ds w (h w (List.mem_cons_self ..))]

/-- The datastore after a crash that let the first `k` writes of `ws` through. -/
def crashAt (ds : DS) (ws : List W) (k : Nat) : DS := applyWs ds (ws.take k)

/-- Crash triple of the writes `ws` run from `ds`: a crash that lets fewer than all of them through leaves a datastore in `C`
(the crash condition), the complete run leaves one in `Q`. An operation is crash-atomic when `C` is the class of the state
before it and `Q` that of the state after; the write at which the class changes is its commit point. Triples are built write by
write (`cons`, `of_inv` for writes that keep the class, `commit`) and in sequence (`append`), so no proof about an operation
counts the writes of a prefix. -/
def Crash (C Q : DS → Prop) (ds : DS) (ws : List W) : Prop :=
  (∀ k, k < ws.length → C (crashAt ds ws k)) ∧ Q (applyWs ds ws)

namespace Crash
variable {C Q C' Q' : DS → Prop} {ds : DS} {ws a b : List W} {w : W}

theorem nil (h : Q ds) : Crash C Q ds [] := ⟨nofun, h⟩

theorem cons (h0 : C ds) (h : Crash C Q (applyW ds w) ws) : Crash C Q ds (w :: ws) :=
  ⟨fun k hk => match k with
    | 0 => h0
    | k + 1 => h.1 k (Nat.lt_of_succ_lt_succ hk), h.2⟩

/-- Sequencing: the crash condition of the first part, then the triple of the second from where the first ends. -/
theorem append (h1 : ∀ k, k < a.length → C (crashAt ds a k)) (h2 : Crash C Q (applyWs ds a) b) : Crash C Q ds (a ++ b) := by
  refine ⟨fun k hk => ?_, by rw [applyWs_append]; exact h2.2⟩
  rw [List.length_append] at hk
  unfold crashAt
  by_cases hka : k < a.length
  · rw [List.take_append_of_le_length (Nat.le_of_lt hka)]; exact h1 k hka
  · rw [List.take_append, List.take_of_length_le (Nat.le_of_not_lt hka), applyWs_append]
    exact h2.1 _ (by omega)

/-- Writes that each keep `C` never leave it. -/
theorem of_inv (hinv : ∀ w ∈ ws, ∀ d, C d → C (applyW d w)) (h0 : C ds) : Crash C C ds ws := by
  induction ws generalizing ds with
  | nil => exact nil h0
  | cons w r ih =>
    exact cons h0 (ih (fun x hx => hinv x (List.mem_cons_of_mem _ hx)) (hinv w (List.mem_cons_self ..) ds h0))

/-- One commit point: writes that keep `C`, then the write after which `Q` holds. -/
theorem commit (hinv : ∀ x ∈ a, ∀ d, C d → C (applyW d x)) (h0 : C ds) (hQ : Q (applyWs ds (a ++ [w]))) :
    Crash C Q ds (a ++ [w]) :=
  append (of_inv hinv h0).1 (cons (of_inv hinv h0).2 (nil (by rw [applyWs_append] at hQ; exact hQ)))

theorem mono (h : Crash C Q ds ws) (hC : ∀ d, C d → C' d) (hQ : ∀ d, Q d → Q' d) : Crash C' Q' ds ws :=
  ⟨fun k hk => hC _ (h.1 k hk), hQ _ h.2⟩

/-- Every crash point, classified. -/
theorem at_le (h : Crash C Q ds ws) {k : Nat} (hk : k ≤ ws.length) :
    (k < ws.length ∧ C (crashAt ds ws k)) ∨ (k = ws.length ∧ Q (crashAt ds ws k)) := by
  by_cases hlt : k < ws.length
  · exact Or.inl ⟨hlt, h.1 k hlt⟩
  · have : k = ws.length := by omega
    exact Or.inr ⟨this, by rw [this, crashAt, List.take_length]; exact h.2⟩

end Crash

theorem mem_dsKeys_iff (ds : DS) (k : Key) : k ∈ dsKeys ds ↔ (dsGet ds k).isSome := by
  induction ds with
  | nil => simp [dsKeys]
  | cons kv r ih =>
    obtain ⟨k', v⟩ := kv
    simp only [dsKeys, List.map_cons, List.mem_cons, dsGet_cons] at ih ⊢
    by_cases h : k' = k
    · simp [h]
    · have : ¬ k = k' := fun e => h e.symm
      simp [h, this, ih]

end F3.Store
