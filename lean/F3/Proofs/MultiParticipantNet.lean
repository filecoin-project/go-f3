import F3.Proofs.MultiParticipantEx
import F3.Proofs.ParticipantBridge
/-!
The assumptions of `NetworkP` about one instance, stated about multi-instance runs (`InstanceNetwork`). By
`F3.Instance.instance_projection` what an honest participant does for instance `k` is a single-instance run over
`opsOf … k`, so `InstanceNetwork.toNetworkP` builds the `NetworkP` of instance `k` and `model_agreementP` gives agreement of
the decisions recorded for `k` by any two honest participants (`agreement_instance`).
-/
namespace F3.Bridge
open F3 F3.Instance

/-- one participant's whole execution: a sequence of `ReceiveMessage` / `ReceiveAlarm` / `StartInstanceAt` calls
from a fresh participant, in which `StartInstanceAt` only ever skips ahead -/
structure MultiRun where
  cfg : Cfg
  /-- the initial instance (`NewParticipant`: 0) -/
  c0 : Nat := 0
  ops : List MPOp
  forward : forwardOnly (minit cfg c0) ops = true

abbrev MultiRun.final (R : MultiRun) : MState := (mprun (minit R.cfg R.c0) R.ops).1
abbrev MultiRun.effs (R : MultiRun) : List (Nat × Eff) := (mprun (minit R.cfg R.c0) R.ops).2
abbrev MultiRun.opsOf (R : MultiRun) (k : Nat) : List POp := Instance.opsOf R.cfg R.c0 k R.ops
abbrev MultiRun.begunWith (R : MultiRun) (k : Nat) : Option (Table × Chain × List Pid) :=
  Instance.begunWith R.cfg R.c0 k R.ops

/-- The standing assumptions about instance `k` of the network, every participant `p` executing `runs p`:
committee `t` with distinct ids and positive total, Byzantine members `F` below a third, `W` the validly signed
votes *of instance `k`* in existence. Honest members: their votes for `k` are exactly the broadcasts tagged `k` of
their run; if their participant began `k`, the host supplied the committee `t` and a non-empty proposal, every
delivery that concerns `k` passed validation, and no call that concerns `k` reported an error other than a refusal
at the door. (A member whose participant never began `k` — it is behind, or skipped `k` — has no vote for `k`.) -/
structure InstanceNetwork (runs : Pid → MultiRun) (k : Nat) (t : Table) (F : Finset Pid) (W : Votes) where
  idsNodup : (ids t).Nodup
  totalPos : 0 < t.total
  faultBound : 3 * (world t F W).power F < (world t F W).T
  nonMembers : ∀ p, p ∉ (ids t).toFinset → ∀ r ph v, ¬ W p r ph v
  own : ∀ p, p ∈ (ids t).toFinset → p ∉ F → ∀ r ph v,
    W p r ph v ↔ ∃ tk j, (k, Eff.broadcast r ph v tk j) ∈ (runs p).effs
  begun : ∀ p, p ∈ (ids t).toFinset → p ∉ F → ∀ tbl input order,
    (runs p).begunWith k = some (tbl, input, order) →
      tbl = t ∧ input ≠ [] ∧
      (∀ op ∈ (runs p).opsOf k, pforeign op = true ∨ POpValidG W t op) ∧
      okRunP order (pinit (runs p).cfg t input) ((runs p).opsOf k) = true

variable {runs : Pid → MultiRun} {k : Nat} {t : Table} {F : Finset Pid} {W : Votes}

/-- the single-instance run of an honest member for instance `k`: the projection of its multi-instance run if it
began `k`, the empty run otherwise -/
def InstanceNetwork.runOf (N : InstanceNetwork runs k t F W) (p : Pid) (hp : p ∈ (ids t).toFinset) (hpF : p ∉ F) :
    (b : Option (Table × Chain × List Pid)) → (runs p).begunWith k = b → HonestRunP W t p
  | some (tbl, input, order), hb =>
    { cfg := (runs p).cfg
      input := input
      order := order
      ops := (runs p).opsOf k
      inputNe := (N.begun p hp hpF tbl input order hb).2.1
      valid := (N.begun p hp hpF tbl input order hb).2.2.1
      ok := (N.begun p hp hpF tbl input order hb).2.2.2
      own := by
        intro r ph v
        have htbl := (N.begun p hp hpF tbl input order hb).1
        have hproj := (instance_projection (runs p).cfg (runs p).c0 (runs p).ops k tbl input order
          (runs p).forward hb).1
        rw [htbl] at hproj
        rw [N.own p hp hpF r ph v]
        show _ ↔ ∃ tk j, _ ∈ (prun order (pinit (runs p).cfg t input) (Instance.opsOf _ _ k _)).2
        rw [← hproj]
        simp only [mem_effsOf] }
  | none, hb =>
    { cfg := (runs p).cfg
      input := [0]
      order := []
      ops := []
      inputNe := by decide
      valid := fun _ h => by cases h
      ok := rfl
      own := by
        intro r ph v
        rw [N.own p hp hpF r ph v]
        have he := (instance_not_begun (runs p).cfg (runs p).c0 (runs p).ops k (runs p).forward hb).1
        constructor
        · rintro ⟨tk, j, h⟩
          have h' := (mem_effsOf k _ _).2 h
          rw [he] at h'
          cases h'
        · rintro ⟨tk, j, h⟩
          cases h }

theorem InstanceNetwork.runOf_final (N : InstanceNetwork runs k t F W) (p : Pid) (hp : p ∈ (ids t).toFinset)
    (hpF : p ∉ F) (tbl : Table) (input : Chain) (order : List Pid)
    (b : Option (Table × Chain × List Pid)) (hb : (runs p).begunWith k = b) (hs : b = some (tbl, input, order)) :
    (N.runOf p hp hpF b hb).final = (prun order (pinit (runs p).cfg t input) ((runs p).opsOf k)).1.inst := by
  subst hs
  rfl

def InstanceNetwork.toNetworkP (N : InstanceNetwork runs k t F W) : NetworkP t F W where
  idsNodup := N.idsNodup
  totalPos := N.totalPos
  faultBound := N.faultBound
  nonMembers := N.nonMembers
  runs := fun p hp hpF => N.runOf p hp hpF _ rfl

theorem InstanceNetwork.recorded (N : InstanceNetwork runs k t F W) (p : Pid) (hp : p ∈ (ids t).toFinset)
    (hpF : p ∉ F) (d : Just) (hd : (k, d) ∈ (runs p).final.decisions) :
    (N.toNetworkP.runs p hp hpF).final.termination = some d := by
  obtain ⟨tbl, input, order, hb, hterm⟩ :=
    decision_begun (runs p).cfg (runs p).c0 (runs p).ops k d (runs p).forward hd
  have htbl := (N.begun p hp hpF tbl input order hb).1
  show (N.runOf p hp hpF _ rfl).final.termination = some d
  rw [N.runOf_final p hp hpF tbl input order _ rfl hb, ← htbl]
  exact hterm

/-- Agreement in instance `k`: the decisions recorded for instance `k` by any two honest participants are for
the same value. -/
theorem agreement_instance (N : InstanceNetwork runs k t F W)
    (p q : Pid) (hp : p ∈ (ids t).toFinset) (hpF : p ∉ F) (hq : q ∈ (ids t).toFinset) (hqF : q ∉ F) (dp dq : Just)
    (hdp : (k, dp) ∈ (runs p).final.decisions) (hdq : (k, dq) ∈ (runs q).final.decisions) :
    dp.value = dq.value :=
  model_agreementP N.toNetworkP p q hp hpF hq hqF dp dq (N.recorded p hp hpF dp hdp) (N.recorded q hq hqF dq hdq)

/-- the first `K` instances of the network: committee, Byzantine set and votes per instance -/
structure MultiNetwork (K : Nat) (runs : Pid → MultiRun) (t : Nat → Table) (F : Nat → Finset Pid)
    (W : Nat → Votes) where
  inst : ∀ k, k < K → InstanceNetwork runs k (t k) (F k) (W k)

/-- the votes of instance 1: as `exVotes`, for the value `[8,5]`; member 4 equivocates in PREPARE -/
def exVotes1 : List Vote :=
  [(1,0,.quality,[8,5]), (1,0,.prepare,[8,5]), (1,0,.commit,[8,5]), (1,0,.decide,[8,5]),
   (2,0,.quality,[8,5]), (2,0,.prepare,[8,5]), (2,0,.commit,[8,5]), (2,0,.decide,[8,5]),
   (3,0,.quality,[8,5]), (3,0,.prepare,[8,5]), (3,0,.commit,[8,5]), (3,0,.decide,[8,5]),
   (4,0,.prepare,[8,6]), (4,0,.prepare,[8,5])]

/-- the two-instance execution `F3.Instance.exMOps` (`F3.Proofs.MultiParticipantEx`) as a `MultiRun`; its power table
and configuration are those of `BridgeEx` -/
def exMultiRun : MultiRun where
  cfg := mxCfg
  ops := exMOps
  forward := ex_forward.2.2

theorem ex_same : mxTbl = exTbl ∧ mxCfg = exCfg ∧ mxOrder = exOrder ∧ exPOps0 = exPOps.take 16 :=
  ⟨rfl, rfl, rfl, by decide +kernel⟩

theorem ex_recorded :
    exMultiRun.final.decisions =
      [(0, { round := 0, phase := .decide, value := [7,8], signers := [0,1,2] }),
       (1, { round := 0, phase := .decide, value := [8,5], signers := [0,1,2] })] := by
  -- `rw` at the level of `mprun`: to compare the two `.1.decisions` directly the unifier runs the execution
  have h : mprun (minit exMultiRun.cfg exMultiRun.c0) exMultiRun.ops = mprun (minit mxCfg) exMOps := rfl
  rw [MultiRun.final, h]
  exact ex_decisions

theorem ex_faultBound (W : Votes) : 3 * (world exTbl exF W).power exF < (world exTbl exF W).T := by
  rw [total_eq exTbl exF W (by decide)]
  show 3 * (∑ p ∈ ({4} : Finset Pid), exTbl.power p) < exTbl.total
  rw [Finset.sum_singleton]
  decide

theorem ex_nonMembers (votes : List Vote) (hm : ∀ e ∈ votes, e.1 = 1 ∨ e.1 = 2 ∨ e.1 = 3 ∨ e.1 = 4) :
    ∀ p, p ∉ (ids exTbl).toFinset → ∀ r ph v, ¬ Wof votes p r ph v := by
  intro p hp r ph v hw
  rw [ex_ids] at hp
  have := hm _ hw
  simp only [Finset.mem_insert, Finset.mem_singleton] at hp
  exact hp this

theorem ex_honest {p : Pid} (hp : p ∈ (ids exTbl).toFinset) (hF : p ∉ exF) : p = 1 ∨ p = 2 ∨ p = 3 := by
  rw [ex_ids] at hp
  simp only [Finset.mem_insert, Finset.mem_singleton, exF] at hp hF
  rcases hp with h | h | h | h
  · exact Or.inl h
  · exact Or.inr (Or.inl h)
  · exact Or.inr (Or.inr h)
  · exact absurd h hF

/-- the votes `votes` of the honest members are what the example run broadcast for instance `k` (the three honest
members run the same calls, so their votes coincide: `hsame`) -/
theorem ex_own (k : Nat) (votes : List Vote)
    (h : (effsOf k exMultiRun.effs).filterMap bcTriple = votesOf votes 1)
    (hsame : votesOf votes 2 = votesOf votes 1 ∧ votesOf votes 3 = votesOf votes 1)
    (p : Pid) (hp : p ∈ (ids exTbl).toFinset) (hF : p ∉ exF) (r : Nat) (ph : Instance.Phase) (v : Chain) :
    Wof votes p r ph v ↔ ∃ tk j, (k, Eff.broadcast r ph v tk j) ∈ exMultiRun.effs := by
  have hv : votesOf votes p = votesOf votes 1 := by
    rcases ex_honest hp hF with rfl | rfl | rfl
    exacts [rfl, hsame.1, hsame.2]
  rw [votesOf_iff, hv, ← h, ← bc_iff_triple]
  simp only [mem_effsOf]

theorem ex_broadcasts :
    (effsOf 0 exMultiRun.effs).filterMap bcTriple = votesOf exVotes 1 ∧
    (effsOf 1 exMultiRun.effs).filterMap bcTriple = votesOf exVotes1 1 := by
  decide +kernel

/-- the calls that concern instance `k` report no error at all: the run as a whole reports none -/
theorem ex_ok (k : Nat) (tbl : Table) (input : Chain) (order : List Pid)
    (hb : begunWith mxCfg 0 k exMOps = some (tbl, input, order)) :
    okRunP order (pinit mxCfg tbl input) (opsOf mxCfg 0 k exMOps) = true := by
  apply okRunP_of_nofail
  rw [← (instance_projection mxCfg 0 exMOps k tbl input order ex_forward.2.2 hb).1]
  exact effsOf_nofail k _ ex_projection.2.2.2.2

/-- instance 0 of the example: the three honest members run `exMOps`, member 4 is Byzantine -/
theorem exInst0 : InstanceNetwork (fun _ => exMultiRun) 0 exTbl exF exW where
  idsNodup := by decide
  totalPos := by decide
  faultBound := ex_faultBound _
  nonMembers := ex_nonMembers exVotes (by decide)
  own := ex_own 0 exVotes ex_broadcasts.1 (by decide)
  begun := by
    intro p _ _ tbl input order hb
    have hb' : begunWith mxCfg 0 0 exMOps = some (tbl, input, order) := hb
    rw [ex_opsOf.2.2.1] at hb'
    cases hb'
    refine ⟨rfl, by decide, ?_, ex_ok 0 _ _ _ hb⟩
    show ∀ op ∈ opsOf mxCfg 0 0 exMOps, _
    rw [ex_opsOf.1]
    exact popValidB_sound exVotes exTbl _ (by decide +kernel)

theorem exInst1 : InstanceNetwork (fun _ => exMultiRun) 1 exTbl exF (Wof exVotes1) where
  idsNodup := by decide
  totalPos := by decide
  faultBound := ex_faultBound _
  nonMembers := ex_nonMembers exVotes1 (by decide)
  own := ex_own 1 exVotes1 ex_broadcasts.2 (by decide)
  begun := by
    intro p _ _ tbl input order hb
    have hb' : begunWith mxCfg 0 1 exMOps = some (tbl, input, order) := hb
    rw [ex_opsOf.2.2.2.1] at hb'
    cases hb'
    refine ⟨rfl, by decide, ?_, ex_ok 1 _ _ _ hb⟩
    show ∀ op ∈ opsOf mxCfg 0 1 exMOps, _
    rw [ex_opsOf.2.1]
    exact popValidB_sound exVotes1 exTbl _ (by decide +kernel)

theorem exMultiNet : MultiNetwork 2 (fun _ => exMultiRun) (fun _ => exTbl) (fun _ => exF)
    (fun k => if k = 0 then exW else Wof exVotes1) where
  inst := by
    intro k hk
    rcases (by omega : k = 0 ∨ k = 1) with rfl | rfl
    · exact exInst0
    · exact exInst1

end F3.Bridge
