import F3.Proofs.StorePut
/-! Observations are a function of the represented history: `observe` through any handle in a
represented state equals `Spec.obs`; a restart observes `specReobserve`. -/
namespace F3.Store

variable {ds : DS} {sp : Spec}

theorem observe_repr (cfg : Cfg) (h : Repr cfg.freq ds sp) {m : Mem} (hm : MemOk m sp) :
    observe cfg m ds = sp.obs := by
  have hnext : m.next = sp.first + sp.certs.length := mem_next_eq hm.first hm.latest h.facts
  unfold observe Spec.obs
  have hn : m.next - m.first = sp.certs.length := by rw [hnext, hm.first]; omega
  rw [hn]
  simp only [hm.first, hm.latest]
  congr 1
  · apply List.map_congr_left
    intro k hk
    have hk' : k < sp.certs.length := List.mem_range.1 hk
    rw [getCert_repr h hk', List.getElem?_eq_getElem hk']
  · apply List.map_congr_left
    intro k hk
    have hk' : k ≤ sp.certs.length := Nat.lt_succ_iff.1 (List.mem_range.1 hk)
    obtain ⟨T, hT, _⟩ := h.facts.tbls k hk'
    rw [getPowerTable_repr h cfg m hm.first hm.latest (Or.inr hm.table) hk' (Or.inl rfl) hT]
    have : Spec.foldTables sp.init (List.take k sp.certs) = some T := hT
    rw [this]

theorem observe_fresh (cfg : Cfg) (ds : DS) (first : Nat) {init : Table} (hne : init ≠ []) :
    observe cfg { first := first, latest := none, latestTable := init } ds = Spec.obs ⟨first, init, []⟩ := by
  unfold observe Spec.obs
  simp only [Mem.next, Nat.sub_self, List.range_zero, List.map_nil, List.length_nil, Nat.zero_add, List.range_one,
    List.map_cons, Nat.add_zero, List.take_nil]
  congr 1
  unfold getPowerTable
  simp [Mem.next, hne, Spec.foldTables]

theorem reobserve_of_ok {cfg : Cfg} {ds : DS} {o : Orders} {v : Variant} {ws : List W} {m : Mem}
    (h : reopen cfg ds o v = ⟨ws, .ok m⟩) : reobserve cfg ds o v = .ok (observe cfg m (applyWs ds ws)) := by
  unfold reobserve; rw [h]

theorem reobserve_of_err {cfg : Cfg} {ds : DS} {o : Orders} {v : Variant} {ws : List W} {e : Err}
    (h : reopen cfg ds o v = ⟨ws, .error e⟩) : reobserve cfg ds o v = .error e := by
  unfold reobserve; rw [h]

theorem openOrCreate_empty (cfg : Cfg) (ds : DS) (o : Orders) (f : Nat) :
    openOrCreateStore cfg ds o f [] = ⟨[], .error .emptyInitial⟩ := by
  unfold openOrCreateStore; rw [if_pos rfl]

theorem reobserve_repr_open (cfg : Cfg) (o : Orders) (h : Repr cfg.freq ds sp) (ho : OpenOk cfg sp) :
    reobserve cfg ds o .open = .ok sp.obs := by
  obtain ⟨T, hT, hopen⟩ := openStore_repr cfg o h ho
  rw [reobserve_of_ok (v := .open) hopen, applyWs_nil, observe_repr cfg h (memOk_memOf hT)]

/-- **Observations after a restart depend only on the abstract state**, not on stray keys, the query
order or the open variant's internals. Here: a represented history. -/
theorem reobserve_repr (cfg : Cfg) (o : Orders) (h : Repr cfg.freq ds sp) (ho : OpenOk cfg sp) (v : Variant) :
    reobserve cfg ds o v = specReobserve (.hist sp) v := by
  cases v with
  | «open» => exact reobserve_repr_open cfg o h ho
  | ooc f t =>
    simp only [specReobserve]
    by_cases ht : t = []
    · subst ht
      rw [if_pos rfl, reobserve_of_err (v := .ooc f []) (openOrCreate_empty cfg ds o f)]
    · rw [if_neg ht]
      by_cases hf : f = sp.first
      · subst hf
        rw [if_neg (fun hh => hh rfl)]
        by_cases hi : t = sp.init
        · subst hi
          rw [if_neg (fun hh => hh rfl)]
          obtain ⟨T, hT, hopen⟩ := openOrCreate_repr cfg o h ho
          rw [reobserve_of_ok (v := .ooc sp.first sp.init) hopen, applyWs_nil, observe_repr cfg h (memOk_memOf hT)]
        · rw [if_pos hi, reobserve_of_err (v := .ooc sp.first t) (openOrCreate_repr_table cfg o h ht hi)]
      · rw [if_pos hf, reobserve_of_err (v := .ooc f t) (openOrCreate_repr_first cfg o h ht hf)]

/-- A restart observes "no store" whenever `open`'s first phase ends on an uninitialised datastore (a clean one, or one
it has just finished wiping). -/
theorem reobserve_of_core {cfg : Cfg} {ds : DS} {o : Orders} {w : List W} (hoc : openCore cfg ds o = ⟨w, .ok none⟩)
    (hni : NotInit (applyWs ds w)) (v : Variant) : reobserve cfg ds o v = specReobserve .notInit v := by
  cases v with
  | «open» => exact reobserve_of_err (v := .open) (openStore_of_core hoc hni)
  | ooc f t =>
    simp only [specReobserve]
    by_cases ht : t = []
    · subst ht
      rw [if_pos rfl, reobserve_of_err (v := .ooc f []) (openOrCreate_empty cfg ds o f)]
    · rw [if_neg ht, reobserve_of_ok (v := .ooc f t) (openOrCreate_of_core hoc hni f ht), observe_fresh cfg _ f ht]

end F3.Store
