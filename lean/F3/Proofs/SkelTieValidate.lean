import F3.Gen.SkelValidate
/-!
Hand-written expectations for the REGENERATED skeletons of `F3.Gen.SkelValidate` (tools/go2lean/skel.go): the pre-order
list of the statements of a Go function as `<depth>:<kind>`. The expression-level tie theorems pin what single
conditions say; these pin that nothing was added around them (an extra early return, a cap, a dropped branch). A
structural change of the function — harmful or not — breaks the `rfl` below and with it the obligation of every
property importing this file; the check then searches for a failing input as for any broken obligation.
-/
namespace F3.SkelTie.SkelValidate
open F3.Gen.SkelValidate

/-- the structure the model of `ValidateJustification` was written against -/
def skelValidateJustificationExpected : List String :=
  ["0:if", "1:return1", "0:assign:=", "0:assign:=", "0:if", "1:return1", "0:if", "1:return1", "0:if",
   "1:return1", "0:assign:=", "0:assign:=", "0:if", "1:assign:=", "1:assign=", "0:assign:=", "0:decl", "0:if",
   "1:if", "2:if", "3:return1", "2:assign=", "2:if", "3:assign:=", "3:if", "4:return1", "1:else", "2:return1",
   "0:else", "1:return1", "0:assign:=", "0:decl", "0:if", "1:call:log.Warnw", "1:assign=", "0:else", "1:if",
   "2:call:log.Warnw", "1:elseif", "2:call:metrics.validationCache.Add", "2:return1", "1:else",
   "2:call:metrics.validationCache.Add", "0:assign=", "0:if", "1:return1", "0:if", "1:if", "2:call:log.Warnw",
   "0:return1"]

theorem skelValidateJustification_expected : skelValidateJustification = skelValidateJustificationExpected := rfl

/-- the structure the model of `FullyValidate` was written against -/
def skelFullyValidateExpected : List String :=
  ["0:if", "1:return2", "0:assign:=", "0:if", "1:return2", "0:if", "1:return2", "0:if", "1:return2", "0:if",
   "1:return2", "0:assign:=", "0:if", "1:if", "2:return2", "1:if", "2:return2", "0:if", "1:assign:=", "1:if",
   "2:if", "3:if", "4:return2", "2:else", "3:return2", "1:else", "2:return2", "0:return2"]

theorem skelFullyValidate_expected : skelFullyValidate = skelFullyValidateExpected := rfl

/-- the structure the model of `SuppEq` was written against -/
def skelSuppEqExpected : List String :=
  ["0:return1"]

theorem skelSuppEq_expected : skelSuppEq = skelSuppEqExpected := rfl

/-- the structure the model of `InferJustValue` was written against -/
def skelInferJustValueExpected : List String :=
  ["0:if", "1:switch", "2:case3", "3:if", "4:assign=", "2:case1", "3:if", "4:assign=", "2:default"]

theorem skelInferJustValue_expected : skelInferJustValue = skelInferJustValueExpected := rfl

/-- the structure the model of `ToPartial` was written against -/
def skelToPartialExpected : List String :=
  ["0:assign:=", "0:assign:=", "0:if", "1:assign=", "1:assign=", "0:if", "1:assign:=", "1:assign=",
   "1:assign=", "0:return2"]

theorem skelToPartial_expected : skelToPartial = skelToPartialExpected := rfl

/-- the structure the model of `ValidateMessage` was written against -/
def skelValidateMessageExpected : List String :=
  ["0:assign:=", "0:assign:=", "0:if", "1:if", "2:call:log.Errorw", "1:elseif",
   "2:call:metrics.validationCache.Add", "2:return1", "1:else", "2:call:metrics.validationCache.Add",
   "0:assign:=", "0:if", "1:return1", "0:assign:=", "0:if", "1:return1", "0:if", "1:return1", "0:assign:=",
   "0:switch", "1:case1", "2:if", "3:return1", "2:if", "3:return1", "1:case1", "2:if", "3:return1", "2:if",
   "3:return1", "2:if", "3:return1", "1:case1", "2:if", "3:return1", "2:if", "3:return1", "1:case2",
   "1:default", "2:return1", "0:decl", "0:if", "1:assign=", "0:else", "1:assign=", "0:if", "1:return1",
   "0:assign:=", "0:if", "1:if", "2:return1", "0:elseif", "1:return1", "0:if", "1:if", "2:call:log.Warnw",
   "0:return1"]

theorem skelValidateMessage_expected : skelValidateMessage = skelValidateMessageExpected := rfl

end F3.SkelTie.SkelValidate
