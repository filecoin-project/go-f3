import F3.Proofs.EmittedValidQuality
import F3.Proofs.EmittedValidWire
import F3.Proofs.NoFailureParticipant
import F3.Proofs.MultiParticipantProj
/-!
# `F3.EmittedValid` at the participant API (`pstepWith`, `prun`)

The Go code is driven through `gpbft.Participant`: messages that arrive before the instance has begun are queued
(`messageQueue.Add`) and handed to the instance by `ReceiveMany` when it begins, in some map order; `ReceiveMany` is
*not* a sequence of `Receive` calls (the round skip is tried once, after all messages, for the highest round first).
Shapes go through micro-runs (`prun_transfer`, `mrun_shaped`); the QUALITY votes that count (`pvotesQ`), the candidates
and the justification-free PREPAREs form the invariant `PCQ` of participant runs, the drain going through
`receiveMany_sorted`.

Core-only (no Mathlib).
-/
namespace F3.EmittedValid
open F3.Instance

section Shapes
variable {W : Votes} {me : Pid}

theorem mstep_shaped {s : State} (op : MOp) (h : GInv W me s) (_ : DQ s) (hop : MOpOK (MsgValid W s.tbl) s op)
    (hown : OwnIn W me (mstep s op).2) : Shaped W s.tbl (mstep s op).2 :=
  (shapedRule.mstep op h hop (fun now _ => ⟨beginQuality_gok now h, fun _ => beginQuality_shaped now h⟩)
    fun _ _ _ _ _ => ⟨GOK.fail (by simp), fun _ => Shaped_single (by simp)⟩).2 hown

theorem mrun_shaped {s : State} (ops : List MOp) (h : GInv W me s) (hq : DQ s)
    (hok : MOK (MsgValid W s.tbl) s ops) (hown : OwnIn W me (mrun s ops).2)
    (hnf : hasFailure (mrun s ops).2 = false) : Shaped W s.tbl (mrun s ops).2 := by
  induction ops generalizing s with
  | nil => simpa using (Shaped_nil (W := W) (t := s.tbl))
  | cons op ops ih =>
    rw [mrun_cons] at hown hnf ⊢
    simp only [Instance.hasFailure_append, Bool.or_eq_false_iff] at hnf
    obtain ⟨ho1, ho2⟩ := OwnIn_append hown
    have hs1 := mstep_shaped (me := me) op h hq hok.1 ho1
    rcases mstep_gok (me := me) op h hq hok.1 with hf | hk
    · exact absurd (hf.symm.trans hnf.1) (by decide)
    · obtain ⟨hi1, _⟩ := hk ho1
      have hq1 := mstep_dq hq hok.1 hnf.1
      obtain ⟨htb, _⟩ := mstep_tbl_input s op
      have := ih hi1 hq1 (by rw [htb]; exact hok.2) ho2 hnf.2
      rw [htb] at this
      exact Shaped_append hs1 this

/-- the shapes along every failure-free micro-run from the initial state: the one fact behind `prun_shaped` and
`mprun_shaped` -/
theorem mrun_init_shaped (cfg : Cfg) (t : Table) (input : Chain) (W : Votes) (p : Pid) (hin : input ≠ [])
    (hT : 0 < t.total) (mops : List MOp) (hmok : MOK (MsgValid W t) (init cfg t input) mops)
    (hnf : hasFailure (mrun (init cfg t input) mops).2 = false) (hown : OwnIn W p (mrun (init cfg t input) mops).2) :
    Shaped W t (mrun (init cfg t input) mops).2 :=
  mrun_shaped (me := p) (s := init cfg t input) mops (GInv_init W p cfg t input hin hT) (DQ_init _ _ _) hmok hown hnf

theorem prun_shaped (cfg : Cfg) (t : Table) (input : Chain) (W : Votes) (p : Pid) (order : List Pid) (ops : List POp)
    (hin : input ≠ []) (hT : 0 < t.total) (hvalid : ∀ op ∈ ops, POpP (PMsgOK W t) op)
    (hown : OwnIn W p (prun order (pinit cfg t input) ops).2) :
    Shaped W t (prun order (pinit cfg t input) ops).2 :=
  shaped_filter_nonErr.1 (prun_transfer (Φ := fun _ es => OwnIn W p es → Shaped W t es) cfg t input W order ops hin hT
    hvalid (mrun_init_shaped cfg t input W p hin hT) (ownIn_filter_nonErr.2 hown))

theorem emitted_valid_prun (cfg : Cfg) (t : Table) (input : Chain) (W : Votes) (p : Pid) (order : List Pid)
    (ops : List POp) (hin : input ≠ []) (hT : 0 < t.total) (hpos : 0 < t.power p)
    (hvalid : ∀ op ∈ ops, POpP (PMsgOK W t) op)
    (hown : ∀ r ph v tk j, Eff.broadcast r ph v tk j ∈ (prun order (pinit cfg t input) ops).2 → W p r ph v) :
    ∀ r ph v tk j, Eff.broadcast r ph v tk j ∈ (prun order (pinit cfg t input) ops).2 →
      MsgValid W t (msgOf p r ph v j) := fun r ph v tk j hm =>
  msgValid_of_shape (hown r ph v tk j hm) hpos
    (prun_shaped cfg t input W p order ops hin hT hvalid hown r ph v tk j hm)

end Shapes

/-- the QUALITY vote `receiveOne` hands to the tally, if any (`tallied` for a delivery, as a list) -/
def talliedL (s : State) (m : Msg) : List QVote :=
  if s.recvPre m = .accept ∧ m.phase = .quality then [(m.sender, m.value)] else []

/-- … counted only if the instance is (still) in QUALITY when it arrives -/
def talliedQ (s : State) (m : Msg) : List QVote := if s.phase = .quality then talliedL s m else []

theorem tallied_toList (s : State) (now : Int) (m : Msg) : (tallied s (.recv now m)).toList = talliedL s m := by
  simp only [tallied, talliedL]
  split <;> rfl

/-- the QUALITY votes counted in the course of the loop of `ReceiveMany` over `ms` from state `st`: messages dropped as
late-binding rejects leave the state alone, a failure ends the loop -/
def drainVotes (now : Int) : State → List Msg → List QVote
  | _, [] => []
  | st, m :: ms =>
    if isLateBinding (st.receiveOne now m).1.2 then drainVotes now st ms
    else if hasFailure (st.receiveOne now m).1.2 then talliedQ st m
    else talliedQ st m ++ drainVotes now (st.receiveOne now m).1.1 ms

/-- **The QUALITY votes one participant call hands to the instance while it is in QUALITY.** Before the instance has
begun a delivery is only queued (nothing is counted); the alarm that begins the instance counts what the drain of the
queue hands over, in drain order; afterwards a delivered QUALITY message is counted if it passes the door checks. -/
def ptalliedQ (order : List Pid) (p : PState) (op : POp) : List QVote :=
  if p.started then (if p.inst.phase = .quality then (tallied p.inst op.toOp).toList else [])
  else match op with
    | .alarm now =>
      if hasFailure (p.inst.beginQuality now).2 then []
      else drainVotes now (p.inst.beginQuality now).1 (drainWith order p.queue)
    | .recv _ _ => []

/-- **the QUALITY votes that count** in a participant run, in the order in which the instance saw them -/
def pvotesQ (order : List Pid) : PState → List POp → List QVote
  | _, [] => []
  | p, op :: ops => ptalliedQ order p op ++ pvotesQ order (pstepWith order p op).1 ops

/-- the tally `q` after the further votes `tv` -/
def foldQ (t : Table) (tv : List QVote) (q : Tally) : Tally := tv.foldl (fun q v => q.receiveEachPrefix t v.1 v.2) q

theorem qTally_append (t : Table) (vs tv : List QVote) : qTally t (vs ++ tv) = foldQ t tv (qTally t vs) := by
  unfold qTally foldQ; rw [List.foldl_append]

/-- the link between the counted votes `vs`, the tally and the justification-free PREPAREs among `effs` -/
structure QInv (t : Table) (input : Chain) (s : State) (vs : List QVote) (effs : List Eff) : Prop where
  inQ : s.phase = .quality → s.quality = qTally t vs ∧ NoPrepNone effs
  after : s.phase ≠ .quality → ∀ r v tk, Eff.broadcast r .prepare v tk none ∈ effs →
    v = (qTally t vs).longestPrefixWithQuorum input

/-- one function of the model that hands the votes `tv` to the tally -/
theorem QInv.step {t : Table} {input : Chain} {s : State} {r : R} {vs : List QVote} {effs : List Eff}
    (hI : QInv t input s vs effs) (tv : List QVote) (hc : CCI s) (hs : CStepQ s r) (hin : s.input = input)
    (hq : r.1.quality = foldQ t tv s.quality) :
    QInv t input r.1 (vs ++ if s.phase = .quality then tv else []) (effs ++ r.2) := by
  have hqq : s.phase = .quality → r.1.quality = qTally t (vs ++ tv) := by
    intro hsq; rw [qTally_append, hq, (hI.inQ hsq).1]
  constructor
  · intro hrq
    have hsq := hs.qphase hc hrq
    rw [if_pos hsq]
    refine ⟨hqq hsq, NoPrepNone_append (hI.inQ hsq).2 ?_⟩
    intro r' v tk hm
    exact (hs.prep hc r' v tk hm).2.2.1 hrq
  · intro hrq r' v tk hm
    rcases List.mem_append.1 hm with hm | hm
    · by_cases hsq : s.phase = .quality
      · exact absurd hm ((hI.inQ hsq).2 r' v tk)
      · rw [if_neg hsq, List.append_nil]
        exact hI.after hsq r' v tk hm
    · obtain ⟨hsq, hv, _, _⟩ := hs.prep hc r' v tk hm
      rw [if_pos hsq, hv]
      unfold LP
      rw [hqq hsq, hs.input, hin]

theorem tallied_refused {s : State} {op : Op} (h : refusedOp s op = true) : tallied s op = none := by
  cases op with
  | recv now m =>
    simp only [refusedOp, refusedM, Bool.or_eq_true, beq_iff_eq] at h
    have hne : s.recvPre m ≠ .accept := by
      intro hacc
      rcases h with h | h
      · exact recvPre_accept_not_terminated s m hacc h
      · rw [hacc] at h; cases h
    simp [tallied, hne]
  | start _ => rfl
  | alarm _ => rfl

theorem step_cq (t : Table) (input : Chain) {s : State} (op : Op) (vs : List QVote) (effs : List Eff)
    (hdq : DQ s) (hc : CCI s) (hI : QInv t input s vs effs) (hpc : PrepC s effs) (hinp : s.input = input)
    (htb : s.tbl = t) (hop : foreignOp op = true ∨ OpValidG WT t op) :
    CCI (step s op).1 ∧
    QInv t input (step s op).1 (vs ++ if s.phase = .quality then (tallied s op).toList else []) (effs ++ (step s op).2) ∧
    PrepC (step s op).1 (effs ++ (step s op).2) ∧ (step s op).1.input = input := by
  by_cases hr : refusedOp s op = true
  · obtain ⟨k, hk, _⟩ := step_refusedOp hr
    have hcs : CStepQ s (s, [Eff.err k]) := (Plain.same (fun r v tk hm => by simp at hm)).cstep.toCStepQ
    have := hI.step (r := (s, [Eff.err k])) [] hc hcs hinp rfl
    rw [hk, tallied_refused hr]
    exact ⟨hc, by simpa using this, PrepC_append hpc (hcs.prep hc).toC, hinp⟩
  · have hcs := step_cstep s op hdq (of_not_refused hop hr).opOk
    have hqual : (step s op).1.quality = foldQ t (tallied s op).toList s.quality := by
      rw [step_quality, htb]
      cases tallied s op <;> rfl
    exact ⟨hcs.cci hc, hI.step _ hc hcs hinp hqual, PrepC_append (PrepC_mono hpc hcs.cands) (hcs.prep hc).toC,
      hcs.input.trans hinp⟩

/-- **The drain keeps the invariants**, and counts exactly `drainVotes`: `pre` are the effects before the drain, `vs` the
votes counted before it. Along the loop (`receiveMany_sorted`), with `vs'` the votes counted so far, `vs'` followed by
what the rest of the loop will count is the total. -/
theorem receiveMany_cq (now : Int) (t : Table) (input : Chain) (pre : List Eff) (s : State) (ms : List Msg)
    (vs : List QVote) (h : NFI s) (hq : DQ s) (hnt : s.phase ≠ .terminated) (htb : s.tbl = t) (hinp : s.input = input)
    (hc : CCI s) (hI : QInv t input s vs pre) (hpc : PrepC s pre)
    (hP : ∀ m ∈ ms, PMsgOK WT t m) (hsorted : RoundSorted ms) :
    CCI (s.receiveMany now ms).1 ∧
    QInv t input (s.receiveMany now ms).1 (vs ++ drainVotes now s ms) (pre ++ (s.receiveMany now ms).2) ∧
    PrepC (s.receiveMany now ms).1 (pre ++ (s.receiveMany now ms).2) ∧ (s.receiveMany now ms).1.input = input := by
  refine receiveMany_sorted
    (J := fun rest st effs => ∃ vs', vs' ++ drainVotes now st rest = vs ++ drainVotes now s ms ∧
      (∀ m ∈ rest, PMsgOK WT t m) ∧ NFI st ∧ DQ st ∧ st.tbl = t ∧ st.input = input ∧ CCI st ∧
      QInv t input st vs' (pre ++ effs) ∧ PrepC st (pre ++ effs))
    (K := fun st effs => CCI st ∧ QInv t input st (vs ++ drainVotes now s ms) (pre ++ effs) ∧ PrepC st (pre ++ effs) ∧
      st.input = input) now
    (fun ⟨_, hJ⟩ => hJ.2.2.2.1) ?_ ?_ ?_ s ms hsorted hnt
    ⟨vs, rfl, hP, h, hq, htb, hinp, hc, by simpa using hI, by simpa using hpc⟩ ?_ ?_
  · intro m rest st effs ⟨vs', hv, hP, hJ⟩ hlb
    exact ⟨vs', by rw [← hv]; simp [drainVotes, hlb], fun m' hm' => hP m' (List.mem_cons_of_mem _ hm'), hJ⟩
  · intro m rest st effs ⟨vs', hv, hP, hi, hq, htb, hinp, hc, hI, hpc⟩ hlb hf
    have hPm : PMsgOK WT st.tbl m := by rw [htb]; exact hP m List.mem_cons_self
    have hcs := receiveOne_cstep st now m
    have hqual : (st.receiveOne now m).1.1.quality = foldQ t (talliedL st m) st.quality := by
      rw [receiveOne_quality, htb]
      unfold talliedL
      split <;> rfl
    refine ⟨hPm.msgOk hf, vs' ++ talliedQ st m, ?_, fun m' hm' => hP m' (List.mem_cons_of_mem _ hm'),
      (receiveOne_pm now m hi hPm hlb).2, receiveOne_dq st now m hq hf,
      (receiveOne_tbl_input st now m).1.trans htb, hcs.input.trans hinp, hcs.cci hc, ?_, ?_⟩
    · rw [← hv, List.append_assoc]; simp [drainVotes, hlb, hf]
    · rw [← List.append_assoc]; exact hI.step (talliedL st m) hc hcs hinp hqual
    · rw [← List.append_assoc]; exact PrepC_append (PrepC_mono hpc hcs.cands) (hcs.prep hc).toC
  · intro m rest st effs ⟨_, _, hP, hi, _, htb, _⟩ hlb hf
    rw [(receiveOne_pm now m hi (by rw [htb]; exact hP m List.mem_cons_self) hlb).1] at hf
    cases hf
  · intro st effs ⟨vs', hv, _, _, _, _, hinp, hc, hI, hpc⟩
    rw [← hv]
    exact ⟨hc, by simpa [drainVotes] using hI, hpc, hinp⟩
  · intro st effs r ⟨vs', hv, _, _, _, _, hinp, hc, hI, hpc⟩ hnt1
    have hcs := (postReceive_cstep st now r hnt1).toCStepQ
    have hI' := hI.step (r := st.postReceive now r) [] hc hcs hinp (by rw [postReceive_quality]; rfl)
    rw [← hv]
    refine ⟨hcs.cci hc, ?_, ?_, hcs.input.trans hinp⟩
    · rw [← List.append_assoc]; simpa [drainVotes] using hI'
    · rw [← List.append_assoc]; exact PrepC_append (PrepC_mono hpc hcs.cands) (hcs.prep hc).toC

/-- the invariant of a participant run as far as QUALITY votes, candidates and justification-free PREPAREs are
concerned: `vs` are the QUALITY votes counted so far, `effs` the effects so far -/
structure PCQ (cfg : Cfg) (t : Table) (input : Chain) (p : PState) (vs : List QVote) (effs : List Eff) : Prop where
  pinv : PInv cfg t input p
  pre : p.started = false → vs = [] ∧ effs = []
  post : p.started = true → CCI p.inst ∧ QInv t input p.inst vs effs ∧ PrepC p.inst effs ∧ p.inst.input = input

theorem pstep_cq (cfg : Cfg) (t : Table) (input : Chain) (hin : input ≠ []) (hT : 0 < t.total) (order : List Pid)
    (p : PState) (op : POp) (vs : List QVote) (effs : List Eff) (h : PCQ cfg t input p vs effs)
    (hop : POpP (PMsgOK WT t) op) :
    PCQ cfg t input (pstepWith order p op).1 (vs ++ ptalliedQ order p op) (effs ++ (pstepWith order p op).2) := by
  have hpi := (pstep_nf cfg t input hin hT order p op h.pinv hop).2
  revert hpi
  refine pstepWith_ind order p op (fun hs hpi => ?_) (fun now m he hs hpi => ?_) (fun now _ hs hf _ => ?_)
    fun now he hs _ hpi => ?_
  · -- the running instance
    obtain ⟨hc, hI, hpc, hinp⟩ := h.post hs
    obtain ⟨s1, s2, s3, s4⟩ :=
      step_cq t input op.toOp vs effs (h.pinv.post hs).2 hc hI hpc hinp h.pinv.tbl hop.toOp
    have hv : ptalliedQ order p op = if p.inst.phase = .quality then (tallied p.inst op.toOp).toList else [] := by
      simp [ptalliedQ, hs]
    exact ⟨hpi, fun hst => absurd (hs.symm.trans hst) (by decide), fun _ => by rw [hv]; exact ⟨s1, s2, s3, s4⟩⟩
  · subst he
    obtain ⟨rfl, rfl⟩ := h.pre hs
    have hv : ptalliedQ order p (.recv now m) = [] := by simp [ptalliedQ, hs]
    exact ⟨hpi, fun _ => by rw [hv]; exact ⟨rfl, rfl⟩, fun hst => absurd (hs.symm.trans hst) (by decide)⟩
  · rw [(h.pinv.pre hs).1] at hf
    exact absurd ((start_nf cfg t input now hin hT).1.symm.trans hf) (by decide)
  · subst he
    obtain ⟨rfl, rfl⟩ := h.pre hs
    obtain ⟨hinit, hqu⟩ := h.pinv.pre hs
    rw [hinit] at hpi ⊢
    obtain ⟨h1, h2, h3⟩ : hasFailure ((init cfg t input).beginQuality now).2 = false ∧
        NFI ((init cfg t input).beginQuality now).1 ∧ DQ ((init cfg t input).beginQuality now).1 :=
      start_nf cfg t input now hin hT
    obtain ⟨c0, c1⟩ : CCI ((init cfg t input).beginQuality now).1 ∧
        PrepC ((init cfg t input).beginQuality now).1 ((init cfg t input).beginQuality now).2 := start_cci cfg t input now
    have hv : ptalliedQ order p (.alarm now) =
        drainVotes now ((init cfg t input).beginQuality now).1 (drainWith order p.queue) := by
      simp [ptalliedQ, hs, hinit, h1]
    have hph : ((init cfg t input).beginQuality now).1.phase = .quality := rfl
    have hI0 : QInv t input ((init cfg t input).beginQuality now).1 [] ((init cfg t input).beginQuality now).2 :=
      ⟨fun _ => ⟨rfl, fun r v tk hm => by simp [State.beginQuality, init, State.alarmAfter, State.resetReb] at hm⟩,
        fun hne => absurd hph hne⟩
    obtain ⟨d1, d2, d3, d4⟩ := receiveMany_cq now t input ((init cfg t input).beginQuality now).2
      ((init cfg t input).beginQuality now).1 (drainWith order p.queue) [] h2 h3
      (by rw [hph]; decide) rfl rfl c0 hI0 c1
      (fun m hm => hqu m (drainWith_mem order p.queue m hm)) (drainWith_sorted order p.queue)
    exact ⟨hpi, fun hst => (by cases hst), fun _ => by rw [hv]; exact ⟨d1, by simpa using d2, by simpa using d3, d4⟩⟩

theorem prun_cq (cfg : Cfg) (t : Table) (input : Chain) (hin : input ≠ []) (hT : 0 < t.total) (order : List Pid)
    (p : PState) (ops : List POp) (vs : List QVote) (effs : List Eff) (h : PCQ cfg t input p vs effs)
    (hops : ∀ op ∈ ops, POpP (PMsgOK WT t) op) :
    PCQ cfg t input (prun order p ops).1 (vs ++ pvotesQ order p ops) (effs ++ (prun order p ops).2) := by
  induction ops generalizing p vs effs with
  | nil => simpa [pvotesQ] using h
  | cons op ops ih =>
    have h1 := pstep_cq cfg t input hin hT order p op vs effs h (hops op List.mem_cons_self)
    have h2 := ih _ _ _ h1 (fun o ho => hops o (List.mem_cons_of_mem _ ho))
    rw [prun_cons]
    simpa [pvotesQ, List.append_assoc] using h2

theorem prun_pcq (cfg : Cfg) (t : Table) (input : Chain) (W : Votes) (order : List Pid) (ops : List POp)
    (hin : input ≠ []) (hT : 0 < t.total) (hvalid : ∀ op ∈ ops, POpP (PMsgOK W t) op) :
    PCQ cfg t input (prun order (pinit cfg t input) ops).1 (pvotesQ order (pinit cfg t input) ops)
      (prun order (pinit cfg t input) ops).2 := by
  have h0 : PCQ cfg t input (pinit cfg t input) [] [] :=
    ⟨PInv_pinit cfg t input, fun _ => ⟨rfl, rfl⟩, fun h => by simp [pinit] at h⟩
  have := prun_cq cfg t input hin hT order _ ops [] [] h0 (fun op hop => (hvalid op hop).mono (fun _ h => h.top))
  simpa using this

theorem PCQ.waiting {cfg : Cfg} {t : Table} {input : Chain} {p : PState} {vs : List QVote} {effs : List Eff}
    (h : PCQ cfg t input p vs effs) (hs : p.started = false) :
    p.inst = init cfg t input ∧ vs = [] ∧ effs = [] :=
  ⟨(h.pinv.pre hs).1, h.pre hs⟩

theorem PCQ.started_of_phase {cfg : Cfg} {t : Table} {input : Chain} {p : PState} {vs : List QVote} {effs : List Eff}
    (h : PCQ cfg t input p vs effs) (hph : p.inst.phase ≠ .initial) : p.started = true := by
  cases hs : p.started with
  | true => rfl
  | false =>
    rw [(h.waiting hs).1] at hph
    exact absurd rfl hph

theorem pvotesQ_append (order : List Pid) (p : PState) (a b : List POp) :
    pvotesQ order p (a ++ b) = pvotesQ order p a ++ pvotesQ order (prun order p a).1 b := by
  induction a generalizing p with
  | nil => simp [pvotesQ]
  | cons op a ih => simp only [List.cons_append, pvotesQ, ih, prun_cons, List.append_assoc]

theorem drainVotes_sound (now : Int) (st : State) (ms : List Msg) :
    ∀ v ∈ drainVotes now st ms, ∃ m ∈ ms, m.phase = .quality ∧ v = (m.sender, m.value) := by
  have htq : ∀ (st : State) (m : Msg), ∀ v ∈ talliedQ st m, m.phase = .quality ∧ v = (m.sender, m.value) := by
    intro st m v hv
    unfold talliedQ talliedL at hv
    split at hv
    · split at hv
      · rename_i hc
        simp only [List.mem_singleton] at hv
        exact ⟨hc.2, hv⟩
      · cases hv
    · cases hv
  induction ms generalizing st with
  | nil => intro v hv; simp [drainVotes] at hv
  | cons m ms ih =>
    intro v hv
    simp only [drainVotes] at hv
    split at hv
    · obtain ⟨m', hm', h⟩ := ih st v hv
      exact ⟨m', List.mem_cons_of_mem _ hm', h⟩
    · split at hv
      · exact ⟨m, List.mem_cons_self, htq st m v hv⟩
      · rcases List.mem_append.1 hv with hv | hv
        · exact ⟨m, List.mem_cons_self, htq st m v hv⟩
        · obtain ⟨m', hm', h⟩ := ih _ v hv
          exact ⟨m', List.mem_cons_of_mem _ hm', h⟩

theorem pstep_queue_mem (order : List Pid) (p : PState) (op : POp) (x : Msg)
    (h : x ∈ (pstepWith order p op).1.queue) : x ∈ p.queue ∨ ∃ now, op = .recv now x := by
  revert h
  refine pstepWith_ind order p op (fun _ => Or.inl) (fun now m he _ h => ?_) (fun _ _ _ _ h => by simp at h)
    fun _ _ _ _ h => by simp at h
  exact (queueAddL_mem _ _ _ x h).imp id fun (e : x = m) => ⟨now, e ▸ he⟩

/-- **Every counted vote is the vote of a QUALITY message that was queued or delivered** -/
theorem pvotesQ_sound (order : List Pid) (p : PState) (ops : List POp) :
    ∀ v ∈ pvotesQ order p ops, ∃ m, (m ∈ p.queue ∨ ∃ now, POp.recv now m ∈ ops) ∧ m.phase = .quality ∧
      v = (m.sender, m.value) := by
  induction ops generalizing p with
  | nil => intro v hv; simp [pvotesQ] at hv
  | cons op ops ih =>
    intro v hv
    simp only [pvotesQ, List.mem_append] at hv
    rcases hv with hv | hv
    · unfold ptalliedQ at hv
      split at hv
      · split at hv
        · cases op with
          | alarm now => simp [POp.toOp, tallied] at hv
          | recv now m =>
            rw [POp.toOp, tallied_toList] at hv
            unfold talliedL at hv
            split at hv
            · rename_i hc
              simp only [List.mem_singleton] at hv
              exact ⟨m, Or.inr ⟨now, List.mem_cons_self⟩, hc.2, hv⟩
            · cases hv
        · cases hv
      · cases op with
        | alarm now =>
          dsimp only at hv
          split at hv
          · cases hv
          · obtain ⟨m, hm, h⟩ := drainVotes_sound _ _ _ v hv
            exact ⟨m, Or.inl (drainWith_mem order p.queue m hm), h⟩
        | recv now m => cases hv
    · obtain ⟨m, hm, h⟩ := ih _ v hv
      refine ⟨m, ?_, h⟩
      rcases hm with hm | ⟨now, hm⟩
      · rcases pstep_queue_mem order p op m hm with hq | ⟨now, rfl⟩
        · exact Or.inl hq
        · exact Or.inr ⟨now, List.mem_cons_self⟩
      · exact Or.inr ⟨now, List.mem_cons_of_mem _ hm⟩

/-- the running instance does not return to QUALITY -/
theorem pstep_qphase (cfg : Cfg) (t : Table) (input : Chain) (order : List Pid) (p : PState) (op : POp)
    (vs : List QVote) (effs : List Eff) (h : PCQ cfg t input p vs effs) (hop : POpP (PMsgOK WT t) op)
    (hs : p.started = true) (hq : (pstepWith order p op).1.inst.phase = .quality) : p.inst.phase = .quality := by
  obtain ⟨hc, _, _, _⟩ := h.post hs
  obtain ⟨_, hdq⟩ := h.pinv.post hs
  rw [pstep_started_eq order p op hs] at hq
  exact (step_cstep_valid p.inst op.toOp hdq hop.toOp).qphase hc hq

/-- **Once QUALITY has ended nothing more is counted** -/
theorem pvotesQ_frozen (cfg : Cfg) (t : Table) (input : Chain) (hin : input ≠ []) (hT : 0 < t.total)
    (order : List Pid) (p : PState) (ops : List POp) (vs : List QVote) (effs : List Eff)
    (h : PCQ cfg t input p vs effs) (hops : ∀ op ∈ ops, POpP (PMsgOK WT t) op)
    (hs : p.started = true) (hnq : p.inst.phase ≠ .quality) : pvotesQ order p ops = [] := by
  induction ops generalizing p vs effs with
  | nil => rfl
  | cons op ops ih =>
    have hop := hops op List.mem_cons_self
    have h1 := pstep_cq cfg t input hin hT order p op vs effs h hop
    have hs1 : (pstepWith order p op).1.started = true := by
      rw [pstep_started_eq order p op hs]; exact hs
    have hnq1 : (pstepWith order p op).1.inst.phase ≠ .quality :=
      fun hq => hnq (pstep_qphase cfg t input order p op vs effs h hop hs hq)
    have h0 : ptalliedQ order p op = [] := by simp [ptalliedQ, hs, hnq]
    simp only [pvotesQ, h0, List.nil_append]
    exact ih _ _ _ h1 (fun o ho => hops o (List.mem_cons_of_mem _ ho)) hs1 hnq1

/-- … in a run from the fresh participant: whatever follows a point at which the instance has begun and is no longer
in QUALITY adds no vote -/
theorem pvotesQ_after_quality (cfg : Cfg) (t : Table) (input : Chain) (W : Votes) (order : List Pid)
    (ops1 ops2 : List POp) (hin : input ≠ []) (hT : 0 < t.total)
    (hvalid : ∀ op ∈ ops1 ++ ops2, POpP (PMsgOK W t) op)
    (hs : (prun order (pinit cfg t input) ops1).1.started = true)
    (hnq : (prun order (pinit cfg t input) ops1).1.inst.phase ≠ .quality) :
    pvotesQ order (pinit cfg t input) (ops1 ++ ops2) = pvotesQ order (pinit cfg t input) ops1 := by
  have h := prun_pcq cfg t input W order ops1 hin hT (fun op hop => hvalid op (List.mem_append_left _ hop))
  rw [pvotesQ_append, pvotesQ_frozen cfg t input hin hT order _ ops2 _ _ h
    (fun op hop => (hvalid op (List.mem_append_right _ hop)).mono (fun _ h => h.top)) hs hnq, List.append_nil]

theorem pvotesQ_unstarted (order : List Pid) (p : PState) (pre : List POp) (hs : p.started = false)
    (hr : ∀ op ∈ pre, op.isRecv = true) : pvotesQ order p pre = [] := by
  induction pre generalizing p with
  | nil => rfl
  | cons op pre ih =>
    cases op with
    | alarm now => exact absurd (hr _ List.mem_cons_self) (by simp [POp.isRecv])
    | recv now m =>
      have h0 : ptalliedQ order p (.recv now m) = [] := by simp [ptalliedQ, hs]
      simp only [pvotesQ, h0, List.nil_append, pstep_queued order p now m hs]
      exact ih _ ((queueAdd_inst p m).2.trans hs) (fun o ho => hr o (List.mem_cons_of_mem _ ho))

theorem mem_prun_split (order : List Pid) (p : PState) (ops : List POp) (e : Eff) (h : e ∈ (prun order p ops).2) :
    ∃ ops1 op ops2, ops = ops1 ++ op :: ops2 ∧ e ∈ (pstepWith order (prun order p ops1).1 op).2 := by
  induction ops generalizing p with
  | nil => simp at h
  | cons op ops ih =>
    rw [prun_cons] at h
    rcases List.mem_append.1 h with h | h
    · exact ⟨[], op, ops, rfl, by simpa using h⟩
    · obtain ⟨o1, o, o2, he, hm⟩ := ih _ h
      refine ⟨op :: o1, o, o2, by rw [he]; rfl, ?_⟩
      rw [prun_cons]; exact hm

/-- a justification-free PREPARE is broadcast only by the beginning alarm or by a call that finds the instance in
QUALITY -/
theorem pstep_prep0_origin (cfg : Cfg) (t : Table) (input : Chain) (order : List Pid) (p : PState) (op : POp)
    (vs : List QVote) (effs : List Eff) (h : PCQ cfg t input p vs effs) (hop : POpP (PMsgOK WT t) op)
    (r : Nat) (v : Chain) (tk : Bool) (hm : Eff.broadcast r .prepare v tk none ∈ (pstepWith order p op).2) :
    p.started = false ∨ p.inst.phase = .quality := by
  cases hs : p.started with
  | false => exact Or.inl rfl
  | true =>
    right
    obtain ⟨hc, _, _, _⟩ := h.post hs
    obtain ⟨_, hdq⟩ := h.pinv.post hs
    rw [pstep_started_eq order p op hs] at hm
    exact ((step_cstep_valid p.inst op.toOp hdq hop.toOp).prep hc r v tk hm).1

end F3.EmittedValid
