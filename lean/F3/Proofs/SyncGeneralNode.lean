import F3.Proofs.SyncGeneralVotes
import F3.Proofs.SyncNode
/-!
# One honest node in a synchronous, failure-free run with arbitrary inputs

Generalisation of `SyncNode.lean`: node `p` holds input `inp p`; it PREPAREs `propOf p` (the longest quorum-supported
prefix of its own input), COMMITs `cvOf p` (the longest quorum prefix `P*` if that is what it proposed, bottom
otherwise) and DECIDEs `P*`. `GInv`: phase-independent shape of the state; `GPI`: "had the node been able to leave
its phase it would have"; `GGood`: what every API call of the model guarantees.
-/
namespace F3.SyncGeneral
open F3.Instance F3.Net F3.Sync

section Defs
variable (t : Table) (H : List Pid) (inp : Pid → Chain)

/-- wire messages of the run: QUALITY(input), PREPARE(`propOf`), COMMIT(`cvOf`, justified by PREPAREs for `P*`
unless bottom), DECIDE(`P*`, justified by COMMITs for `P*`), all of round 0 -/
def GShape (m : Msg) : Prop :=
  m.round = 0 ∧ m.suppOk = true ∧ m.instOk = true ∧
  match m.phase with
  | .quality => m.value = inp m.sender ∧ m.just = none
  | .prepare => m.value = propOf t H inp m.sender ∧ m.just = none
  | .commit => m.value = cvOf t H inp m.sender ∧
      (m.value ≠ [] → ∃ j, m.just = some j ∧ JustFor (longestQuorumPrefix t H inp) .prepare j)
  | .decide => m.value = longestQuorumPrefix t H inp ∧
      ∃ j, m.just = some j ∧ JustFor (longestQuorumPrefix t H inp) .commit j
  | _ => False

/-- what a single API call does to the phase, and what it puts on the wire -/
inductive GTrans (p : Pid) : Phase → Phase → List Msg → Prop
  | same (a : Phase) : GTrans p a a []
  | start : GTrans p .initial .quality [mkMsg p .quality (inp p) none]
  | q2p : GTrans p .quality .prepare [mkMsg p .prepare (propOf t H inp p) none]
  | p2c (j : Option Just)
      (hj : cvOf t H inp p ≠ [] → ∃ j', j = some j' ∧ JustFor (longestQuorumPrefix t H inp) .prepare j') :
      GTrans p .prepare .commit [mkMsg p .commit (cvOf t H inp p) j]
  | x2d (a b : Phase) (ha : a = .quality ∨ a = .prepare ∨ a = .commit) (hb : b = .decide ∨ b = .terminated)
      (j : Just) (hj : JustFor (longestQuorumPrefix t H inp) .commit j) :
      GTrans p a b [mkMsg p .decide (longestQuorumPrefix t H inp) (some j)]
  | d2t : GTrans p .decide .terminated []

/-- phase-independent shape of the state of node `p` -/
structure GInv (p : Pid) (s : State) : Prop where
  tbl : s.tbl = t
  input : s.input = inp p
  round : s.round = 0
  rounds : s.rounds = [(0, s.getRound 0)]
  propQ : s.phase = .initial ∨ s.phase = .quality → s.proposal = inp p
  propP : s.phase = .prepare ∨ s.phase = .commit → s.proposal = propOf t H inp p
  qt : QG t inp H s.quality
  prep : GT t (propOf t H inp) H (s.getRound 0).prepared
  comm : GT t (cvOf t H inp) H (s.getRound 0).committed
  cjust : ∀ e ∈ (s.getRound 0).committed.justs,
    e.1 = longestQuorumPrefix t H inp ∧ JustFor (longestQuorumPrefix t H inp) .prepare e.2
  dec : GT t (fun _ => longestQuorumPrefix t H inp) H s.decision
  term : ∀ d, s.termination = some d → d.value = longestQuorumPrefix t H inp

/-- in QUALITY: no quorum for the own input yet -/
def B1 (p : Pid) (s : State) : Prop := s.quality.hasStrongFor (inp p) = false
/-- in PREPARE with the own PREPARE tallied: neither a quorum for the proposal nor its impossibility -/
def B2 (p : Pid) (s : State) : Prop :=
  p ∈ (s.getRound 0).prepared.senders →
    (s.getRound 0).prepared.hasStrongFor (propOf t H inp p) = false ∧
    (s.getRound 0).prepared.couldReach t (propOf t H inp p) false = true

def GPI (p : Pid) (s : State) : Phase → Prop
  | .initial => B1 inp p s ∧ A2 p s ∧ A3 (longestQuorumPrefix t H inp) s ∧ A4 s
  | .quality => B1 inp p s ∧ A2 p s ∧ A3 (longestQuorumPrefix t H inp) s ∧ A4 s
  | .prepare => B2 t H inp p s ∧ A3 (longestQuorumPrefix t H inp) s ∧ A4 s
  | .commit => A3 (longestQuorumPrefix t H inp) s ∧ A4 s
  | .decide => A5 (longestQuorumPrefix t H inp) s
  | .terminated => ∃ d, s.termination = some d
  | .converge => False

/-- what one call of a model function guarantees -/
structure GGood (p : Pid) (s : State) (r : R) : Prop where
  nofail : hasFailure r.2 = false
  inv : GInv t H inp p r.1
  pi : GPI t H inp p r.1 r.1.phase
  mono : ∀ ph x, x ∈ sendersOf s ph → x ∈ sendersOf r.1 ph
  trans : GTrans t H inp p s.phase r.1.phase (sent p r.2)

end Defs

section
variable {t : Table} {H : List Pid} {inp : Pid → Chain} {b : Nat}

local notation "PS" => longestQuorumPrefix t H inp

theorem GInv.core {p : Pid} {s s' : State} (h : GInv t H inp p s) (hc : Core s s')
    (hq : s'.phase = .initial ∨ s'.phase = .quality → s'.proposal = inp p)
    (hp : s'.phase = .prepare ∨ s'.phase = .commit → s'.proposal = propOf t H inp p) : GInv t H inp p s' := by
  obtain ⟨h1, h2, h3, h4, h5, h6, h7⟩ := hc.fields
  have hg := hc.getRound 0
  exact ⟨h1 ▸ h.tbl, h2 ▸ h.input, h3 ▸ h.round, by rw [h4, hg]; exact h.rounds, hq, hp, h5 ▸ h.qt, hg ▸ h.prep,
    hg ▸ h.comm, hg ▸ h.cjust, h6 ▸ h.dec, h7 ▸ h.term⟩

theorem GInv.getRound1 {p : Pid} {s : State} (h : GInv t H inp p s) : s.getRound 1 = {} := by
  unfold State.getRound
  rw [h.rounds]
  rfl

theorem GPI.core {p : Pid} {s s' : State} {ph : Phase} (h : GPI t H inp p s ph) (hc : Core s s') :
    GPI t H inp p s' ph := by
  obtain ⟨_, _, _, _, hq, hd, ht⟩ := hc.fields
  have hg := hc.getRound 0
  cases ph <;> simp only [GPI, B1, B2, A2, A3, A4, A5, hg, hq, hd, ht] at h ⊢ <;> exact h

theorem GPI.not_converge {p : Pid} {s : State} (h : GPI t H inp p s s.phase) : s.phase ≠ .converge := by
  intro hc
  rw [hc] at h
  exact h

theorem GGood.of_core {p : Pid} {s s' : State} {es : List Eff} (hs : GInv t H inp p s) (hc : Core s s')
    (hq : s'.phase = .initial ∨ s'.phase = .quality → s'.proposal = inp p)
    (hp : s'.phase = .prepare ∨ s'.phase = .commit → s'.proposal = propOf t H inp p)
    (hpi : GPI t H inp p s s'.phase) (hnf : hasFailure es = false)
    (htr : GTrans t H inp p s.phase s'.phase (sent p es)) : GGood t H inp p s (s', es) :=
  ⟨hnf, hs.core hc hq hp, hpi.core hc, fun ph x hx => by rw [sendersOf_core hc]; exact hx, htr⟩

theorem GGood.pre {p : Pid} {s s1 : State} {r : R} (hph : s.phase = s1.phase)
    (hm : ∀ ph x, x ∈ sendersOf s ph → x ∈ sendersOf s1 ph) (g : GGood t H inp p s1 r) : GGood t H inp p s r :=
  ⟨g.nofail, g.inv, g.pi, fun ph x hx => g.mono ph x (hm ph x hx), hph ▸ g.trans⟩

theorem GGood.stay {p : Pid} {s : State} (hs : GInv t H inp p s) (hpi : GPI t H inp p s s.phase) :
    GGood t H inp p s (s, []) :=
  GGood.of_core hs (Core.refl s) hs.propQ hs.propP hpi rfl (GTrans.same _)

theorem GGood.reb {p : Pid} {s : State} (now : Int) (hs : GInv t H inp p s) (hpi : GPI t H inp p s s.phase) :
    GGood t H inp p s (s.tryRebroadcast now) := by
  have hph := tryRebroadcast_phase s now
  have hpr := tryRebroadcast_proposal s now
  refine GGood.of_core (s' := (s.tryRebroadcast now).1) (es := (s.tryRebroadcast now).2) hs
    (tryRebroadcast_core s now) (by rw [hph, hpr]; exact hs.propQ) (by rw [hph, hpr]; exact hs.propP)
    (by rw [hph]; exact hpi) (tryRebroadcast_nofail s now) ?_
  rw [sent_of_evs_nil p _ (tryRebroadcast_evs s now), hph]
  exact GTrans.same _

theorem tryQuality_ggood (g : GCtx t H inp b) {p : Pid} (hpH : p ∈ H) {s : State} (now : Int) (hs : GInv t H inp p s)
    (hph : s.phase = .quality) (h2 : A2 p s) (h3 : A3 PS s) (h4 : A4 s)
    (hsync : s.phaseTimeoutElapsed now = true → ∀ h ∈ H, h ∈ s.quality.senders) :
    GGood t H inp p s (s.tryQuality now) := by
  have hprop := hs.propQ (Or.inr hph)
  refine tryQuality_ind s now (fun h => absurd hph h) (fun _ hcond => ?_) (fun _ hcond cs _ => ?_)
  · have hnf := (Bool.or_eq_false_iff.1 hcond).1
    rw [hprop] at hnf
    exact GGood.stay hs (by rw [hph]; exact ⟨hnf, h2, h3, h4⟩)
  · have hl : s.quality.longestPrefixWithQuorum s.input = propOf t H inp p := by
      rw [hs.input]
      rw [hprop, Bool.or_eq_true] at hcond
      rcases hcond with hf | he
      · exact hs.qt.lpq_found g hpH hf
      · exact hs.qt.lpq_all g hpH (hsync he)
    rw [hl]
    refine GGood.of_core hs (by core_rfl) (fun h => by rcases h with h | h <;> cases h) (fun _ => rfl) ?_ rfl ?_
    · exact ⟨fun hp => absurd hp h2, h3, h4⟩
    · show GTrans t H inp p s.phase .prepare (sent p [_, _, Eff.broadcast s.round .prepare (propOf t H inp p) false none])
      rw [hph, hs.round]
      exact GTrans.q2p

theorem getJustOf_mem (T : Tally) (ph : Phase) (k : Chain) (j : Just) (hk : k ≠ []) (h : T.getJustOf ph k = some j) :
    (k, j) ∈ T.justs := by
  unfold Tally.getJustOf at h
  rw [if_neg (by simp [isEmpty_false_of_ne hk])] at h
  split at h
  · rename_i e he
    split at h
    · cases h
      have h1 := List.mem_of_find?_eq_some he
      have h2 := List.find?_some he
      simp only [beq_iff_eq] at h2
      rw [← h2]
      exact h1
    · cases h
  · cases h

theorem prepFoundJust_eq {p : Pid} {s : State} (hs : GInv t H inp p s) :
    s.prepFoundJust = ((s.getRound 0).committed.getJustOf .prepare s.proposal).isSome := by
  unfold State.prepFoundJust
  rw [hs.round]
  simp only [Nat.zero_add, hs.getRound1]
  rw [getJustOf_empty, conv_getJustOf_empty]
  simp

theorem prepareValue_bottom (s : State) (now : Int) (h1 : (s.prepFoundQuorum || s.prepFoundJust) = false)
    (h2 : (s.prepNotPossible || s.prepComplete now) = true) : s.prepareValue now = { s with value := [] } := by
  unfold State.prepareValue
  rw [if_neg (by simp [h1]), if_pos h2]

theorem beginCommit_bottom (s : State) (now : Int) (hv : s.value = []) :
    s.beginCommit now =
      ({ s with phase := .commit, phaseTimeout := now + s.roundTimeout, rebAttempts := 0, rebTimeout := none },
       [.progress s.round .commit, .setAlarm (now + s.roundTimeout), .broadcast s.round .commit [] false none]) := by
  unfold State.beginCommit State.alarmAfter State.resetReb
  dsimp only
  rw [if_pos (by simp [hv]), hv]
  rfl

theorem commitJust_gok (g : GCtx t H inp b) {p : Pid} {s : State} (hs : GInv t H inp p s) (hprop : s.proposal = PS)
    (hv : s.value = PS) (h : (s.prepFoundQuorum || s.prepFoundJust) = true) :
    ∃ j, s.commitJust = .ok j ∧ JustFor PS .prepare j := by
  obtain ⟨j, hj, hk⟩ := commitJust_led hs.round hs.getRound1 hprop hv
    (fun hq => by rw [hs.tbl]; exact hs.prep.fsqf g.inTbl _ hq) h
  refine ⟨j, hj, ?_⟩
  rcases hk with ⟨sg, rfl⟩ | hk
  · exact ⟨rfl, rfl, rfl⟩
  · exact (hs.cjust _ (getJustOf_mem _ _ _ j g.longestQuorumPrefix_ne hk)).2

theorem tryPrepare_ggood (g : GCtx t H inp b) {p : Pid} (hpH : p ∈ H) {s : State} (now : Int) (hs : GInv t H inp p s)
    (hph : s.phase = .prepare) (h3 : A3 PS s) (h4 : A4 s)
    (hsync : s.phaseTimeoutElapsed now = true → ∀ h ∈ H, h ∈ (s.getRound 0).prepared.senders) :
    GGood t H inp p s (s.tryPrepare now) := by
  have hprop := hs.propP (Or.inl hph)
  have hfq : s.prepFoundQuorum = (s.getRound 0).prepared.hasStrongFor (propOf t H inp p) := by
    unfold State.prepFoundQuorum; rw [hs.round, hprop]
  have hfj : s.prepFoundJust = ((s.getRound 0).committed.getJustOf .prepare (propOf t H inp p)).isSome := by
    rw [prepFoundJust_eq hs, hprop]
  have hnpe : s.prepNotPossible = !(s.getRound 0).prepared.couldReach t (propOf t H inp p) false := by
    unfold State.prepNotPossible; rw [hs.round, hs.tbl, hprop]
  by_cases hv : propOf t H inp p = PS
  · -- a proposer of the longest quorum prefix
    have hcv : cvOf t H inp p = PS := by unfold cvOf; rw [if_pos hv]
    have hnp : s.prepNotPossible = false := by
      rw [hnpe, hv, hs.prep.couldReach_major g maj_propOf]; rfl
    by_cases hfound : (s.prepFoundQuorum || s.prepFoundJust) = true
    · have hcond : (s.prepFoundQuorum || s.prepFoundJust || s.prepNotPossible || s.prepComplete now) = true := by
        rw [hfound]; rfl
      rw [tryPrepare_go s now hph hcond, prepareValue_found s now hfound]
      have hs' : GInv t H inp p ({ s with value := s.proposal } : State) := hs.core (by core_rfl) hs.propQ hs.propP
      obtain ⟨j, hj, hjf⟩ := commitJust_gok g hs' (hprop.trans hv) (hprop.trans hv) hfound
      rw [beginCommit_eq _ now j (by show s.proposal.isEmpty = false; rw [hprop, hv]; exact isEmpty_false_of_ne g.longestQuorumPrefix_ne) hj]
      refine GGood.of_core hs (by core_rfl) (fun h => by rcases h with h | h <;> cases h) (fun _ => hprop) ⟨h3, h4⟩ rfl ?_
      show GTrans t H inp p s.phase .commit (sent p [_, _, Eff.broadcast s.round .commit s.proposal false (some j)])
      rw [hph, hs.round, hprop, hv, ← hcv]
      exact GTrans.p2c (some j) (fun _ => ⟨j, rfl, hjf⟩)
    · have hfound' : (s.prepFoundQuorum || s.prepFoundJust) = false := by simpa using hfound
      have hnq : (s.getRound 0).prepared.hasStrongFor (propOf t H inp p) = false := by
        rw [← hfq]
        cases hx : s.prepFoundQuorum
        · rfl
        · rw [hx] at hfound'; simp at hfound'
      have hpc : s.prepComplete now = false := by
        cases hx : s.prepComplete now
        · rfl
        · exfalso
          unfold State.prepComplete at hx
          simp only [Bool.and_eq_true] at hx
          have := hs.prep.strong_of_all g maj_propOf (hsync hx.1)
          rw [← hv, hnq] at this; cases this
      have hcond : (s.prepFoundQuorum || s.prepFoundJust || s.prepNotPossible || s.prepComplete now) = false := by
        rw [hfound', hnp, hpc]; rfl
      rw [tryPrepare_stay s now hph hcond]
      have hpi : GPI t H inp p s s.phase := by
        rw [hph]
        refine ⟨fun _ => ⟨hnq, ?_⟩, h3, h4⟩
        rw [hv]; exact hs.prep.couldReach_major g maj_propOf
      split
      · exact GGood.reb now hs hpi
      · exact GGood.stay hs hpi
  · -- a proposer of a shorter prefix: no quorum, no justification
    have hcv : cvOf t H inp p = [] := by unfold cvOf; rw [if_neg hv]
    have hnq : s.prepFoundQuorum = false := by
      rw [hfq]; exact hs.prep.other_not_strong g maj_propOf _ hv
    have hnj : s.prepFoundJust = false := by
      rw [hfj]
      cases hg : (s.getRound 0).committed.getJustOf .prepare (propOf t H inp p) with
      | none => rfl
      | some j =>
        exfalso
        have := (hs.cjust _ (getJustOf_mem _ _ _ j (g.propOf_ne hpH) hg)).1
        exact hv this
    have hfound' : (s.prepFoundQuorum || s.prepFoundJust) = false := by rw [hnq, hnj]; rfl
    by_cases hexit : (s.prepNotPossible || s.prepComplete now) = true
    · have hcond : (s.prepFoundQuorum || s.prepFoundJust || s.prepNotPossible || s.prepComplete now) = true := by
        rw [hnq, hnj]; simpa using hexit
      rw [tryPrepare_go s now hph hcond, prepareValue_bottom s now hfound' hexit, beginCommit_bottom _ now rfl]
      refine GGood.of_core hs (by core_rfl) (fun h => by rcases h with h | h <;> cases h) (fun _ => hprop) ⟨h3, h4⟩ rfl ?_
      show GTrans t H inp p s.phase .commit (sent p [_, _, Eff.broadcast s.round .commit [] false none])
      rw [hph, hs.round, ← hcv]
      exact GTrans.p2c none (fun hne => absurd hcv hne)
    · have hexit' : (s.prepNotPossible || s.prepComplete now) = false := by simpa using hexit
      have hcond : (s.prepFoundQuorum || s.prepFoundJust || s.prepNotPossible || s.prepComplete now) = false := by
        rw [hnq, hnj]; simpa using hexit'
      rw [tryPrepare_stay s now hph hcond]
      have hcr : (s.getRound 0).prepared.couldReach t (propOf t H inp p) false = true := by
        have : s.prepNotPossible = false := by
          cases hx : s.prepNotPossible
          · rfl
          · rw [hx] at hexit'; simp at hexit'
        rw [hnpe] at this
        simpa using this
      have hpi : GPI t H inp p s s.phase := by
        rw [hph]
        exact ⟨fun _ => ⟨by rw [← hfq]; exact hnq, hcr⟩, h3, h4⟩
      split
      · exact GGood.reb now hs hpi
      · exact GGood.stay hs hpi

theorem A5_of_A4' {p : Pid} {s : State} (hs : GInv t H inp p s) (h4 : A4 s) : A5 PS s := by
  unfold A5
  rw [hs.dec.hasStrongFor]
  unfold A4 at h4
  simp [h4, vfilter]

theorem GT.led {f : Pid → Chain} {T : Tally} (h : GT t f H T) (g : GCtx t H inp b) (hm : Maj t H inp f) : LedTally t PS T :=
  ⟨h.fsqv PS (fun k hk => h.other_not_strong g hm k hk), h.fsqf g.inTbl _⟩

theorem GInv.led {p : Pid} {s : State} (hs : GInv t H inp p s) (g : GCtx t H inp b) : Led PS 0 s :=
  ⟨g.longestQuorumPrefix_ne, hs.round, hs.getRound1, by rw [hs.tbl]; exact GT.led hs.comm g maj_cvOf,
    by rw [hs.tbl]; exact GT.led hs.dec g maj_const⟩

/-- `tryCommit` for round 0, from QUALITY, PREPARE or COMMIT; `hpi`: the rest of the phase invariant -/
theorem tryCommit_ggood (g : GCtx t H inp b) {p : Pid} {s : State} (now : Int) (hs : GInv t H inp p s)
    (hph : s.phase = .quality ∨ s.phase = .prepare ∨ s.phase = .commit) (h4 : A4 s)
    (hpi : A3 PS s → GPI t H inp p s s.phase)
    (hsync : s.phase = .commit → s.phaseTimeoutElapsed now = true → ∀ h ∈ H, h ∈ (s.getRound 0).committed.senders) :
    GGood t H inp p s (s.tryCommit now 0) ∧
      ((s.tryCommit now 0 = (s, []) ∧ A3 PS s) ∨ s.phase = .commit ∨ (s.tryCommit now 0).1.phase = .decide) :=
  tryCommit_led (P := fun r => GGood t H inp p s r ∧ ((r = (s, []) ∧ A3 PS s) ∨ s.phase = .commit ∨ r.1.phase = .decide))
    (GInv.led hs g) now (fun hc hx _ => hs.comm.strong_of_all g maj_cvOf (hsync hc hx))
    (fun _ _ => ⟨GGood.of_core hs (by core_rfl) (fun h => by rcases h with h | h <;> cases h)
      (fun h => by rcases h with h | h <;> cases h) (A5_of_A4' hs h4) rfl
      (GTrans.x2d _ _ hph (Or.inl rfl) _ ⟨rfl, rfl, rfl⟩), Or.inr (Or.inr rfl)⟩)
    (fun hq => ⟨GGood.stay hs (hpi hq), Or.inl ⟨rfl, hq⟩⟩)
    (fun hq hc => ⟨GGood.reb now hs (hpi hq), Or.inr (Or.inl hc)⟩)

theorem tryDecide_ggood (g : GCtx t H inp b) {p : Pid} {s : State} (now : Int) (hs : GInv t H inp p s)
    (hph : s.phase = .decide) : GGood t H inp p s (s.tryDecide now) := by
  refine tryDecide_led (GInv.led hs g) now (fun sg _ => ?_) (fun hq => GGood.reb now hs (by rw [hph]; exact hq))
  refine ⟨rfl, ⟨hs.tbl, hs.input, hs.round, hs.rounds, (fun h => by rcases h with h | h <;> cases h),
    (fun h => by rcases h with h | h <;> cases h), hs.qt, hs.prep, hs.comm, hs.cjust, hs.dec, ?_⟩, ⟨_, rfl⟩,
    fun _ _ hx => hx, ?_⟩
  · intro d hd
    cases hd
    rfl
  · show GTrans t H inp p s.phase .terminated []
    rw [hph]; exact GTrans.d2t

theorem GPI.weak {p : Pid} {s : State} {ph : Phase} (h : GPI t H inp p s ph) (hi : ph ≠ .initial) : WPI PS p s ph := by
  cases ph
  · exact absurd rfl hi
  · exact h.2
  · exact h
  · exact h.2
  · exact h.2
  · trivial
  · exact h

theorem tryCurrentPhase_ggood (g : GCtx t H inp b) {p : Pid} (hpH : p ∈ H) {s : State} (now : Int)
    (hs : GInv t H inp p s) (hw : WPI PS p s s.phase) (hsync : Synced H s now) :
    GGood t H inp p s (s.tryCurrentPhase now) := by
  unfold Synced at hsync
  unfold State.tryCurrentPhase
  cases hph : s.phase <;> rw [hph] at hw hsync <;> dsimp only
  · exact hw.elim
  · exact tryQuality_ggood g hpH now hs hph hw.1 hw.2.1 hw.2.2 (hsync rfl)
  · exact hw.elim
  · exact tryPrepare_ggood g hpH now hs hph hw.1 hw.2 (hsync rfl)
  · rw [hs.round]
    exact (tryCommit_ggood g now hs (Or.inr (Or.inr hph)) hw (fun h3 => by rw [hph]; exact ⟨h3, hw⟩)
      (fun _ => hsync rfl)).1
  · exact tryDecide_ggood g now hs hph
  · exact GGood.stay hs (by rw [hph]; exact hw)

theorem GInv.setRound {p : Pid} {s : State} (hs : GInv t H inp p s) (rs' : RoundState)
    (hp : GT t (propOf t H inp) H rs'.prepared) (hc : GT t (cvOf t H inp) H rs'.committed)
    (hj : ∀ e ∈ rs'.committed.justs, e.1 = PS ∧ JustFor PS .prepare e.2) :
    GInv t H inp p (s.setRound 0 rs') ∧ (s.setRound 0 rs').getRound 0 = rs' := by
  have hr : (s.setRound 0 rs').rounds = [(0, rs')] := by
    unfold State.setRound
    dsimp only
    rw [hs.rounds]
    rfl
  have hg : (s.setRound 0 rs').getRound 0 = rs' := by
    unfold State.getRound
    rw [hr]
    rfl
  refine ⟨⟨hs.tbl, hs.input, hs.round, by rw [hr, hg], hs.propQ, hs.propP, hs.qt, ?_, ?_, ?_, hs.dec, hs.term⟩, hg⟩
  · rw [hg]; exact hp
  · rw [hg]; exact hc
  · rw [hg]; exact hj

theorem g_after_tally (g : GCtx t H inp b) {p : Pid} (hpH : p ∈ H) {s s1 : State} (now : Int) (m : Msg)
    (hs1 : GInv t H inp p s1) (hph : s1.phase = s.phase) (hto : s1.phaseTimeout = s.phaseTimeout)
    (hmono : ∀ ph x, x ∈ sendersOf s ph → x ∈ sendersOf s1 ph) (hx : m.sender ∈ sendersOf s1 m.phase)
    (hw : WPI PS p s1 s1.phase) (hsync : SyncedM H s now m) :
    GGood t H inp p s (s1.tryCurrentPhase now) ∧ m.sender ∈ sendersOf (s1.tryCurrentPhase now).1 m.phase := by
  have hsy : Synced H s1 now := by
    intro htp hel h hh
    rw [hph] at htp ⊢
    have hel' : s.phaseTimeoutElapsed now = true := by
      unfold State.phaseTimeoutElapsed at hel ⊢
      rw [← hto]; exact hel
    rcases hsync htp hel' h hh with h1 | ⟨h1, h2⟩
    · exact hmono _ _ h1
    · rw [← h1, ← h2]; exact hx
  have gg := tryCurrentPhase_ggood g hpH now hs1 hw hsy
  exact ⟨GGood.pre hph.symm hmono gg, gg.mono _ _ hx⟩

theorem gshape_just {m : Msg} (hm : GShape t H inp m) :
    (m.phase = .quality → m.value = inp m.sender ∧ m.just = none) ∧
    (m.phase = .prepare → m.value = propOf t H inp m.sender ∧ m.just = none) ∧
    (m.phase = .commit → m.value = cvOf t H inp m.sender ∧ (m.value ≠ [] → ∃ j, m.just = some j ∧ JustFor PS .prepare j)) ∧
    (m.phase = .decide → m.value = PS ∧ ∃ j, m.just = some j ∧ JustFor PS .commit j) := by
  have h := hm.2.2.2
  refine ⟨?_, ?_, ?_, ?_⟩ <;> intro hp <;> rw [hp] at h <;> exact h

theorem GShape.phases {m : Msg} (hm : GShape t H inp m) :
    m.phase = .quality ∨ m.phase = .prepare ∨ m.phase = .commit ∨ m.phase = .decide := by
  have h := hm.2.2.2
  cases hp : m.phase <;> rw [hp] at h <;> simp_all

theorem recvQuality_ggood (g : GCtx t H inp b) {p : Pid} (hpH : p ∈ H) {s : State} (now : Int) (m : Msg)
    (hs : GInv t H inp p s) (hpi : GPI t H inp p s s.phase) (hni : s.phase ≠ .initial) (hm : GShape t H inp m)
    (hmH : m.sender ∈ H) (hmp : m.phase = .quality) (hsync : SyncedM H s now m) :
    GGood t H inp p s (s.recvQuality now m) ∧ m.sender ∈ sendersOf (s.recvQuality now m).1 m.phase := by
  obtain ⟨hq', hxin, hsub⟩ := hs.qt.receive m.sender hmH
  have e1 : s.quality.receiveEachPrefix s.tbl m.sender m.value = s.quality.receiveEachPrefix t m.sender (inp m.sender) := by
    rw [hs.tbl, ((gshape_just hm).1 hmp).1]
  unfold State.recvQuality
  dsimp only
  rw [e1]
  generalize s.quality.receiveEachPrefix t m.sender (inp m.sender) = Q' at *
  have hs1 : GInv t H inp p ({ s with quality := Q' } : State) :=
    ⟨hs.tbl, hs.input, hs.round, hs.rounds, hs.propQ, hs.propP, hq', hs.prep, hs.comm, hs.cjust, hs.dec, hs.term⟩
  have hmono : ∀ ph x, x ∈ sendersOf s ph → x ∈ sendersOf ({ s with quality := Q' } : State) ph := by
    intro ph x hx
    cases ph
    case quality => exact hsub x hx
    all_goals exact hx
  have hx1 : m.sender ∈ sendersOf ({ s with quality := Q' } : State) m.phase := by
    rw [hmp]; exact hxin
  by_cases hph : s.phase = .quality
  · rw [if_neg (by simp [hph])]
    refine g_after_tally g hpH now m hs1 rfl rfl hmono hx1 ?_ hsync
    show WPI PS p _ s.phase
    rw [hph] at hpi ⊢
    exact hpi.2
  · rw [if_pos (by simp [hph])]
    unfold State.updateCandidatesFromQuality
    obtain ⟨cs, hcs⟩ := addCandidatePrefixes_fst ({ s with quality := Q' } : State) (Q'.longestPrefixWithQuorum s.input)
    dsimp only at hcs ⊢
    rw [hcs]
    have hpi1 : GPI t H inp p ({ s with quality := Q' } : State) s.phase := by
      cases hp : s.phase <;> rw [hp] at hpi
      · exact absurd hp hni
      · exact absurd hp hph
      all_goals exact hpi
    have gg : GGood t H inp p ({ s with quality := Q' } : State) ({ s with quality := Q', candidates := cs }, []) :=
      GGood.of_core hs1 (by core_rfl) hs.propQ hs.propP hpi1 rfl (GTrans.same _)
    exact ⟨GGood.pre (s1 := ({ s with quality := Q' } : State)) rfl hmono gg, gg.mono _ _ hx1⟩

theorem recvPrepare_ggood (g : GCtx t H inp b) {p : Pid} (hpH : p ∈ H) {s : State} (now : Int) (m : Msg)
    (hs : GInv t H inp p s) (hpi : GPI t H inp p s s.phase) (hni : s.phase ≠ .initial) (hm : GShape t H inp m)
    (hmH : m.sender ∈ H) (hmp : m.phase = .prepare) (hself : m.sender = p → s.phase ≠ .quality)
    (hsync : SyncedM H s now m) :
    GGood t H inp p s (s.recvPrepare now m) ∧ m.sender ∈ sendersOf (s.recvPrepare now m).1 m.phase := by
  obtain ⟨P', hrecv, hP', hxin, hsub, hsup, _⟩ := hs.prep.receive m.sender hmH
  obtain ⟨hval, hjn⟩ := (gshape_just hm).2.1 hmp
  have e1 : (s.getRound 0).prepared.receive s.tbl m.sender m.value = some P' := by
    rw [hs.tbl, hval]; exact hrecv
  unfold State.recvPrepare
  dsimp only
  rw [hm.1, e1]
  dsimp only
  unfold storePrepareJust
  rw [hjn]
  dsimp only
  obtain ⟨hs1, hg1⟩ := hs.setRound { s.getRound 0 with prepared := P' } hP' hs.comm hs.cjust
  refine g_after_tally g hpH now m hs1 rfl rfl ?_ ?_ ?_ hsync
  · intro ph x hx
    cases ph
    case prepare => show x ∈ (State.getRound _ 0).prepared.senders; rw [hg1]; exact hsub x hx
    case commit => show x ∈ (State.getRound _ 0).committed.senders; rw [hg1]; exact hx
    all_goals exact hx
  · rw [hmp]; show m.sender ∈ (State.getRound _ 0).prepared.senders; rw [hg1]; exact hxin
  · show WPI PS p _ s.phase
    cases hp : s.phase <;> rw [hp] at hpi
    · exact absurd hp hni
    · refine ⟨?_, ?_, hpi.2.2.2⟩
      · show p ∉ (State.getRound _ 0).prepared.senders
        rw [hg1]
        intro hin
        rcases hsup p hin with h | h
        · exact hpi.2.1 h
        · exact hself h.symm hp
      · show (State.getRound _ 0).committed.hasStrongFor PS = false
        rw [hg1]; exact hpi.2.2.1
    · exact hpi.elim
    · refine ⟨?_, hpi.2.2⟩
      show (State.getRound _ 0).committed.hasStrongFor PS = false
      rw [hg1]; exact hpi.2.1
    · exact hpi.2
    · trivial
    · exact hpi

theorem storeCommitJust_spec (C' : Tally) (m : Msg)
    (hj : m.value ≠ [] → ∃ j, m.just = some j ∧ JustFor PS .prepare j) (hv : m.value = [] ∨ m.value = PS) :
    (storeCommitJust C' m).senders = C'.senders ∧ (storeCommitJust C' m).sendersPower = C'.sendersPower ∧
    (storeCommitJust C' m).support = C'.support ∧
    ∀ e ∈ (storeCommitJust C' m).justs, e ∈ C'.justs ∨ (e.1 = PS ∧ JustFor PS .prepare e.2) := by
  unfold storeCommitJust
  cases hmj : m.just with
  | none => exact ⟨rfl, rfl, rfl, fun e he => Or.inl he⟩
  | some j =>
    dsimp only
    by_cases he : m.value.isEmpty = true
    · rw [if_pos he]; exact ⟨rfl, rfl, rfl, fun e he => Or.inl he⟩
    · rw [if_neg he]
      have hne : m.value ≠ [] := by intro h; rw [h] at he; simp at he
      have hvp : m.value = PS := by rcases hv with h | h; exact absurd h hne; exact h
      obtain ⟨j', hj1, hj2⟩ := hj hne
      rw [hmj] at hj1
      cases hj1
      unfold Tally.receiveJust
      split
      · exact ⟨rfl, rfl, rfl, fun e he => Or.inl he⟩
      · refine ⟨rfl, rfl, rfl, ?_⟩
        intro e he
        have he' : e ∈ C'.justs ++ [(m.value, j)] := he
        simp only [List.mem_append, List.mem_singleton] at he'
        rcases he' with he' | rfl
        · exact Or.inl he'
        · exact Or.inr ⟨hvp, hj2⟩

theorem GT.of_eq {f : Pid → Chain} {T T' : Tally} (h : GT t f H T) (h1 : T'.senders = T.senders)
    (h2 : T'.sendersPower = T.sendersPower) (h3 : T'.support = T.support) : GT t f H T' := by
  refine ⟨h1 ▸ h.nodup, h1 ▸ h.sub, by rw [h2, h1]; exact h.pow, h3 ▸ h.keys, ?_⟩
  intro k
  have := h.find k
  unfold Tally.findSupport at this ⊢
  rw [h3, h1]; exact this

theorem hasStrongFor_of_support {T T' : Tally} (h3 : T'.support = T.support) (k : Chain) :
    T'.hasStrongFor k = T.hasStrongFor k := by
  unfold Tally.hasStrongFor Tally.findSupport
  rw [h3]

theorem GTrans.from_commit {p : Pid} {bb : Phase} {ms : List Msg} (h : GTrans t H inp p .commit bb ms) :
    bb = .commit ∨ bb = .decide ∨ bb = .terminated := by
  cases h with
  | same => exact Or.inl rfl
  | x2d _ _ _ hb _ _ => exact Or.inr hb

theorem GTrans.from_decide {p : Pid} {bb : Phase} {ms : List Msg} (h : GTrans t H inp p .decide bb ms) :
    (bb = .decide ∨ bb = .terminated) ∧ ms = [] := by
  cases h with
  | same => exact ⟨Or.inl rfl, rfl⟩
  | x2d _ _ ha _ _ _ => rcases ha with ha | ha | ha <;> cases ha
  | d2t => exact ⟨Or.inr rfl, rfl⟩

theorem recvCommit_ggood (g : GCtx t H inp b) {p : Pid} (hpH : p ∈ H) {s : State} (now : Int) (m : Msg)
    (hs : GInv t H inp p s) (hpi : GPI t H inp p s s.phase) (hni : s.phase ≠ .initial) (hnt : s.phase ≠ .terminated)
    (hm : GShape t H inp m) (hmH : m.sender ∈ H) (hmp : m.phase = .commit) (hsync : SyncedM H s now m) :
    GGood t H inp p s (s.recvCommit now m) ∧ m.sender ∈ sendersOf (s.recvCommit now m).1 m.phase := by
  obtain ⟨C', hrecv, hC', hxin, hsub, hsup, hjs⟩ := hs.comm.receive m.sender hmH
  obtain ⟨hval, hjust⟩ := (gshape_just hm).2.2.1 hmp
  have hvcases : m.value = [] ∨ m.value = PS := by
    rw [hval]
    rcases cvOf_cases (t := t) (H := H) (inp := inp) m.sender with h | h
    · exact Or.inr h.2
    · exact Or.inl h.2
  have e1 : (s.getRound 0).committed.receive s.tbl m.sender m.value = some C' := by
    rw [hs.tbl, hval]; exact hrecv
  have hnil : (!m.value.isEmpty && m.just.isNone) = false := by
    by_cases he : m.value = []
    · rw [he]; rfl
    · obtain ⟨j, hj, _⟩ := hjust he
      rw [hj]; simp
  obtain ⟨c1, c2, c3, c4⟩ := storeCommitJust_spec (t := t) (H := H) (inp := inp) C' m hjust hvcases
  unfold State.recvCommit
  dsimp only
  rw [hm.1, e1]
  dsimp only
  rw [if_neg (by simp [hnil])]
  generalize storeCommitJust C' m = C'' at c1 c2 c3 c4
  have hC'' : GT t (cvOf t H inp) H C'' := hC'.of_eq c1 c2 c3
  have hj'' : ∀ e ∈ C''.justs, e.1 = PS ∧ JustFor PS .prepare e.2 := by
    intro e he
    rcases c4 e he with h | h
    · rw [hjs] at h; exact hs.cjust e h
    · exact h
  obtain ⟨hs1, hg1⟩ := hs.setRound { s.getRound 0 with committed := C'' } hs.prep hC'' hj''
  have hph1 : (s.setRound 0 { s.getRound 0 with committed := C'' }).phase = s.phase := rfl
  have hto1 : (s.setRound 0 { s.getRound 0 with committed := C'' }).phaseTimeout = s.phaseTimeout := rfl
  have hdec1 : (s.setRound 0 { s.getRound 0 with committed := C'' }).decision = s.decision := rfl
  have hq1 : (s.setRound 0 { s.getRound 0 with committed := C'' }).quality = s.quality := rfl
  generalize s.setRound 0 { s.getRound 0 with committed := C'' } = s1 at *
  have hP1 : (s1.getRound 0).prepared = (s.getRound 0).prepared := by rw [hg1]
  have hC1 : (s1.getRound 0).committed.senders = C'.senders := by rw [hg1]; exact c1
  have hmono : ∀ ph x, x ∈ sendersOf s ph → x ∈ sendersOf s1 ph := by
    intro ph x hx
    cases ph
    case prepare => show x ∈ (s1.getRound 0).prepared.senders; rw [hP1]; exact hx
    case commit => show x ∈ (s1.getRound 0).committed.senders; rw [hC1]; exact hsub x hx
    case quality => show x ∈ s1.quality.senders; rw [hq1]; exact hx
    case decide => show x ∈ s1.decision.senders; rw [hdec1]; exact hx
    all_goals exact hx
  have hx1 : m.sender ∈ sendersOf s1 m.phase := by
    rw [hmp]; show m.sender ∈ (s1.getRound 0).committed.senders; rw [hC1]; exact hxin
  by_cases hd : s.phase = .decide
  · rw [if_neg (by simp [hph1, hd])]
    refine g_after_tally g hpH now m hs1 hph1 hto1 hmono hx1 ?_ hsync
    rw [hph1, hd]; trivial
  · rw [if_pos (by simp [hph1, hd])]
    have hph' : s1.phase = .quality ∨ s1.phase = .prepare ∨ s1.phase = .commit := by
      rw [hph1]
      exact phase_working hni hpi.not_converge hd hnt
    have h4 : A4 s1 := by
      show s1.decision.senders = []
      rw [hdec1]
      cases hp : s.phase <;> rw [hp] at hpi
      · exact hpi.2.2.2
      · exact hpi.2.2.2
      · exact hpi.elim
      · exact hpi.2.2
      · exact hpi.2
      · exact absurd hp hd
      · exact absurd hp hnt
    have hpi' : A3 PS s1 → GPI t H inp p s1 s1.phase := by
      intro h3
      rw [hph1]
      cases hp : s.phase <;> rw [hp] at hpi
      · exact absurd hp hni
      · refine ⟨?_, ?_, h3, h4⟩
        · show s1.quality.hasStrongFor (inp p) = false
          rw [hq1]; exact hpi.1
        · show p ∉ (s1.getRound 0).prepared.senders
          rw [hP1]; exact hpi.2.1
      · exact hpi.elim
      · refine ⟨?_, h3, h4⟩
        show B2 t H inp p s1
        unfold B2
        rw [hP1]; exact hpi.1
      · exact ⟨h3, h4⟩
      · exact absurd hp hd
      · exact absurd hp hnt
    have hsy : s1.phase = .commit → s1.phaseTimeoutElapsed now = true → ∀ h ∈ H, h ∈ (s1.getRound 0).committed.senders := by
      intro hc hel h hh
      rw [hph1] at hc
      have hel' : s.phaseTimeoutElapsed now = true := by
        unfold State.phaseTimeoutElapsed at hel ⊢
        rw [← hto1]; exact hel
      rw [hC1]
      rcases hsync (by rw [hc]; rfl) hel' h hh with h1 | ⟨_, h2⟩
      · rw [hc] at h1; exact hsub h h1
      · rw [← h2]; exact hxin
    obtain ⟨gg, hcase⟩ := tryCommit_ggood g now hs1 hph' h4 hpi' hsy
    rcases hcase with ⟨heq, h3⟩ | hc | hdc
    · rw [heq]
      dsimp only
      by_cases hp : (s.phase = .prepare ∧ m.value.isEmpty = false)
      · rw [if_pos (by simp [hph1, hp.1, hp.2, hs1.round])]
        rw [andThen_nil]
        refine g_after_tally g hpH now m hs1 hph1 hto1 hmono hx1 ?_ hsync
        rw [hph1, hp.1]; exact ⟨h3, h4⟩
      · rw [if_neg (by
          intro hcontra
          simp only [Bool.and_eq_true, beq_iff_eq, Bool.not_eq_true'] at hcontra
          exact hp ⟨hph1 ▸ hcontra.1.1, hcontra.2⟩)]
        have g0 : GGood t H inp p s1 (s1, []) := GGood.stay hs1 (hpi' h3)
        exact ⟨GGood.pre hph1.symm hmono g0, hx1⟩
    · have hne : (s1.tryCommit now 0).1.phase ≠ .prepare := by
        have := gg.trans
        rw [hc] at this
        rcases this.from_commit with h | h | h <;> rw [h] <;> simp
      rw [if_neg (by simp [hne])]
      exact ⟨GGood.pre hph1.symm hmono gg, gg.mono _ _ hx1⟩
    · rw [if_neg (by simp [hdc])]
      exact ⟨GGood.pre hph1.symm hmono gg, gg.mono _ _ hx1⟩

theorem recvDecide_ggood (g : GCtx t H inp b) {p : Pid} {s : State} (now : Int) (m : Msg)
    (hs : GInv t H inp p s) (hpi : GPI t H inp p s s.phase) (hni : s.phase ≠ .initial) (hnt : s.phase ≠ .terminated)
    (hm : GShape t H inp m) (hmH : m.sender ∈ H) (hmp : m.phase = .decide) (hpH : p ∈ H) (hsync : SyncedM H s now m) :
    GGood t H inp p s (s.recvDecide now m) ∧ m.sender ∈ sendersOf (s.recvDecide now m).1 m.phase := by
  obtain ⟨D', hrecv, hD', hxin, hsub, hsup, _⟩ := hs.dec.receive m.sender hmH
  obtain ⟨hval, j, hj, hjf⟩ := (gshape_just hm).2.2.2 hmp
  have e1 : s.decision.receive s.tbl m.sender m.value = some D' := by
    rw [hs.tbl, hval]; exact hrecv
  unfold State.recvDecide
  rw [e1]
  dsimp only
  have hs1 : GInv t H inp p ({ s with decision := D' } : State) :=
    ⟨hs.tbl, hs.input, hs.round, hs.rounds, hs.propQ, hs.propP, hs.qt, hs.prep, hs.comm, hs.cjust, hD', hs.term⟩
  have hmono : ∀ ph x, x ∈ sendersOf s ph → x ∈ sendersOf ({ s with decision := D' } : State) ph := by
    intro ph x hx
    cases ph
    case decide => exact hsub x hx
    all_goals exact hx
  have hx1 : m.sender ∈ sendersOf ({ s with decision := D' } : State) m.phase := by
    rw [hmp]; exact hxin
  by_cases hd : s.phase = .decide
  · rw [if_neg (by simp [hd])]
    refine g_after_tally g hpH now m hs1 rfl rfl hmono hx1 ?_ hsync
    show WPI PS p _ s.phase
    rw [hd]; trivial
  · rw [if_pos (by simp [hd])]
    have hph' := phase_working hni hpi.not_converge hd hnt
    rw [hval, hj]
    have hsk : State.skipToDecide ({ s with decision := D' } : State) PS (some j) =
        (afterSkip s D' PS, [.progress s.round .decide, .broadcast 0 .decide PS false (some j)]) := rfl
    rw [hsk, andThen_ok _ _ rfl]
    dsimp only
    have hs2 : GInv t H inp p (afterSkip s D' PS) :=
      hs1.core (by core_rfl) (fun h => by rcases h with h | h <;> cases h) (fun h => by rcases h with h | h <;> cases h)
    have htc : State.tryCurrentPhase (afterSkip s D' PS) now = State.tryDecide (afterSkip s D' PS) now := rfl
    rw [htc]
    have g2 := tryDecide_ggood (p := p) g now hs2 rfl
    generalize State.tryDecide (afterSkip s D' PS) now = r2 at g2 ⊢
    obtain ⟨hb, hms⟩ := g2.trans.from_decide
    refine ⟨⟨?_, g2.inv, g2.pi, fun ph x hx => g2.mono ph x (hmono ph x hx), ?_⟩, g2.mono _ _ hx1⟩
    · show hasFailure ([Eff.progress s.round .decide, .broadcast 0 .decide PS false (some j)] ++ r2.2) = false
      rw [hasFailure_append, g2.nofail]; rfl
    · show GTrans t H inp p s.phase r2.1.phase (sent p ([Eff.progress s.round .decide, .broadcast 0 .decide PS false (some j)] ++ r2.2))
      rw [sent_append, hms, List.append_nil]
      exact GTrans.x2d _ _ hph' hb j hjf

theorem hasBase_of_head (c : Chain) (b : Nat) (h : c.head? = some b) : hasBase c (some b) = true := by
  cases c with
  | nil => cases h
  | cons a as =>
    simp only [List.head?_cons, Option.some.injEq] at h
    simp [hasBase, h]

theorem GShape.value_base (g : GCtx t H inp b) {m : Msg} (hm : GShape t H inp m) (hmH : m.sender ∈ H) :
    m.value = [] ∨ m.value.head? = some b := by
  obtain ⟨h1, h2, h3, h4⟩ := gshape_just hm
  have hsh := hm.2.2.2
  cases hmp : m.phase <;> rw [hmp] at hsh
  · exact hsh.elim
  · rw [(h1 hmp).1]; exact Or.inr (g.base _ hmH)
  · exact hsh.elim
  · rw [(h2 hmp).1]; exact Or.inr (g.propOf_head hmH)
  · rw [(h3 hmp).1]
    rcases cvOf_cases (t := t) (H := H) (inp := inp) m.sender with h | h
    · rw [h.2]; exact Or.inr g.longestQuorumPrefix_head
    · exact Or.inl h.2
  · rw [(h4 hmp).1]; exact Or.inr g.longestQuorumPrefix_head
  · exact hsh.elim

theorem g_recvPre_accept (g : GCtx t H inp b) {p : Pid} (hpH : p ∈ H) {s : State} (hs : GInv t H inp p s)
    (hnt : s.phase ≠ .terminated) {m : Msg} (hm : GShape t H inp m) (hmH : m.sender ∈ H) : s.recvPre m = .accept := by
  unfold State.recvPre
  have hb : (m.value.isEmpty || hasBase m.value s.input.head?) = true := by
    rw [hs.input, g.base p hpH]
    rcases hm.value_base g hmH with h | h
    · rw [h]; rfl
    · rw [hasBase_of_head _ _ h]; simp
  rw [if_neg (by simp [hm.2.2.1]), if_neg (by simp [hm.2.1]),
    if_neg (by rw [hb]; simp), if_neg (by simp [hnt]), if_neg (by simp [hm.1, hs.round]),
    if_neg (by simp [hm.1])]

theorem step_recv_ggood (g : GCtx t H inp b) {p : Pid} (hpH : p ∈ H) {s : State} (now : Int) (m : Msg)
    (hs : GInv t H inp p s) (hpi : GPI t H inp p s s.phase) (hni : s.phase ≠ .initial) (hnt : s.phase ≠ .terminated)
    (hm : GShape t H inp m) (hmH : m.sender ∈ H) (hself : m.phase = .prepare → m.sender = p → s.phase ≠ .quality)
    (hsync : SyncedM H s now m) :
    GGood t H inp p s (step s (.recv now m)) ∧ m.sender ∈ sendersOf (step s (.recv now m)).1 m.phase := by
  have hpre := g_recvPre_accept g hpH hs hnt hm hmH
  have key : ∀ r : R, (s.receiveOne now m).1 = r →
      (GGood t H inp p s r ∧ m.sender ∈ sendersOf r.1 m.phase) →
      GGood t H inp p s (step s (.recv now m)) ∧ m.sender ∈ sendersOf (step s (.recv now m)).1 m.phase := by
    intro r hr hg
    have : step s (.recv now m) = r := by
      rw [step_recv_eq s now m hnt (by rw [hr]; exact hg.1.nofail)
        (by rw [hr, hm.1]; exact Nat.zero_le _), hr]
    rw [this]; exact hg
  rcases hm.phases with hmp | hmp | hmp | hmp
  · exact key _ (congrArg Prod.fst (receiveOne_quality s now m hpre hmp)) (recvQuality_ggood g hpH now m hs hpi hni hm hmH hmp hsync)
  · exact key _ (congrArg Prod.fst (receiveOne_prepare s now m hpre hmp))
      (recvPrepare_ggood g hpH now m hs hpi hni hm hmH hmp (hself hmp) hsync)
  · exact key _ (congrArg Prod.fst (receiveOne_commit s now m hpre hmp))
      (recvCommit_ggood g hpH now m hs hpi hni hnt hm hmH hmp hsync)
  · exact key _ (congrArg Prod.fst (receiveOne_decide s now m hpre hmp))
      (recvDecide_ggood g now m hs hpi hni hnt hm hmH hmp hpH hsync)

theorem step_alarm_ggood (g : GCtx t H inp b) {p : Pid} (hpH : p ∈ H) {s : State} (now : Int)
    (hs : GInv t H inp p s) (hpi : GPI t H inp p s s.phase) (hni : s.phase ≠ .initial) (hsync : Synced H s now) :
    GGood t H inp p s (step s (.alarm now)) :=
  tryCurrentPhase_ggood g hpH now hs (hpi.weak hni) hsync

theorem step_start_ggood {p : Pid} {s : State} (now : Int) (hs : GInv t H inp p s) (hpi : GPI t H inp p s s.phase)
    (hph : s.phase = .initial) : GGood t H inp p s (step s (.start now)) := by
  show GGood t H inp p s (s.beginQuality now)
  rw [beginQuality_eq s now hph]
  rw [hph] at hpi
  refine GGood.of_core hs (by core_rfl) (fun _ => hs.propQ (Or.inl hph)) (fun h => by rcases h with h | h <;> cases h)
    hpi rfl ?_
  show GTrans t H inp p s.phase .quality (sent p [_, _, Eff.broadcast s.round .quality s.proposal false none])
  rw [hph, hs.round, hs.propQ (Or.inl hph)]
  exact GTrans.start

theorem init_ginv (cfg : Cfg) (t : Table) (H : List Pid) (inp : Pid → Chain) (p : Pid) :
    GInv t H inp p (init cfg t (inp p)) ∧ GPI t H inp p (init cfg t (inp p)) (init cfg t (inp p)).phase := by
  refine ⟨⟨rfl, rfl, rfl, rfl, fun _ => rfl, (fun h => by rcases h with h | h <;> cases h), QG_empty, GT_empty,
    GT_empty, ?_, GT_empty, ?_⟩, ?_⟩
  · intro e he; cases he
  · intro d hd; cases hd
  · exact ⟨rfl, by simp [A2, State.getRound, init], rfl, rfl⟩

end

end F3.SyncGeneral
