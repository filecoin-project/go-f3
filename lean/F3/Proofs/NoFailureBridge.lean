import F3.Proofs.NoFailureRun
import F3.Proofs.BridgeEx
/-!
# Failure-freedom and the bridge to Layer A

`F3.Bridge.okRun` — the `ok` field of `HonestRun`, which the oracle checks on the implementation — is a theorem for every run of one `Start` followed by alarms and validated (or foreign) deliveries:
`okRun_of_valid`. `ValidRun` is `HonestRun` without the `ok` field, `NetworkV` the corresponding network;
`ValidRun.toHonest` / `NetworkV.toNetwork` supply the field.
-/
namespace F3.Bridge
open F3 F3.Instance

theorem okRun_of_valid (cfg : Cfg) (t : Table) (input : Chain) (W : Votes) (now0 : Int) (ops : List Op)
    (hin : input ≠ []) (hT : 0 < t.total)
    (hstart : ∀ op ∈ ops, op.isStart = false)
    (hvalid : ∀ op ∈ ops, foreign op = true ∨ OpValidG W t op) :
    okRun (init cfg t input) (.start now0 :: ops) = true := by
  rw [okRun_eq]
  exact run_nf cfg t input W now0 ops hin hT
    (fun op hop => ⟨hstart op hop, by rw [← foreign_eq]; exact hvalid op hop⟩)

/-- one honest participant's execution of the instance model, *without* any assumption on the errors it reports:
`Start`, then any sequence of alarms and deliveries -/
structure ValidRun (W : Votes) (t : Table) (p : Pid) where
  cfg : Cfg
  input : Chain
  /-- the time of the one `Start` -/
  start : Int
  /-- the calls after `Start` -/
  ops : List Op
  inputNe : input ≠ []
  /-- `Start` is called once (`Participant.beginInstance`) -/
  noRestart : ∀ op ∈ ops, op.isStart = false
  /-- every delivered message of this instance passed validation (C05) -/
  valid : ∀ op ∈ ops, foreign op = true ∨ OpValidG W t op
  /-- unforgeability: the votes of `p` in existence are exactly those it broadcast -/
  own : ∀ r ph v, W p r ph v ↔ ∃ tk j, Eff.broadcast r ph v tk j ∈ (run (init cfg t input) (.start start :: ops)).2

/-- the `ok` field of `HonestRun` is supplied by `okRun_of_valid` -/
def ValidRun.toHonest {W : Votes} {t : Table} {p : Pid} (vr : ValidRun W t p) (hT : 0 < t.total) : HonestRun W t p where
  cfg := vr.cfg
  input := vr.input
  ops := .start vr.start :: vr.ops
  inputNe := vr.inputNe
  valid := by
    intro op hop
    rcases List.mem_cons.1 hop with rfl | hop
    · exact Or.inr trivial
    · exact vr.valid op hop
  ok := okRun_of_valid vr.cfg t vr.input W vr.start vr.ops vr.inputNe hT vr.noRestart vr.valid
  own := vr.own

/-- `HonestRun` from its fields other than `ok`, for a run that begins with its one `Start` -/
def HonestRun.ofValid {W : Votes} {t : Table} {p : Pid} (cfg : Cfg) (input : Chain) (now0 : Int) (ops : List Op)
    (inputNe : input ≠ []) (hT : 0 < t.total) (noRestart : ∀ op ∈ ops, op.isStart = false)
    (valid : ∀ op ∈ ops, foreign op = true ∨ OpValidG W t op)
    (own : ∀ r ph v, W p r ph v ↔ ∃ tk j, Eff.broadcast r ph v tk j ∈ (run (init cfg t input) (.start now0 :: ops)).2) :
    HonestRun W t p :=
  ValidRun.toHonest ⟨cfg, input, now0, ops, inputNe, noRestart, valid, own⟩ hT

/-- the standing assumptions about one instance of the network of model participants, none of them about errors -/
structure NetworkV (t : Table) (F : Finset Pid) (W : Votes) where
  idsNodup : (ids t).Nodup
  totalPos : 0 < t.total
  faultBound : 3 * (world t F W).power F < (world t F W).T
  nonMembers : ∀ p, p ∉ (ids t).toFinset → ∀ r ph v, ¬ W p r ph v
  runs : ∀ p, p ∈ (ids t).toFinset → p ∉ F → ValidRun W t p

def NetworkV.toNetwork {t : Table} {F : Finset Pid} {W : Votes} (N : NetworkV t F W) : Network t F W where
  idsNodup := N.idsNodup
  totalPos := N.totalPos
  faultBound := N.faultBound
  nonMembers := N.nonMembers
  runs := fun p hp hF => (N.runs p hp hF).toHonest N.totalPos

def exRunV (p : Pid) (hp : p = 1 ∨ p = 2 ∨ p = 3) : ValidRun exW exTbl p where
  cfg := exCfg
  input := [7, 8]
  start := 0
  ops := exOps.tail
  inputNe := by decide
  noRestart := by
    have : exOps.tail.all (fun op => !op.isStart) = true := by decide
    intro op hop
    simpa using List.all_eq_true.1 this op hop
  valid := opValidB_sound exVotes exTbl exOps.tail (by decide)
  own := (exRun p hp).own

def exNetV : NetworkV exTbl exF exW where
  idsNodup := exNet.idsNodup
  totalPos := exNet.totalPos
  faultBound := exNet.faultBound
  nonMembers := exNet.nonMembers
  runs := fun p hp hF => exRunV p (by
    rw [ex_ids] at hp
    simp only [Finset.mem_insert, Finset.mem_singleton, exF] at hp hF
    rcases hp with h | h | h | h
    · exact Or.inl h
    · exact Or.inr (Or.inl h)
    · exact Or.inr (Or.inr h)
    · exact absurd h hF)

theorem ex_networkV_decides :
    ∃ d, (run (init (exNetV.runs 1 (by decide) (by decide)).cfg exTbl (exNetV.runs 1 (by decide) (by decide)).input)
      (.start (exNetV.runs 1 (by decide) (by decide)).start :: (exNetV.runs 1 (by decide) (by decide)).ops)).1.termination
        = some d ∧ d.value = [7, 8] := by
  -- the run is `exOps` (`exOps_run`); `rw` the fields first: `exact` alone would make the unifier execute the run
  have hc : ∀ h1 h2, (exNetV.runs 1 h1 h2).cfg = exCfg := fun _ _ => rfl
  have hi : ∀ h1 h2, (exNetV.runs 1 h1 h2).input = [7, 8] := fun _ _ => rfl
  have ho : ∀ h1 h2, Op.start (exNetV.runs 1 h1 h2).start :: (exNetV.runs 1 h1 h2).ops = exOps := fun _ _ => rfl
  rw [hc, hi, ho]
  exact ⟨_, exOps_run, rfl⟩

end F3.Bridge
