import F3.Spec.CertXArrivals
import F3.Proofs.CertXPoll
/-! `Poll` while certificates reach the store through another channel (C16, `pollWithArrivals`). -/
namespace F3.CertX
open F3.Certs F3.Spec.Certs F3.Spec.CertX

theorem handed_zero (respond : Nat → Nat → Resp) (first : Nat) :
    handed respond 0 first = handedOver respond first := rfl

theorem putAll_shape (s : Store) (l : List Cert) :
    ∃ added, putAll s l = { s with certs := s.certs ++ added } ∧ added.Sublist l ∧
      (StoreOK s → StoreOK (putAll s l)) := by
  induction l generalizing s with
  | nil => exact ⟨[], by simp [putAll], by simp, fun h => h⟩
  | cons c cs ih =>
    have hstep : putAll s (c :: cs) = putAll (match s.put c with | .ok s' => s' | .error _ => s) cs := rfl
    rw [hstep]
    cases hp : s.put c with
    | error e =>
      obtain ⟨added, h1, h2, h3⟩ := ih s
      exact ⟨added, h1, List.Sublist.cons _ h2, h3⟩
    | ok s1 =>
      simp only
      obtain ⟨added, h1, h2, h3⟩ := ih s1
      rcases put_ok hp with ⟨h, _⟩ | ⟨h, _⟩
      · subst h
        exact ⟨added, h1, List.Sublist.cons _ h2, h3⟩
      · refine ⟨c :: added, ?_, List.Sublist.cons_cons _ h2, fun hs => h3 (put_storeOK hs hp)⟩
        rw [h1, h]; simp

theorem putAll_bounds (s : Store) (l : List Cert) :
    (putAll s l).first = s.first ∧ s.nextInst ≤ (putAll s l).nextInst ∧
      (putAll s l).nextInst ≤ s.nextInst + l.length := by
  obtain ⟨added, hshape, hsub, _⟩ := putAll_shape s l
  have := hsub.length_le
  rw [hshape, nextInst_append]
  exact ⟨rfl, Nat.le_add_right .., by omega⟩

theorem getPowerTable_putAll (s : Store) (l : List Cert) {i : Nat} (hi : i ≤ s.nextInst) :
    (putAll s l).getPowerTable i = s.getPowerTable i := by
  obtain ⟨added, hshape, _⟩ := putAll_shape s l
  rw [hshape, getPowerTable_append _ _ _ hi]

/-- skipping over stored instances keeps the poller's table the store's — if the deltas are the stored ones -/
theorem skipRun_table {net : Nat} {s : Store} {x y : Nat × Table} {sk : List Cert} (h : PollRun net x sk y)
    (hlo : s.first ≤ x.1) (hhi : x.1 + sk.length ≤ s.nextInst) (hw : s.nextInst < 2 ^ 64)
    (ht : s.getPowerTable x.1 = some x.2) (hcanon : applyDiff x.2 [] = .ok x.2)
    (hg : Genuine s sk) :
    s.getPowerTable y.1 = some y.2 ∧ applyDiff y.2 [] = .ok y.2 := by
  induction h with
  | nil x => exact ⟨ht, hcanon⟩
  | @cons n t nt c cs y hv hrun ih =>
    simp only [List.length_cons] at hhi
    simp only at hlo hhi ht hcanon
    have hu : u64 (n + 1) = n + 1 := u64_of_lt (by omega)
    have hci : c.inst = n := hv.inst
    obtain ⟨stored, hget, hdel⟩ := hg c (by simp) (by omega) (by omega)
    rw [hci] at hget
    have hd : applyDiff t stored.delta = .ok nt := by rw [hdel]; exact hv.delta
    have hnext := getPowerTable_succ hlo hget ht hd
    apply ih
    · show s.first ≤ u64 (n + 1); rw [hu]; omega
    · show u64 (n + 1) + cs.length ≤ s.nextInst; rw [hu]; omega
    · show s.getPowerTable (u64 (n + 1)) = some nt; rw [hu]; exact hnext
    · exact applyDiff_fixed hv.delta
    · intro c' hc'; exact hg c' (by simp [hc'])

theorem InSync.of_consistent {st : PState} (hc : Consistent st) : InSync st :=
  ⟨by rw [hc.next]; unfold Store.nextInst; omega, by rw [hc.next]; exact Nat.le_refl _,
    by rw [hc.next]; exact hc.table, hc.canon⟩

theorem pollWithArrivals_eq (net : Nat) (respond : Nat → Nat → Resp) (fuel : Nat) (arrivals : List Cert)
    (st : PState) (res : PollRes) :
    pollWithArrivals net respond fuel arrivals st res =
      match catchUp st with
      | none => (st, { res with internal := true })
      | some st0 => pollRound net respond fuel 0 ⟨st0.next, st0.table, putAll st0.store arrivals⟩ res := by
  unfold pollWithArrivals
  cases catchUp st <;> rfl

/-- `pollWithArrivals` is `pollRound_lag_spec` for the poller after `CatchUp`, standing in `pre`, its store once the arrivals
are in -/
theorem pollWithArrivals_spec (net : Nat) (respond : Nat → Nat → Resp) (fuel : Nat) (arrivals : List Cert)
    (st st0 : PState) (res : PollRes) (hcu : catchUp st = some st0) (hc : Consistent st0)
    (hroom : st0.store.nextInst + arrivals.length + (fuel + 1) * maxRequestLength < 2 ^ 64)
    (pre : Store) (hpre : pre = putAll st0.store arrivals)
    (st' : PState) (res' : PollRes) (h : pollWithArrivals net respond fuel arrivals st res = (st', res')) :
    ∃ skipped new m tm,
      st'.store = { pre with certs := pre.certs ++ new } ∧
      skipped <+: handedOver respond st0.next ∧
      PollRun net (st0.next, st0.table) skipped (m, tm) ∧ m = st0.next + skipped.length ∧
      m ≤ pre.nextInst ∧ m ≤ st'.next ∧
      res'.newCerts = res.newCerts + new.length ∧ (new ≠ [] → Consistent st') ∧
      ((PollRun net (m, tm) new (st'.next, st'.table) ∧ (new ≠ [] → m = pre.nextInst)) ∨
       (m < pre.nextInst ∧ Consistent st' ∧
          ∃ lt, pre.latestTable = some lt ∧ PollRun net (pre.nextInst, lt) new (st'.next, st'.table))) := by
  rw [pollWithArrivals_eq, hcu] at h
  simp only at h
  obtain ⟨_, _, _, hok⟩ := putAll_shape st0.store arrivals
  obtain ⟨hfirst, hnlo, hnhi⟩ := putAll_bounds st0.store arrivals
  rw [← hpre] at h hok hfirst hnlo hnhi
  have hl0 := Lag.of_consistent hc
  have hl1 : Lag ⟨st0.next, st0.table, pre⟩ :=
    ⟨by show pre.first ≤ st0.next; rw [hfirst]; exact hl0.lo,
     by show st0.next ≤ pre.nextInst; have := hl0.hi; omega, hok hl0.ok⟩
  obtain ⟨skipped, new, m, tm, h1, h2, h3, h4, h5, h6, h7, h8, _, _, h9⟩ :=
    pollRound_lag_spec net respond fuel 0 _ res hl1 (by show pre.nextInst + _ < _; omega) st' res' h
  exact ⟨skipped, new, m, tm, h1, h2, h3, h4, h5, h6, h7, h8, h9⟩

end F3.CertX
