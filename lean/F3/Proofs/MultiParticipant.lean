import F3.Proofs.ParticipantRun
/-!
The participant across consecutive instances (`mpstep` / `mprun`). The per-instance queues form a map and stay well formed;
one call by cases (`mpstep_shape`); `decisions` is append-only; without backward `StartInstanceAt` the recorded instance
ids are strictly increasing and below `cur`, so there is at most one decision per instance; without `StartInstanceAt` at
all they are exactly `cur, cur+1, …, cur'-1`.
-/
namespace F3.Instance

@[simp] theorem mprun_nil (s : MState) : mprun s [] = (s, []) := rfl

theorem mprun_cons (s : MState) (op : MPOp) (ops : List MPOp) :
    mprun s (op :: ops) =
      ((mprun (mpstep s op).1 ops).1,
       (mpstep s op).2.map (fun e => (s.cur, e)) ++ (mprun (mpstep s op).1 ops).2) :=
  logFold_cons (fun s op => ((mpstep s op).1, (mpstep s op).2.map (fun e => (s.cur, e)))) s op ops

theorem mprun_append (s : MState) (a b : List MPOp) :
    mprun s (a ++ b) = ((mprun (mprun s a).1 b).1, (mprun s a).2 ++ (mprun (mprun s a).1 b).2) :=
  logFold_append (fun s op => ((mpstep s op).1, (mpstep s op).2.map (fun e => (s.cur, e)))) s a b

/-- `NewParticipant`: `c0 = 0` -/
def minit (cfg : Cfg) (c0 : Nat := 0) : MState := { cfg := cfg, cur := c0 }

theorem queueAddL_eq_queueAdd (look : Nat) (p : PState) (m : Msg) (h : look = p.inst.cfg.maxLookahead) :
    queueAddL look p.queue m = (p.queueAdd m).queue := by
  rw [h, queueAdd_eq]

/-- the look-ahead spam rule: an unjustified message beyond the look-ahead is not queued -/
theorem queueAddL_spam (look : Nat) (q : List Msg) (m : Msg) (h : look < m.round) (hs : isSpammable m = true) :
    queueAddL look q m = q := by
  unfold queueAddL
  simp [h, hs]

theorem queueAddL_dup (look : Nat) (q : List Msg) (m x : Msg) (hx : x ∈ q) (hs : sameSlot x m) :
    queueAddL look q m = q := by
  unfold queueAddL
  split
  · rfl
  · rw [if_pos]
    rw [List.any_eq_true]
    exact ⟨x, hx, by simp [hs.1, hs.2.1, hs.2.2]⟩

theorem queueAddL_fresh (look : Nat) (q : List Msg) (m : Msg) (h : ¬ (look < m.round ∧ isSpammable m = true))
    (hs : ∀ x ∈ q, ¬ sameSlot x m) : queueAddL look q m = q ++ [m] := by
  unfold queueAddL
  rw [if_neg (by simpa using h), if_neg]
  rw [List.any_eq_true]
  rintro ⟨x, hx, hh⟩
  simp only [Bool.and_eq_true, beq_iff_eq] at hh
  exact hs x hx ⟨hh.1.1, hh.1.2, hh.2⟩

def QueueOk (look : Nat) (q : List Msg) : Prop :=
  q.Pairwise (fun a b => ¬ sameSlot a b) ∧ ∀ x ∈ q, ¬ (look < x.round ∧ isSpammable x = true)

theorem queueAddL_ok (look : Nat) (q : List Msg) (m : Msg) (h : QueueOk look q) : QueueOk look (queueAddL look q m) := by
  refine ⟨queueAddL_slots look q m h.1, fun x hx => ?_⟩
  by_cases hsp : look < m.round ∧ isSpammable m = true
  · rw [queueAddL_spam look q m hsp.1 hsp.2] at hx
    exact h.2 x hx
  · rcases queueAddL_mem look q m x hx with hx | rfl
    · exact h.2 x hx
    · exact hsp

theorem queueOf_eq (qs : List (Nat × List Msg)) (k : Nat) :
    queueOf qs k = ((qs.find? (·.1 == k)).map (·.2)).getD [] := by
  unfold queueOf
  cases qs.find? (·.1 == k) <;> rfl

theorem find_map_repl (qs : List (Nat × List Msg)) (k j : Nat) (q : List Msg) :
    (qs.map (fun e => if e.1 == k then (k, q) else e)).find? (·.1 == j) =
      if j = k then (qs.find? (·.1 == k)).map (fun _ => (k, q)) else qs.find? (·.1 == j) := by
  induction qs with
  | nil => simp
  | cons e es ih =>
    simp only [List.map_cons, List.find?_cons]
    by_cases hek : e.1 = k
    · by_cases hjk : j = k
      · subst hjk; simp [hek]
      · have h1 : (k == j) = false := by simpa using fun h => hjk h.symm
        have h2 : (e.1 == j) = false := by simpa [hek] using fun h => hjk h.symm
        simp only [hek, beq_self_eq_true, if_true, h1, ih, if_neg hjk]
    · have hek' : (e.1 == k) = false := by simpa using hek
      simp only [hek', Bool.false_eq_true, if_false, ih]
      by_cases hjk : j = k
      · subst hjk; simp only [hek', if_true]
      · simp only [if_neg hjk]

/-- the queues form a map -/
theorem queueOf_setQueue (qs : List (Nat × List Msg)) (k j : Nat) (q : List Msg) :
    queueOf (setQueue qs k q) j = if j = k then q else queueOf qs j := by
  rw [queueOf_eq, queueOf_eq]
  by_cases hany : (qs.any (·.1 == k)) = true
  · simp only [setQueue, hany, if_true]
    rw [find_map_repl]
    by_cases hjk : j = k
    · subst hjk
      simp only [if_true]
      rw [List.any_eq_true] at hany
      obtain ⟨e, he, hek⟩ := hany
      cases hf : qs.find? (·.1 == j) with
      | none => exact absurd hek (by simpa using (List.find?_eq_none.1 hf) e he)
      | some e' => rfl
    · simp only [if_neg hjk]
  · simp only [setQueue, hany, Bool.false_eq_true, if_false]
    rw [List.find?_append]
    by_cases hjk : j = k
    · subst hjk
      have : qs.find? (·.1 == j) = none := by
        rw [List.find?_eq_none]
        intro e he hek
        exact hany (List.any_eq_true.2 ⟨e, he, hek⟩)
      simp [this]
    · simp only [if_neg hjk]
      cases hf : qs.find? (·.1 == j) with
      | some e' => rfl
      | none =>
        have : (k == j) = false := by simpa using fun h => hjk h.symm
        simp [this]

theorem queueOf_cons (e : Nat × List Msg) (es : List (Nat × List Msg)) (k : Nat) :
    queueOf (e :: es) k = if e.1 = k then e.2 else queueOf es k := by
  rw [queueOf_eq, queueOf_eq, List.find?_cons]
  by_cases h : e.1 = k
  · rw [if_pos h, beq_iff_eq.2 h]; rfl
  · rw [if_neg h, beq_eq_false_iff_ne.2 h]

theorem queueOf_filter_eq (qs : List (Nat × List Msg)) (k : Nat) (f : Nat → Bool) :
    queueOf (qs.filter (fun e => f e.1)) k = if f k then queueOf qs k else [] := by
  induction qs with
  | nil => simp [queueOf]
  | cons e es ih =>
    by_cases he : e.1 = k
    · cases hf : f k <;> simp [queueOf_cons, he, hf, ih]
    · cases hf : f e.1 <;> simp [queueOf_cons, he, hf, ih]

theorem queueOf_filter (qs : List (Nat × List Msg)) (k : Nat) (f : Nat → Bool) (hk : f k = true) :
    queueOf (qs.filter (fun e => f e.1)) k = queueOf qs k := by
  rw [queueOf_filter_eq, if_pos hk]

theorem queueOf_filter_drop (qs : List (Nat × List Msg)) (k : Nat) (f : Nat → Bool) (hk : f k = false) :
    queueOf (qs.filter (fun e => f e.1)) k = [] := by
  rw [queueOf_filter_eq, hk]; rfl

theorem handleDecision_none (s : MState) (h : s.active = none) : s.handleDecision = s := by
  unfold MState.handleDecision; rw [h]

theorem handleDecision_running (s : MState) (p : PState) (h : s.active = some p) (ht : p.inst.termination = none) :
    s.handleDecision = s := by
  unfold MState.handleDecision; rw [h]; simp only [ht]

theorem handleDecision_decided (s : MState) (p : PState) (d : Just) (h : s.active = some p)
    (ht : p.inst.termination = some d) :
    s.handleDecision =
      { s with cur := s.cur + 1, active := none, decisions := s.decisions ++ [(s.cur, d)],
               queues := s.queues.filter (fun e => decide (s.cur + 1 ≤ e.1)) } := by
  unfold MState.handleDecision MState.beginNext; rw [h]; simp only [ht]

theorem handleDecision_cases (s : MState) :
    (s.handleDecision = s ∧ ∀ p, s.active = some p → p.inst.termination = none) ∨
    ∃ p d, s.active = some p ∧ p.inst.termination = some d ∧
      s.handleDecision =
        { s with cur := s.cur + 1, active := none, decisions := s.decisions ++ [(s.cur, d)],
                 queues := s.queues.filter (fun e => decide (s.cur + 1 ≤ e.1)) } := by
  cases ha : s.active with
  | none => exact Or.inl ⟨handleDecision_none s ha, fun p hp => by cases hp⟩
  | some p =>
    cases ht : p.inst.termination with
    | none => exact Or.inl ⟨handleDecision_running s p ha ht, fun p' hp' => by cases hp'; exact ht⟩
    | some d => exact Or.inr ⟨p, d, rfl, ht, handleDecision_decided s p d ha ht⟩

theorem recv_finished (s : MState) (now : Int) (m : IMsg) (h : m.inst < s.cur) : mpstep s (.recv now m) = (s, []) := by
  simp [mpstep, h]

def IMsg.queuedAt (m : IMsg) (s : MState) : Prop := s.cur < m.inst ∨ (m.inst = s.cur ∧ s.active = none)

theorem recv_queued_eq (s : MState) (now : Int) (m : IMsg) (h : m.queuedAt s) :
    mpstep s (.recv now m) =
      ({ s with queues := setQueue s.queues m.inst (queueAddL s.cfg.maxLookahead (queueOf s.queues m.inst) m.msg) }, []) := by
  have hnlt : ¬ m.inst < s.cur := by rcases h with h | h <;> omega
  simp only [mpstep, hnlt, if_false]
  cases ha : s.active with
  | none => rfl
  | some p =>
    rcases h with h | h
    · have : (m.inst == s.cur) = false := by simpa using (by omega : m.inst ≠ s.cur)
      simp [this]
    · rw [ha] at h; cases h.2

theorem recv_queued (s : MState) (now : Int) (m : IMsg) (h : m.queuedAt s) :
    (mpstep s (.recv now m)).2 = [] ∧
    (mpstep s (.recv now m)).1.cur = s.cur ∧ (mpstep s (.recv now m)).1.active = s.active ∧
    (mpstep s (.recv now m)).1.decisions = s.decisions ∧ (mpstep s (.recv now m)).1.cfg = s.cfg ∧
    (∀ j, j ≠ m.inst → queueOf (mpstep s (.recv now m)).1.queues j = queueOf s.queues j) ∧
    queueOf (mpstep s (.recv now m)).1.queues m.inst =
      queueAddL s.cfg.maxLookahead (queueOf s.queues m.inst) m.msg := by
  rw [recv_queued_eq s now m h]
  refine ⟨rfl, rfl, rfl, rfl, rfl, ?_, ?_⟩
  · intro j hj
    simp only [queueOf_setQueue, if_neg hj]
  · simp only [queueOf_setQueue, if_true]

/-- `newInstance` for the current instance, with the queue of that instance, before `Start` -/
def MState.fresh (s : MState) (tbl : Table) (input : Chain) : PState :=
  { inst := init s.cfg tbl input, started := false, queue := queueOf s.queues s.cur }

theorem recv_delivered_eq (s : MState) (now : Int) (m : IMsg) (p : PState) (ha : s.active = some p)
    (hm : m.inst = s.cur) :
    mpstep s (.recv now m) =
      (({ s with active := some (pstepWith [] p (.recv now m.msg)).1 }).handleDecision,
       (pstepWith [] p (.recv now m.msg)).2) := by
  simp [mpstep, hm, ha]

theorem alarm_begin_eq (s : MState) (now : Int) (tbl : Table) (input : Chain) (order : List Pid)
    (ha : s.active = none) :
    mpstep s (.alarm now tbl input order) =
      (({ s with active := some (pstepWith order (s.fresh tbl input) (.alarm now)).1,
                 queues := s.queues.filter (fun e => e.1 != s.cur) }).handleDecision,
       (pstepWith order (s.fresh tbl input) (.alarm now)).2) := by
  simp [mpstep, ha, MState.fresh]

theorem alarm_active_eq (s : MState) (now : Int) (tbl : Table) (input : Chain) (order : List Pid) (p : PState)
    (ha : s.active = some p) :
    mpstep s (.alarm now tbl input order) =
      (({ s with active := some (pstepWith order p (.alarm now)).1 }).handleDecision,
       (pstepWith order p (.alarm now)).2) := by
  simp [mpstep, ha]

theorem recv_cases (s : MState) (m : IMsg) :
    m.inst < s.cur ∨ m.queuedAt s ∨ ∃ p, s.active = some p ∧ m.inst = s.cur := by
  by_cases hlt : m.inst < s.cur
  · exact Or.inl hlt
  · by_cases hgt : s.cur < m.inst
    · exact Or.inr (Or.inl (Or.inl hgt))
    · cases ha : s.active with
      | none => exact Or.inr (Or.inl (Or.inr ⟨by omega, ha⟩))
      | some p => exact Or.inr (Or.inr ⟨p, rfl, by omega⟩)

def MPOp.isStartAt : MPOp → Bool
  | .startAt _ => true
  | _ => false

/-- in the last case the call begins the current instance, whose queue then leaves `queues` -/
theorem mpstep_shape (s : MState) (op : MPOp) (h : op.isStartAt = false) :
    (mpstep s op).1 = s ∨
    (∃ k m, (mpstep s op).1 =
      { s with queues := setQueue s.queues k (queueAddL s.cfg.maxLookahead (queueOf s.queues k) m) }) ∨
    (∃ p, (mpstep s op).1 = ({ s with active := some p }).handleDecision) ∨
    (∃ p, (mpstep s op).1 =
      ({ s with active := some p, queues := s.queues.filter (fun e => e.1 != s.cur) }).handleDecision) := by
  cases op with
  | recv now m =>
    rcases recv_cases s m with hlt | hqa | ⟨p, ha, hm⟩
    · exact Or.inl (by rw [recv_finished s now m hlt])
    · exact Or.inr (Or.inl ⟨_, _, by rw [recv_queued_eq s now m hqa]⟩)
    · exact Or.inr (Or.inr (Or.inl ⟨_, by rw [recv_delivered_eq s now m p ha hm]⟩))
  | alarm now tbl input order =>
    cases ha : s.active with
    | none => exact Or.inr (Or.inr (Or.inr ⟨_, by rw [alarm_begin_eq s now tbl input order ha]⟩))
    | some p => exact Or.inr (Or.inr (Or.inl ⟨_, by rw [alarm_active_eq s now tbl input order p ha]⟩))
  | startAt k => cases h

def QueuesOk (s : MState) : Prop := ∀ k, QueueOk s.cfg.maxLookahead (queueOf s.queues k)

theorem queueOk_nil (look : Nat) : QueueOk look [] := ⟨List.Pairwise.nil, fun _ h => by cases h⟩

theorem queueOf_filter_ok (look : Nat) (qs : List (Nat × List Msg)) (f : Nat → Bool)
    (h : ∀ k, QueueOk look (queueOf qs k)) : ∀ k, QueueOk look (queueOf (qs.filter (fun e => f e.1)) k) := by
  intro k
  cases hk : f k with
  | true => rw [queueOf_filter qs k f hk]; exact h k
  | false => rw [queueOf_filter_drop qs k f hk]; exact queueOk_nil look

theorem handleDecision_cfg (s : MState) : s.handleDecision.cfg = s.cfg := by
  rcases handleDecision_cases s with ⟨h, _⟩ | ⟨p, d, _, _, h⟩ <;> rw [h]

theorem handleDecision_queuesOk (s : MState) (h : QueuesOk s) : QueuesOk s.handleDecision := by
  rcases handleDecision_cases s with ⟨he, _⟩ | ⟨p, d, _, _, he⟩
  · rw [he]; exact h
  · rw [he]
    exact queueOf_filter_ok _ s.queues (fun i => decide (s.cur + 1 ≤ i)) h

theorem mpstep_cfg (s : MState) (op : MPOp) : (mpstep s op).1.cfg = s.cfg := by
  cases hop : op.isStartAt with
  | true => cases op <;> first | rfl | cases hop
  | false =>
    rcases mpstep_shape s op hop with h | ⟨_, _, h⟩ | ⟨_, h⟩ | ⟨_, h⟩ <;> rw [h]
    · exact handleDecision_cfg _
    · exact handleDecision_cfg _

theorem mpstep_queuesOk (s : MState) (op : MPOp) (h : QueuesOk s) : QueuesOk (mpstep s op).1 := by
  cases hop : op.isStartAt with
  | true =>
    cases op with
    | startAt k => exact queueOf_filter_ok _ s.queues (fun i => decide (k ≤ i)) h
    | recv _ _ => cases hop
    | alarm _ _ _ _ => cases hop
  | false =>
    rcases mpstep_shape s op hop with he | ⟨k, m, he⟩ | ⟨_, he⟩ | ⟨_, he⟩ <;> rw [he]
    · exact h
    · intro j
      show QueueOk s.cfg.maxLookahead (queueOf (setQueue _ _ _) j)
      rw [queueOf_setQueue]
      split
      · exact queueAddL_ok _ _ _ (h k)
      · exact h j
    · exact handleDecision_queuesOk _ h
    · exact handleDecision_queuesOk _ (queueOf_filter_ok _ s.queues (fun i => i != s.cur) h)

theorem mprun_cfg (s : MState) (ops : List MPOp) : (mprun s ops).1.cfg = s.cfg := by
  induction ops generalizing s with
  | nil => rfl
  | cons op ops ih => rw [mprun_cons]; exact (ih _).trans (mpstep_cfg s op)

theorem mprun_queuesOk (s : MState) (ops : List MPOp) (h : QueuesOk s) : QueuesOk (mprun s ops).1 := by
  induction ops generalizing s with
  | nil => exact h
  | cons op ops ih => rw [mprun_cons]; exact ih _ (mpstep_queuesOk s op h)

theorem minit_queuesOk (cfg : Cfg) (c0 : Nat) : QueuesOk (minit cfg c0) := fun _ => queueOk_nil _

def noStartAt (ops : List MPOp) : Bool := ops.all (fun op => !op.isStartAt)

def noBackOp (s : MState) : MPOp → Bool
  | .startAt k => decide (s.cur ≤ k)
  | _ => true

/-- `StartInstanceAt k` only skips ahead: `cur < k`, or `k = cur` while no instance is running (which changes
nothing); in particular it never restarts the running instance -/
def fwdOp (s : MState) : MPOp → Bool
  | .startAt k => decide (s.cur < k) || (k == s.cur && s.active.isNone)
  | _ => true

def noBackward : MState → List MPOp → Bool
  | _, [] => true
  | s, op :: ops => noBackOp s op && noBackward (mpstep s op).1 ops

def forwardOnly : MState → List MPOp → Bool
  | _, [] => true
  | s, op :: ops => fwdOp s op && forwardOnly (mpstep s op).1 ops

theorem fwdOp_noBackOp (s : MState) (op : MPOp) (h : fwdOp s op = true) : noBackOp s op = true := by
  cases op with
  | startAt k =>
    simp only [fwdOp, Bool.or_eq_true, decide_eq_true_eq, Bool.and_eq_true, beq_iff_eq] at h
    simp only [noBackOp, decide_eq_true_eq]
    omega
  | _ => rfl

theorem forwardOnly_noBackward (s : MState) (ops : List MPOp) (h : forwardOnly s ops = true) :
    noBackward s ops = true := by
  induction ops generalizing s with
  | nil => rfl
  | cons op ops ih =>
    simp only [forwardOnly, Bool.and_eq_true] at h
    simp only [noBackward, Bool.and_eq_true]
    exact ⟨fwdOp_noBackOp s op h.1, ih _ h.2⟩

theorem noStartAt_fwdOp (s : MState) (op : MPOp) (h : op.isStartAt = false) : fwdOp s op = true := by
  cases op with
  | startAt k => cases h
  | _ => rfl

theorem noStartAt_forwardOnly (s : MState) (ops : List MPOp) (h : noStartAt ops = true) : forwardOnly s ops = true := by
  induction ops generalizing s with
  | nil => rfl
  | cons op ops ih =>
    simp only [noStartAt, List.all_cons, Bool.and_eq_true, Bool.not_eq_true'] at h
    simp only [forwardOnly, Bool.and_eq_true]
    exact ⟨noStartAt_fwdOp s op h.1, ih _ (by simpa [noStartAt] using h.2)⟩

def Counted (s s' : MState) : Prop :=
  (s'.cur = s.cur ∧ s'.decisions = s.decisions) ∨
  ∃ d, s'.cur = s.cur + 1 ∧ s'.decisions = s.decisions ++ [(s.cur, d)] ∧ s'.active = none

theorem handleDecision_counted (s s1 : MState) (hc : s1.cur = s.cur) (hd : s1.decisions = s.decisions) :
    Counted s s1.handleDecision := by
  rcases handleDecision_cases s1 with ⟨he, _⟩ | ⟨p, d, _, _, he⟩
  · rw [he]; exact Or.inl ⟨hc, hd⟩
  · rw [he]; exact Or.inr ⟨d, by simp [hc], by simp [hc, hd], rfl⟩

theorem mpstep_counter (s : MState) (op : MPOp) (h : op.isStartAt = false) : Counted s (mpstep s op).1 := by
  rcases mpstep_shape s op h with he | ⟨_, _, he⟩ | ⟨_, he⟩ | ⟨_, he⟩ <;> rw [he]
  · exact Or.inl ⟨rfl, rfl⟩
  · exact Or.inl ⟨rfl, rfl⟩
  · exact handleDecision_counted s _ rfl rfl
  · exact handleDecision_counted s _ rfl rfl

theorem mpstep_startAt (s : MState) (k : Nat) :
    (mpstep s (.startAt k)).1.cur = k ∧ (mpstep s (.startAt k)).1.active = none ∧
    (mpstep s (.startAt k)).1.decisions = s.decisions ∧ (mpstep s (.startAt k)).2 = [] ∧
    (∀ j, k ≤ j → queueOf (mpstep s (.startAt k)).1.queues j = queueOf s.queues j) ∧
    (∀ j, j < k → queueOf (mpstep s (.startAt k)).1.queues j = []) := by
  refine ⟨rfl, rfl, rfl, rfl, ?_, ?_⟩
  · intro j hj
    exact queueOf_filter s.queues j (fun i => decide (k ≤ i)) (by simpa using hj)
  · intro j hj
    exact queueOf_filter_drop s.queues j (fun i => decide (k ≤ i)) (by simpa using hj)

theorem mpstep_decisions_prefix (s : MState) (op : MPOp) : s.decisions <+: (mpstep s op).1.decisions := by
  cases hop : op.isStartAt with
  | true =>
    cases op with
    | startAt k => exact List.prefix_refl _
    | recv _ _ => cases hop
    | alarm _ _ _ _ => cases hop
  | false =>
    rcases mpstep_counter s op hop with ⟨_, h⟩ | ⟨d, _, h, _⟩
    · rw [h]; exact List.prefix_refl _
    · rw [h]; exact List.prefix_append _ _

theorem mprun_decisions_prefix (s : MState) (ops : List MPOp) : s.decisions <+: (mprun s ops).1.decisions := by
  induction ops generalizing s with
  | nil => exact List.prefix_refl _
  | cons op ops ih => rw [mprun_cons]; exact (mpstep_decisions_prefix s op).trans (ih _)

def DecSorted (s : MState) : Prop :=
  (s.decisions.map (·.1)).Pairwise (· < ·) ∧ ∀ e ∈ s.decisions, e.1 < s.cur

theorem decSorted_append (s s' : MState) (d : Just) (h : DecSorted s) (hc : s'.cur = s.cur + 1)
    (hd : s'.decisions = s.decisions ++ [(s.cur, d)]) : DecSorted s' := by
  refine ⟨?_, ?_⟩
  · rw [hd, List.map_append, List.pairwise_append]
    refine ⟨h.1, by simp, ?_⟩
    intro a ha b hb
    simp only [List.map_cons, List.map_nil, List.mem_singleton] at hb
    subst hb
    obtain ⟨e, he, rfl⟩ := List.mem_map.1 ha
    exact h.2 e he
  · intro e he
    rw [hd] at he
    rcases List.mem_append.1 he with he | he
    · have := h.2 e he; omega
    · simp only [List.mem_singleton] at he
      subst he; simp [hc]

theorem mpstep_decSorted (s : MState) (op : MPOp) (h : DecSorted s) (hnb : noBackOp s op = true) :
    DecSorted (mpstep s op).1 ∧ s.cur ≤ (mpstep s op).1.cur := by
  cases hop : op.isStartAt with
  | true =>
    cases op with
    | startAt k =>
      simp only [noBackOp, decide_eq_true_eq] at hnb
      refine ⟨⟨h.1, fun e he => ?_⟩, hnb⟩
      have := h.2 e he
      show e.1 < k
      omega
    | recv _ _ => cases hop
    | alarm _ _ _ _ => cases hop
  | false =>
    rcases mpstep_counter s op hop with ⟨hc, hd⟩ | ⟨d, hc, hd, _⟩
    · refine ⟨⟨by rw [hd]; exact h.1, fun e he => ?_⟩, by omega⟩
      rw [hd] at he; rw [hc]; exact h.2 e he
    · exact ⟨decSorted_append s _ d h hc hd, by omega⟩

theorem mprun_decSorted (s : MState) (ops : List MPOp) (h : DecSorted s) (hnb : noBackward s ops = true) :
    DecSorted (mprun s ops).1 ∧ s.cur ≤ (mprun s ops).1.cur := by
  induction ops generalizing s with
  | nil => exact ⟨h, Nat.le_refl _⟩
  | cons op ops ih =>
    simp only [noBackward, Bool.and_eq_true] at hnb
    rw [mprun_cons]
    have h1 := mpstep_decSorted s op h hnb.1
    have h2 := ih _ h1.1 hnb.2
    exact ⟨h2.1, Nat.le_trans h1.2 h2.2⟩

theorem minit_decSorted (cfg : Cfg) (c0 : Nat) : DecSorted (minit cfg c0) :=
  ⟨List.Pairwise.nil, fun _ h => by cases h⟩

theorem pairwise_key_unique (l : List (Nat × Just)) (h : (l.map (·.1)).Pairwise (· < ·)) (k : Nat) (d d' : Just)
    (hd : (k, d) ∈ l) (hd' : (k, d') ∈ l) : d = d' := by
  induction l with
  | nil => cases hd
  | cons e es ih =>
    rw [List.map_cons, List.pairwise_cons] at h
    have hlt : ∀ x, (k, x) ∈ es → e.1 < k := fun x hx => h.1 k (List.mem_map.2 ⟨(k, x), hx, rfl⟩)
    rcases List.mem_cons.1 hd with h1 | h1
    · rcases List.mem_cons.1 hd' with h2 | h2
      · rw [← h2] at h1; cases h1; rfl
      · subst h1; exact absurd (hlt d' h2) (Nat.lt_irrefl _)
    · rcases List.mem_cons.1 hd' with h2 | h2
      · subst h2; exact absurd (hlt d h1) (Nat.lt_irrefl _)
      · exact ih h.2 h1 h2

theorem decSorted_unique (s : MState) (h : DecSorted s) (k : Nat) (d d' : Just)
    (hd : (k, d) ∈ s.decisions) (hd' : (k, d') ∈ s.decisions) : d = d' :=
  pairwise_key_unique s.decisions h.1 k d d' hd hd'

theorem mprun_counter (s : MState) (ops : List MPOp) (h : noStartAt ops = true) :
    s.cur ≤ (mprun s ops).1.cur ∧
    ∃ ds : List (Nat × Just), (mprun s ops).1.decisions = s.decisions ++ ds ∧
      ds.map (·.1) = List.range' s.cur ((mprun s ops).1.cur - s.cur) := by
  induction ops generalizing s with
  | nil => exact ⟨Nat.le_refl _, [], by simp, by simp⟩
  | cons op ops ih =>
    simp only [noStartAt, List.all_cons, Bool.and_eq_true, Bool.not_eq_true'] at h
    rw [mprun_cons]
    dsimp only
    obtain ⟨hle, ds, hds, hids⟩ := ih (mpstep s op).1 (by simpa [noStartAt] using h.2)
    rcases mpstep_counter s op h.1 with ⟨hc, hd⟩ | ⟨d, hc, hd, _⟩
    · rw [hc] at hle hids; rw [hd] at hds
      exact ⟨hle, ds, hds, hids⟩
    · rw [hc] at hle hids; rw [hd] at hds
      refine ⟨by omega, (s.cur, d) :: ds, by simpa using hds, ?_⟩
      simp only [List.map_cons, hids]
      have : (mprun (mpstep s op).1 ops).1.cur - s.cur = ((mprun (mpstep s op).1 ops).1.cur - (s.cur + 1)) + 1 := by omega
      rw [this, List.range'_succ]

end F3.Instance
