import F3.Proofs.ChainXSpec
/-!
Delivering a broadcast (`feed`) changes a wanted cache only by replacing placeholders with the chain they stand for
(`Filled`), in any state, reachable or not; every placeholder whose key is a prefix of the admitted chain is replaced.
Also: the unrepaired caching loop (S6) run in lockstep with the tracker, what admitting never-solicited prefixes
does to the tracker, and the witness data of `Props/C18.lean`.
-/
namespace F3.ChainX
open F3.Lru Spec

/-- the only change unsolicited traffic makes to the wanted entry of `K`: a placeholder is replaced by the chain it
stands for -/
def Filled (K : Key) (a b : Option Portion) : Prop :=
  b = a ∨ (a = some .placeholder ∧ b = some (.chain K))

theorem Filled.trans {K : Key} {a b c : Option Portion} (h1 : Filled K a b) (h2 : Filled K b c) : Filled K a c := by
  rcases h1 with rfl | ⟨rfl, rfl⟩
  · exact h2
  · rcases h2 with rfl | ⟨h, _⟩
    · exact Or.inr ⟨rfl, rfl⟩
    · cases h

theorem discStep_w_peek (w d : PCache) (p K : Key) :
    (discStep (w, d) p).1.peek K = w.peek K ∨
    (K = p ∧ w.peek K = some .placeholder ∧ (discStep (w, d) p).1.peek K = some (.chain K)) := by
  unfold discStep
  cases hp : w.peek p with
  | none => exact Or.inl rfl
  | some q =>
    cases q with
    | chain c => exact Or.inl rfl
    | placeholder =>
      have hk : p ∈ keysOf w.items := peek_isSome_iff.mp (by rw [hp]; rfl)
      by_cases hK : K = p
      · subst hK; exact Or.inr ⟨rfl, hp, peek_add_self_present _ hk⟩
      · exact Or.inl (peek_add_present _ hk hK)

theorem discFold_w_peek (ps : List Key) (w d : PCache) (K : Key) :
    Filled K (w.peek K) ((ps.foldl discStep (w, d)).1.peek K) := by
  induction ps generalizing w d with
  | nil => exact Or.inl rfl
  | cons p ps ih => exact Filled.trans ((discStep_w_peek w d p K).imp id And.right) (ih _ _)

theorem discFold_fills (ps : List Key) (w d : PCache) {q : Key} (hq : q ∈ ps)
    (hp : w.peek q = some .placeholder) : (ps.foldl discStep (w, d)).1.peek q = some (.chain q) := by
  induction ps generalizing w d with
  | nil => cases hq
  | cons p ps ih =>
    rw [List.foldl_cons]
    rcases discStep_w_peek w d p q with h | ⟨_, _, h⟩
    · -- not yet: `q` is not `p` (for `p` the placeholder case of the iteration applies), so it comes later
      rcases List.mem_cons.mp hq with rfl | hq'
      · unfold discStep at h
        rw [hp, peek_add_self_present _ (peek_isSome_iff.mp (by rw [hp]; rfl))] at h
        cases h
      · exact ih _ _ hq' (h.trans hp)
    · -- filled now, and a stored chain is not changed afterwards
      rcases discFold_w_peek ps (discStep (w, d) p).1 (discStep (w, d) p).2 q with h' | ⟨h', _⟩
      · exact h'.trans h
      · rw [h] at h'; cases h'

theorem discStep_w_keys (w d : PCache) (p K : Key) :
    ((discStep (w, d) p).1.peek K).isSome = (w.peek K).isSome := by
  rcases discStep_w_peek w d p K with h | ⟨_, h1, h2⟩
  · rw [h]
  · rw [h1, h2]; rfl

/-- delivery with the caching loop of the unrepaired code (`cacheAsDiscoveredS6`, DESIGN §7 S6), for the witness
`s6_variant_violates` -/
def feedS6 (s : State) (p : Progress) (now : Int) (m : Option Msg) : State × Verdict :=
  match validate s.opts p now m, m with
  | .accept, some msg => (cacheAsDiscoveredS6 s msg.inst (chainIds msg.chain), .accept)
  | v, _ => (s, v)

def stepS6 (s : State) : Op → State × Out
  | .feed p now m => let r := feedS6 s p now m; (r.1, .verdict r.2)
  | op => step s op

def runBothS6 (s : State) (t : Tracker) : List Op → State × Tracker
  | [] => (s, t)
  | o :: os => runBothS6 (stepS6 s o).1 (observe t o (stepS6 s o).2) os

def historyS6 (o : Opts) (ops : List Op) : State × Tracker :=
  runBothS6 (init o) (Tracker.init o.maxWanted o.maxDiscovered) ops

/-- a burst of pubsub deliveries -/
def feeds (s : State) : List (Progress × Int × Option Msg) → State
  | [] => s
  | x :: r => feeds (feed s x.1 x.2.1 x.2.2).1 r

theorem feed_accept {s : State} {p : Progress} {now : Int} {msg : Msg} (hacc : (feed s p now (some msg)).2 = .accept) :
    (feed s p now (some msg)).1 = cacheAsDiscovered s msg.inst (chainIds msg.chain) := by
  rcases feed_cases s p now (some msg) with ⟨msg', hm, e⟩ | ⟨_, e2⟩
  · cases hm; rw [e]
  · exact absurd hacc e2

theorem feed_keeps (s : State) (p : Progress) (now : Int) (m : Option Msg) (i : Nat) (K : Key) :
    Filled K ((W s i).peek K) ((W (feed s p now m).1 i).peek K) := by
  rcases feed_cases s p now m with ⟨msg, _, e⟩ | ⟨e1, _⟩
  · rw [e]
    show Filled K _ ((W (cacheAsDiscovered s msg.inst (chainIds msg.chain)) i).peek K)
    rw [(cacheAsDiscovered_local s msg.inst (chainIds msg.chain)).2.1 i]
    split
    · subst i; exact discFold_w_peek _ _ _ K
    · exact Or.inl rfl
  · rw [e1]; exact Or.inl rfl

theorem feeds_keep (s : State) (fs : List (Progress × Int × Option Msg)) (i : Nat) (K : Key) :
    Filled K ((W s i).peek K) ((W (feeds s fs) i).peek K) := by
  induction fs generalizing s with
  | nil => exact Or.inl rfl
  | cons x r ih => exact (feed_keeps s x.1 x.2.1 x.2.2 i K).trans (ih _)

theorem getChain_leaves_wanted {t : Tracker} {s : State} (h : TInv t s) (i : Nat) {K : Key} (hK : K ≠ []) :
    (W (getChain s i K).1 i).peek K = some .placeholder ∨ (W (getChain s i K).1 i).peek K = some (.chain K) := by
  have h' := tinv_get i K h
  simp only [step, observe, hK, if_false] at h'
  have hrel := h'.rel i
  have hb := hrel.w.kept K ⟨[], (getChain s i K).2.1.isSome⟩ (by rw [onGet_w, if_pos rfl]) (by
    show 0 < (onGet t i K _).capW
    rw [(frame_onGet t i K _).capW]; exact h.posW)
  have hsome := holds_peek_isSome hb.1
  cases hp : (W (getChain s i K).1 i).peek K with
  | none => rw [hp] at hsome; cases hsome
  | some q =>
    rcases hrel.w.ok.vals K q hp with h1 | h1
    · left; rw [h1]
    · right; rw [h1]

theorem getChain_of_wanted (s : State) (i : Nat) {K : Key} (hK : K ≠ []) {c : Chain}
    (h : (W s i).peek K = some (.chain c)) : (getChain s i K).2.1 = some c := by
  obtain ⟨hr, _, _⟩ := getChain_local s i hK
  rw [hr]
  rcases getLocal_cases (W s i) (D s i) K with ⟨c', hc, e⟩ | ⟨hnc, _⟩ | ⟨hnc, _⟩
  · rw [e]; rw [h] at hc; cases hc; rfl
  · exact absurd h (hnc c)
  · exact absurd h (hnc c)

theorem admFold_w (i : Nat) (ps : List Key) (t : Tracker) (h : ∀ p ∈ ps, t.w i p = none) :
    (ps.foldl (onAdmittedPrefix i) t).w = t.w := by
  induction ps generalizing t with
  | nil => rfl
  | cons p r ih =>
    have hw := onAdmittedPrefix_none_w (h p (List.mem_cons_self ..))
    rw [List.foldl_cons, ih _ (fun x hx => by rw [hw]; exact h x (List.mem_cons_of_mem _ hx)), hw]

/-- size of a discovered entry: nothing, or the key itself plus the keys admitted since -/
def dsize : Option (List Key) → Nat
  | none => 0
  | some ds => ds.length + 1

/-- admitting never-solicited prefixes: each adds at most one key to the entry of `q`, and `q` has an entry once
it was among them -/
theorem admFold_d (i : Nat) (q : Key) (ps : List Key) (t : Tracker) (h : ∀ p ∈ ps, t.w i p = none) :
    dsize ((ps.foldl (onAdmittedPrefix i) t).d i q) ≤ dsize (t.d i q) + ps.length ∧
    (q ∈ ps ∨ t.d i q ≠ none → (ps.foldl (onAdmittedPrefix i) t).d i q ≠ none) := by
  induction ps generalizing t with
  | nil => exact ⟨Nat.le_refl _, fun hq => hq.resolve_left (by simp)⟩
  | cons p r ih =>
    have hp := h p (List.mem_cons_self ..)
    have hw := onAdmittedPrefix_none_w hp
    obtain ⟨h1, h2⟩ := ih (onAdmittedPrefix i t p) (fun x hx => by rw [hw]; exact h x (List.mem_cons_of_mem _ hx))
    have hstep : dsize ((onAdmittedPrefix i t p).d i q) ≤ dsize (t.d i q) + 1 ∧
        (q = p ∨ t.d i q ≠ none → (onAdmittedPrefix i t p).d i q ≠ none) := by
      rw [onAdmittedPrefix_none_d hp]
      by_cases hq : q = p
      · subst hq; rw [if_pos rfl]; cases t.d i q <;> simp [dsize]
      · rw [if_neg hq]
        cases hdq : t.d i q with
        | none => simp [dsize, hq]
        | some ds =>
          have : (ins p ds).length ≤ ds.length + 1 := length_insNew_le p ds
          simp [dsize]; omega
    rw [List.foldl_cons]
    refine ⟨by rw [List.length_cons]; omega, fun hq => h2 ?_⟩
    rcases hq with hq | hq
    · rcases List.mem_cons.mp hq with e | e
      · exact Or.inr (hstep.2 (Or.inl e))
      · exact Or.inl e
    · exact Or.inr (hstep.2 (Or.inr hq))

def k12 : Key := [1, 2]
/-- a tipset that passes `TipSet.Validate` -/
def okTip (id : Nat) (e : Int) : TipD := ⟨id, e, 5, 38⟩
/-- ask for `[1,2]`, receive it, receive one unsolicited chain (instance 6 current, no input yet) -/
def s6ops : List Op :=
  [ .get 6 k12,
    .feed ⟨6, none⟩ 1000 (some ⟨6, [okTip 1 1, okTip 2 2], 1000⟩),
    .feed ⟨6, none⟩ 1000 (some ⟨6, [okTip 1 1, okTip 3 3], 1000⟩) ]

end F3.ChainX
