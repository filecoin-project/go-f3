import F3.Gen.SkelCertX
/-!
Hand-written expectations for the REGENERATED skeletons of `F3.Gen.SkelCertX` (tools/go2lean/skel.go): the pre-order
list of the statements of a Go function as `<depth>:<kind>`. The expression-level tie theorems pin what single
conditions say; these pin that nothing was added around them (an extra early return, a cap, a dropped branch). A
structural change of the function — harmful or not — breaks the `rfl` below and with it the obligation of every
property importing this file; the check then searches for a failing input as for any broken obligation.
-/
namespace F3.SkelTie.SkelCertX
open F3.Gen.SkelCertX

/-- the structure the model of `ClientRequest` was written against -/
def skelClientRequestExpected : List String :=
  ["0:defer", "0:assign:=", "0:defer", "0:decl", "0:defer", "0:assign:=", "0:assign:=", "0:if", "1:return3",
   "0:assign=", "0:assign:=", "0:if", "1:assign=", "0:assign:=", "0:assign:=", "0:if", "1:call:log.Debugw",
   "1:return3", "0:if", "1:return3", "0:if", "1:return3", "0:assign:=", "0:defer", "0:decl", "0:if",
   "1:assign=", "0:assign=", "0:if", "1:call:log.Debugw", "1:return3", "0:if", "1:if", "2:assign=",
   "1:assign:=", "1:call:close", "1:return3", "0:assign:=", "0:assign:=", "0:assign:=", "0:assign=", "0:go",
   "0:return3"]

theorem skelClientRequest_expected : skelClientRequest = skelClientRequestExpected := rfl

/-- the structure the model of `PollerPoll` was written against -/
def skelPollerPollExpected : List String :=
  ["0:assign:=", "0:assign:=", "0:defer", "0:for", "1:if", "2:return2", "1:assign:=", "1:assign:=",
   "1:assign=", "1:if", "2:assign=", "2:assign=", "2:return2", "1:if", "2:assign=", "1:assign:=", "1:range",
   "2:assign:=", "2:if", "3:assign=", "3:assign=", "3:return2", "2:incdec++", "2:incdec++", "2:if", "3:if",
   "4:return2", "3:incdec++", "2:assign=", "2:assign=", "1:if", "2:return2", "1:elseif", "2:assign=",
   "2:return2"]

theorem skelPollerPoll_expected : skelPollerPoll = skelPollerPollExpected := rfl

/-- the structure the model of `NewPoller` was written against -/
def skelNewPollerExpected : List String :=
  ["0:decl", "0:if", "1:assign=", "0:assign:=", "0:if", "1:return2", "0:return2"]

theorem skelNewPoller_expected : skelNewPoller = skelNewPollerExpected := rfl

end F3.SkelTie.SkelCertX
