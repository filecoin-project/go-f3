import F3.Proofs.NoFailureTally
import F3.Proofs.InstanceEquations
import F3.Proofs.RoundDecides
/-!
# Tallies of a round in which every vote is for one value (any round)

What a positive total power adds to the one-value tally shape `UTally` (`F3/Proofs/SyncTally.lean`; used for
`round_r_decides`), and, independently, the node-level COMMIT and DECIDE stages of any round from the run-level tally
invariant `TallyWF` (`strong_value_of_unanimous`, `commit_stage_node`, `decide_stage_node`; cited by `F3.Props.C06`).
-/
namespace F3.Liveness
open F3.Instance F3.Sync

variable {t : Table} {c : Chain} {H : List Pid}

/-- with positive total power, a strong quorum of *senders* of a one-value tally is a strong quorum for the value -/
theorem UTally.strong_of_fromStrong {T : Tally} (h : UTally t c H T) (hpos : 0 < t.total)
    (hs : T.fromStrong t = true) : T.hasStrongFor c = true := by
  rw [h.hasStrongFor]
  unfold Tally.fromStrong at hs
  rw [h.pow] at hs
  have hne : T.senders ≠ [] := by
    intro he
    rw [he, sumP_nil, strongQ_zero t hpos] at hs
    cases hs
  simp [hne, hs]

/-- **`findStrongQuorumValue = .one v` from `TallyWF` and unanimity** (total power positive: an entry without signers
has power 0 and is not strong). -/
theorem strong_value_of_unanimous {V : Pid → Chain → Prop} {t : Table} {q : Tally} (hwf : TallyWF V t q) (v : Chain)
    (hpos : 0 < t.total) (H : List Pid) (hne : H ≠ []) (hnd : H.Nodup) (hq : strongQ t (sumP t H) = true)
    (hall : ∀ x ∈ H, x ∈ q.senders) (huni : ∀ x c, x ∈ q.senders → V x c → c = v) :
    q.findStrongQuorumValue = .one v := by
  obtain ⟨sup, _, hchain, hstrong, hfind⟩ := unanimous_entry hwf v H hne hnd hq hall huni
  have ho : ∀ b ∈ q.support, b.strong = true → b.chain = v := by
    intro b hb hbs
    cases hsg : b.signers with
    | nil =>
      have hp := hwf.supPow b hb
      rw [hsg, sumP_nil] at hp
      rw [hwf.strongOk b hb, hp, strongQ_zero t hpos] at hbs
      cases hbs
    | cons y ys =>
      have hy : y ∈ b.signers := by rw [hsg]; exact List.mem_cons_self
      exact huni y b.chain (hwf.sub b hb y hy) (hwf.voted b hb y hy)
  unfold Tally.findStrongQuorumValue
  rw [filter_strong_one q.support v hwf.chains ho]
  unfold Tally.findSupport at hfind
  rw [hfind]
  dsimp only
  rw [if_pos hstrong]
  show SQV.one sup.chain = _
  rw [hchain]

/-- **Round `r`, COMMIT stage (node level).** A participant (in any phase before DECIDE — `tryCommit` is run on every
COMMIT delivery) whose COMMIT tally of round `s.round` satisfies the run-level tally invariant and has heard a whole
strong quorum `H`, every heard vote being for `v ≠ ⊥`, moves to DECIDE with value `v` and broadcasts DECIDE `v` justified
by COMMITs of that round; nothing fails. -/
theorem commit_stage_node (s : State) (now : Int) (V : Pid → Chain → Prop) (v : Chain) (H : List Pid) (hv : v ≠ [])
    (hpos : 0 < s.tbl.total) (hwf : TallyWF V s.tbl (s.getRound s.round).committed)
    (hne : H ≠ []) (hnd : H.Nodup) (hq : strongQ s.tbl (sumP s.tbl H) = true)
    (hall : ∀ x ∈ H, x ∈ (s.getRound s.round).committed.senders)
    (huni : ∀ x c, x ∈ (s.getRound s.round).committed.senders → V x c → c = v) :
    hasFailure (s.tryCommit now s.round).2 = false ∧
    (s.tryCommit now s.round).1.phase = .decide ∧ (s.tryCommit now s.round).1.value = v ∧
    (s.tryCommit now s.round).1.round = s.round ∧
    ∃ sg, Eff.broadcast 0 .decide v false (some { round := s.round, phase := .commit, value := v, signers := sg }) ∈
      (s.tryCommit now s.round).2 := by
  have hone := strong_value_of_unanimous hwf v hpos H hne hnd hq hall huni
  obtain ⟨sg, hsg⟩ := findStrongQuorumFor_found _ _ v hwf hpos (unanimous_tally_strong hwf v H hne hnd hq hall huni)
  rw [tryCommit_one s now s.round v (isEmpty_false_of_ne hv) hone]
  have hsg' : (State.getRound ({ s with value := v } : State) s.round).committed.findStrongQuorumFor
      ({ s with value := v } : State).tbl ({ s with value := v } : State).value = .found sg := hsg
  rw [beginDecide_eq _ s.round sg hsg']
  exact ⟨rfl, rfl, rfl, rfl, sg, by simp⟩

/-- **Round `r`, DECIDE stage (node level).** A participant in DECIDE whose DECIDE tally satisfies the run-level tally
invariant and has heard a whole strong quorum `H`, all for `v`, terminates with decision `v`; nothing fails. -/
theorem decide_stage_node (s : State) (now : Int) (V : Pid → Chain → Prop) (v : Chain) (H : List Pid)
    (hpos : 0 < s.tbl.total) (hwf : TallyWF V s.tbl s.decision)
    (hne : H ≠ []) (hnd : H.Nodup) (hq : strongQ s.tbl (sumP s.tbl H) = true)
    (hall : ∀ x ∈ H, x ∈ s.decision.senders)
    (huni : ∀ x c, x ∈ s.decision.senders → V x c → c = v) :
    hasFailure (s.tryDecide now).2 = false ∧ (s.tryDecide now).1.phase = .terminated ∧
    ∃ d, (s.tryDecide now).1.termination = some d ∧ d.value = v ∧ d.phase = .decide := by
  have hone := strong_value_of_unanimous hwf v hpos H hne hnd hq hall huni
  obtain ⟨sg, hsg⟩ := findStrongQuorumFor_found _ _ v hwf hpos (unanimous_tally_strong hwf v H hne hnd hq hall huni)
  rw [tryDecide_one s now v sg hone hsg]
  exact ⟨rfl, rfl, _, rfl, rfl, rfl⟩

end F3.Liveness
