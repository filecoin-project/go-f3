import F3.Proofs.SyncNode
/-!
# One honest node in a unanimous run: the API calls, function by function

Each model function is walked once, giving `Good` (phases and messages, `SyncNode`) together with what the real-time
argument needs of the same call: the phase timer is re-armed exactly when the phase changes (to `now + 2δ`), the
configuration never changes, tallies grow only by the sender of the message received, and why QUALITY / PREPARE were
left (`PX`, `SX`; this last needs an input chain with a tipset beyond the base).
-/
namespace F3.Sync
open F3.Instance F3.Net

def talOf (s : State) := (s.cfg, s.rounds, s.quality, s.decision)

/-- same configuration and same tallies -/
def TC (s s' : State) : Prop := talOf s' = talOf s

macro "tc_rfl" : tactic => `(tactic| (show talOf _ = talOf _; rfl))

theorem TC.refl (s : State) : TC s s := Eq.refl _

theorem TC.fields {s s' : State} (h : TC s s') :
    s'.cfg = s.cfg ∧ s'.rounds = s.rounds ∧ s'.quality = s.quality ∧ s'.decision = s.decision := by
  unfold TC talOf at h
  simp only [Prod.mk.injEq] at h
  exact h

theorem TC.getRound {s s' : State} (h : TC s s') (r : Nat) : s'.getRound r = s.getRound r := by
  unfold State.getRound
  rw [h.fields.2.1]

theorem TC.senders {s s' : State} (h : TC s s') (ph : Phase) : sendersOf s' ph = sendersOf s ph := by
  obtain ⟨_, _, hq, hd⟩ := h.fields
  cases ph <;> simp only [sendersOf, h.getRound, hq, hd]

theorem TC.of_core_cfg {s s' : State} (h : Core s s') (hc : s'.cfg = s.cfg) : TC s s' := by
  obtain ⟨_, _, _, h4, h5, h6, _⟩ := h.fields
  show talOf s' = talOf s
  unfold talOf
  rw [hc, h4, h5, h6]

/-- a COMMIT justification is only ever stored together with its sender -/
def JS (s : State) : Prop := (s.getRound 0).committed.justs ≠ [] → (s.getRound 0).committed.senders ≠ []

theorem getJustOf_nil (T : Tally) (ph : Phase) (c : Chain) (h : T.justs = []) : T.getJustOf ph c = none := by
  unfold Tally.getJustOf
  rw [h]
  split <;> rfl

/-- extra facts about a call that receives no message -/
structure PX (c : Chain) (now : Int) (s : State) (r : R) : Prop where
  tc : TC s r.1
  same : r.1.phase = s.phase → r.1.phaseTimeout = s.phaseTimeout
  toP : s.phase = .quality → r.1.phase = .prepare →
    r.1.phaseTimeout = now + tableGet s.cfg.timeout2 0 ∧ s.quality.hasStrongFor c = true
  toC : s.phase = .prepare → r.1.phase = .commit →
    r.1.phaseTimeout = now + tableGet s.cfg.timeout2 0 ∧
      ((s.getRound 0).prepared.hasStrongFor c = true ∨ (s.getRound 0).committed.justs ≠ [])

theorem PX.stay (c : Chain) (now : Int) (s : State) : PX c now s (s, []) :=
  ⟨TC.refl s, fun _ => rfl, fun h1 h2 => (by rw [h1] at h2; cases h2), fun h1 h2 => (by rw [h1] at h2; cases h2)⟩

theorem PX.reb (c : Chain) (now : Int) (s : State) : PX c now s (s.tryRebroadcast now) := by
  have hph := tryRebroadcast_phase s now
  obtain ⟨rt, ra, e⟩ := tryRebroadcast_fst s now
  refine ⟨TC.of_core_cfg (tryRebroadcast_core s now) (tryRebroadcast_cfg s now), fun _ => by rw [e], ?_, ?_⟩
  · intro h1 h2; rw [hph, h1] at h2; cases h2
  · intro h1 h2; rw [hph, h1] at h2; cases h2

theorem PX.cand (c : Chain) (now : Int) (s : State) (cs : List Chain) : PX c now s ({ s with candidates := cs }, []) := by
  refine ⟨by tc_rfl, fun _ => rfl, ?_, ?_⟩
  · intro h1 h2
    have h2' : s.phase = .prepare := h2
    rw [h1] at h2'; cases h2'
  · intro h1 h2
    have h2' : s.phase = .commit := h2
    rw [h1] at h2'; cases h2'

theorem receiveInner_senders (t : Table) (Q Q' : Tally) (x : Pid) (k : Chain) (pw : Nat) (sig : Bool)
    (h : Q.receiveInner t x k pw sig = some Q') : Q'.senders = Q.senders := by
  unfold Tally.receiveInner at h
  dsimp only at h
  split at h
  · cases h
  · cases h; rfl

theorem fold_senders (t : Table) (x : Pid) (pw : Nat) (l : List Chain) (Q : Tally) :
    (l.foldl (fun acc k => (acc.receiveInner t x k pw false).getD acc) Q).senders = Q.senders := by
  induction l generalizing Q with
  | nil => rfl
  | cons a as ih =>
    simp only [List.foldl_cons]
    rw [ih]
    cases h : Q.receiveInner t x a pw false with
    | none => rfl
    | some Q' => exact receiveInner_senders t Q Q' x a pw false h

theorem receiveEachPrefix_senders (t : Table) (Q : Tally) (x : Pid) (k : Chain) :
    (Q.receiveEachPrefix t x k).senders = if Q.senders.contains x then Q.senders else Q.senders ++ [x] := by
  unfold Tally.receiveEachPrefix
  split
  · rfl
  · dsimp only
    rw [fold_senders]

theorem receiveEachPrefix_mem (t : Table) (Q : Tally) (x : Pid) (k : Chain) (y : Pid)
    (h : y ∈ (Q.receiveEachPrefix t x k).senders) : y ∈ Q.senders ∨ y = x := by
  rw [receiveEachPrefix_senders] at h
  split at h
  · exact Or.inl h
  · simpa using h

theorem receiveEachPrefix_nodup (t : Table) (Q : Tally) (x : Pid) (k : Chain) (h : Q.senders.Nodup) :
    (Q.receiveEachPrefix t x k).senders.Nodup := by
  rw [receiveEachPrefix_senders]
  split
  · exact h
  · rename_i hc
    have hn : x ∉ Q.senders := by simpa using hc
    rw [List.nodup_append]
    exact ⟨h, by simp, fun a ha b hb => by simp at hb; subst hb; intro e; subst e; exact hn ha⟩

/-- extra facts about one API call (`om`: the message being received, if any) -/
structure SX (c : Chain) (now : Int) (om : Option Msg) (s : State) (r : R) : Prop where
  cfg : r.1.cfg = s.cfg
  same : r.1.phase = s.phase → r.1.phaseTimeout = s.phaseTimeout
  toP : s.phase = .quality → r.1.phase = .prepare →
    r.1.phaseTimeout = now + tableGet s.cfg.timeout2 0 ∧ r.1.quality.hasStrongFor c = true
  toC : s.phase = .prepare → r.1.phase = .commit →
    r.1.phaseTimeout = now + tableGet s.cfg.timeout2 0 ∧
      ((r.1.getRound 0).prepared.hasStrongFor c = true ∨ (r.1.getRound 0).committed.justs ≠ [])
  conv : ∀ ph x, x ∈ sendersOf r.1 ph → x ∈ sendersOf s ph ∨ (∃ m, om = some m ∧ x = m.sender ∧ ph = m.phase)
  qn : s.quality.senders.Nodup → r.1.quality.senders.Nodup
  js : JS s → JS r.1

theorem JS.of_tc {s s' : State} (h : TC s s') (hj : JS s) : JS s' := by
  unfold JS
  rw [h.getRound]
  exact hj

theorem SX.of_px {c : Chain} {now : Int} {om : Option Msg} {s s1 : State} {r : R}
    (px : PX c now s1 r)
    (hph : s1.phase = s.phase) (hto : s1.phaseTimeout = s.phaseTimeout) (hcfg : s1.cfg = s.cfg)
    (hconv : ∀ ph x, x ∈ sendersOf s1 ph → x ∈ sendersOf s ph ∨ (∃ m, om = some m ∧ x = m.sender ∧ ph = m.phase))
    (hqn : s.quality.senders.Nodup → s1.quality.senders.Nodup) (hjs : JS s → JS s1) : SX c now om s r := by
  obtain ⟨h1, _, h3, _⟩ := px.tc.fields
  refine ⟨h1.trans hcfg, ?_, ?_, ?_, ?_, ?_, ?_⟩
  · intro h
    rw [← hto]
    exact px.same (h.trans hph.symm)
  · intro ha hb
    obtain ⟨e1, e2⟩ := px.toP (hph.trans ha) hb
    rw [hcfg] at e1
    exact ⟨e1, by rw [h3]; exact e2⟩
  · intro ha hb
    obtain ⟨e1, e2⟩ := px.toC (hph.trans ha) hb
    rw [hcfg] at e1
    exact ⟨e1, by rw [px.tc.getRound]; exact e2⟩
  · intro ph x hx
    rw [px.tc.senders] at hx
    exact hconv ph x hx
  · intro h
    rw [h3]; exact hqn h
  · intro h
    exact JS.of_tc px.tc (hjs h)

section
variable {t : Table} {c : Chain} {H : List Pid}

/-- `Good`, and `PX` when the input has a tipset beyond the base -/
abbrev GX (t : Table) (c : Chain) (H : List Pid) (p : Pid) (now : Int) (s : State) (r : R) : Prop :=
  Good t c H p s r ∧ (2 ≤ c.length → PX c now s r)

theorem GX.stay {p : Pid} {s : State} (now : Int) (hs : SInv t c H s) (hpi : PI c p s s.phase) :
    GX t c H p now s (s, []) :=
  ⟨Good.stay hs hpi, fun _ => PX.stay c now s⟩

theorem GX.reb {p : Pid} {s : State} (now : Int) (hs : SInv t c H s) (hpi : PI c p s s.phase) :
    GX t c H p now s (s.tryRebroadcast now) :=
  ⟨Good.reb now hs hpi, fun _ => PX.reb c now s⟩

theorem tryQuality_gx (hctx : Ctx t c H) {p : Pid} (hpH : p ∈ H) {s : State} (now : Int) (hs : SInv t c H s)
    (hph : s.phase = .quality) (h2 : A2 p s) (h3 : A3 c s) (h4 : A4 s)
    (hsync : s.phaseTimeoutElapsed now = true → ∀ h ∈ H, h ∈ s.quality.senders) :
    GX t c H p now s (s.tryQuality now) := by
  refine tryQuality_ind s now (fun h => absurd hph h) (fun _ hcond => ?_) (fun _ hcond cs _ => ?_)
  · have hnf := (Bool.or_eq_false_iff.1 hcond).1
    rw [hs.proposal] at hnf
    exact GX.stay now hs (by rw [hph]; exact ⟨hnf, h2, h3, h4⟩)
  · -- with a tipset beyond the base QUALITY ends with a quorum for `c`, also by its timer (every vote is in then)
    have hq : 2 ≤ c.length → s.quality.hasStrongFor c = true := by
      intro hlen
      rw [hs.proposal, Bool.or_eq_true] at hcond
      rcases hcond with hf | he
      · exact hf
      · exact hs.qt.strong_of_all hctx hlen (List.ne_nil_of_mem hpH) (hsync he)
    have hl : s.quality.longestPrefixWithQuorum s.input = c := by
      rw [hs.input]
      by_cases hlen : 2 ≤ c.length
      · exact SyncGeneral.lpq_strong _ _ (hq hlen)
      · exact SyncGeneral.lpq_single _ c hctx.cne hlen
    rw [hl]
    refine ⟨Good.of_core hs (by core_rfl) rfl ⟨fun hp => absurd hp h2, h3, h4⟩ rfl ?_,
      fun hlen => ⟨by tc_rfl, ?_, fun _ _ => ⟨?_, hq hlen⟩, ?_⟩⟩
    · show Trans p c s.phase .prepare (sent p [_, _, Eff.broadcast s.round .prepare c false none])
      rw [hph, hs.round]
      exact Trans.q2p
    · intro h
      have h' : Phase.prepare = s.phase := h
      rw [hph] at h'; cases h'
    · show now + tableGet s.cfg.timeout2 s.round = _
      rw [hs.round]
    · intro h; rw [hph] at h; cases h

theorem tryPrepare_gx (hctx : Ctx t c H) {p : Pid} (hpH : p ∈ H) {s : State} (now : Int) (hs : SInv t c H s)
    (hph : s.phase = .prepare) (h3 : A3 c s) (h4 : A4 s)
    (hsync : s.phaseTimeoutElapsed now = true → ∀ h ∈ H, h ∈ (s.getRound 0).prepared.senders) :
    GX t c H p now s (s.tryPrepare now) := by
  have hnp : s.prepNotPossible = false := by
    unfold State.prepNotPossible
    rw [hs.round, hs.tbl, hs.proposal, hs.prep.couldReach]; rfl
  have hfq : s.prepFoundQuorum = (s.getRound 0).prepared.hasStrongFor c := by
    unfold State.prepFoundQuorum; rw [hs.round, hs.proposal]
  by_cases hfound : (s.prepFoundQuorum || s.prepFoundJust) = true
  · have hcond : (s.prepFoundQuorum || s.prepFoundJust || s.prepNotPossible || s.prepComplete now) = true := by
      rw [hfound]; rfl
    rw [tryPrepare_go s now hph hcond, prepareValue_found s now hfound]
    have hs' : SInv t c H ({ s with value := s.proposal } : State) := hs.core (by core_rfl) hs.proposal
    obtain ⟨j, hj, hjf⟩ := commitJust_ok hctx hs' hs.proposal hfound
    rw [beginCommit_eq _ now j (by show s.proposal.isEmpty = false; rw [hs.proposal]; exact isEmpty_false_of_ne hctx.cne) hj]
    refine ⟨Good.of_core hs (by core_rfl) hs.proposal ⟨h3, h4⟩ rfl ?_,
      fun _ => ⟨by tc_rfl, ?_, ?_, fun _ _ => ⟨?_, ?_⟩⟩⟩
    · show Trans p c s.phase .commit (sent p [_, _, Eff.broadcast s.round .commit s.proposal false (some j)])
      rw [hph, hs.round, hs.proposal]
      exact Trans.p2c j hjf
    · intro h
      have h' : Phase.commit = s.phase := h
      rw [hph] at h'; cases h'
    · intro h; rw [hph] at h; cases h
    · show now + tableGet s.cfg.timeout2 s.round = _
      rw [hs.round]
    · -- PREPARE was left on a quorum, or on a justification carried by a COMMIT
      by_cases hq : (s.getRound 0).prepared.hasStrongFor c = true
      · exact Or.inl hq
      · right
        intro hje
        have hq' : (s.getRound 0).prepared.hasStrongFor c = false := by simpa using hq
        unfold State.prepFoundQuorum State.prepFoundJust at hfound
        rw [hs.round, hs.proposal, hq'] at hfound
        simp only [Nat.zero_add, hs.getRound1] at hfound
        rw [getJustOf_empty, conv_getJustOf_empty, getJustOf_nil _ _ _ hje] at hfound
        simp at hfound
  · have hfound' : (s.prepFoundQuorum || s.prepFoundJust) = false := by simpa using hfound
    have hnq : (s.getRound 0).prepared.hasStrongFor c = false := by
      rw [← hfq]
      cases hx : s.prepFoundQuorum
      · rfl
      · rw [hx] at hfound'; simp at hfound'
    have hpc : s.prepComplete now = false := by
      cases hx : s.prepComplete now
      · rfl
      · exfalso
        unfold State.prepComplete at hx
        simp only [Bool.and_eq_true] at hx
        have := hs.prep.strong_of_all hctx (List.ne_nil_of_mem hpH) (hsync hx.1)
        rw [hnq] at this; cases this
    have hcond : (s.prepFoundQuorum || s.prepFoundJust || s.prepNotPossible || s.prepComplete now) = false := by
      rw [hfound', hnp, hpc]; rfl
    rw [tryPrepare_stay s now hph hcond]
    have hpi : PI c p s s.phase := by rw [hph]; exact ⟨fun _ => hnq, h3, h4⟩
    split
    · exact GX.reb now hs hpi
    · exact GX.stay now hs hpi

/-- `tryCommit` for round 0, from QUALITY, PREPARE or COMMIT; `hpi`: the rest of the phase invariant -/
theorem tryCommit_gx (hctx : Ctx t c H) {p : Pid} (hpH : p ∈ H) {s : State} (now : Int) (hs : SInv t c H s)
    (hph : s.phase = .quality ∨ s.phase = .prepare ∨ s.phase = .commit) (h4 : A4 s)
    (hpi : A3 c s → PI c p s s.phase)
    (hsync : s.phase = .commit → s.phaseTimeoutElapsed now = true → ∀ h ∈ H, h ∈ (s.getRound 0).committed.senders) :
    GX t c H p now s (s.tryCommit now 0) ∧
      ((s.tryCommit now 0 = (s, []) ∧ A3 c s) ∨ s.phase = .commit ∨ (s.tryCommit now 0).1.phase = .decide) := by
  refine tryCommit_led (P := fun r => GX t c H p now s r ∧ ((r = (s, []) ∧ A3 c s) ∨ s.phase = .commit ∨ r.1.phase = .decide))
    (SInv.led hs hctx) now (fun hc hx _ => hs.comm.strong_of_all hctx (List.ne_nil_of_mem hpH) (hsync hc hx))
    (fun sg _ => ?_) (fun hq => ⟨GX.stay now hs (hpi hq), Or.inl ⟨rfl, hq⟩⟩)
    (fun hq hc => ⟨GX.reb now hs (hpi hq), Or.inr (Or.inl hc)⟩)
  refine ⟨⟨Good.of_core hs (by core_rfl) hs.proposal (A5_of_A4 hs h4) rfl (Trans.x2d _ _ hph (Or.inl rfl) _ ⟨rfl, rfl, rfl⟩),
    fun _ => ⟨by tc_rfl, ?_, (fun _ h => nomatch h), (fun _ h => nomatch h)⟩⟩, Or.inr (Or.inr rfl)⟩
  intro h
  have h' : Phase.decide = s.phase := h
  rcases hph with h1 | h1 | h1 <;> rw [h1] at h' <;> cases h'

theorem tryDecide_gx (hctx : Ctx t c H) {p : Pid} {s : State} (now : Int) (hs : SInv t c H s)
    (hph : s.phase = .decide) : GX t c H p now s (s.tryDecide now) := by
  refine tryDecide_led (SInv.led hs hctx) now (fun sg _ => ?_)
    (fun hq => GX.reb now hs (by rw [hph]; exact hq))
  refine ⟨⟨rfl, ⟨hs.tbl, hs.input, hs.round, hs.proposal, hs.rounds, hs.qt, hs.prep, hs.comm, hs.dec, ?_⟩, ⟨_, rfl⟩,
    fun _ _ hx => hx, ?_⟩, fun _ => ⟨by tc_rfl, fun _ => rfl, ?_, ?_⟩⟩
  · intro d hd
    cases hd
    rfl
  · show Trans p c s.phase .terminated []
    rw [hph]; exact Trans.d2t
  · intro h; rw [hph] at h; cases h
  · intro h; rw [hph] at h; cases h

theorem tryCurrentPhase_gx (hctx : Ctx t c H) {p : Pid} (hpH : p ∈ H) {s : State} (now : Int) (hs : SInv t c H s)
    (hw : WPI c p s s.phase) (hsync : Synced H s now) : GX t c H p now s (s.tryCurrentPhase now) := by
  unfold Synced at hsync
  unfold State.tryCurrentPhase
  cases hph : s.phase <;> rw [hph] at hw hsync <;> dsimp only
  · exact hw.elim
  · exact tryQuality_gx hctx hpH now hs hph hw.1 hw.2.1 hw.2.2 (hsync rfl)
  · exact hw.elim
  · exact tryPrepare_gx hctx hpH now hs hph hw.1 hw.2 (hsync rfl)
  · rw [hs.round]
    exact (tryCommit_gx hctx hpH now hs (Or.inr (Or.inr hph)) hw (fun h3 => by rw [hph]; exact ⟨h3, hw⟩)
      (fun _ => hsync rfl)).1
  · exact tryDecide_gx hctx now hs hph
  · exact GX.stay now hs (by rw [hph]; exact hw)

/-- `s1` is `s` with the message `m` tallied -/
structure Tallied (m : Msg) (s s1 : State) : Prop where
  phase : s1.phase = s.phase
  timeout : s1.phaseTimeout = s.phaseTimeout
  cfg : s1.cfg = s.cfg
  mono : ∀ ph x, x ∈ sendersOf s ph → x ∈ sendersOf s1 ph
  conv : ∀ ph x, x ∈ sendersOf s1 ph → x ∈ sendersOf s ph ∨ (x = m.sender ∧ ph = m.phase)
  mem : m.sender ∈ sendersOf s1 m.phase
  qn : s.quality.senders.Nodup → s1.quality.senders.Nodup
  js : JS s → JS s1

/-- `Good`, the sender of `m` tallied, and `SX` when the input has a tipset beyond the base -/
abbrev RX (t : Table) (c : Chain) (H : List Pid) (p : Pid) (now : Int) (m : Msg) (s : State) (r : R) : Prop :=
  (Good t c H p s r ∧ m.sender ∈ sendersOf r.1 m.phase) ∧ (2 ≤ c.length → SX c now (some m) s r)

/-- what a call on the state with `m` tallied guarantees, seen from the state before -/
theorem GX.toRX {p : Pid} {now : Int} {m : Msg} {s s1 : State} {r : R} (g : GX t c H p now s1 r)
    (T : Tallied m s s1) : RX t c H p now m s r :=
  ⟨⟨Good.pre T.phase.symm T.mono g.1, g.1.mono _ _ T.mem⟩,
   fun hlen => SX.of_px (g.2 hlen) T.phase T.timeout T.cfg
     (fun ph x hx => (T.conv ph x hx).imp id (fun h => ⟨m, rfl, h.1, h.2⟩)) T.qn T.js⟩

theorem after_tally (hctx : Ctx t c H) {p : Pid} (hpH : p ∈ H) {s s1 : State} (now : Int) (m : Msg)
    (T : Tallied m s s1) (hs1 : SInv t c H s1) (hw : WPI c p s1 s1.phase) (hsync : SyncedM H s now m) :
    RX t c H p now m s (s1.tryCurrentPhase now) := by
  have hsy : Synced H s1 now := by
    intro htp hel h hh
    rw [T.phase] at htp ⊢
    have hel' : s.phaseTimeoutElapsed now = true := by
      unfold State.phaseTimeoutElapsed at hel ⊢
      rw [← T.timeout]; exact hel
    rcases hsync htp hel' h hh with h1 | ⟨h1, h2⟩
    · exact T.mono _ _ h1
    · rw [← h1, ← h2]; exact T.mem
  exact (tryCurrentPhase_gx hctx hpH now hs1 hw hsy).toRX T

theorem recvQuality_rx (hctx : Ctx t c H) {p : Pid} (hpH : p ∈ H) {s : State} (now : Int) (m : Msg)
    (hs : SInv t c H s) (hpi : PI c p s s.phase) (hni : s.phase ≠ .initial) (hm : Shape c m)
    (hmp : m.phase = .quality) (hsync : SyncedM H s now m) : RX t c H p now m s (s.recvQuality now m) := by
  obtain ⟨hq', hxin, hsub⟩ := hs.qt.receive m.sender
  have e1 : s.quality.receiveEachPrefix s.tbl m.sender m.value = s.quality.receiveEachPrefix t m.sender c := by
    rw [hs.tbl, hm.2.1]
  unfold State.recvQuality
  dsimp only
  rw [e1]
  have hs1 : SInv t c H ({ s with quality := s.quality.receiveEachPrefix t m.sender c } : State) :=
    ⟨hs.tbl, hs.input, hs.round, hs.proposal, hs.rounds, hq', hs.prep, hs.comm, hs.dec, hs.term⟩
  have T : Tallied m s ({ s with quality := s.quality.receiveEachPrefix t m.sender c } : State) := by
    refine ⟨rfl, rfl, rfl, ?_, ?_, by rw [hmp]; exact hxin, fun h => receiveEachPrefix_nodup t _ _ _ h, fun h => h⟩
    · intro ph x hx
      cases ph
      case quality => exact hsub x hx
      all_goals exact hx
    · intro ph x hx
      cases ph
      case quality => exact (receiveEachPrefix_mem t _ _ _ x hx).imp id (fun h => ⟨h, hmp.symm⟩)
      all_goals exact Or.inl hx
  by_cases hph : s.phase = .quality
  · rw [if_neg (by simp [hph])]
    refine after_tally hctx hpH now m T hs1 ?_ hsync
    show WPI c p _ s.phase
    rw [hph] at hpi ⊢
    exact hpi.2
  · rw [if_pos (by simp [hph])]
    unfold State.updateCandidatesFromQuality
    obtain ⟨cs, hcs⟩ := addCandidatePrefixes_fst ({ s with quality := s.quality.receiveEachPrefix t m.sender c } : State)
      ((s.quality.receiveEachPrefix t m.sender c).longestPrefixWithQuorum s.input)
    dsimp only at hcs ⊢
    rw [hcs]
    have hpi1 : PI c p ({ s with quality := s.quality.receiveEachPrefix t m.sender c } : State) s.phase := by
      cases hp : s.phase <;> rw [hp] at hpi
      · exact absurd hp hni
      · exact absurd hp hph
      all_goals exact hpi
    exact GX.toRX (s1 := ({ s with quality := s.quality.receiveEachPrefix t m.sender c } : State))
      ⟨Good.of_core hs1 (by core_rfl) hs.proposal hpi1 rfl (Trans.same _), fun _ => PX.cand c now _ cs⟩ T

theorem recvPrepare_rx (hctx : Ctx t c H) {p : Pid} (hpH : p ∈ H) {s : State} (now : Int) (m : Msg)
    (hs : SInv t c H s) (hpi : PI c p s s.phase) (hni : s.phase ≠ .initial) (hm : Shape c m) (hmH : m.sender ∈ H)
    (hmp : m.phase = .prepare) (hself : m.sender = p → s.phase ≠ .quality) (hsync : SyncedM H s now m) :
    RX t c H p now m s (s.recvPrepare now m) := by
  obtain ⟨P', hrecv, hP', hxin, hsub, hsup, _⟩ := hs.prep.receive m.sender hmH
  have e1 : (s.getRound 0).prepared.receive s.tbl m.sender m.value = some P' := by
    rw [hs.tbl, hm.2.1]; exact hrecv
  unfold State.recvPrepare
  dsimp only
  rw [hm.1, e1]
  dsimp only
  unfold storePrepareJust
  rw [(shape_just hm).2.1 hmp]
  dsimp only
  obtain ⟨hs1, hg1⟩ := hs.setRound { s.getRound 0 with prepared := P' } hP' hs.comm
  refine after_tally hctx hpH now m ⟨rfl, rfl, rfl, ?_, ?_, ?_, fun h => h, ?_⟩ hs1 ?_ hsync
  · intro ph x hx
    cases ph
    case prepare => show x ∈ (State.getRound _ 0).prepared.senders; rw [hg1]; exact hsub x hx
    case commit => show x ∈ (State.getRound _ 0).committed.senders; rw [hg1]; exact hx
    all_goals exact hx
  · intro ph x hx
    cases ph
    case prepare =>
      have hx' : x ∈ (State.getRound _ 0).prepared.senders := hx
      rw [hg1] at hx'
      exact (hsup x hx').imp id (fun h => ⟨h, hmp.symm⟩)
    case commit =>
      have hx' : x ∈ (State.getRound _ 0).committed.senders := hx
      rw [hg1] at hx'
      exact Or.inl hx'
    all_goals exact Or.inl hx
  · rw [hmp]; show m.sender ∈ (State.getRound _ 0).prepared.senders; rw [hg1]; exact hxin
  · intro hj
    unfold JS
    rw [hg1]
    exact hj
  · show WPI c p _ s.phase
    cases hp : s.phase <;> rw [hp] at hpi
    · exact absurd hp hni
    · refine ⟨?_, ?_, hpi.2.2.2⟩
      · show p ∉ (State.getRound _ 0).prepared.senders
        rw [hg1]
        intro hin
        rcases hsup p hin with h | h
        · exact hpi.2.1 h
        · exact hself h.symm hp
      · show (State.getRound _ 0).committed.hasStrongFor c = false
        rw [hg1]; exact hpi.2.2.1
    · exact hpi.elim
    · refine ⟨?_, hpi.2.2⟩
      show (State.getRound _ 0).committed.hasStrongFor c = false
      rw [hg1]; exact hpi.2.1
    · exact hpi.2
    · trivial
    · exact hpi

theorem recvCommit_rx (hctx : Ctx t c H) {p : Pid} (hpH : p ∈ H) {s : State} (now : Int) (m : Msg)
    (hs : SInv t c H s) (hpi : PI c p s s.phase) (hni : s.phase ≠ .initial) (hnt : s.phase ≠ .terminated)
    (hm : Shape c m) (hmH : m.sender ∈ H) (hmp : m.phase = .commit) (hsync : SyncedM H s now m) :
    RX t c H p now m s (s.recvCommit now m) := by
  obtain ⟨C', hrecv, hC', hxin, hsub, hsup, _⟩ := hs.comm.receive m.sender hmH
  obtain ⟨j, hj, hjf⟩ := (shape_just hm).2.2.1 hmp
  have e1 : (s.getRound 0).committed.receive s.tbl m.sender m.value = some C' := by
    rw [hs.tbl, hm.2.1]; exact hrecv
  have hve : m.value.isEmpty = false := by rw [hm.2.1]; exact isEmpty_false_of_ne hctx.cne
  have e2 : storeCommitJust C' m = C'.receiveJust c j := by
    unfold storeCommitJust
    rw [hj]
    dsimp only
    rw [if_neg (by simp [hve]), hm.2.1]
  unfold State.recvCommit
  dsimp only
  rw [hm.1, e1]
  dsimp only
  rw [if_neg (by simp [hj]), e2]
  have hC'' : UT t c H .prepare (C'.receiveJust c j) := hC'.receiveJust j hjf
  obtain ⟨hs1, hg1⟩ := hs.setRound { s.getRound 0 with committed := C'.receiveJust c j } hs.prep hC''
  have hph1 : (s.setRound 0 { s.getRound 0 with committed := C'.receiveJust c j }).phase = s.phase := rfl
  have hto1 : (s.setRound 0 { s.getRound 0 with committed := C'.receiveJust c j }).phaseTimeout = s.phaseTimeout := rfl
  have hdec1 : (s.setRound 0 { s.getRound 0 with committed := C'.receiveJust c j }).decision = s.decision := rfl
  have hq1 : (s.setRound 0 { s.getRound 0 with committed := C'.receiveJust c j }).quality = s.quality := rfl
  have hcfg1 : (s.setRound 0 { s.getRound 0 with committed := C'.receiveJust c j }).cfg = s.cfg := rfl
  generalize s.setRound 0 { s.getRound 0 with committed := C'.receiveJust c j } = s1 at *
  have hP1 : (s1.getRound 0).prepared = (s.getRound 0).prepared := by rw [hg1]
  have hC1 : (s1.getRound 0).committed.senders = C'.senders := by rw [hg1]; exact receiveJust_senders _ _ _
  have T : Tallied m s s1 := by
    refine ⟨hph1, hto1, hcfg1, ?_, ?_, ?_, fun h => by rw [hq1]; exact h, ?_⟩
    · intro ph x hx
      cases ph
      case prepare => show x ∈ (s1.getRound 0).prepared.senders; rw [hP1]; exact hx
      case commit => show x ∈ (s1.getRound 0).committed.senders; rw [hC1]; exact hsub x hx
      case quality => show x ∈ s1.quality.senders; rw [hq1]; exact hx
      case decide => show x ∈ s1.decision.senders; rw [hdec1]; exact hx
      all_goals exact hx
    · intro ph x hx
      cases ph
      case prepare =>
        have hx' : x ∈ (s1.getRound 0).prepared.senders := hx
        rw [hP1] at hx'; exact Or.inl hx'
      case commit =>
        have hx' : x ∈ (s1.getRound 0).committed.senders := hx
        rw [hC1] at hx'
        exact (hsup x hx').imp id (fun h => ⟨h, hmp.symm⟩)
      case quality =>
        have hx' : x ∈ s1.quality.senders := hx
        rw [hq1] at hx'; exact Or.inl hx'
      case decide =>
        have hx' : x ∈ s1.decision.senders := hx
        rw [hdec1] at hx'; exact Or.inl hx'
      all_goals exact Or.inl hx
    · rw [hmp]; show m.sender ∈ (s1.getRound 0).committed.senders; rw [hC1]; exact hxin
    · intro _ _
      rw [hC1]
      exact List.ne_nil_of_mem hxin
  by_cases hd : s.phase = .decide
  · rw [if_neg (by simp [hph1, hd])]
    refine after_tally hctx hpH now m T hs1 ?_ hsync
    rw [hph1, hd]; trivial
  · rw [if_pos (by simp [hph1, hd])]
    have hph' : s1.phase = .quality ∨ s1.phase = .prepare ∨ s1.phase = .commit := by
      rw [hph1]
      exact phase_working hni hpi.not_converge hd hnt
    have h4 : A4 s1 := by
      show s1.decision.senders = []
      rw [hdec1]
      cases hp : s.phase <;> rw [hp] at hpi
      · exact hpi.2.2.2
      · exact hpi.2.2.2
      · exact hpi.elim
      · exact hpi.2.2
      · exact hpi.2
      · exact absurd hp hd
      · exact absurd hp hnt
    have hpi' : A3 c s1 → PI c p s1 s1.phase := by
      intro h3
      rw [hph1]
      cases hp : s.phase <;> rw [hp] at hpi
      · exact absurd hp hni
      · refine ⟨?_, ?_, h3, h4⟩
        · show s1.quality.hasStrongFor c = false
          rw [hq1]; exact hpi.1
        · show p ∉ (s1.getRound 0).prepared.senders
          rw [hP1]; exact hpi.2.1
      · exact hpi.elim
      · refine ⟨?_, h3, h4⟩
        show p ∈ (s1.getRound 0).prepared.senders → (s1.getRound 0).prepared.hasStrongFor c = false
        rw [hP1]; exact hpi.1
      · exact ⟨h3, h4⟩
      · exact absurd hp hd
      · exact absurd hp hnt
    have hsy : s1.phase = .commit → s1.phaseTimeoutElapsed now = true → ∀ h ∈ H, h ∈ (s1.getRound 0).committed.senders := by
      intro hc hel h hh
      rw [hph1] at hc
      have hel' : s.phaseTimeoutElapsed now = true := by
        unfold State.phaseTimeoutElapsed at hel ⊢
        rw [← hto1]; exact hel
      rw [hC1]
      rcases hsync (by rw [hc]; rfl) hel' h hh with h1 | ⟨_, h2⟩
      · rw [hc] at h1; exact hsub h h1
      · rw [← h2]; exact hxin
    obtain ⟨g, hcase⟩ := tryCommit_gx hctx hpH now hs1 hph' h4 hpi' hsy
    rcases hcase with ⟨heq, h3⟩ | hc | hdc
    · rw [heq]
      dsimp only
      by_cases hp : s.phase = .prepare
      · rw [if_pos (by simp [hph1, hp, hs1.round, hve])]
        rw [andThen_nil]
        refine after_tally hctx hpH now m T hs1 ?_ hsync
        rw [hph1, hp]; exact ⟨h3, h4⟩
      · rw [if_neg (by simp [hph1, hp])]
        exact (GX.stay now hs1 (hpi' h3)).toRX T
    · have hne : (s1.tryCommit now 0).1.phase ≠ .prepare := by
        have := g.1.trans
        rw [hc] at this
        rcases this.from_commit with h | h | h <;> rw [h] <;> simp
      rw [if_neg (by simp [hne])]
      exact g.toRX T
    · rw [if_neg (by simp [hdc])]
      exact g.toRX T

theorem recvDecide_rx (hctx : Ctx t c H) {p : Pid} (hpH : p ∈ H) {s : State} (now : Int) (m : Msg)
    (hs : SInv t c H s) (hpi : PI c p s s.phase) (hni : s.phase ≠ .initial) (hnt : s.phase ≠ .terminated)
    (hm : Shape c m) (hmH : m.sender ∈ H) (hmp : m.phase = .decide) (hsync : SyncedM H s now m) :
    RX t c H p now m s (s.recvDecide now m) := by
  obtain ⟨D', hrecv, hD', hxin, hsub, hsup, _⟩ := hs.dec.receive m.sender hmH
  obtain ⟨j, hj, hjf⟩ := (shape_just hm).2.2.2 hmp
  have e1 : s.decision.receive s.tbl m.sender m.value = some D' := by
    rw [hs.tbl, hm.2.1]; exact hrecv
  unfold State.recvDecide
  rw [e1]
  dsimp only
  have hs1 : SInv t c H ({ s with decision := D' } : State) :=
    ⟨hs.tbl, hs.input, hs.round, hs.proposal, hs.rounds, hs.qt, hs.prep, hs.comm, hD', hs.term⟩
  have T : Tallied m s ({ s with decision := D' } : State) := by
    refine ⟨rfl, rfl, rfl, ?_, ?_, by rw [hmp]; exact hxin, fun h => h, fun h => h⟩
    · intro ph x hx
      cases ph
      case decide => exact hsub x hx
      all_goals exact hx
    · intro ph x hx
      cases ph
      case decide => exact (hsup x hx).imp id (fun h => ⟨h, hmp.symm⟩)
      all_goals exact Or.inl hx
  by_cases hd : s.phase = .decide
  · rw [if_neg (by simp [hd])]
    refine after_tally hctx hpH now m T hs1 ?_ hsync
    show WPI c p _ s.phase
    rw [hd]; trivial
  · rw [if_pos (by simp [hd])]
    have hph' := phase_working hni hpi.not_converge hd hnt
    rw [hm.2.1, hj]
    have hsk : State.skipToDecide ({ s with decision := D' } : State) c (some j) =
        (afterSkip s D' c, [.progress s.round .decide, .broadcast 0 .decide c false (some j)]) := rfl
    rw [hsk, andThen_ok _ _ rfl]
    dsimp only
    have hs2 : SInv t c H (afterSkip s D' c) := hs1.core (by core_rfl) rfl
    have htc : State.tryCurrentPhase (afterSkip s D' c) now = State.tryDecide (afterSkip s D' c) now := rfl
    rw [htc]
    have g2 := tryDecide_gx (p := p) hctx now hs2 rfl
    generalize State.tryDecide (afterSkip s D' c) now = r2 at g2 ⊢
    obtain ⟨hb, hms⟩ := g2.1.trans.from_decide
    refine ⟨⟨⟨?_, g2.1.sinv, g2.1.pi, fun ph x hx => g2.1.mono ph x (T.mono ph x hx), ?_⟩, g2.1.mono _ _ T.mem⟩,
      fun hlen => ?_⟩
    · show hasFailure ([Eff.progress s.round .decide, .broadcast 0 .decide c false (some j)] ++ r2.2) = false
      rw [hasFailure_append, g2.1.nofail]; rfl
    · show Trans p c s.phase r2.1.phase (sent p ([Eff.progress s.round .decide, .broadcast 0 .decide c false (some j)] ++ r2.2))
      rw [sent_append, hms, List.append_nil]
      exact Trans.x2d _ _ hph' hb j hjf
    · -- the phase becomes DECIDE or `terminated`: the timer clauses are void
      have px2 := g2.2 hlen
      obtain ⟨f1, _, f3, _⟩ := px2.tc.fields
      refine ⟨f1, ?_, ?_, ?_, ?_, fun h => by show r2.1.quality.senders.Nodup; rw [f3]; exact h,
        fun h => JS.of_tc px2.tc h⟩
      · intro h
        have h' : r2.1.phase = s.phase := h
        exfalso
        rcases hb with hb | hb <;> rcases hph' with h1 | h1 | h1 <;> (rw [hb, h1] at h'; cases h')
      · intro _ h
        have h' : r2.1.phase = .prepare := h
        exfalso
        rcases hb with hb | hb <;> (rw [hb] at h'; cases h')
      · intro _ h
        have h' : r2.1.phase = .commit := h
        exfalso
        rcases hb with hb | hb <;> (rw [hb] at h'; cases h')
      · intro ph x hx
        have hx' : x ∈ sendersOf r2.1 ph := hx
        rw [px2.tc.senders] at hx'
        exact (T.conv ph x (by cases ph <;> exact hx')).imp id (fun h => ⟨m, rfl, h.1, h.2⟩)

theorem step_recv_rx (hctx : Ctx t c H) {p : Pid} (hpH : p ∈ H) {s : State} (now : Int) (m : Msg)
    (hs : SInv t c H s) (hpi : PI c p s s.phase) (hni : s.phase ≠ .initial) (hnt : s.phase ≠ .terminated)
    (hm : Shape c m) (hmH : m.sender ∈ H) (hself : m.phase = .prepare → m.sender = p → s.phase ≠ .quality)
    (hsync : SyncedM H s now m) : RX t c H p now m s (step s (.recv now m)) := by
  have hpre := recvPre_accept hs hctx.cne hnt hm
  have key : ∀ r : R, (s.receiveOne now m).1 = r → RX t c H p now m s r → RX t c H p now m s (step s (.recv now m)) := by
    intro r hr hg
    have : step s (.recv now m) = r := by
      rw [step_recv_eq s now m hnt (by rw [hr]; exact hg.1.1.nofail) (by rw [hr, hm.1]; exact Nat.zero_le _), hr]
    rw [this]; exact hg
  rcases hm.phases with hmp | hmp | hmp | hmp
  · exact key _ (congrArg Prod.fst (receiveOne_quality s now m hpre hmp)) (recvQuality_rx hctx hpH now m hs hpi hni hm hmp hsync)
  · exact key _ (congrArg Prod.fst (receiveOne_prepare s now m hpre hmp))
      (recvPrepare_rx hctx hpH now m hs hpi hni hm hmH hmp (hself hmp) hsync)
  · exact key _ (congrArg Prod.fst (receiveOne_commit s now m hpre hmp))
      (recvCommit_rx hctx hpH now m hs hpi hni hnt hm hmH hmp hsync)
  · exact key _ (congrArg Prod.fst (receiveOne_decide s now m hpre hmp))
      (recvDecide_rx hctx hpH now m hs hpi hni hnt hm hmH hmp hsync)

theorem step_recv_good (hctx : Ctx t c H) {p : Pid} (hpH : p ∈ H) {s : State} (now : Int) (m : Msg)
    (hs : SInv t c H s) (hpi : PI c p s s.phase) (hni : s.phase ≠ .initial) (hnt : s.phase ≠ .terminated)
    (hm : Shape c m) (hmH : m.sender ∈ H) (hself : m.phase = .prepare → m.sender = p → s.phase ≠ .quality)
    (hsync : SyncedM H s now m) :
    Good t c H p s (step s (.recv now m)) ∧ m.sender ∈ sendersOf (step s (.recv now m)).1 m.phase :=
  (step_recv_rx hctx hpH now m hs hpi hni hnt hm hmH hself hsync).1

theorem step_recv_sx (hctx : Ctx t c H) (hlen : 2 ≤ c.length) {p : Pid} (hpH : p ∈ H) {s : State} (now : Int) (m : Msg)
    (hs : SInv t c H s) (hpi : PI c p s s.phase) (hni : s.phase ≠ .initial) (hnt : s.phase ≠ .terminated)
    (hm : Shape c m) (hmH : m.sender ∈ H) (hself : m.phase = .prepare → m.sender = p → s.phase ≠ .quality)
    (hsync : SyncedM H s now m) : SX c now (some m) s (step s (.recv now m)) :=
  (step_recv_rx hctx hpH now m hs hpi hni hnt hm hmH hself hsync).2 hlen

theorem step_alarm_good (hctx : Ctx t c H) {p : Pid} (hpH : p ∈ H) {s : State} (now : Int)
    (hs : SInv t c H s) (hpi : PI c p s s.phase) (hni : s.phase ≠ .initial) (hsync : Synced H s now) :
    Good t c H p s (step s (.alarm now)) :=
  (tryCurrentPhase_gx hctx hpH now hs (hpi.weak hni) hsync).1

theorem step_alarm_sx (hctx : Ctx t c H) (hlen : 2 ≤ c.length) {p : Pid} (hpH : p ∈ H) {s : State} (now : Int)
    (hs : SInv t c H s) (hpi : PI c p s s.phase) (hni : s.phase ≠ .initial) (hsync : Synced H s now) :
    SX c now none s (step s (.alarm now)) :=
  SX.of_px (s := s) (s1 := s) ((tryCurrentPhase_gx hctx hpH now hs (hpi.weak hni) hsync).2 hlen) rfl rfl rfl
    (fun _ _ hx => Or.inl hx) (fun h => h) (fun h => h)

theorem step_start_good {p : Pid} {s : State} (now : Int) (hs : SInv t c H s) (hpi : PI c p s s.phase)
    (hph : s.phase = .initial) : Good t c H p s (step s (.start now)) := by
  show Good t c H p s (s.beginQuality now)
  rw [beginQuality_eq s now hph]
  rw [hph] at hpi
  refine Good.of_core hs (by core_rfl) hs.proposal hpi rfl ?_
  show Trans p c s.phase .quality (sent p [_, _, Eff.broadcast s.round .quality s.proposal false none])
  rw [hph, hs.round, hs.proposal]
  exact Trans.start

theorem step_start_sx {s : State} (now : Int) (hph : s.phase = .initial) :
    SX c now none s (step s (.start now)) ∧ (step s (.start now)).1.phaseTimeout = now + s.cfg.qualityTimeout2 := by
  show SX c now none s (s.beginQuality now) ∧ (s.beginQuality now).1.phaseTimeout = now + s.cfg.qualityTimeout2
  rw [beginQuality_eq s now hph]
  refine ⟨⟨rfl, ?_, ?_, ?_, ?_, fun h => h, fun h => h⟩, rfl⟩
  · intro h
    have h' : Phase.quality = s.phase := h
    rw [hph] at h'; cases h'
  · intro h; rw [hph] at h; cases h
  · intro h; rw [hph] at h; cases h
  · intro ph x hx
    left
    cases ph <;> exact hx

end

end F3.Sync
