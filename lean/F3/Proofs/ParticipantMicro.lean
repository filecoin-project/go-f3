import F3.Proofs.InstanceGuards3
import F3.Proofs.LogFold
/-!
A failure-free `Instance.step` and a failure-free `State.receiveMany` (the drain of the participant's pre-start queue) are
both compositions of four micro-steps: `beginQuality`, `tryCurrentPhase`, `receiveOne` (without the round skip) and
`postReceive` for one round. The well-paired skeleton with `DQ`, `DecInv`, and Layer B (`GInv`, `GuardL` for every
broadcast) hold along every sequence of micro-steps in which `postReceive` is never run on a terminated instance (`MOK`).
-/
namespace F3.Instance

inductive MOp
  | start (now : Int)
  | alarm (now : Int)
  | one (now : Int) (m : Msg)
  | post (now : Int) (r : Nat)
  deriving Repr

def mstep (s : State) : MOp → R
  | .start now => s.beginQuality now
  | .alarm now => s.tryCurrentPhase now
  | .one now m => (s.receiveOne now m).1
  | .post now r => s.postReceive now r

def mrun (s : State) (ops : List MOp) : R :=
  ops.foldl (fun (acc : State × List Eff) op => let r := mstep acc.1 op; (r.1, acc.2 ++ r.2)) (s, [])

@[simp] theorem mrun_nil (s : State) : mrun s [] = (s, []) := rfl

theorem mrun_cons (s : State) (op : MOp) (ops : List MOp) :
    mrun s (op :: ops) = ((mrun (mstep s op).1 ops).1, (mstep s op).2 ++ (mrun (mstep s op).1 ops).2) :=
  logFold_cons mstep s op ops

theorem mrun_append (s : State) (a b : List MOp) :
    mrun s (a ++ b) = ((mrun (mrun s a).1 b).1, (mrun s a).2 ++ (mrun (mrun s a).1 b).2) :=
  logFold_append mstep s a b

theorem mrun_single (s : State) (op : MOp) : mrun s [op] = mstep s op := by
  rw [mrun_cons]; simp

def MOpOK (P : Msg → Prop) (s : State) : MOp → Prop
  | .one _ m => P m
  | .post _ _ => s.phase ≠ .terminated
  | _ => True

def MOK (P : Msg → Prop) : State → List MOp → Prop
  | _, [] => True
  | s, op :: ops => MOpOK P s op ∧ MOK P (mstep s op).1 ops

theorem MOK_append (P : Msg → Prop) (s : State) (a b : List MOp) :
    MOK P s (a ++ b) ↔ MOK P s a ∧ MOK P (mrun s a).1 b := by
  induction a generalizing s with
  | nil => simp [MOK]
  | cons op a ih =>
    rw [List.cons_append, mrun_cons]
    simp only [MOK, ih, and_assoc]

theorem MOpOK.mono {P Q : Msg → Prop} (h : ∀ m, P m → Q m) {s : State} {op : MOp} (hop : MOpOK P s op) :
    MOpOK Q s op := by
  cases op with
  | one now m => exact h m hop
  | post now r => exact hop
  | start _ => trivial
  | alarm _ => trivial

theorem MOK.mono {P Q : Msg → Prop} (h : ∀ m, P m → Q m) {s : State} {ops : List MOp} (hok : MOK P s ops) :
    MOK Q s ops := by
  induction ops generalizing s with
  | nil => trivial
  | cons op ops ih => exact ⟨hok.1.mono h, ih hok.2⟩

theorem receiveOne_terminated (s : State) (now : Int) (m : Msg) (ht : s.phase = .terminated) :
    (s.receiveOne now m).1.1 = s ∧ (s.receiveOne now m).2 = false :=
  have hpre : s.recvPre m ≠ .accept := fun h => recvPre_accept_not_terminated s m h ht
  receiveOne_ind (P := fun x => x.1.1 = s ∧ x.2 = false) s now m (fun _ _ => ⟨rfl, rfl⟩) (fun _ => ⟨rfl, rfl⟩)
    (fun h _ => absurd h hpre) (fun h _ _ => absurd h hpre) (fun h _ => absurd h hpre) (fun h _ => absurd h hpre)
    (fun h _ => absurd h hpre)

theorem receiveOne_dq (s : State) (now : Int) (m : Msg) (hq : DQ s)
    (hnf : hasFailure (s.receiveOne now m).1.2 = false) : DQ (s.receiveOne now m).1.1 := by
  by_cases ht : s.phase = .terminated
  · rw [(receiveOne_terminated s now m ht).1]; exact hq
  · exact (receiveOne_ok s now m hq ht hnf).1

/-- the rule at the level of micro-steps: every case is a field; `MOpOK` carries the precondition of `postReceive` -/
theorem StepRule.mstep {I : State → Prop} {V : Table → Msg → Prop} {T : State → R → Prop} (h : StepRule I V T)
    {s : State} (op : MOp) (hi : I s) (hop : MOpOK (V s.tbl) s op)
    (hstart : ∀ now, op = .start now → T s (s.beginQuality now))
    (hdoor : ∀ now m k, op = .one now m → s.recvPre m = .reject k → T s (s, [.err k])) : T s (mstep s op) := by
  cases op with
  | start now => exact hstart now rfl
  | alarm now => exact h.phase now hi
  | one now m => exact h.receiveOne now m hi hop fun k => hdoor now m k rfl
  | post now r => exact h.post now r hi hop

theorem mstep_ok (s : State) (op : MOp) (hq : DQ s) (hop : MOpOK (fun _ => True) s op) :
    StepOK s (mstep s op) := by
  by_cases hnf : hasFailure (mstep s op).2 = true
  · exact .inl hnf
  have hnf : hasFailure (mstep s op).2 = false := by simpa using hnf
  have hw := (wpRule.mstep op trivial hop (fun now _ => beginQuality_okwp s now)
    fun _ _ _ _ _ => OKWP.fail rfl).resolve_left (by simp [hnf])
  refine .inr ⟨hw, ?_⟩
  cases op with
  | start now => exact DQ_frame hq hw.le (beginQuality_decision s now)
  | alarm now => exact DQ_frame hq hw.le (tryCurrentPhase_decision s now)
  | one now m => exact receiveOne_dq s now m hq hnf
  | post now r => exact DQ_frame hq hw.le (postReceive_decision s now r)

theorem mrun_wp (s : State) (ops : List MOp) (hq : DQ s) (hok : MOK (fun _ => True) s ops)
    (hnf : hasFailure (mrun s ops).2 = false) :
    WP s.pt (evs (mrun s ops).2) (mrun s ops).1.pt ∧ DQ (mrun s ops).1 := by
  induction ops generalizing s with
  | nil => exact ⟨by simpa using WP.nil s.pt, by simpa using hq⟩
  | cons op ops ih =>
    rw [mrun_cons] at hnf ⊢
    simp only [hasFailure_append, Bool.or_eq_false_iff] at hnf
    rcases mstep_ok s op hq hok.1 with hf | ⟨hw, hq'⟩
    · exact absurd (hf.symm.trans hnf.1) (by decide)
    · have := ih (mstep s op).1 hq' hok.2 hnf.2
      exact ⟨by simpa using hw.append this.1, this.2⟩

section Decision
variable {V : Pid → Chain → Prop}

def MsgValidD (V : Pid → Chain → Prop) (t : Table) (m : Msg) : Prop :=
  0 < t.power m.sender ∧ (m.phase = .decide → V m.sender m.value)

theorem mstep_tbl_input (s : State) (op : MOp) : (mstep s op).1.tbl = s.tbl ∧ (mstep s op).1.input = s.input := by
  cases op with
  | start now => exact ⟨by simp [mstep], by simp [mstep]⟩
  | alarm now => exact tryCurrentPhase_tbl_input s now
  | one now m => exact receiveOne_tbl_input s now m
  | post now r => exact ⟨by simp [mstep], by simp [mstep]⟩

theorem mrun_tbl_input (s : State) (ops : List MOp) : (mrun s ops).1.tbl = s.tbl ∧ (mrun s ops).1.input = s.input := by
  induction ops generalizing s with
  | nil => exact ⟨rfl, rfl⟩
  | cons op ops ih =>
    rw [mrun_cons]
    exact ⟨(ih _).1.trans (mstep_tbl_input s op).1, (ih _).2.trans (mstep_tbl_input s op).2⟩

theorem mstep_decinv (s : State) (op : MOp) (hi : DecInv V s) (hop : MOpOK (MsgValidD V s.tbl) s op) :
    DecInv V (mstep s op).1 := by
  cases op with
  | start now => exact DecInv_frame (beginQuality_frame s now) hi
  | alarm now => exact tryCurrentPhase_decinv s now hi
  | one now m => exact receiveOne_decinv s now m hi hop.1 hop.2
  | post now r => exact DecInv_frame (postReceive_frame s now r) hi

theorem mrun_decinv (s : State) (ops : List MOp) (hi : DecInv V s) (hok : MOK (MsgValidD V s.tbl) s ops) :
    DecInv V (mrun s ops).1 := by
  induction ops generalizing s with
  | nil => exact hi
  | cons op ops ih =>
    rw [mrun_cons]
    refine ih _ (mstep_decinv s op hi hok.1) ?_
    rw [(mstep_tbl_input s op).1]; exact hok.2

end Decision

section Guards
variable {W : Votes} {me : Pid}

theorem mstep_gok {s : State} (op : MOp) (h : GInv W me s) (_ : DQ s) (hop : MOpOK (MsgValid W s.tbl) s op) :
    GOK W me s (mstep s op) :=
  gokRule.mstep op h hop (fun now _ => beginQuality_gok now h) fun _ _ _ _ _ => GOK.fail (by simp)

theorem mrun_guarded {s : State} (ops : List MOp) (h : GInv W me s) (hq : DQ s)
    (hok : MOK (MsgValid W s.tbl) s ops) (hown : OwnIn W me (mrun s ops).2)
    (hnf : hasFailure (mrun s ops).2 = false) :
    Guarded W s.tbl me s.input (mrun s ops).2 ∧ GInv W me (mrun s ops).1 := by
  induction ops generalizing s with
  | nil => exact ⟨by simpa using Guarded_nil, by simpa using h⟩
  | cons op ops ih =>
    rw [mrun_cons] at hown hnf ⊢
    simp only [hasFailure_append, Bool.or_eq_false_iff] at hnf
    obtain ⟨ho1, ho2⟩ := OwnIn_append hown
    rcases mstep_gok (me := me) op h hq hok.1 with hf | hk
    · exact absurd (hf.symm.trans hnf.1) (by decide)
    · obtain ⟨hi1, hg1⟩ := hk ho1
      have hq1 : DQ (mstep s op).1 := by
        rcases mstep_ok s op hq (hok.1.mono (fun _ _ => trivial)) with hf | ⟨_, hq'⟩
        · exact absurd (hf.symm.trans hnf.1) (by decide)
        · exact hq'
      obtain ⟨htb, hinp⟩ := mstep_tbl_input s op
      have := ih hi1 hq1 (by rw [htb]; exact hok.2) ho2 hnf.2
      rw [htb, hinp] at this
      exact ⟨Guarded_append hg1 this.1, this.2⟩

end Guards

end F3.Instance
