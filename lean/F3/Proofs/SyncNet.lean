import F3.Proofs.SyncTimedNode
import F3.Proofs.NetBasics
/-!
# The network invariant of a synchronous, failure-free round-0 run (proofs of `C02.unanimous_sync_*`)

Stated for any invariant of the nodes: `I p s` is the phase-independent and `P p s ph` the phase-dependent invariant of
node `p`, `Sh` the shape of the messages on the wire, `H` the participants. `StepOK`: what one call of the model on a
node has to guarantee; `Steps`: that the three API calls do. The unanimous run (`NInv`) and the run with arbitrary
inputs (`SyncGeneral.GNInv`) are the two instances.
-/
namespace F3.Sync
open F3.Instance F3.Net

/-- the pool holds a message of phase `ph` sent by `q` -/
def hasMsg (pool : List Msg) (q : Pid) (ph : Phase) : Prop := ∃ m ∈ pool, m.sender = q ∧ m.phase = ph

theorem hasMsg_append (a b : List Msg) (q : Pid) (ph : Phase) :
    hasMsg (a ++ b) q ph ↔ hasMsg a q ph ∨ hasMsg b q ph := by
  unfold hasMsg
  constructor
  · rintro ⟨m, hm, h⟩
    rcases List.mem_append.1 hm with hm | hm
    · exact Or.inl ⟨m, hm, h⟩
    · exact Or.inr ⟨m, hm, h⟩
  · rintro (⟨m, hm, h⟩ | ⟨m, hm, h⟩)
    · exact ⟨m, List.mem_append_left _ hm, h⟩
    · exact ⟨m, List.mem_append_right _ hm, h⟩

/-- what a change of phase from `a` to `b` by node `p` that puts `ms` on the wire says about which of `p`'s messages
exist (the bookkeeping of `NodeInv`) -/
structure Wire (p : Pid) (a b : Phase) (ms : List Msg) : Prop where
  sentQ : b ≠ .initial → a ≠ .initial ∨ hasMsg ms p .quality
  sentP : b = .prepare ∨ b = .commit → (a = .prepare ∨ a = .commit) ∨ hasMsg ms p .prepare
  sentC : b = .commit → a = .commit ∨ hasMsg ms p .commit
  sentD : b = .decide ∨ b = .terminated → (a = .decide ∨ a = .terminated) ∨ hasMsg ms p .decide
  prepSelf : hasMsg ms p .prepare → b ≠ .initial ∧ b ≠ .quality
  pastQuality : a ≠ .initial ∧ a ≠ .quality → b ≠ .initial ∧ b ≠ .quality
  started : a ≠ .initial → b ≠ .initial
  alive : b ≠ .terminated → a ≠ .terminated

theorem Wire.same (p : Pid) (a : Phase) : Wire p a a [] := by constructor <;> simp [hasMsg]

theorem Wire.d2t (p : Pid) : Wire p .decide .terminated [] := by constructor <;> simp [hasMsg]

theorem Wire.start {p : Pid} {m : Msg} (hs : m.sender = p) (hp : m.phase = .quality) : Wire p .initial .quality [m] := by
  constructor <;> simp [hasMsg, hs, hp]

theorem Wire.q2p {p : Pid} {m : Msg} (hs : m.sender = p) (hp : m.phase = .prepare) : Wire p .quality .prepare [m] := by
  constructor <;> simp [hasMsg, hs, hp]

theorem Wire.p2c {p : Pid} {m : Msg} (hs : m.sender = p) (hp : m.phase = .commit) : Wire p .prepare .commit [m] := by
  constructor <;> simp [hasMsg, hs, hp]

theorem Wire.x2d {p : Pid} {a b : Phase} {m : Msg} (ha : a = .quality ∨ a = .prepare ∨ a = .commit)
    (hb : b = .decide ∨ b = .terminated) (hs : m.sender = p) (hp : m.phase = .decide) : Wire p a b [m] := by
  rcases ha with rfl | rfl | rfl <;> rcases hb with rfl | rfl <;> constructor <;> simp [hasMsg, hs, hp]

theorem Trans.facts {p : Pid} {c : Chain} {a b : Phase} {ms : List Msg} (h : Trans p c a b ms) :
    (∀ m ∈ ms, m.sender = p ∧ Shape c m) ∧ Wire p a b ms := by
  cases h with
  | same a => exact ⟨(fun _ h => nomatch h), Wire.same p a⟩
  | start => exact ⟨by simp [mkMsg, Shape], Wire.start rfl rfl⟩
  | q2p => exact ⟨by simp [mkMsg, Shape], Wire.q2p rfl rfl⟩
  | p2c j hj => exact ⟨by simp [mkMsg, Shape, hj], Wire.p2c rfl rfl⟩
  | x2d a b ha hb j hj => exact ⟨by simp [mkMsg, Shape, hj], Wire.x2d ha hb rfl rfl⟩
  | d2t => exact ⟨(fun _ h => nomatch h), Wire.d2t p⟩

theorem step_start_phase (s : State) (now : Int) (h : s.phase = .initial) : (step s (.start now)).1.phase = .quality := by
  show (s.beginQuality now).1.phase = .quality
  rw [beginQuality_eq s now h]

section Generic
variable (I : Pid → State → Prop) (P : Pid → State → Phase → Prop) (Sh : Msg → Prop) (H : List Pid)

structure StepOK (p : Pid) (s : State) (r : R) : Prop where
  nofail : hasFailure r.2 = false
  inv : I p r.1
  pi : P p r.1 r.1.phase
  mono : ∀ ph x, x ∈ sendersOf s ph → x ∈ sendersOf r.1 ph
  shape : ∀ m ∈ sent p r.2, m.sender = p ∧ Sh m
  wire : Wire p s.phase r.1.phase (sent p r.2)

structure Steps : Prop where
  nodup : H.Nodup
  round : ∀ {p s}, I p s → s.round = 0
  start : ∀ {p s} (now : Int), I p s → P p s s.phase → s.phase = .initial → StepOK I P Sh p s (step s (.start now))
  recv : ∀ {p s} (now : Int) (m : Msg), p ∈ H → I p s → P p s s.phase → s.phase ≠ .initial → s.phase ≠ .terminated →
    Sh m → m.sender ∈ H → (m.phase = .prepare → m.sender = p → s.phase ≠ .quality) → SyncedM H s now m →
    StepOK I P Sh p s (step s (.recv now m)) ∧ m.sender ∈ sendersOf (step s (.recv now m)).1 m.phase
  alarm : ∀ {p s} (now : Int), p ∈ H → I p s → P p s s.phase → s.phase ≠ .initial → Synced H s now →
    StepOK I P Sh p s (step s (.alarm now))

structure NodeInv (pool : List Msg) (dl : List (Pid × Msg)) (st fi : List Pid) (q : Pid) (x : State) : Prop where
  inv : I q x
  pi : P q x x.phase
  started : q ∈ st ↔ x.phase ≠ .initial
  deliv : ∀ m, (q, m) ∈ dl → x.phase ≠ .terminated → m.sender ∈ sendersOf x m.phase
  sentQ : x.phase ≠ .initial → hasMsg pool q .quality
  sentP : x.phase = .prepare ∨ x.phase = .commit → hasMsg pool q .prepare
  sentC : x.phase = .commit → hasMsg pool q .commit
  sentD : x.phase = .decide ∨ x.phase = .terminated → hasMsg pool q .decide
  prepSelf : hasMsg pool q .prepare → x.phase ≠ .initial ∧ x.phase ≠ .quality
  fired : q ∈ fi → x.phase ≠ .quality ∧ x.phase ≠ .initial

structure NetInv (n : Net) : Prop where
  ids : n.nodes.map (·.1) = H
  fails : n.fails = []
  pool : ∀ m ∈ n.pool, Sh m ∧ m.sender ∈ H
  node : ∀ q x, (q, x) ∈ n.nodes → NodeInv I P n.pool n.delivered n.started n.fired q x

variable {I P Sh H}

theorem NetInv.mem_H {n : Net} (hn : NetInv I P Sh H n) {q : Pid} {x : State} (h : (q, x) ∈ n.nodes) : q ∈ H := by
  rw [← hn.ids]
  exact List.mem_map.2 ⟨(q, x), h, rfl⟩

theorem NetInv.node_of_H {n : Net} (hn : NetInv I P Sh H n) {h : Pid} (hh : h ∈ H) : ∃ x, (h, x) ∈ n.nodes := by
  rw [← hn.ids] at hh
  obtain ⟨e, he, rfl⟩ := List.mem_map.1 hh
  exact ⟨e.2, he⟩

/-- a node other than the one that moved -/
theorem NodeInv.other {pool pool' : List Msg} {dl dl' : List (Pid × Msg)} {st st' fi fi' : List Pid} {q : Pid} {x : State}
    (h : NodeInv I P pool dl st fi q x)
    (hpool : ∀ ph, hasMsg pool' q ph ↔ hasMsg pool q ph) (hdl : ∀ m, (q, m) ∈ dl' ↔ (q, m) ∈ dl)
    (hst : q ∈ st' ↔ q ∈ st) (hfi : q ∈ fi' ↔ q ∈ fi) : NodeInv I P pool' dl' st' fi' q x :=
  ⟨h.inv, h.pi, hst.trans h.started, fun m hm => h.deliv m ((hdl m).1 hm), fun hx => (hpool _).2 (h.sentQ hx),
   fun hx => (hpool _).2 (h.sentP hx), fun hx => (hpool _).2 (h.sentC hx), fun hx => (hpool _).2 (h.sentD hx),
   fun hx => h.prepSelf ((hpool _).1 hx), fun hx => h.fired (hfi.1 hx)⟩

/-- the node that moved -/
theorem NodeInv.step {pool : List Msg} {dl dl' : List (Pid × Msg)} {st st' fi fi' : List Pid} {p : Pid} {s : State}
    (h : NodeInv I P pool dl st fi p s) (r : R) (g : StepOK I P Sh p s r)
    (hst : p ∈ st' ↔ r.1.phase ≠ .initial)
    (hdl : ∀ m, (p, m) ∈ dl' → r.1.phase ≠ .terminated → m.sender ∈ sendersOf r.1 m.phase)
    (hfi : p ∈ fi' → r.1.phase ≠ .quality ∧ r.1.phase ≠ .initial) :
    NodeInv I P (pool ++ sent p r.2) dl' st' fi' p r.1 := by
  refine ⟨g.inv, g.pi, hst, hdl, ?_, ?_, ?_, ?_, ?_, hfi⟩
  · exact fun hx => (hasMsg_append ..).2 ((g.wire.sentQ hx).imp h.sentQ id)
  · exact fun hx => (hasMsg_append ..).2 ((g.wire.sentP hx).imp h.sentP id)
  · exact fun hx => (hasMsg_append ..).2 ((g.wire.sentC hx).imp h.sentC id)
  · exact fun hx => (hasMsg_append ..).2 ((g.wire.sentD hx).imp h.sentD id)
  · exact fun hx => ((hasMsg_append ..).1 hx).elim (fun h1 => g.wire.pastQuality (h.prepSelf h1)) g.wire.prepSelf

/-- the common part of every event that runs the model on node `p` -/
theorem NetInv.apply {n : Net} (hn : NetInv I P Sh H n) {p : Pid} {s : State} (hp : (p, s) ∈ n.nodes) (op : Op)
    (g : StepOK I P Sh p s (step s op)) (dl' : List (Pid × Msg)) (st' fi' : List Pid)
    (hdlo : ∀ q m, q ≠ p → ((q, m) ∈ dl' ↔ (q, m) ∈ n.delivered))
    (hsto : ∀ q, q ≠ p → (q ∈ st' ↔ q ∈ n.started)) (hfio : ∀ q, q ≠ p → (q ∈ fi' ↔ q ∈ n.fired))
    (hst : p ∈ st' ↔ (step s op).1.phase ≠ .initial)
    (hdl : ∀ m, (p, m) ∈ dl' → (step s op).1.phase ≠ .terminated → m.sender ∈ sendersOf (step s op).1 m.phase)
    (hfi : p ∈ fi' → (step s op).1.phase ≠ .quality ∧ (step s op).1.phase ≠ .initial) :
    NetInv I P Sh H (Net.apply { n with delivered := dl', started := st', fired := fi' } p s op) := by
  have hpH := hn.mem_H hp
  refine ⟨?_, ?_, ?_, ?_⟩
  · show (setNode n.nodes p (step s op).1).map (·.1) = H
    rw [setNode_ids]; exact hn.ids
  · show n.fails ++ failuresOf p (step s op).2 = []
    rw [hn.fails, failuresOf_nil p _ g.nofail]; rfl
  · intro m hm
    have hm' : m ∈ n.pool ++ sent p (step s op).2 := hm
    rcases List.mem_append.1 hm' with h | h
    · exact hn.pool m h
    · obtain ⟨h1, h2⟩ := g.shape m h
      exact ⟨h2, h1 ▸ hpH⟩
  · intro q x hq
    have hq' : (q, x) ∈ setNode n.nodes p (step s op).1 := hq
    show NodeInv I P (n.pool ++ sent p (step s op).2) dl' st' fi' q x
    rcases mem_setNode hq' with ⟨rfl, rfl⟩ | ⟨hne, hmem⟩
    · exact (hn.node q s hp).step _ g hst hdl hfi
    · refine (hn.node q x hmem).other ?_ (fun m => hdlo q m hne) (hsto q hne) (hfio q hne)
      intro ph
      rw [hasMsg_append]
      constructor
      · rintro (h | ⟨m, hm, h1, _⟩)
        · exact h
        · exact absurd ((g.shape m hm).1.symm.trans h1).symm hne
      · exact Or.inl

/-- what `syncAt` gives once its guard holds -/
theorem NetInv.sync_handed {n : Net} (hn : NetInv I P Sh H n) {p : Pid} {s : State} (hr : s.round = 0)
    (hnode : n.node? p = some s) (dl : List (Pid × Msg)) (now : Int) (hsy : syncAt n dl p now = true)
    (htp : timedPhase s.phase = true) (hel : s.phaseTimeoutElapsed now = true) :
    ∀ h ∈ H, ∃ m, (p, m) ∈ dl ∧ m.sender = h ∧ m.phase = s.phase := by
  unfold syncAt at hsy
  rw [hnode] at hsy
  dsimp only at hsy
  rw [if_pos (by simp [hr, htp, hel])] at hsy
  unfold allHanded at hsy
  rw [List.all_eq_true] at hsy
  intro h hh
  rw [← hn.ids] at hh
  obtain ⟨e, he, rfl⟩ := List.mem_map.1 hh
  have := hsy e he
  rw [List.any_eq_true] at this
  obtain ⟨d, hd, hcond⟩ := this
  simp only [Bool.and_eq_true, beq_iff_eq] at hcond
  refine ⟨d.2, ?_, hcond.1.1.2, hcond.1.2⟩
  rw [← hcond.1.1.1]
  exact hd

/-- the synchrony hypothesis of a delivery, from `syncOpOk` -/
theorem NetInv.syncedM {n : Net} (hn : NetInv I P Sh H n) {p : Pid} {s : State} (hr : s.round = 0)
    (hnode : n.node? p = some s) (now : Int) (m : Msg) (hsy : syncOpOk n (.deliver p now m) = true)
    (hterm : s.phase ≠ .terminated) : SyncedM H s now m := by
  intro htp hel h hh
  obtain ⟨m', hm', h1, h2⟩ := hn.sync_handed hr hnode _ now hsy htp hel h hh
  rcases List.mem_append.1 hm' with hin | hin
  · left
    have := (hn.node p s (node?_mem hnode)).deliv m' hin hterm
    rw [h2, h1] at this
    exact this
  · right
    simp only [List.mem_singleton, Prod.mk.injEq] at hin
    rw [← hin.2]
    exact ⟨h2, h1⟩

/-- the synchrony hypothesis of an alarm, from `syncOpOk` -/
theorem NetInv.synced {n : Net} (hn : NetInv I P Sh H n) {p : Pid} {s : State} (hr : s.round = 0)
    (hnode : n.node? p = some s) (now : Int) (hsy : syncOpOk n (.alarm p now) = true) : Synced H s now := by
  intro htp hel h hh
  obtain ⟨m', hm', h1, h2⟩ := hn.sync_handed hr hnode _ now hsy htp hel h hh
  have := (hn.node p s (node?_mem hnode)).deliv m' hm' (by intro ht; rw [ht] at htp; cases htp)
  rw [h2, h1] at this
  exact this

theorem NetInv.start (S : Steps I P Sh H) {n : Net} (hn : NetInv I P Sh H n) (p : Pid) (now : Int)
    (hok : opOk n (.start p now) = true) : NetInv I P Sh H (netStep n (.start p now)) := by
  cases hnode : n.node? p with
  | none => simp only [netStep, hnode]; exact hn
  | some s =>
    simp only [netStep, hnode]
    have hp := node?_mem hnode
    have hno := hn.node p s hp
    rw [opOk_start] at hok
    have hph : s.phase = .initial := by
      by_cases hne : s.phase = .initial
      · exact hne
      · exact absurd (hno.started.2 hne) hok.2
    have hq := step_start_phase s now hph
    have g := S.start now hno.inv hno.pi hph
    refine hn.apply hp (.start now) g n.delivered (n.started ++ [p]) n.fired
      (fun _ _ _ => Iff.rfl) ?_ (fun _ _ => Iff.rfl) ?_ ?_ ?_
    · intro q hq
      simp [hq]
    · rw [hq]; simp
    · exact fun m hm _ => g.mono _ _ (hno.deliv m hm (by rw [hph]; nofun))
    · exact fun hf => absurd hph (hno.fired hf).2

theorem NetInv.deliver (S : Steps I P Sh H) {n : Net} (hn : NetInv I P Sh H n) (p : Pid) (now : Int) (m : Msg)
    (hok : opOk n (.deliver p now m) = true) (hsy : syncOpOk n (.deliver p now m) = true) :
    NetInv I P Sh H (netStep n (.deliver p now m)) := by
  cases hnode : n.node? p with
  | none => simp only [netStep, hnode]; exact hn
  | some s =>
    simp only [netStep, hnode]
    have hp := node?_mem hnode
    have hno := hn.node p s hp
    rw [opOk_deliver] at hok
    have hni : s.phase ≠ .initial := hno.started.1 hok.1
    obtain ⟨hm, hmH⟩ := hn.pool m hok.2
    by_cases hterm : s.phase = .terminated
    · rw [if_pos (by simp [hterm])]
      refine ⟨hn.ids, hn.fails, hn.pool, ?_⟩
      intro q x hq
      have hqo := hn.node q x hq
      refine ⟨hqo.inv, hqo.pi, hqo.started, ?_, hqo.sentQ, hqo.sentP, hqo.sentC, hqo.sentD, hqo.prepSelf, hqo.fired⟩
      intro m' hm' hnt
      have hm'' : (q, m') ∈ n.delivered ++ [(p, m)] := hm'
      rcases List.mem_append.1 hm'' with h | h
      · exact hqo.deliv m' h hnt
      · simp only [List.mem_singleton, Prod.mk.injEq] at h
        obtain ⟨rfl, rfl⟩ := h
        have hnd : (n.nodes.map (·.1)).Nodup := by rw [hn.ids]; exact S.nodup
        rw [nodes_unique hnd hq hp] at hnt
        exact absurd hterm hnt
    · rw [if_neg (by simp [hterm])]
      obtain ⟨g, hin⟩ := S.recv now m (hn.mem_H hp) hno.inv hno.pi hni hterm hm hmH
        (fun h1 h2 => (hno.prepSelf ⟨m, hok.2, h2, h1⟩).2) (hn.syncedM (S.round hno.inv) hnode now m hsy hterm)
      refine hn.apply hp (.recv now m) g (n.delivered ++ [(p, m)]) n.started n.fired
        ?_ (fun _ _ => Iff.rfl) (fun _ _ => Iff.rfl) ⟨fun _ => g.wire.started hni, fun _ => hok.1⟩ ?_ ?_
      · intro q m' hq
        simp [hq]
      · intro m' hm' hnt
        rcases List.mem_append.1 hm' with h | h
        · exact g.mono _ _ (hno.deliv m' h (g.wire.alive hnt))
        · simp only [List.mem_singleton, Prod.mk.injEq] at h
          rw [h.2]; exact hin
      · exact fun hf => (g.wire.pastQuality (hno.fired hf).symm).symm

theorem NetInv.alarm (S : Steps I P Sh H) {n : Net} (hn : NetInv I P Sh H n) (p : Pid) (now : Int)
    (hok : opOk n (.alarm p now) = true) (hsy : syncOpOk n (.alarm p now) = true) :
    NetInv I P Sh H (netStep n (.alarm p now)) := by
  cases hnode : n.node? p with
  | none => simp only [netStep, hnode]; exact hn
  | some s =>
    simp only [netStep, hnode]
    have hp := node?_mem hnode
    have hno := hn.node p s hp
    rw [opOk_alarm] at hok
    have hni : s.phase ≠ .initial := hno.started.1 hok
    have g := S.alarm now (hn.mem_H hp) hno.inv hno.pi hni (hn.synced (S.round hno.inv) hnode now hsy)
    have hdl : ∀ m, (p, m) ∈ n.delivered → (step s (.alarm now)).1.phase ≠ .terminated →
        m.sender ∈ sendersOf (step s (.alarm now)).1 m.phase :=
      fun m' hm' hnt => g.mono _ _ (hno.deliv m' hm' (g.wire.alive hnt))
    by_cases hf : (s.phase == .quality && s.phaseTimeoutElapsed now) = true
    · rw [if_pos hf]
      simp only [Bool.and_eq_true, beq_iff_eq] at hf
      refine hn.apply hp (.alarm now) g n.delivered n.started (n.fired ++ [p])
        (fun _ _ _ => Iff.rfl) (fun _ _ => Iff.rfl) ?_ ⟨fun _ => g.wire.started hni, fun _ => hok⟩ hdl ?_
      · intro q hq
        simp [hq]
      · intro _
        rw [step_alarm_fired s now hf.1 hf.2]; simp
    · rw [if_neg hf]
      exact hn.apply hp (.alarm now) g n.delivered n.started n.fired
        (fun _ _ _ => Iff.rfl) (fun _ _ => Iff.rfl) (fun _ _ => Iff.rfl) ⟨fun _ => g.wire.started hni, fun _ => hok⟩ hdl
        (fun hfi => (g.wire.pastQuality (hno.fired hfi).symm).symm)

theorem NetInv.step (S : Steps I P Sh H) {n : Net} (hn : NetInv I P Sh H n) (op : NetOp)
    (hok : opOk n op = true) (hsy : syncOpOk n op = true) : NetInv I P Sh H (netStep n op) := by
  cases op with
  | start p now => exact hn.start S p now hok
  | deliver p now m => exact hn.deliver S p now m hok hsy
  | alarm p now => exact hn.alarm S p now hok hsy

theorem NetInv.run (S : Steps I P Sh H) (ops : List NetOp) {n : Net} (hn : NetInv I P Sh H n)
    (hok : execOk n ops = true) (hsy : syncOk n ops = true) : NetInv I P Sh H (runNet n ops) := by
  induction ops generalizing n with
  | nil => exact hn
  | cons op ops ih =>
    unfold execOk at hok
    unfold syncOk at hsy
    simp only [Bool.and_eq_true] at hok hsy
    exact ih (hn.step S op hok.1 hsy.1) hok.2 hsy.2

theorem NetInv.of_init (t : Table) (cfg : Pid → Cfg) (inp : Pid → Chain)
    (h0 : ∀ p, I p (init (cfg p) t (inp p)) ∧ P p (init (cfg p) t (inp p)) .initial) :
    NetInv I P Sh H (initNet t H cfg inp) := by
  refine ⟨?_, rfl, ?_, ?_⟩
  · show (H.map (fun p => (p, init (cfg p) t (inp p)))).map (·.1) = H
    rw [List.map_map]
    exact List.map_id _
  · intro m hm; cases hm
  · intro q x hq
    have hq' : (q, x) ∈ H.map (fun p => (p, init (cfg p) t (inp p))) := hq
    obtain ⟨p, _, hpe⟩ := List.mem_map.1 hq'
    simp only [Prod.mk.injEq] at hpe
    obtain ⟨rfl, rfl⟩ := hpe
    refine ⟨(h0 p).1, (h0 p).2, ?_, ?_, ?_, ?_, ?_, ?_, ?_, ?_⟩
    · show p ∈ [] ↔ _
      simp [init]
    · intro m hm; cases hm
    · intro h; exact absurd rfl h
    · intro h; rcases h with h | h <;> cases h
    · intro h; cases h
    · intro h; rcases h with h | h <;> cases h
    · rintro ⟨m, hm, _⟩; cases hm
    · intro h; cases h

/-- The phase ladder of a complete execution, for any notion of member (`M`), of senders tallied for a phase (`snd`)
and of "`q`'s message of phase `ph` is on the wire" (`has`): members that have all started, have tallied every message
on the wire and would have left PREPARE / COMMIT / DECIDE with all of `H` tallied have terminated. If nobody is in
DECIDE or beyond, everybody's PREPARE is on the wire, so nobody is in PREPARE, so everybody's COMMIT is on the wire,
which no member in COMMIT survives. Otherwise a DECIDE is on the wire; it pulls every member out of PREPARE and COMMIT
(whose DECIDE tally is empty), so everybody's DECIDE is on the wire and nobody is left in DECIDE. -/
theorem ladder {M : Pid → State → Prop} {snd : State → Phase → List Pid} {has : Pid → Phase → Prop} {H : List Pid}
    (hmem : ∀ h ∈ H, ∃ x, M h x)
    (tallied : ∀ q x, M q x → x.phase ≠ .terminated → ∀ y ph, has y ph → y ∈ snd x ph)
    (live : ∀ q x, M q x → x.phase = .prepare ∨ x.phase = .commit ∨ x.phase = .decide ∨ x.phase = .terminated)
    (sentP : ∀ q x, M q x → x.phase = .prepare ∨ x.phase = .commit → has q .prepare)
    (sentC : ∀ q x, M q x → x.phase = .commit → has q .commit)
    (sentD : ∀ q x, M q x → x.phase = .decide ∨ x.phase = .terminated → has q .decide)
    (exitP : ∀ q x, M q x → x.phase = .prepare → ¬ ∀ h ∈ H, h ∈ snd x .prepare)
    (exitC : ∀ q x, M q x → x.phase = .commit → ¬ ∀ h ∈ H, h ∈ snd x .commit)
    (exitD : ∀ q x, M q x → x.phase = .decide → ¬ ∀ h ∈ H, h ∈ snd x .decide)
    (noD : ∀ q x, M q x → x.phase = .prepare ∨ x.phase = .commit → snd x .decide = []) :
    ∀ q x, M q x → x.phase = .terminated := by
  have all : ∀ ph, (∀ q x, M q x → has q ph) → ∀ q x, M q x → x.phase ≠ .terminated → ∀ h ∈ H, h ∈ snd x ph := by
    intro ph hall q x hq hnt h hh
    obtain ⟨y, hy⟩ := hmem h hh
    exact tallied q x hq hnt h ph (hall h y hy)
  intro q x hq
  by_cases hex : ∃ q0 x0, M q0 x0 ∧ (x0.phase = .decide ∨ x0.phase = .terminated)
  · obtain ⟨q0, x0, hq0, hph0⟩ := hex
    have hdt : ∀ q x, M q x → x.phase = .decide ∨ x.phase = .terminated := by
      intro q x hq
      have pulled : x.phase = .prepare ∨ x.phase = .commit → x.phase ≠ .terminated → False := by
        intro hp hnt
        have hin := tallied q x hq hnt q0 .decide (sentD q0 x0 hq0 hph0)
        rw [noD q x hq hp] at hin
        cases hin
      rcases live q x hq with hp | hp | hp | hp
      · exact (pulled (Or.inl hp) (by rw [hp]; nofun)).elim
      · exact (pulled (Or.inr hp) (by rw [hp]; nofun)).elim
      · exact Or.inl hp
      · exact Or.inr hp
    rcases hdt q x hq with hp | hp
    · exact absurd (all .decide (fun q x hq => sentD q x hq (hdt q x hq)) q x hq (by rw [hp]; nofun)) (exitD q x hq hp)
    · exact hp
  · exfalso
    have hpc : ∀ q x, M q x → x.phase = .prepare ∨ x.phase = .commit := by
      intro q x hq
      rcases live q x hq with hp | hp | hp | hp
      · exact Or.inl hp
      · exact Or.inr hp
      · exact absurd ⟨q, x, hq, Or.inl hp⟩ hex
      · exact absurd ⟨q, x, hq, Or.inr hp⟩ hex
    have hcm : ∀ q x, M q x → x.phase = .commit := by
      intro q x hq
      rcases hpc q x hq with hp | hp
      · exact absurd (all .prepare (fun q x hq => sentP q x hq (hpc q x hq)) q x hq (by rw [hp]; nofun)) (exitP q x hq hp)
      · exact hp
    have hp := hcm q x hq
    exact exitC q x hq hp (all .commit (fun q x hq => sentC q x hq (hcm q x hq)) q x hq (by rw [hp]; nofun))

theorem NetInv.tallied {n : Net} (hn : NetInv I P Sh H n) (hc : complete n = true) :
    ∀ q x, (q, x) ∈ n.nodes → x.phase ≠ .terminated → ∀ y ph, hasMsg n.pool y ph → y ∈ sendersOf x ph := by
  unfold complete at hc
  simp only [Bool.and_eq_true, List.all_eq_true, List.contains_eq_mem, decide_eq_true_eq] at hc
  intro q x hq hnt y ph ⟨m, hm, h1, h2⟩
  have := (hn.node q x hq).deliv m (hc.2 m hm (q, x) hq) hnt
  rw [h1, h2] at this
  exact this

theorem NetInv.started {n : Net} (hn : NetInv I P Sh H n) (hc : complete n = true) {q : Pid} {x : State}
    (hq : (q, x) ∈ n.nodes) : x.phase ≠ .initial := by
  unfold complete at hc
  simp only [Bool.and_eq_true, List.all_eq_true, List.contains_eq_mem, decide_eq_true_eq] at hc
  exact (hn.node q x hq).started.1 (hc.1 (q, x) hq)

theorem NetInv.quality_tallied {n : Net} (hn : NetInv I P Sh H n) (hc : complete n = true) {q : Pid} {x : State}
    (hq : (q, x) ∈ n.nodes) (hnt : x.phase ≠ .terminated) : ∀ h ∈ H, h ∈ x.quality.senders := by
  intro h hh
  obtain ⟨y, hy⟩ := hn.node_of_H hh
  exact hn.tallied hc q x hq hnt h .quality ((hn.node h y hy).sentQ (hn.started hc hy))

/-- the ladder for the network invariant: `exitP`, `exitC`, `exitD` say that a node which has tallied everybody's vote
of its phase has left the phase, `noD` that before DECIDE no DECIDE has been tallied -/
theorem NetInv.terminated {n : Net} (hn : NetInv I P Sh H n) (hc : complete n = true)
    (hnq : ∀ q x, (q, x) ∈ n.nodes → x.phase ≠ .quality) (hconv : ∀ q x, ¬ P q x .converge)
    (exitP : ∀ q x, q ∈ H → I q x → P q x .prepare → ¬ ∀ h ∈ H, h ∈ sendersOf x .prepare)
    (exitC : ∀ q x, q ∈ H → I q x → P q x .commit → ¬ ∀ h ∈ H, h ∈ sendersOf x .commit)
    (exitD : ∀ q x, q ∈ H → I q x → P q x .decide → ¬ ∀ h ∈ H, h ∈ sendersOf x .decide)
    (noD : ∀ q x, P q x .prepare ∨ P q x .commit → sendersOf x .decide = []) :
    ∀ q x, (q, x) ∈ n.nodes → x.phase = .terminated := by
  refine ladder (snd := sendersOf) (has := hasMsg n.pool) (fun h hh => hn.node_of_H hh) (hn.tallied hc) ?_
    (fun q x hq => (hn.node q x hq).sentP) (fun q x hq => (hn.node q x hq).sentC) (fun q x hq => (hn.node q x hq).sentD)
    ?_ ?_ ?_ ?_
  · intro q x hq
    have hpi := (hn.node q x hq).pi
    cases hp : x.phase <;> rw [hp] at hpi
    · exact absurd hp (hn.started hc hq)
    · exact absurd hp (hnq q x hq)
    · exact absurd hpi (hconv q x)
    · exact Or.inl rfl
    · exact Or.inr (Or.inl rfl)
    · exact Or.inr (Or.inr (Or.inl rfl))
    · exact Or.inr (Or.inr (Or.inr rfl))
  · exact fun q x hq hp => exitP q x (hn.mem_H hq) (hn.node q x hq).inv (hp ▸ (hn.node q x hq).pi)
  · exact fun q x hq hp => exitC q x (hn.mem_H hq) (hn.node q x hq).inv (hp ▸ (hn.node q x hq).pi)
  · exact fun q x hq hp => exitD q x (hn.mem_H hq) (hn.node q x hq).inv (hp ▸ (hn.node q x hq).pi)
  · intro q x hq hp
    have hpi := (hn.node q x hq).pi
    rcases hp with hp | hp <;> rw [hp] at hpi
    · exact noD q x (Or.inl hpi)
    · exact noD q x (Or.inr hpi)

end Generic

section
variable (t : Table) (c : Chain) (H : List Pid)

abbrev NodeOK := NodeInv (fun _ => SInv t c H) (PI c)
abbrev NInv := NetInv (fun _ => SInv t c H) (PI c) (Shape c) H

variable {t c H}

theorem NInv.node {n : Net} (hn : NInv t c H n) :
    ∀ q x, (q, x) ∈ n.nodes → NodeOK t c H n.pool n.delivered n.started n.fired q x := NetInv.node hn

theorem NodeOK.sinv {pool : List Msg} {dl : List (Pid × Msg)} {st fi : List Pid} {q : Pid} {x : State}
    (h : NodeOK t c H pool dl st fi q x) : SInv t c H x := h.inv

theorem Good.stepOK {p : Pid} {s : State} {r : R} (g : Good t c H p s r) :
    StepOK (fun _ => SInv t c H) (PI c) (Shape c) p s r :=
  ⟨g.nofail, g.sinv, g.pi, g.mono, g.trans.facts.1, g.trans.facts.2⟩

theorem steps (hctx : Ctx t c H) : Steps (fun _ => SInv t c H) (PI c) (Shape c) H where
  nodup := hctx.nodup
  round := fun h => h.round
  start := fun now hs hpi hph => (step_start_good now hs hpi hph).stepOK
  recv := fun now m hpH hs hpi hni hnt hm hmH hself hsync =>
    (step_recv_good hctx hpH now m hs hpi hni hnt hm hmH hself hsync).imp Good.stepOK id
  alarm := fun now hpH hs hpi hni hsync => (step_alarm_good hctx hpH now hs hpi hni hsync).stepOK

theorem netStep_inv (hctx : Ctx t c H) {n : Net} (hn : NInv t c H n) (op : NetOp)
    (hok : opOk n op = true) (hsy : syncOpOk n op = true) : NInv t c H (netStep n op) :=
  NetInv.step (steps hctx) hn op hok hsy

theorem runNet_inv (hctx : Ctx t c H) (ops : List NetOp) {n : Net} (hn : NInv t c H n)
    (hok : execOk n ops = true) (hsy : syncOk n ops = true) : NInv t c H (runNet n ops) :=
  NetInv.run (steps hctx) ops hn hok hsy

theorem initNet_inv (t : Table) (c : Chain) (H : List Pid) (cfg : Pid → Cfg) :
    NInv t c H (initNet t H cfg (fun _ => c)) :=
  NetInv.of_init t cfg _ (fun p => init_inv (cfg p) t c H p)

theorem complete_terminated (hctx : Ctx t c H) {n : Net} (hn : NInv t c H n) (hc : complete n = true)
    (hlen : 2 ≤ c.length ∨ timersFired n = true) :
    ∀ q x, (q, x) ∈ n.nodes → x.phase = .terminated := by
  refine NetInv.terminated hn hc ?_ (fun _ _ h => h) ?_ ?_ ?_ ?_
  · intro q x hq hph
    have hno := hn.node q x hq
    rcases hlen with hl | hf
    · have := hno.sinv.qt.strong_of_all hctx hl (List.ne_nil_of_mem (hn.mem_H hq))
        (hn.quality_tallied hc hq (by rw [hph]; nofun))
      have h1 := hno.pi
      rw [hph] at h1
      rw [h1.1] at this
      cases this
    · unfold timersFired at hf
      simp only [List.all_eq_true, List.contains_eq_mem, decide_eq_true_eq] at hf
      exact (hno.fired (hf (q, x) hq)).1 hph
  · intro q x hqH hs hpi hall
    have := hs.prep.strong_of_all hctx (List.ne_nil_of_mem hqH) hall
    rw [hpi.1 (hall q hqH)] at this
    cases this
  · intro q x hqH hs hpi hall
    have := hs.comm.strong_of_all hctx (List.ne_nil_of_mem hqH) hall
    rw [hpi.1] at this
    cases this
  · intro q x hqH hs hpi hall
    have := hs.dec.strong_of_all hctx (List.ne_nil_of_mem hqH) hall
    rw [show x.decision.hasStrongFor c = false from hpi] at this
    cases this
  · rintro q x (hpi | hpi)
    · exact hpi.2.2
    · exact hpi.2

theorem terminated_value {n : Net} (hn : NInv t c H n) {q : Pid} {x : State} (hq : (q, x) ∈ n.nodes)
    (hp : x.phase = .terminated) : ∃ d, x.termination = some d ∧ d.value = c := by
  have hno := hn.node q x hq
  have h1 := hno.pi
  rw [hp] at h1
  obtain ⟨d, hd⟩ := h1
  exact ⟨d, hd, hno.sinv.term d hd⟩

theorem index_of_mem (t : Table) (p : Pid) (h : p ∈ t.entries.map (·.1)) : ∃ i, t.index? p = some i := by
  unfold Table.index?
  cases hf : t.entries.findIdx? (fun e => e.1 == p) with
  | some i => exact ⟨i, rfl⟩
  | none =>
    rw [List.findIdx?_eq_none_iff] at hf
    obtain ⟨e, he, rfl⟩ := List.mem_map.1 h
    have := hf e he
    simp at this

theorem sumP_eq_sum (t : Table) (l : List Pid) : sumP t l = (l.map t.power).sum := by
  unfold sumP
  exact List.sum_eq_foldl_nat.symm

theorem ctx_of (t : Table) (c : Chain) (H : List Pid) (hc : c ≠ []) (hnd : H.Nodup)
    (hin : ∀ p ∈ H, p ∈ t.entries.map (·.1)) (hq : strongQ t ((H.map t.power).sum) = true) : Ctx t c H :=
  ⟨hc, hnd, fun x hx => index_of_mem t x (hin x hx), by rw [sumP_eq_sum]; exact hq⟩

end

end F3.Sync
