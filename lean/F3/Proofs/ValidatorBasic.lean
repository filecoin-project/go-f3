import F3.Model.Validator
/-!
First facts about the pure functions of `F3.Validator` that the other Validator files start from: value keys, the
`uint64` wrap, what `validateByProgress` can return, the verdicts of `checkMsg`, and the phase tables (the abbreviated
table of `FullyValidateMessage` is the value column of the main table of `validateJustification`). Core-only.
-/
namespace F3.Validator
open F3.Msg

theorem maxU64_eq : maxU64 = 18446744073709551615 := by decide

theorem u64_of_lt {n : Nat} (h : n < 2 ^ 64) : u64 n = n := Nat.mod_eq_of_lt h

theorem keyOf_inj {a b : Chain} : keyOf a = keyOf b ↔ a = b := by
  simp [keyOf]

theorem keyOf_zero {a : Chain} : keyOf a = VKey.zero ↔ a = [] := by
  simp [keyOf, VKey.zero]

theorem isZero_keyOf (x : Chain) : (keyOf x).isZero = x.isEmpty := by
  cases x <;> simp [VKey.isZero, keyOf, VKey.zero]

theorem chainValid_nil : chainValid [] = true := by simp [chainValid]

/-- `validateByProgress` returns `nil` or one of its three sentinel errors. -/
theorem byProgress_sentinel (cfg : Cfg) (cur : Progress) (v : Payload) :
    ∀ e, byProgress cfg cur v = some e → e = .noCommittee ∨ e = .tooOld ∨ e = .notRelevant := by
  unfold byProgress
  -- the property holds at each leaf of the if-chain
  simp only [apply_ite (fun o : Option Verdict => ∀ e, o = some e → e = .noCommittee ∨ e = .tooOld ∨ e = .notRelevant),
    Option.some.injEq, forall_eq', reduceCtorEq, false_imp_iff, implies_true, true_or, or_true, ite_self]

theorem byProgress_ne_accept (cfg : Cfg) (cur : Progress) (v : Payload) :
    byProgress cfg cur v ≠ some .accept :=
  fun h => by simpa using byProgress_sentinel cfg cur v _ h

/-- the committee look-up, then the body check: the one place where `checkMsg` is opened -/
theorem checkMsg_eq (cfg : Cfg) (comt : Nat → Option Committee) (vk : Option VKey) (m : Msg) :
    checkMsg cfg comt vk m =
      (comt m.vote.inst).elim .noCommittee fun c => if checkBody cfg c vk m then .accept else .invalid := by
  unfold checkMsg; cases comt m.vote.inst <;> rfl

theorem checkMsg_accept_iff_body (cfg : Cfg) (comt : Nat → Option Committee) (vk : Option VKey) (m : Msg) :
    checkMsg cfg comt vk m = .accept ↔ ∃ c, comt m.vote.inst = some c ∧ checkBody cfg c vk m = true := by
  rw [checkMsg_eq]
  cases comt m.vote.inst with
  | none => simp
  | some c => by_cases hb : checkBody cfg c vk m = true <;> simp [hb]

theorem checkMsg_invalid_iff_body (cfg : Cfg) (comt : Nat → Option Committee) (vk : Option VKey) (m : Msg) :
    checkMsg cfg comt vk m = .invalid ↔ ∃ c, comt m.vote.inst = some c ∧ checkBody cfg c vk m = false := by
  rw [checkMsg_eq]
  cases comt m.vote.inst with
  | none => simp
  | some c => by_cases hb : checkBody cfg c vk m = true <;> simp [hb]

theorem checkMsg_cases (cfg : Cfg) (comt : Nat → Option Committee) (vk : Option VKey) (m : Msg) :
    checkMsg cfg comt vk m = .accept ∨ checkMsg cfg comt vk m = .invalid ∨
      (comt m.vote.inst = none ∧ checkMsg cfg comt vk m = .noCommittee) := by
  rw [checkMsg_eq]
  cases comt m.vote.inst with
  | none => exact .inr (.inr ⟨rfl, rfl⟩)
  | some c => cases checkBody cfg c vk m <;> simp

/-- `checkBody`, read: the message part passes, and the justification is checked or absent as that part says -/
theorem checkBody_iff (cfg : Cfg) (c : Committee) (vk : Option VKey) (m : Msg) :
    checkBody cfg c vk m = true ↔
      ∃ b, preMsg cfg c vk m = some b ∧ (if b then checkJust cfg c vk m = true else m.just = none) := by
  unfold checkBody
  cases preMsg cfg c vk m with
  | none => simp
  | some b => cases b <;> simp [Option.isNone_iff_eq_none]

theorem checkJust_iff (cfg : Cfg) (c : Committee) (vk : Option VKey) (m : Msg) :
    checkJust cfg c vk m = true ↔ ∃ j ek, preJust vk m = some (j, ek) ∧ sigJust cfg c j ek = true := by
  unfold checkJust
  cases h : preJust vk m with
  | none => simp
  | some p =>
    obtain ⟨j, ek⟩ := p
    simp only [Option.some.injEq, Prod.mk.injEq]
    constructor
    · intro hs; exact ⟨j, ek, ⟨rfl, rfl⟩, hs⟩
    · rintro ⟨j1, ek1, ⟨h1, h2⟩, hs⟩
      subst h1; subst h2; exact hs

theorem phase_cases (p : Nat) :
    p = 1 ∨ p = 2 ∨ p = 3 ∨ p = 4 ∨ p = 5 ∨ (p ≠ 1 ∧ p ≠ 2 ∧ p ≠ 3 ∧ p ≠ 4 ∧ p ≠ 5) := by omega

theorem ite_or_eq {α : Sort _} (p q : Prop) [Decidable p] [Decidable q] (a b : α) :
    (if p ∨ q then a else b) = if p then a else if q then a else b := by
  by_cases hp : p
  · rw [if_pos (Or.inl hp), if_pos hp]
  · by_cases hq : q
    · rw [if_pos (Or.inr hq), if_neg hp, if_pos hq]
    · rw [if_neg (not_or.mpr ⟨hp, hq⟩), if_neg hp, if_neg hq]

theorem ite_bind {α β} (c : Prop) [Decidable c] (a b : Option α) (f : α → Option β) :
    (if c then a else b).bind f = if c then a.bind f else b.bind f :=
  apply_ite (·.bind f) c a b

theorem ite_map {α β} (c : Prop) [Decidable c] (a b : Option α) (f : α → β) :
    (if c then a else b).map f = if c then a.map f else b.map f :=
  apply_ite (·.map f) c a b

/-- The duplicated ("abbreviated") expectation table of `FullyValidateMessage` is the main table of
`validateJustification` restricted to the value column. -/
theorem fullTable_eq_expectation (ph round jph : Nat) :
    fullTable ph jph = (expectation ph round jph).map (·.2) := by
  unfold fullTable expectation
  -- the main table's shared CONVERGE / PREPARE branch is two equal branches of the abbreviated one
  simp only [ite_or_eq, ite_map, Option.map_some, Option.map_none]

end F3.Validator
