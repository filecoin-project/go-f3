import F3.Model.Inputs
import F3.Spec.Inputs
/-! Facts about the model of `consensus_inputs.go` for C15: `collectChain` returns a parent path (`isPath`) ending at
EC's head, trimming keeps a prefix, `tipsOf` returns EC's data, a store answers the same after certificates are
appended, and `getProposal_ok` lists what `GetProposal` went through when it answers. -/
namespace F3.Proofs.Inputs
open F3 F3.Inputs F3.Spec.Inputs


/-- every element's EC parent is the element before it; the first one's parent is `a` -/
def isPath (ec : EC) : Nat → List Nat → Prop
  | _, [] => True
  | a, b :: rest => (∃ blk, ec.get b = some blk ∧ blk.parent = some a) ∧ isPath ec b rest

theorem collectFrom_path (ec : EC) (baseKey : Nat) (be : Int) :
    ∀ (fuel cur : Nat) (acc l : List Nat),
      collectFrom ec baseKey be fuel cur acc = .ok (some l) →
      isPath ec cur acc → (cur :: acc).getLast? = some ec.head →
      isPath ec baseKey l ∧ (baseKey :: l).getLast? = some ec.head := by
  intro fuel
  induction fuel with
  | zero => intro cur acc l h; simp [collectFrom] at h
  | succ n ih =>
    intro cur acc l h hp hl
    simp only [collectFrom] at h
    split at h
    · rename_i hc
      simp only [Res.ok.injEq, Option.some.injEq] at h
      subst h; subst hc
      exact ⟨hp, hl⟩
    · split at h
      · cases h
      · rename_i b hb
        split at h
        · cases h
        · split at h
          · cases h
          · rename_i p hpar
            split at h
            · cases h
            · apply ih p (cur :: acc) l h
              · exact ⟨⟨b, hb, hpar⟩, hp⟩
              · simpa [List.getLast?_cons_cons] using hl

theorem isPath_prefix (ec : EC) : ∀ (l1 l2 : List Nat) (a : Nat), isPath ec a (l1 ++ l2) → isPath ec a l1 := by
  intro l1
  induction l1 with
  | nil => intro _ _ _; trivial
  | cons b rest ih => intro l2 a h; exact ⟨h.1, ih l2 b h.2⟩

/-- a tipset answered by `tipOf` carries the key asked for and EC's epoch of that block -/
theorem tipOf_some {ec : EC} {k : Nat} {t : Tip} (h : tipOf ec k = some t) :
    ∃ b, ec.get k = some b ∧ t.key = k ∧ t.epoch = b.epoch := by
  unfold tipOf at h
  obtain ⟨b, hb, rfl⟩ := Option.map_eq_some_iff.mp h
  exact ⟨b, hb, rfl, rfl⟩

theorem tipsOf_spec (ec : EC) : ∀ (ks : List Nat) (ts : List Tip), tipsOf ec ks = some ts →
    ts.map (·.key) = ks ∧ ∀ t ∈ ts, tipOf ec t.key = some t := by
  intro ks
  induction ks with
  | nil => intro ts h; simp [tipsOf] at h; subst h; simp
  | cons k ks ih =>
    intro ts h
    simp only [tipsOf] at h
    split at h
    · rename_i t ts' ht hts
      simp only [Option.some.injEq] at h
      subst h
      have := ih ts' hts
      obtain ⟨_, _, hk, _⟩ := tipOf_some ht
      refine ⟨by simp [hk, this.1], ?_⟩
      intro x hx
      simp only [List.mem_cons] at hx
      rcases hx with hx | hx
      · subst hx; rw [hk]; exact ht
      · exact this.2 x hx
    · cases h

theorem baseKeyOf_expected (m : Manifest) (s : Store) (ec : EC) (inst k : Nat)
    (h : baseKeyOf m s ec inst = .ok k) : expectedBase m s ec inst = some k := by
  unfold baseKeyOf at h
  unfold expectedBase
  split at h
  · rename_i hi
    simp only [hi, ite_true]
    split at h
    · cases h
    · rename_i k' hk; simp only [Res.ok.injEq] at h; subst h; simpa [hi] using hk
  · rename_i hi
    simp only [hi, ite_false]
    split at h
    · cases h
    · rename_i h0
      simp only [h0, ite_false]
      split at h
      · cases h
      · rename_i c hc
        simp only [Res.ok.injEq] at h
        subst h
        simp [hc]

theorem trim_prefix (m : Manifest) (ec : EC) (now : Int) (l : List Nat) : ∃ rest, l = trim m ec now l ++ rest := by
  unfold trim
  have h1 : ∃ r1, l = (if m.headLookback > 0 then l.take (l.length - m.headLookback) else l) ++ r1 := by
    split
    · exact ⟨l.drop (l.length - m.headLookback), (List.take_append_drop _ _).symm⟩
    · exact ⟨[], by simp⟩
  obtain ⟨r1, hr1⟩ := h1
  generalize hc1 : (if m.headLookback > 0 then l.take (l.length - m.headLookback) else l) = c1 at hr1
  simp only
  have hdl : ∃ r2, c1 = c1.dropLast ++ r2 := by
    cases hgl : c1.getLast? with
    | none => exact ⟨[], by simp [List.getLast?_eq_none_iff.mp hgl]⟩
    | some x =>
      obtain ⟨ys, hys⟩ := List.getLast?_eq_some_iff.mp hgl
      exact ⟨[x], by subst hys; simp⟩
  split
  · exact ⟨r1, hr1⟩
  · split
    · exact ⟨r1, hr1⟩
    · split
      · obtain ⟨r2, hr2⟩ := hdl
        exact ⟨r2 ++ r1, by rw [← List.append_assoc, ← hr2]; exact hr1⟩
      · exact ⟨r1, hr1⟩

theorem collectChain_behind (ec : EC) (baseKey : Nat) {base head : Block} (h : head.epoch < base.epoch) :
    collectChain ec baseKey base head = .ok none := if_pos h

theorem collectChain_path (ec : EC) (baseKey : Nat) (base head : Block) (l : List Nat)
    (h : collectChain ec baseKey base head = .ok (some l)) :
    isPath ec baseKey l ∧ (baseKey :: l).getLast? = some ec.head := by
  unfold collectChain at h
  split at h
  · cases h
  · exact collectFrom_path ec baseKey base.epoch _ ec.head [] l h trivial (by simp)

theorem store_get_mem (s : Store) (i : Nat) (c : Cert) (h : s.get i = some c) : c ∈ s.certs := by
  unfold Store.get at h
  split at h
  · cases h
  · exact List.mem_of_getElem? h

theorem store_get_append (s : Store) (extra : List Cert) (i : Nat) (h : i < s.first + s.certs.length) :
    ({ s with certs := s.certs ++ extra } : Store).get i = s.get i := by
  unfold Store.get
  simp only
  split
  · rfl
  · rw [List.getElem?_append_left (by omega)]

theorem store_powerTable_append (s : Store) (extra : List Cert) (i : Nat) (h : i ≤ s.first + s.certs.length) :
    ({ s with certs := s.certs ++ extra } : Store).powerTable i = s.powerTable i := by
  unfold Store.powerTable
  simp only
  split
  · rfl
  · split
    · rfl
    · rw [List.getElem?_append_left (by omega)]


/-- what `GetProposal` went through when it answered `(supp, chain)`: the base it started from, EC's head, the
chain collected between them, and the checks passed on the way -/
structure ProposalRun (m : Manifest) (s : Store) (ec : EC) (now : Int) (inst supp : Nat) (chain : List Tip)
    (baseKey : Nat) (base head : Block) (col : Option (List Nat)) (b : Tip) (sfx : List Tip) (c : Committee) :
    Prop where
  baseKey_ok : baseKeyOf m s ec inst = .ok baseKey
  base_ok : ec.get baseKey = some base
  head_ok : ec.get ec.head = some head
  collected : collectChain ec baseKey base head = .ok col
  baseTip : tipOf ec baseKey = some b
  suffix : tipsOf ec ((trim m ec now (col.getD [])).take
    (min (min ChainMaxLen m.chainProposedLength - 1) (trim m ec now (col.getD [])).length).toNat) = some sfx
  len_ok : ¬ min ChainMaxLen m.chainProposedLength - 1 < 0
  increasing : epochsIncreasing (b :: sfx) = true
  base_epoch : ¬ base.epoch < 0
  committee : getCommittee m s ec (inst + 1) = .ok c
  supp_eq : supp = c.table
  chain_eq : chain = b :: sfx

theorem getProposal_ok {m : Manifest} {s : Store} {ec : EC} {now : Int} {inst supp : Nat} {chain : List Tip}
    (h : getProposal m s ec now inst = .ok (supp, chain)) :
    ∃ baseKey base head col b sfx c, ProposalRun m s ec now inst supp chain baseKey base head col b sfx c := by
  unfold getProposal at h
  split at h
  · cases h
  rename_i baseKey hbk
  split at h
  · cases h
  · cases h
  rename_i base head hbase hhead
  split at h
  · cases h
  rename_i col hcol
  simp only at h
  split at h
  · cases h
  rename_i hlen
  split at h
  · rename_i b sfx hb hsfx
    split at h
    · cases h
    rename_i hval
    split at h
    · cases h
    rename_i c hc
    simp only [Res.ok.injEq, Prod.mk.injEq] at h
    simp only [Bool.or_eq_true, Bool.not_eq_true', decide_eq_true_eq, not_or, Bool.not_eq_false] at hval
    exact ⟨baseKey, base, head, col, b, sfx, c,
      ⟨hbk, hbase, hhead, hcol, hb, hsfx, hlen, hval.1, hval.2, hc, h.1.symm, h.2.symm⟩⟩
  · cases h

/-- what a successful `GetProposal` says about the suffix it hands out: its keys are a prefix of the collected chain, every
tipset is EC's, and with the base it fits the length bound -/
theorem ProposalRun.suffix_spec {m : Manifest} {s : Store} {ec : EC} {now : Int} {inst supp : Nat} {chain : List Tip}
    {baseKey : Nat} {base head : Block} {col : Option (List Nat)} {b : Tip} {sfx : List Tip} {c : Committee}
    (r : ProposalRun m s ec now inst supp chain baseKey base head col b sfx c) :
    (∃ rest, col.getD [] = sfx.map (·.key) ++ rest) ∧ (∀ t ∈ sfx, tipOf ec t.key = some t) ∧
      (sfx.length : Int) + 1 ≤ min ChainMaxLen m.chainProposedLength := by
  have hsfx := r.suffix
  have hlen := r.len_ok
  obtain ⟨r1, hr1⟩ := trim_prefix m ec now (col.getD [])
  generalize trim m ec now (col.getD []) = collected at hsfx hr1
  generalize hn : (min (min ChainMaxLen m.chainProposedLength - 1) (collected.length : Int)).toNat = n at hsfx
  obtain ⟨hkeys, htips⟩ := tipsOf_spec ec _ sfx hsfx
  refine ⟨⟨collected.drop n ++ r1, ?_⟩, htips, ?_⟩
  · rw [hkeys, ← List.append_assoc, List.take_append_drop]; exact hr1
  · have hl : sfx.length = (collected.take n).length := by rw [← hkeys, List.length_map]
    rw [hl, List.length_take]
    have : (n : Int) ≤ min ChainMaxLen m.chainProposedLength - 1 := by
      rw [← hn, Int.toNat_of_nonneg (by omega)]; omega
    omega

end F3.Proofs.Inputs
