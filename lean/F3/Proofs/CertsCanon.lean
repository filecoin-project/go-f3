import F3.Model.Certs
import F3.Proofs.SMap
import F3.Proofs.SortBy
/-! The model's insertion sort `sortBy` (a permutation, sorted for a total preorder) and the canonical table order
`canon`: for distinct ids there is exactly one canonical ordering, so `canon` depends only on the entries. -/
namespace F3.Certs
open F3.SMap

theorem isInsert_insertBy {α : Type} (le : α → α → Bool) : F3.SortBy.IsInsert le (insertBy le) :=
  ⟨fun _ => rfl, fun _ _ _ => rfl⟩

theorem insertBy_perm {α : Type} (le : α → α → Bool) (x : α) (l : List α) :
    (insertBy le x l).Perm (x :: l) := (isInsert_insertBy le).perm x l

theorem sortBy_perm {α : Type} (le : α → α → Bool) (l : List α) : (sortBy le l).Perm l :=
  (isInsert_insertBy le).sort_perm l

theorem insertBy_pairwise {α : Type} (le : α → α → Bool)
    (htrans : ∀ a b c, le a b = true → le b c = true → le a c = true)
    (htotal : ∀ a b, (le a b || le b a) = true) (x : α) (l : List α)
    (h : l.Pairwise (fun a b => le a b = true)) :
    (insertBy le x l).Pairwise (fun a b => le a b = true) :=
  (isInsert_insertBy le).pairwise htrans htotal x h

theorem sortBy_pairwise {α : Type} (le : α → α → Bool)
    (htrans : ∀ a b c, le a b = true → le b c = true → le a c = true)
    (htotal : ∀ a b, (le a b || le b a) = true) (l : List α) :
    (sortBy le l).Pairwise (fun a b => le a b = true) :=
  (isInsert_insertBy le).sort_pairwise htrans htotal l

theorem entryLe_trans (a b c : Entry) (h1 : entryLe a b = true) (h2 : entryLe b c = true) :
    entryLe a c = true := by
  unfold entryLe at *
  simp only [Bool.or_eq_true, decide_eq_true_eq, Bool.and_eq_true, beq_iff_eq] at *
  omega

theorem entryLe_total (a b : Entry) : (entryLe a b || entryLe b a) = true := by
  unfold entryLe
  simp only [Bool.or_eq_true, decide_eq_true_eq, Bool.and_eq_true, beq_iff_eq]
  omega

theorem canon_perm (t : Table) : (canon t).Perm t := sortBy_perm _ _

theorem canon_sorted (t : Table) : (canon t).Pairwise (fun a b => entryLe a b = true) :=
  sortBy_pairwise entryLe entryLe_trans entryLe_total t

theorem eq_of_id_eq {t : Table} (hnd : (t.map Entry.id).Nodup) {a b : Entry} (ha : a ∈ t) (hb : b ∈ t)
    (h : a.id = b.id) : a = b := by
  have h1 := lookup_of_mem_nodup Entry.id hnd ha
  have h2 := lookup_of_mem_nodup Entry.id hnd hb
  rw [h] at h1
  rw [h1] at h2
  exact Option.some.inj h2

theorem sorted_unique {t₁ t₂ : Table} (hp : t₁.Perm t₂) (hnd : (t₁.map Entry.id).Nodup)
    (h1 : t₁.Pairwise (fun a b => entryLe a b = true)) (h2 : t₂.Pairwise (fun a b => entryLe a b = true)) :
    t₁ = t₂ := by
  apply List.Perm.eq_of_pairwise (le := fun a b => entryLe a b = true) _ h1 h2 hp
  intro a b ha hb hab hba
  have hb' : b ∈ t₁ := hp.mem_iff.mpr hb
  apply eq_of_id_eq hnd ha hb'
  unfold entryLe at hab hba
  simp only [Bool.or_eq_true, decide_eq_true_eq, Bool.and_eq_true, beq_iff_eq] at hab hba
  omega

theorem canon_eq_of_perm {t₁ t₂ : Table} (hp : t₁.Perm t₂) (hnd : (t₁.map Entry.id).Nodup) :
    canon t₁ = canon t₂ := by
  have hp' : (canon t₁).Perm (canon t₂) := (canon_perm t₁).trans (hp.trans (canon_perm t₂).symm)
  have hnd' : ((canon t₁).map Entry.id).Nodup := ((canon_perm t₁).map Entry.id).nodup_iff.mpr hnd
  exact sorted_unique hp' hnd' (canon_sorted t₁) (canon_sorted t₂)

theorem canon_toMap {t : Table} (hnd : (t.map Entry.id).Nodup) : canon (toMap t) = canon t := by
  have hp : (toMap t).Perm t := ofList_perm Entry.id hnd
  exact canon_eq_of_perm hp ((hp.map Entry.id).nodup_iff.mpr hnd)

theorem canon_idem (t : Table) (hnd : (t.map Entry.id).Nodup) : canon (canon t) = canon t :=
  canon_eq_of_perm (canon_perm t) (((canon_perm t).map Entry.id).nodup_iff.mpr hnd)

theorem wf_perm {t₁ t₂ : Table} (hp : t₁.Perm t₂) (h : WF t₁) : WF t₂ :=
  ⟨(hp.map Entry.id).nodup_iff.mp h.1, fun e he => h.2 e (hp.mem_iff.mpr he)⟩

theorem wf_canon {t : Table} (h : WF t) : WF (canon t) := wf_perm (canon_perm t).symm h

theorem wfB_iff (t : Table) : wfB t = true ↔ WF t := by
  unfold wfB WF
  simp only [Bool.and_eq_true, decide_eq_true_eq, List.all_eq_true, bne_iff_ne, ne_eq]

end F3.Certs
