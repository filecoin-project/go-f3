import F3.Proofs.InstanceDecision
import F3.Props.C04
/-!
# From a decision of the instance model to a certificate the certificate model accepts

`F3.Instance` (model of `gpbft/gpbft.go`) reports a decision as a justification
`d = (round, phase, value, signers)`; `F3.Certs` (model of `certs/certs.go`) validates certificates
`(instance, chain, supplemental data, signers, aggregate, delta)`. This file is the glue: the certificate
`host.saveDecision` / `certs.NewFinalityCertificate` assemble from a decision, the translation between the
two models' power tables, chains and symbolic aggregates, and the arithmetic that turns `DecisionOK` into
the hypotheses of `F3.Props.C04.honest_cert_accepted`. The property theorems are in
`F3/Props/C03.lean`, `section Certificate`.

## The two symbolic signature models, and what is assumed of the real scheme

* Instance model: a validated message *is* its signature, and a justification `(round, phase, value,
  signers)` *is* the aggregate, by the members at the table indices `signers`, of their signatures over the
  payload `(instance, round, phase, supplemental data, value)` — instance id and supplemental data are the
  instance's own and implicit (`Msg.instOk`, `Msg.suppOk`).
* Certificate model: an aggregate is the token `.agg [(index, key)…] payload`; `verifySig` accepts exactly
  the token aggregated for the listed signers' keys over exactly the payload it rebuilds.

`aggOf` maps the first to the second (definitional: same signer indices, the keys the certificate model's
table has at those indices, the payload with the implicit fields made explicit and the interned tipset ids
resolved by `tipOf`). What acceptance of an honestly assembled certificate needs of the real BLS scheme is
only *correctness of aggregation*: the aggregate of valid individual signatures over one payload, by the keys
at `mask`, passes `VerifyAggregate(mask, payload, ·)`. That each aggregated signature exists is the
`signed` field of `DecisionOK` (every listed signer is a member from whom a validated DECIDE vote for
exactly the decided value was delivered) — restated on the certificate as `Backed`. *Unforgeability* (the
converse: only such an aggregate verifies) is what the token equality in `verifySig` stands for in the
soundness direction (`F3.Props.C04.validate_sound`); it is not used here.
-/
namespace F3.DecisionCert
open F3.Certs

/-- The power table of the two models is the same table: the same members at the same indices, and
`PowerEntries.Scaled` of the raw powers (what `verifyFinalityCertificateSignature` computes) yields, index
by index, the scaled powers the instance's tally works with (the committee's `ScaledPower`). The scaled
totals then agree as well (`TablesAgree.total`). -/
structure TablesAgree (tbl : F3.Instance.Table) (t : Table) : Prop where
  ids : t.map (·.id) = tbl.entries.map (·.1)
  scaled : ∃ tot, F3.Power.scaled (t.map (·.power)) = some (tbl.entries.map (·.2), tot)

/-- executable form (for examples and drivers) -/
def tablesAgreeB (tbl : F3.Instance.Table) (t : Table) : Bool :=
  t.map (·.id) == tbl.entries.map (·.1) &&
    (match F3.Power.scaled (t.map (·.power)) with
      | some (sc, _) => sc == tbl.entries.map (·.2)
      | none => false)

theorem tablesAgreeB_iff (tbl : F3.Instance.Table) (t : Table) :
    tablesAgreeB tbl t = true ↔ TablesAgree tbl t := by
  unfold tablesAgreeB
  simp only [Bool.and_eq_true, beq_iff_eq]
  constructor
  · rintro ⟨h1, h2⟩
    refine ⟨h1, ?_⟩
    cases hs : F3.Power.scaled (t.map (·.power)) with
    | none => rw [hs] at h2; cases h2
    | some r =>
      obtain ⟨sc, tot⟩ := r
      rw [hs] at h2
      simp only [beq_iff_eq] at h2
      exact ⟨tot, by rw [h2]⟩
  · rintro ⟨h1, tot, h2⟩
    refine ⟨h1, ?_⟩
    rw [h2]
    simp

/-- the payload a justification of the instance model is a signature over, made explicit: network,
instance id and supplemental data `(comm, pt)` are the instance's own; tipset ids are resolved by `tipOf` -/
def payloadOf (net inst comm : Nat) (pt : CidTok) (tipOf : Nat → Tip) (j : F3.Instance.Just) : Payload :=
  ⟨net, inst, j.round, j.phase.toNat, comm, pt, j.value.map tipOf⟩

/-- **The bridge between the two aggregate notions**: the certificate model's token for the aggregate that
the justification `j` of the instance model stands for — the signatures of exactly the members at the
indices `j.signers` (with the keys `t` holds for them), over exactly the payload of `j`. -/
def aggOf (net inst comm : Nat) (pt : CidTok) (tipOf : Nat → Tip) (t : Table) (j : F3.Instance.Just) :
    SigTok :=
  .agg (j.signers.map (fun i => (i, keyAt t i))) (payloadOf net inst comm pt tipOf j)

/-- The finality certificate assembled from a decision `d` of instance `inst` (`certs.NewFinalityCertificate`):
the decided chain, the instance's supplemental data — whose power-table commitment is the CID of the next
table in canonical order —, the decision's signers and aggregate, and the delta from the table in force to
the next table. -/
def decisionCert (net inst comm : Nat) (tipOf : Nat → Tip) (t nt : Table) (d : F3.Instance.Just) : Cert :=
  { inst := inst
    chain := d.value.map tipOf
    comm := comm
    pt := .table (canon nt)
    signers := some d.signers
    sig := aggOf net inst comm (.table (canon nt)) tipOf t d
    delta := makeDiff t nt }

/-- An aggregate token is *backed* by votes: everything it aggregates is the signature of a member of `t`
(at that index, with that key) whose vote exists — the aggregate can be assembled from delivered
messages, nothing has to be forged. -/
def Backed (Voted : Nat → Prop) (t : Table) : SigTok → Prop
  | .agg sg _ => ∀ ik ∈ sg, ∃ e, t[ik.1]? = some e ∧ e.key = ik.2 ∧ Voted e.id
  | .garbage _ => False

theorem power_sum_eq_foldl (l : List Nat) : F3.Power.sum l = l.foldl (· + ·) 0 := by
  induction l with
  | nil => rfl
  | cons x xs ih =>
    simp only [F3.Power.sum, List.foldl_cons]
    rw [F3.Instance.foldl_add_init xs (0 + x), ih]
    omega

theorem scaled_total {tbl : F3.Instance.Table} {t : Table} {tot : Nat}
    (h : F3.Power.scaled (t.map (·.power)) = some (tbl.entries.map (·.2), tot)) : tot = tbl.total := by
  unfold F3.Power.scaled at h
  split at h
  · simp only [Option.some.injEq, Prod.mk.injEq] at h
    obtain ⟨h1, h2⟩ := h
    rw [← h2, h1, power_sum_eq_foldl]
    rfl
  · cases h

theorem TablesAgree.total {tbl : F3.Instance.Table} {t : Table} (h : TablesAgree tbl t) :
    F3.Power.scaled (t.map (·.power)) = some (tbl.entries.map (·.2), tbl.total) := by
  obtain ⟨tot, hs⟩ := h.scaled
  rw [hs, scaled_total hs]

theorem TablesAgree.length {tbl : F3.Instance.Table} {t : Table} (h : TablesAgree tbl t) :
    t.length = tbl.entries.length := by
  have := congrArg List.length h.ids
  simpa using this

theorem getD_powerAt (tbl : F3.Instance.Table) (i : Nat) :
    (tbl.entries.map (·.2)).getD i 0 = tbl.powerAt i := by
  unfold F3.Instance.Table.powerAt
  rw [List.getD_eq_getElem?_getD, List.getElem?_map]
  cases tbl.entries[i]? <;> rfl

theorem sumScaled_eq_sumPow (tbl : F3.Instance.Table) (ss : List Nat) :
    sumScaled (tbl.entries.map (·.2)) ss = (F3.Instance.sumPow tbl ss : Nat) := by
  induction ss with
  | nil => rfl
  | cons i is ih =>
    rw [sumScaled_cons, ih, getD_powerAt]
    unfold F3.Instance.sumPow
    simp only [List.map_cons, List.foldl_cons]
    rw [F3.Instance.foldl_add_init _ (0 + tbl.powerAt i)]
    omega

theorem ids_getElem {tbl : F3.Instance.Table} {t : Table} (h : TablesAgree tbl t) (i : Nat)
    (hi : i < tbl.entries.length) :
    ∃ e, t[i]? = some e ∧ e.id = (tbl.entries[i]).1 ∧ keyAt t i = e.key := by
  have hlt : i < t.length := by rw [h.length]; exact hi
  refine ⟨t[i], List.getElem?_eq_getElem hlt, ?_, ?_⟩
  · have := congrArg (fun l => l[i]?) h.ids
    simp only [List.getElem?_map, List.getElem?_eq_getElem hlt, List.getElem?_eq_getElem hi,
      Option.map_some, Option.some.injEq] at this
    exact this
  · unfold keyAt
    rw [List.getD_eq_getElem?_getD, List.getElem?_eq_getElem hlt]
    rfl

/-- everything `F3.Props.C04.honest_cert_accepted` asks of the signers, from `DecisionOK` and `TablesAgree` -/
theorem signer_facts {V : F3.Instance.Pid → F3.Instance.Chain → Prop} {tbl : F3.Instance.Table}
    {d : F3.Instance.Just} {t : Table} (hok : F3.Instance.DecisionOK V tbl d) (hag : TablesAgree tbl t) :
    (∀ i ∈ d.signers, i < t.length ∧ 0 < (tbl.entries.map (·.2)).getD i 0) ∧
    3 * sumScaled (tbl.entries.map (·.2)) d.signers ≥ 2 * (tbl.total : Int) := by
  constructor
  · intro i hi
    obtain ⟨h1, h2⟩ := hok.members i hi
    rw [getD_powerAt, hag.length]
    exact ⟨h1, h2⟩
  · rw [sumScaled_eq_sumPow]
    have := hok.strong
    unfold F3.Instance.strongQ F3.Spec.Quorum.strong at this
    simpa using this

theorem decisionCert_accepted {V : F3.Instance.Pid → F3.Instance.Chain → Prop}
    {tbl : F3.Instance.Table} {d : F3.Instance.Just} (hok : F3.Instance.DecisionOK V tbl d)
    (net inst comm : Nat) (tipOf : Nat → Tip) (t nt : Table) (base : Option Tip)
    (hag : TablesAgree tbl t) (ht : WF t) (hnt : WF nt)
    (hne : d.value ≠ []) (hcv : chainValid (d.value.map tipOf) = true)
    (hbase : ∀ b, base = some b → ∃ h, (d.value.map tipOf).head? = some h ∧ Tip.eq b h = true) :
    validateCerts net t inst base [decisionCert net inst comm tipOf t nt d] =
      ⟨u64 (inst + 1), (d.value.map tipOf).tail, canon nt, none⟩ := by
  obtain ⟨hmem, hq⟩ := signer_facts hok hag
  have hsig : (decisionCert net inst comm tipOf t nt d).sig =
      .agg (d.signers.map (fun i => (i, keyAt t i)))
        ⟨net, inst, 0, decidePhase, comm, .table (canon nt), d.value.map tipOf⟩ := by
    show aggOf net inst comm (.table (canon nt)) tipOf t d = _
    unfold aggOf payloadOf
    rw [hok.round, hok.phase]
    rfl
  exact F3.Props.C04.honest_cert_accepted net t nt inst base (decisionCert net inst comm tipOf t nt d)
    _ _ d.signers ht hnt rfl hcv
    (by intro h; exact hne (List.map_eq_nil_iff.mp h)) hbase hag.total rfl hok.increasing hmem hq hsig rfl rfl

theorem decisionCert_backed {V : F3.Instance.Pid → F3.Instance.Chain → Prop}
    {tbl : F3.Instance.Table} {d : F3.Instance.Just} (hok : F3.Instance.DecisionOK V tbl d)
    (net inst comm : Nat) (tipOf : Nat → Tip) (t nt : Table) (hag : TablesAgree tbl t) :
    Backed (fun x => V x d.value) t (decisionCert net inst comm tipOf t nt d).sig := by
  show Backed _ t (aggOf net inst comm (.table (canon nt)) tipOf t d)
  unfold aggOf Backed
  intro ik hik
  obtain ⟨i, hi, rfl⟩ := List.mem_map.mp hik
  obtain ⟨x, hx, hv⟩ := hok.signed i hi
  obtain ⟨hlt, hid, _⟩ := F3.Instance.index_spec tbl x i hx
  obtain ⟨e, he, heid, hkey⟩ := ids_getElem hag i hlt
  exact ⟨e, he, hkey.symm, by rw [heid, hid]; exact hv⟩

end F3.DecisionCert
