import F3.Proofs.NoFailure2
import F3.Proofs.ParticipantRun
/-!
# Failure-freedom of whole runs of the instance model

Every run `Start :: ops` (no second `Start`) over validated or foreign deliveries is an `okRunI` run: each call either
is refused at the door, leaving the state untouched, or reports no internal error or panic (`run_nf`). The vocabulary
of refusals (`refusedOp`, `okRunI`, `clean_runI`) is that of `F3.Proofs.InstanceRefusal`; `F3.Bridge.okRun_eq` identifies
`okRunI` with `F3.Bridge.okRun`.
-/
namespace F3.Instance

def Op.isStart : Op → Bool
  | .start _ => true
  | _ => false

theorem step_dq {s : State} {op : Op} (hq : DQ s) (hop : OpOk op) (hnf : hasFailure (step s op).2 = false) :
    DQ (step s op).1 := by
  rcases step_ok s op hq hop with hf | ⟨_, hq'⟩
  · exact absurd (hf.symm.trans hnf) (by decide)
  · exact hq'

theorem mstep_dq {P : Msg → Prop} {s : State} {op : MOp} (hq : DQ s) (hop : MOpOK P s op)
    (hnf : hasFailure (mstep s op).2 = false) : DQ (mstep s op).1 := by
  rcases mstep_ok s op hq (hop.mono (fun _ _ => trivial)) with hf | ⟨_, hq'⟩
  · exact absurd (hf.symm.trans hnf) (by decide)
  · exact hq'

/-- `postReceive` does nothing after a message that terminated the instance: that message is a DECIDE, hence of
round 0 -/
theorem postReceive_after_term {s : State} {now : Int} {m : Msg} (hq : DQ s) (hm : MsgOk m) (hnt : s.phase ≠ .terminated)
    (hnf : hasFailure (s.receiveOne now m).1.2 = false) (ht : (s.receiveOne now m).1.1.phase = .terminated) :
    (s.receiveOne now m).1.1.postReceive now m.round = ((s.receiveOne now m).1.1, []) := by
  have hr0 : m.round = 0 := hm ((receiveOne_term now m hq hnf ht).resolve_left hnt)
  exact postReceive_noop _ _ _ (by omega)

theorem step_nf {s : State} (op : Op) (h : NFI s) (hq : DQ s)
    (hop : foreignOp op = true ∨ OpValidG WT s.tbl op) (hns : op.isStart = false) :
    (refusedOp s op = true ∨ hasFailure (step s op).2 = false) ∧ NFI (step s op).1 ∧ DQ (step s op).1 := by
  by_cases hr : refusedOp s op = true
  · obtain ⟨k, hk, _⟩ := step_refusedOp hr
    rw [hk]
    exact ⟨Or.inl hr, h, hq⟩
  · have hv : OpValidG WT s.tbl op := of_not_refused hop hr
    have hok := nfRule.step op h hq (fun _ _ e => by subst e; exact ⟨hv, MsgValid.msgOk (W := WT) hv⟩)
      (fun _ e => by subst e; cases hns)
      (fun _ _ _ e hd => by subst e; exact absurd (by rcases hd with hd | hd <;> simp [refusedOp, refusedM, hd]) hr)
    exact ⟨Or.inr hok.2.1, NFI.of_gok hok.1 hok.2, step_dq hq hv.opOk hok.2.1⟩

/-- a micro-step other than `Start` on a started instance: `tryCurrentPhase`, `receiveOne` on a validated message
(refused at the door with the state untouched, or processed), `postReceive` on a non-terminated instance — no
failure other than the refusal, and the invariants are kept -/
theorem mstep_nf {s : State} (op : MOp) (h : NFI s) (hq : DQ s) (hop : MOpOK (MsgValid WT s.tbl) s op)
    (hns : ∀ now, op ≠ .start now) :
    ((∃ now m k, op = .one now m ∧ s.recvPre m = .reject k ∧ mstep s op = (s, [.err k])) ∨
      hasFailure (mstep s op).2 = false) ∧ NFI (mstep s op).1 ∧ DQ (mstep s op).1 := by
  by_cases hr : ∃ now m k, op = .one now m ∧ s.recvPre m = .reject k
  · obtain ⟨now, m, k, rfl, hk⟩ := hr
    have heq : mstep s (.one now m) = (s, [.err k]) := by simp only [mstep, State.receiveOne, hk]
    rw [heq]
    exact ⟨.inl ⟨now, m, k, rfl, hk, rfl⟩, h, hq⟩
  · have hok := nfRule.mstep op h hop (fun now e => absurd e (hns now)) fun now m k e hk => absurd ⟨now, m, k, e, hk⟩ hr
    exact ⟨.inr hok.2.1, NFI.of_gok hok.1 hok.2, mstep_dq hq hop hok.2.1⟩

theorem start_nf (cfg : Cfg) (t : Table) (input : Chain) (now : Int) (hin : input ≠ []) (hT : 0 < t.total) :
    hasFailure (step (init cfg t input) (.start now)).2 = false ∧ NFI (step (init cfg t input) (.start now)).1 ∧
      DQ (step (init cfg t input) (.start now)).1 := by
  have hok : NFOK (step (init cfg t input) (.start now)) := by
    unfold step State.beginQuality State.alarmAfter State.resetReb
    simp only [init]
    refine ⟨by simp, by simp, ?_, TallyDisj_empty, by simp [baseChain], fun hm => by simp [Phase.mid] at hm,
      fun hc => by simp at hc⟩
    intro e he
    simp at he
    subst he
    exact ⟨TallyDisj_empty, TallyDisj_empty⟩
  exact ⟨hok.1, NFI.of_gok (step_gok (me := 0) (.start now) (GInv_init WT 0 cfg t input hin hT) (DQ_init cfg t input)
    trivial) hok, step_dq (op := .start now) (DQ_init cfg t input) trivial hok.1⟩

theorem runFrom_nf {s : State} (ops : List Op) (h : NFI s) (hq : DQ s)
    (hops : ∀ op ∈ ops, op.isStart = false ∧ (foreignOp op = true ∨ OpValidG WT s.tbl op)) :
    okRunI s ops = true ∧ NFI (runFrom s ops).1 ∧ DQ (runFrom s ops).1 := by
  induction ops generalizing s with
  | nil => exact ⟨rfl, h, hq⟩
  | cons op ops ih =>
    obtain ⟨hns, hop⟩ := hops op List.mem_cons_self
    obtain ⟨h1, h2, h3⟩ := step_nf op h hq hop hns
    have := ih h2 h3 (fun o ho => by rw [step_tbl]; exact hops o (List.mem_cons_of_mem _ ho))
    rw [runFrom_cons]
    refine ⟨?_, this.2⟩
    simp only [okRunI, Bool.and_eq_true, Bool.or_eq_true, Bool.not_eq_true']
    exact ⟨h1, this.1⟩

theorem OpValidG.top {W : Votes} {t : Table} {op : Op} (h : OpValidG W t op) : OpValidG WT t op := by
  cases op with
  | recv now m => exact MsgValid.top (W := W) h
  | start _ => trivial
  | alarm _ => trivial

/-- **No internal error or panic, run level.** One `Start` followed by any alarms and validated (or foreign)
deliveries: every call is a refusal at the door or reports no failure. -/
theorem run_nf (cfg : Cfg) (t : Table) (input : Chain) (W : Votes) (now0 : Int) (ops : List Op)
    (hin : input ≠ []) (hT : 0 < t.total)
    (hops : ∀ op ∈ ops, op.isStart = false ∧ (foreignOp op = true ∨ OpValidG W t op)) :
    okRunI (init cfg t input) (.start now0 :: ops) = true := by
  obtain ⟨h1, h2, h3⟩ := start_nf cfg t input now0 hin hT
  have htb : (step (init cfg t input) (.start now0)).1.tbl = t := by rw [step_tbl]; rfl
  have := runFrom_nf ops h2 h3 (fun o ho => ⟨(hops o ho).1, (hops o ho).2.imp id (fun hv => by rw [htb]; exact hv.top)⟩)
  simp only [okRunI, Bool.and_eq_true, Bool.or_eq_true, Bool.not_eq_true']
  exact ⟨Or.inr h1, this.1⟩

/-- **Every validated run is, reported refusals aside, a failure-free run over validated deliveries.** Whatever holds
of the final state and the effects of every such failure-free run holds of the run `Start :: ops` with the refusals'
errors removed (`run_nf`, `clean_runI`). The members of a family without a failure hypothesis are instances: the
failure-free member is `hΦ`, and the property does not see `.err` effects. -/
theorem run_transfer {Φ : State → List Eff → Prop} (cfg : Cfg) (t : Table) (input : Chain) (W : Votes) (now0 : Int)
    (ops : List Op) (hin : input ≠ []) (hT : 0 < t.total) (hstart : ∀ op ∈ ops, op.isStart = false)
    (hvalid : ∀ op ∈ ops, foreignOp op = true ∨ OpValidG W t op)
    (hΦ : ∀ ops', (∀ op ∈ ops', OpValidG W t op) → hasFailure (run (init cfg t input) ops').2 = false →
      Φ (run (init cfg t input) ops').1 (run (init cfg t input) ops').2) :
    Φ (run (init cfg t input) (.start now0 :: ops)).1 ((run (init cfg t input) (.start now0 :: ops)).2.filter nonErr) := by
  obtain ⟨ops', h1, h2, h3, h4⟩ := clean_runI (OpValidG W t) _ _
    (run_nf cfg t input W now0 ops hin hT fun op hop => ⟨hstart op hop, hvalid op hop⟩)
    (List.forall_mem_cons.2 ⟨Or.inr trivial, hvalid⟩)
  rw [run_eq_runFrom, ← h3, ← h4]
  exact hΦ ops' h1 h2

end F3.Instance
