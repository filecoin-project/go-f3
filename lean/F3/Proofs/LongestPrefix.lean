import F3.Model.Instance
/-!
# The search for the longest prefix with a quorum

`Tally.longestPrefixWithQuorum c` scans the prefixes of `c` from the longest down for one with a strong quorum and falls
back on the base. `lpOf S c` is the same search over an arbitrary predicate `S` (`lpq_eq_lpOf` holds by `rfl`), so that it
can be compared for different predicates (`lpOf_congr`: a tally's quorums against the quorums of the inputs). The result
is a non-empty prefix of `c` with the head of `c` (`lpOf_prefix`, `lpOf_ne_nil`, `lpOf_head`), satisfies `S` or is the
base (`lpOf_sat`), and every prefix of `c` satisfying `S` is a prefix of it (`lpOf_max`).
-/
namespace F3.Instance

/-- scanning `f (n-1), …, f 0` for the first hit -/
theorem find_rev_range {α} (f : Nat → α) (S : α → Bool) (n : Nat) :
    (∃ j, j < n ∧ ((List.range n).reverse.map f).find? S = some (f j) ∧ S (f j) = true ∧
        ∀ i, j < i → i < n → S (f i) = false) ∨
    (((List.range n).reverse.map f).find? S = none ∧ ∀ i, i < n → S (f i) = false) := by
  induction n with
  | zero => exact Or.inr ⟨rfl, fun i hi => absurd hi (Nat.not_lt_zero _)⟩
  | succ n ih =>
    rw [List.range_succ, List.reverse_append]
    simp only [List.reverse_cons, List.reverse_nil, List.nil_append, List.singleton_append, List.map_cons,
      List.find?_cons]
    cases hS : S (f n) with
    | true =>
      exact Or.inl ⟨n, Nat.lt_succ_self _, rfl, hS, fun i h1 h2 => by omega⟩
    | false =>
      rcases ih with ⟨j, hj, h1, h2, h3⟩ | ⟨h1, h2⟩
      · refine Or.inl ⟨j, by omega, h1, h2, ?_⟩
        intro i hi1 hi2
        by_cases hin : i = n
        · rw [hin]; exact hS
        · exact h3 i hi1 (by omega)
      · refine Or.inr ⟨h1, ?_⟩
        intro i hi
        by_cases hin : i = n
        · rw [hin]; exact hS
        · exact h2 i (by omega)

theorem prefix_eq_prefixTo {x c : Chain} (hx : x <+: c) (hne : x ≠ []) : x = prefixTo c (x.length - 1) := by
  have hkl : 0 < x.length := List.length_pos_iff.2 hne
  unfold prefixTo
  rw [show x.length - 1 + 1 = x.length by omega]
  exact List.prefix_iff_eq_take.1 hx

theorem prefixTo_length (c : Chain) (i : Nat) (hi : i < c.length) : (prefixTo c i).length = i + 1 := by
  unfold prefixTo; rw [List.length_take]; omega

theorem take_length_self_succ (c : Chain) (hc : c ≠ []) : c.take (c.length - 1 + 1) = c := by
  apply List.take_of_length_le
  have : 0 < c.length := List.length_pos_iff.2 hc
  omega

theorem prefix_antisymm {a b : Chain} (h1 : a <+: b) (h2 : b <+: a) : a = b :=
  h1.eq_of_length (Nat.le_antisymm h1.length_le h2.length_le)

theorem baseChain_length (c : Chain) (hc : c ≠ []) : (baseChain c).length = 1 := by
  cases c with
  | nil => exact absurd rfl hc
  | cons a as => simp [baseChain]

theorem baseChain_prefix_of (c k : Chain) (hk : k <+: c) (hne : k ≠ []) : baseChain c <+: k := by
  obtain ⟨r, rfl⟩ := hk
  cases k with
  | nil => exact absurd rfl hne
  | cons a as => simp [baseChain]

end F3.Instance

namespace F3.SyncGeneral
open F3.Instance

def lpOf (S : Chain → Bool) (c : Chain) : Chain :=
  if S c then c
  else
    match ((List.range c.length).reverse.map (prefixTo c)).find? S with
    | some p => p
    | none => baseChain c

theorem lpq_eq_lpOf (Q : Tally) (c : Chain) : Q.longestPrefixWithQuorum c = lpOf Q.hasStrongFor c := rfl

theorem lpOf_take (S : Chain → Bool) (c : Chain) (hc : c ≠ []) : ∃ j, j < c.length ∧ lpOf S c = c.take (j + 1) := by
  have hpos : 0 < c.length := List.length_pos_iff.2 hc
  unfold lpOf
  split
  · exact ⟨c.length - 1, by omega, (take_length_self_succ c hc).symm⟩
  · rcases find_rev_range (prefixTo c) S c.length with ⟨j, hj, h1, _, _⟩ | ⟨h1, _⟩
    · rw [h1]; exact ⟨j, hj, rfl⟩
    · rw [h1]; exact ⟨0, hpos, rfl⟩

theorem lpOf_prefix (S : Chain → Bool) (c : Chain) (hc : c ≠ []) : lpOf S c <+: c := by
  obtain ⟨j, _, hj⟩ := lpOf_take S c hc
  rw [hj]; exact List.take_prefix _ _

theorem lpOf_head (S : Chain → Bool) (c : Chain) (hc : c ≠ []) : (lpOf S c).head? = c.head? := by
  obtain ⟨j, _, hj⟩ := lpOf_take S c hc
  rw [hj]
  cases c with
  | nil => exact absurd rfl hc
  | cons a as => rfl

theorem lpOf_ne_nil (S : Chain → Bool) (c : Chain) (hc : c ≠ []) : lpOf S c ≠ [] := by
  intro h
  have := lpOf_head S c hc
  rw [h] at this
  cases c with
  | nil => exact hc rfl
  | cons a as => cases this

theorem lpOf_sat (S : Chain → Bool) (c : Chain) : S (lpOf S c) = true ∨ lpOf S c = baseChain c := by
  unfold lpOf
  split
  · rename_i h; exact Or.inl h
  · rcases find_rev_range (prefixTo c) S c.length with ⟨j, _, h1, h2, _⟩ | ⟨h1, _⟩
    · rw [h1]; exact Or.inl h2
    · rw [h1]; exact Or.inr rfl

theorem lpOf_max (S : Chain → Bool) (c k : Chain) (hk : k <+: c) (hne : k ≠ []) (hS : S k = true) :
    k <+: lpOf S c := by
  have hkl : 0 < k.length := List.length_pos_iff.2 hne
  have hle : k.length ≤ c.length := hk.length_le
  have hkt := prefix_eq_prefixTo hk hne
  unfold lpOf
  split
  · exact hk
  · rcases find_rev_range (prefixTo c) S c.length with ⟨j, hj, h1, _, h3⟩ | ⟨h1, h2⟩
    · rw [h1]
      have hjk : k.length - 1 ≤ j := by
        by_cases hlt : j < k.length - 1
        · have := h3 (k.length - 1) hlt (by omega)
          rw [← hkt, hS] at this; cases this
        · omega
      rw [hkt]
      unfold prefixTo
      exact (List.take_prefix_take_left (by omega))
    · have := h2 (k.length - 1) (by omega)
      rw [← hkt, hS] at this; cases this

theorem lpOf_congr (S S' : Chain → Bool) (c : Chain) (hc : c ≠ [])
    (h : ∀ k, k <+: c → 2 ≤ k.length → S k = S' k) : lpOf S c = lpOf S' c := by
  have key : ∀ (A B : Chain → Bool), (∀ k, k <+: c → 2 ≤ k.length → A k = B k) → lpOf A c <+: lpOf B c := by
    intro A B hAB
    have hp := lpOf_prefix A c hc
    have hn := lpOf_ne_nil A c hc
    rcases lpOf_sat A c with hs | hb
    · by_cases hl : 2 ≤ (lpOf A c).length
      · exact lpOf_max B c _ hp hn (by rw [← hAB _ hp hl]; exact hs)
      · have h1 : (lpOf A c).length = 1 := by
          have : 0 < (lpOf A c).length := List.length_pos_iff.2 hn
          omega
        have hb : lpOf A c = baseChain c := by
          apply List.IsPrefix.eq_of_length
          · obtain ⟨j, hjl, hj⟩ := lpOf_take A c hc
            rw [hj, List.length_take] at h1
            have hj0 : j = 0 := by omega
            rw [hj, hj0]
            exact List.prefix_rfl
          · rw [h1, baseChain_length c hc]
        rw [hb]
        exact baseChain_prefix_of c _ (lpOf_prefix B c hc) (lpOf_ne_nil B c hc)
    · rw [hb]
      exact baseChain_prefix_of c _ (lpOf_prefix B c hc) (lpOf_ne_nil B c hc)
  exact prefix_antisymm (key S S' h) (key S' S (fun k h1 h2 => (h k h1 h2).symm))

theorem lpOf_self (S : Chain → Bool) (c : Chain) (h : S c = true) : lpOf S c = c := by
  unfold lpOf; rw [if_pos h]

theorem lpq_strong (Q : Tally) (c : Chain) (h : Q.hasStrongFor c = true) : Q.longestPrefixWithQuorum c = c :=
  lpOf_self _ c h

/-- a chain that is only its base is returned whatever the tally holds -/
theorem lpq_single (Q : Tally) (c : Chain) (hc : c ≠ []) (hlen : ¬ 2 ≤ c.length) : Q.longestPrefixWithQuorum c = c := by
  have hp := lpOf_prefix Q.hasStrongFor c hc
  have h1 : 0 < (lpOf Q.hasStrongFor c).length := List.length_pos_iff.2 (lpOf_ne_nil Q.hasStrongFor c hc)
  exact hp.eq_of_length_le (by have := hp.length_le; omega)

end F3.SyncGeneral
