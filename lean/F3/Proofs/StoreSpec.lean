import F3.Proofs.StoreTable
/-! The abstract history: the table after `k` certificates (`Spec.tbl`), what every history built by admitted puts
satisfies (`Spec.Facts`), and its prefixes (`Spec.takeN`). -/
namespace F3.Store
namespace Spec

/-- Table after the first `k` certificates. -/
def tbl (sp : Spec) (k : Nat) : Option Table := foldTables sp.init (sp.certs.take k)

theorem tableAt_eq (sp : Spec) {i : Nat} (h1 : sp.first ≤ i) (h2 : i ≤ sp.next) : sp.tableAt i = sp.tbl (i - sp.first) := by
  simp [tableAt, tbl, h1, h2]

theorem tbl_zero (sp : Spec) : sp.tbl 0 = some sp.init := by simp [tbl, foldTables]

theorem tbl_len (sp : Spec) : sp.tbl sp.certs.length = foldTables sp.init sp.certs := by simp [tbl]

theorem push_first (sp : Spec) (c : Cert) : (sp.push c).first = sp.first := rfl
theorem push_init (sp : Spec) (c : Cert) : (sp.push c).init = sp.init := rfl
theorem push_certs (sp : Spec) (c : Cert) : (sp.push c).certs = sp.certs ++ [c] := rfl
theorem push_length (sp : Spec) (c : Cert) : (sp.push c).certs.length = sp.certs.length + 1 := by
  rw [push_certs, List.length_append]; rfl
theorem push_next (sp : Spec) (c : Cert) : (sp.push c).next = sp.next + 1 := by
  simp [next, push, Nat.add_assoc]

theorem tbl_push_le (sp : Spec) (c : Cert) {k : Nat} (h : k ≤ sp.certs.length) : (sp.push c).tbl k = sp.tbl k := by
  simp [tbl, push, List.take_append_of_le_length h]

theorem admits_iff (sp : Spec) (c : Cert) :
    sp.admits c = true ↔ c.inst = sp.next ∧ c.chain = .ok ∧
      ∃ t t', foldTables sp.init sp.certs = some t ∧ tableStep t c.delta = .ok t' ∧ c.commit = Commit.known t' ∧ t' ≠ [] := by
  unfold admits
  cases hf : foldTables sp.init sp.certs with
  | none => simp
  | some t =>
    cases hs : tableStep t c.delta with
    | error e => simp [hs]
    | ok t' => simp [hs, and_assoc]

theorem tbl_push_last (sp : Spec) (c : Cert) {t t' : Table} (h1 : foldTables sp.init sp.certs = some t)
    (h2 : tableStep t c.delta = .ok t') : (sp.push c).tbl (sp.certs.length + 1) = some t' := by
  rw [← push_length sp c, tbl_len, push_certs, push_init, foldTables_append, h1]
  simp [foldTables, stepOpt, h2]

/-- Everything a valid history guarantees. -/
structure Facts (sp : Spec) : Prop where
  initNe : sp.init ≠ []
  inst : ∀ k (h : k < sp.certs.length), (sp.certs[k]).inst = sp.first + k
  chain : ∀ k (h : k < sp.certs.length), (sp.certs[k]).chain = .ok
  tbls : ∀ k, k ≤ sp.certs.length → ∃ t, sp.tbl k = some t ∧ t ≠ []
  step : ∀ k (h : k < sp.certs.length), ∀ t t', sp.tbl k = some t → sp.tbl (k + 1) = some t' →
    tableStep t (sp.certs[k]).delta = .ok t' ∧ (sp.certs[k]).commit = Commit.known t'

theorem tbl_succ (sp : Spec) {k : Nat} (h : k < sp.certs.length) :
    sp.tbl (k + 1) = stepOpt (sp.tbl k) sp.certs[k] := by
  unfold tbl foldTables
  rw [List.take_succ_eq_append_getElem h, List.foldl_append]
  rfl

theorem Facts.create (first : Nat) {init : Table} (hne : init ≠ []) : Facts ⟨first, init, []⟩ := by
  refine ⟨hne, ?_, ?_, ?_, ?_⟩
  · intro k hk; simp at hk
  · intro k hk; simp at hk
  · intro k hk
    have : k = 0 := Nat.le_zero.1 hk
    subst this
    exact ⟨init, by simp [tbl, foldTables], hne⟩
  · intro k hk; simp at hk

theorem Facts.push {sp : Spec} (ih : sp.Facts) {c : Cert} (hadm : sp.admits c = true) : (sp.push c).Facts := by
  obtain ⟨hinst, hchain, t, t', hf, hs, hcm, hne⟩ := (admits_iff sp c).1 hadm
  have hlen := push_length sp c
  refine ⟨ih.initNe, ?_, ?_, ?_, ?_⟩
  · intro k hk
    rw [hlen] at hk
    by_cases hlt : k < sp.certs.length
    · simp only [push_certs, push_first, List.getElem_append_left hlt]
      exact ih.inst k hlt
    · have : k = sp.certs.length := by omega
      subst this
      simp [push_certs, push_first, hinst, next]
  · intro k hk
    rw [hlen] at hk
    by_cases hlt : k < sp.certs.length
    · simp only [push_certs, List.getElem_append_left hlt]
      exact ih.chain k hlt
    · have : k = sp.certs.length := by omega
      subst this
      simp [push_certs, hchain]
  · intro k hk
    rw [hlen] at hk
    by_cases hle : k ≤ sp.certs.length
    · rw [tbl_push_le sp c hle]; exact ih.tbls k hle
    · have : k = sp.certs.length + 1 := by omega
      subst this
      exact ⟨t', tbl_push_last sp c hf hs, hne⟩
  · intro k hk a b ha hb
    rw [hlen] at hk
    by_cases hlt : k < sp.certs.length
    · rw [tbl_push_le sp c (Nat.le_of_lt hlt)] at ha
      rw [tbl_push_le sp c hlt] at hb
      simp only [push_certs, List.getElem_append_left hlt]
      exact ih.step k hlt a b ha hb
    · have hk' : k = sp.certs.length := by omega
      subst hk'
      rw [tbl_push_le sp c (Nat.le_refl _), tbl_len, hf] at ha
      rw [tbl_push_last sp c hf hs] at hb
      cases ha; cases hb
      simp [push_certs, hs, hcm]

theorem Valid.facts {sp : Spec} (h : sp.Valid) : sp.Facts := by
  induction h with
  | create first init hne => exact Facts.create first hne
  | push _ hadm ih => exact ih.push hadm

theorem latest_eq (sp : Spec) : sp.latest = sp.certs.getLast? := rfl

theorem latest_none_iff (sp : Spec) : sp.latest = none ↔ sp.certs = [] := by
  simp [latest, List.getLast?_eq_none_iff]

theorem latest_getElem {sp : Spec} {c : Cert} (hc : sp.latest = some c) :
    ∃ h : sp.certs.length - 1 < sp.certs.length, sp.certs[sp.certs.length - 1] = c := by
  unfold latest at hc
  rw [List.getLast?_eq_getElem?] at hc
  have hlen : sp.certs.length - 1 < sp.certs.length := by
    cases hl : sp.certs with
    | nil => simp [hl] at hc
    | cons x xs => simp
  rw [List.getElem?_eq_getElem hlen] at hc
  exact ⟨hlen, Option.some.inj hc⟩

theorem latest_inst {sp : Spec} (h : sp.Facts) {c : Cert} (hc : sp.latest = some c) : c.inst + 1 = sp.next := by
  obtain ⟨hlen, rfl⟩ := latest_getElem hc
  rw [h.inst _ hlen]; unfold next; omega

theorem canon_tbl {sp : Spec} (hc : Canon sp.init) {k : Nat} {t : Table} (h : sp.tbl k = some t) : Canon t :=
  canon_foldTables hc h

/-! ### Prefixes of a history -/

def takeN (sp : Spec) (j : Nat) : Spec := { sp with certs := sp.certs.take j }

theorem takeN_len (sp : Spec) {j : Nat} (h : j ≤ sp.certs.length) : (sp.takeN j).certs.length = j := by
  simp [takeN, List.length_take, Nat.min_eq_left h]

theorem takeN_tbl (sp : Spec) {j k : Nat} (h : k ≤ j) : (sp.takeN j).tbl k = sp.tbl k := by
  unfold takeN tbl
  simp only [List.take_take]
  rw [Nat.min_eq_left h]

theorem takeN_push (sp : Spec) {j : Nat} (h : j < sp.certs.length) : (sp.takeN j).push sp.certs[j] = sp.takeN (j + 1) := by
  unfold takeN push
  simp only
  rw [List.take_succ_eq_append_getElem h]

theorem Facts.admits_next {sp : Spec} (hf : sp.Facts) {j : Nat} (h : j < sp.certs.length) :
    (sp.takeN j).admits sp.certs[j] = true := by
  obtain ⟨t, ht, _⟩ := hf.tbls j (Nat.le_of_lt h)
  obtain ⟨t', ht', hne'⟩ := hf.tbls (j + 1) h
  obtain ⟨hstep, hcm⟩ := hf.step j h t t' ht ht'
  refine (admits_iff _ _).2 ⟨?_, hf.chain j h, t, t', ?_, hstep, hcm, hne'⟩
  · rw [hf.inst j h]; simp [next, takeN, List.length_take, Nat.min_eq_left (Nat.le_of_lt h)]
  · have := takeN_tbl sp (Nat.le_refl j)
    rw [← tbl_len, takeN_len sp (Nat.le_of_lt h), this]; exact ht

theorem Facts.takeN {sp : Spec} (hf : sp.Facts) {j : Nat} (h : j ≤ sp.certs.length) : (sp.takeN j).Facts := by
  induction j with
  | zero =>
    have : sp.takeN 0 = ⟨sp.first, sp.init, []⟩ := by simp [Spec.takeN]
    rw [this]; exact Facts.create sp.first hf.initNe
  | succ j ih =>
    rw [← takeN_push sp h]
    exact (ih (Nat.le_of_lt h)).push (hf.admits_next h)

theorem truncateTo_eq_takeN (sp : Spec) (n : Nat) : sp.truncateTo n = sp.takeN (n + 1 - sp.first) := rfl

end Spec
end F3.Store
