import F3.Proofs.SyncTally
import F3.Proofs.InstanceGuards2
/-!
# Failure-freedom, tally level

Why the `panic` sites inside `quorumState` / `convergeState` are unreachable on well-formed tallies (`TallyWF`). One
fact `TallyWF` does not record is needed for "multiple strong quorums": a sender's signature is stored under at most
one chain (`TallyDisj`).
-/
namespace F3.Instance

theorem receive_some {V : Pid → Chain → Prop} (t : Table) (q : Tally) (sender : Pid) (c : Chain)
    (hwf : TallyWF V t q) : ∃ q', q.receive t sender c = some q' := by
  unfold Tally.receive
  split
  · exact ⟨q, rfl⟩
  · rename_i hns
    have hns' : sender ∉ q.senders := by simpa using hns
    unfold Tally.receiveInner
    dsimp only
    split
    · rename_i hdup
      exfalso
      simp only [Bool.true_and, List.contains_eq_mem, decide_eq_true_eq] at hdup
      exact hns' ((cand_signers t q c hwf).2.1 _ hdup)
    · exact ⟨_, rfl⟩

theorem findStrongQuorumFor_total {V : Pid → Chain → Prop} (t : Table) (q : Tally) (c : Chain)
    (hwf : TallyWF V t q) (hT : 0 < t.total) :
    (q.hasStrongFor c = false ∧ q.findStrongQuorumFor t c = .none) ∨
    (q.hasStrongFor c = true ∧ ∃ sg, q.findStrongQuorumFor t c = .found sg) := by
  unfold Tally.hasStrongFor
  cases hf : q.findSupport c with
  | none => exact Or.inl ⟨rfl, by simp [Tally.findStrongQuorumFor, hf]⟩
  | some s =>
    have hsm := findSupport_mem q c s hf
    cases hs : s.strong with
    | false => exact Or.inl ⟨hs, by simp [Tally.findStrongQuorumFor, hf, hs]⟩
    | true =>
      have hst : strongQ t (sumP t s.signers) = true := by
        rw [← hwf.supPow s hsm, ← hwf.strongOk s hsm]; exact hs
      refine Or.inr ⟨hs, F3.Sync.fsqf_found t q c s hf hs
        (fun x hx => index_some t x (hwf.pos x (hwf.sub s hsm x hx))) (fun he => ?_) hst⟩
      rw [he, sumP_nil, strongQ_zero t hT] at hst; cases hst

theorem findStrongQuorumFor_found {V : Pid → Chain → Prop} (t : Table) (q : Tally) (c : Chain)
    (hwf : TallyWF V t q) (hT : 0 < t.total) (hs : q.hasStrongFor c = true) :
    ∃ sg, q.findStrongQuorumFor t c = .found sg := by
  rcases findStrongQuorumFor_total t q c hwf hT with ⟨h, _⟩ | ⟨_, h⟩
  · rw [hs] at h; cases h
  · exact h

/-- a sender's signature is stored under at most one chain -/
def TallyDisj (q : Tally) : Prop :=
  ∀ s1 ∈ q.support, ∀ s2 ∈ q.support, ∀ x, x ∈ s1.signers → x ∈ s2.signers → s1.chain = s2.chain

theorem TallyDisj_empty : TallyDisj {} := by
  intro s1 h1; simp at h1

theorem TallyDisj.of_support {q q' : Tally} (h : TallyDisj q) (hs : q'.support = q.support) : TallyDisj q' := by
  unfold TallyDisj; rw [hs]; exact h

theorem receive_disj {V : Pid → Chain → Prop} (t : Table) (q q' : Tally) (sender : Pid) (c : Chain)
    (hwf : TallyWF V t q) (hd : TallyDisj q) (h : q.receive t sender c = some q') : TallyDisj q' := by
  unfold Tally.receive at h
  split at h
  · cases h; exact hd
  · rename_i hns
    have hns' : sender ∉ q.senders := by simpa using hns
    unfold Tally.receiveInner at h
    dsimp only at h
    split at h
    · cases h
    · cases h
      have hmem := fun s' => upsert_mem_iff q.support hwf.chains
        { chain := c, power := ((q.findSupport c).getD { chain := c, power := 0, signers := [], strong := false }).power + t.power sender,
          signers := ((q.findSupport c).getD { chain := c, power := 0, signers := [], strong := false }).signers ++ [sender],
          strong := strongQ t (((q.findSupport c).getD { chain := c, power := 0, signers := [], strong := false }).power + t.power sender) } s'
      -- a signer of the updated entry that is also filed under an old entry: the old entry is for `c`
      have hmix : ∀ s2 ∈ q.support, ∀ x,
          x ∈ ((q.findSupport c).getD { chain := c, power := 0, signers := [], strong := false }).signers ++ [sender] →
          x ∈ s2.signers → s2.chain = c := by
        intro s2 hs2 x hx hx2
        simp only [List.mem_append, List.mem_singleton] at hx
        rcases hx with hx | rfl
        · cases hf : q.findSupport c with
          | none => rw [hf] at hx; simp at hx
          | some sup =>
            rw [hf] at hx
            simp only [Option.getD_some] at hx
            have := hd sup (findSupport_mem q c sup hf) s2 hs2 x hx hx2
            rw [← this]; exact findSupport_chain q c sup hf
        · exact absurd (hwf.sub s2 hs2 x hx2) hns'
      intro s1 h1 s2 h2 x hx1 hx2
      have h1' := (hmem s1).1 h1
      have h2' := (hmem s2).1 h2
      rcases h1' with rfl | ⟨h1o, h1c⟩ <;> rcases h2' with rfl | ⟨h2o, h2c⟩
      · rfl
      · exact absurd (hmix s2 h2o x hx1 hx2) h2c
      · exact absurd (hmix s1 h1o x hx2 hx1) h1c
      · exact hd s1 h1o s2 h2o x hx1 hx2

theorem storePrepareJust_support (q : Tally) (m : Msg) : (storePrepareJust q m).support = q.support := by
  unfold storePrepareJust
  split
  · exact (receiveJust_justs q m.value _).2.2.2.1
  · rfl

theorem storeCommitJust_support (q : Tally) (m : Msg) : (storeCommitJust q m).support = q.support := by
  unfold storeCommitJust
  split
  · split
    · rfl
    · exact (receiveJust_justs q m.value _).2.2.2.1
  · rfl

theorem strong_pair_false (t : Table) (hT : 0 < t.total) (p1 p2 : Nat) (hle : p1 + p2 ≤ t.total)
    (h1 : strongQ t p1 = true) (h2 : strongQ t p2 = true) : False := by
  unfold strongQ Spec.Quorum.strong at h1 h2
  simp only [decide_eq_true_eq] at h1 h2
  have hT' : (0 : Int) < (t.total : Int) := by exact_mod_cast hT
  have hle' : (p1 : Int) + (p2 : Int) ≤ (t.total : Int) := by exact_mod_cast hle
  omega

theorem strong_unique {V : Pid → Chain → Prop} (t : Table) (q : Tally) (hwf : TallyWF V t q) (hd : TallyDisj q)
    (hT : 0 < t.total) (s1 s2 : Support) (h1 : s1 ∈ q.support) (h2 : s2 ∈ q.support)
    (hs1 : s1.strong = true) (hs2 : s2.strong = true) : s1.chain = s2.chain := by
  by_cases hc : s1.chain = s2.chain
  · exact hc
  · exfalso
    have hnd : (s1.signers ++ s2.signers).Nodup := by
      rw [List.nodup_append]
      refine ⟨hwf.nodup s1 h1, hwf.nodup s2 h2, ?_⟩
      intro a ha b hb hab
      subst hab
      exact hc (hd s1 h1 s2 h2 a ha hb)
    have hsub : ∀ x ∈ s1.signers ++ s2.signers, x ∈ q.senders := by
      intro x hx
      rcases List.mem_append.1 hx with hx | hx
      · exact hwf.sub s1 h1 x hx
      · exact hwf.sub s2 h2 x hx
    have hle := sumP_le_of_subset t _ _ hnd hsub
    rw [sumP_append, ← hwf.supPow s1 h1, ← hwf.supPow s2 h2] at hle
    have htot := sumP_le_total t q.senders hwf.sendersNodup
    refine strong_pair_false t hT s1.power s2.power (by omega) ?_ ?_
    · rw [← hwf.strongOk s1 h1]; exact hs1
    · rw [← hwf.strongOk s2 h2]; exact hs2

theorem fsqv_not_multiple {V : Pid → Chain → Prop} (t : Table) (q : Tally) (hwf : TallyWF V t q) (hd : TallyDisj q)
    (hT : 0 < t.total) (h : q.findStrongQuorumValue = .multiple) : False := by
  rcases fsqv_cases q with ⟨h', _⟩ | ⟨s, h', _⟩ | ⟨_, s1, s2, rest, hf⟩
  · rw [h'] at h; cases h
  · rw [h'] at h; cases h
  · have hsub : (s1 :: s2 :: rest).Sublist q.support := by rw [← hf]; exact List.filter_sublist
    have hch : ((s1 :: s2 :: rest).map (·.chain)).Nodup := (hsub.map _).nodup hwf.chains
    have hm1 : s1 ∈ q.support.filter (·.strong) := by rw [hf]; simp
    have hm2 : s2 ∈ q.support.filter (·.strong) := by rw [hf]; simp
    obtain ⟨h1, hs1⟩ := List.mem_filter.1 hm1
    obtain ⟨h2, hs2⟩ := List.mem_filter.1 hm2
    have := strong_unique t q hwf hd hT s1 s2 h1 h2 hs1 hs2
    simp only [List.map_cons, List.nodup_cons, List.mem_cons, not_or] at hch
    exact hch.1.1 this

theorem fsqv_one_strong {V : Pid → Chain → Prop} (t : Table) (q : Tally) (hwf : TallyWF V t q) (c : Chain)
    (h : q.findStrongQuorumValue = .one c) : q.hasStrongFor c = true := by
  rcases fsqv_cases q with ⟨h', _⟩ | ⟨s, h', hs, hst⟩ | ⟨h', _⟩
  · rw [h'] at h; cases h
  · rw [h'] at h
    have hc : s.chain = c := by injection h
    have := find_of_mem_nodup q.support hwf.chains s hs
    unfold Tally.hasStrongFor Tally.findSupport
    rw [← hc, this]; exact hst
  · rw [h'] at h; cases h

theorem fsqv_none_strong (q : Tally) (c : Chain) (h : q.findStrongQuorumValue = .none) : q.hasStrongFor c = false := by
  rcases fsqv_cases q with ⟨_, hall⟩ | ⟨s, h', _⟩ | ⟨h', _⟩
  · unfold Tally.hasStrongFor
    cases hf : q.findSupport c with
    | none => rfl
    | some s => exact hall s (findSupport_mem q c s hf)
  · rw [h'] at h; cases h
  · rw [h'] at h; cases h

theorem firstNonZero_some {V : Pid → Chain → Prop} (t : Table) (q : Tally) (hwf : TallyWF V t q) (hT : 0 < t.total)
    (hnone : q.findStrongQuorumValue = .none) (hfs : q.fromStrong t = true) : ∃ v, q.firstNonZero = some v := by
  cases hfz : q.firstNonZero with
  | some v => exact ⟨v, rfl⟩
  | none =>
    exfalso
    unfold Tally.firstNonZero at hfz
    have hall : ∀ s ∈ q.support, s.chain = [] := by
      cases hfd : q.support.find? (fun s => !s.chain.isEmpty) with
      | some s => rw [hfd] at hfz; cases hfz
      | none =>
        rw [List.find?_eq_none] at hfd
        intro s hs
        simpa using hfd s hs
    have hweak : ∀ s ∈ q.support, s.strong = false := by
      rcases fsqv_cases q with ⟨_, h⟩ | ⟨s, h', _⟩ | ⟨h', _⟩
      · exact h
      · rw [h'] at hnone; cases hnone
      · rw [h'] at hnone; cases hnone
    unfold Tally.fromStrong at hfs
    cases hsd : q.senders with
    | nil =>
      rw [hwf.sendersPow, hsd, sumP_nil, strongQ_zero t hT] at hfs
      cases hfs
    | cons x xs =>
      obtain ⟨sup0, hsup0, _⟩ := hwf.covered x (by rw [hsd]; exact List.mem_cons_self)
      have hdom : q.sendersPower ≤ sup0.power := by
        rw [hwf.sendersPow, hwf.supPow sup0 hsup0]
        apply sumP_le_of_subset t _ _ hwf.sendersNodup
        intro y hy
        obtain ⟨sup, hsup, hys⟩ := hwf.covered y hy
        have h1 := find_of_mem_nodup q.support hwf.chains sup hsup
        have h2 := find_of_mem_nodup q.support hwf.chains sup0 hsup0
        rw [hall sup hsup] at h1
        rw [hall sup0 hsup0] at h2
        rw [h1] at h2
        cases h2; exact hys
      have := strongQ_of_le t hdom hfs
      rw [← hwf.strongOk sup0 hsup0, hweak sup0 hsup0] at this
      cases this

theorem findBest_some (cv : Conv) (f : ConvVal → Bool) (x : ConvVal) (hx : x ∈ cv.values) (hf : f x = true) :
    ∃ w, cv.findBest f = some w := by
  unfold Conv.findBest
  suffices hgen : ∀ (l : List ConvVal) (init : Option ConvVal),
      (init.isSome = true ∨ ∃ y ∈ l, f y = true) →
      ∃ w, l.foldl (fun best cv' =>
        let better := match best with
          | none => true
          | some b => rankLt cv'.rank b.rank
        if better && f cv' then some cv' else best) init = some w from
    hgen cv.values none (Or.inr ⟨x, hx, hf⟩)
  intro l
  induction l with
  | nil =>
    intro init h
    rcases h with h | ⟨y, hy, _⟩
    · cases init with
      | none => cases h
      | some b => exact ⟨b, rfl⟩
    · cases hy
  | cons a as ih =>
    intro init h
    simp only [List.foldl_cons]
    apply ih
    cases init with
    | some b =>
      left
      dsimp only
      split <;> rfl
    | none =>
      rcases h with h | ⟨y, hy, hfy⟩
      · cases h
      · by_cases hfa : f a = true
        · left; simp [hfa]
        · right
          rcases List.mem_cons.1 hy with rfl | hy
          · exact absurd hfy hfa
          · exact ⟨y, hy, hfy⟩

end F3.Instance
