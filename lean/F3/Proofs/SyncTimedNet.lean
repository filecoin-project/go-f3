import F3.Proofs.SyncTimedStep
/-!
# Real-time synchrony implies the untimed synchrony order (proof of `C02.timed_sync_ordered`)

Joint induction along the execution: the network invariant `NInv` of `SyncNet` (which needs the untimed synchrony
condition `syncOpOk` of the current event) and the timing invariant `TInv` (from which, with the real-time
conditions T1–T3 at the current event, `syncOpOk` follows — `syncAt_of_timed`).
-/
namespace F3.Sync
open F3.Instance F3.Net

section
variable {t : Table} {c : Chain} {H : List Pid} {Δ : Int} {cfg : Pid → Cfg}

/-- an event that runs the model on node `p` (state `s`, result `r`, broadcasts stamped `now`) -/
theorem TInv.step (hlen : 2 ≤ c.length) (hΔ : 0 ≤ Δ)
    (hT4 : ∀ q ∈ H, 2 * Δ ≤ (cfg q).qualityTimeout2 ∧ 2 * Δ ≤ tableGet (cfg q).timeout2 0)
    {tn tn' : TNet} (hn : NInv t c H tn.net) (ht : TInv t Δ cfg tn) {p : Pid} {s : State}
    (hp : (p, s) ∈ tn.net.nodes) (r : R) (om : Option Msg) (now : Int)
    (g : Good t c H p s r) (sx : SX c now om s r) (hom : ∀ m, om = some m → m ∈ tn.net.pool)
    (hT1 : tn.clock ≤ now) (hT3 : T3 Δ tn now)
    (hnodes : tn'.net.nodes = setNode tn.net.nodes p r.1)
    (hpool : tn'.net.pool = tn.net.pool ++ sent p r.2)
    (hst : tn'.stamps = tn.stamps ++ (sent p r.2).map (fun m => (m, now)))
    (hclock : tn'.clock = now)
    (hcase : (s.phase ≠ .initial ∧ tn'.starts = tn.starts ∧ tn'.net.started = tn.net.started ∧ p ∈ tn.net.started) ∨
      (s.phase = .initial ∧ tn'.starts = tn.starts ++ [(p, now)] ∧ tn'.net.started = tn.net.started ++ [p] ∧
        r.1.phaseTimeout = now + s.cfg.qualityTimeout2 ∧ ∀ q s', (q, s') ∈ tn.starts → now ≤ s' + Δ)) :
    TInv t Δ cfg tn' := by
  have hpH := hn.mem_H hp
  have htn := ht.node p s hp
  have hsentp : ∀ m ∈ sent p r.2, m.sender = p := fun m hm => (g.trans.facts.1 m hm).1
  have hconv0 := conv_step ht hp sx hom
  have hsts : ∀ d ∈ tn.starts, d ∈ tn'.starts := by
    intro d hd
    rcases hcase with ⟨_, h, _⟩ | ⟨_, h, _⟩ <;> rw [h]
    · exact hd
    · exact List.mem_append_left _ hd
  have hpst : ∃ s', (p, s') ∈ tn'.starts ∧ s' ≤ now := by
    rcases hcase with ⟨_, h, _, hin⟩ | ⟨_, h, _⟩
    · obtain ⟨s', hs'⟩ := (ht.started p).1 hin
      exact ⟨s', by rw [h]; exact hs', Int.le_trans (ht.sts_clock p s' hs') hT1⟩
    · exact ⟨now, by rw [h]; simp, Int.le_refl _⟩
  have hnew : ∀ m τ, (m, τ) ∈ (sent p r.2).map (fun m => (m, now)) → m ∈ sent p r.2 ∧ τ = now := by
    intro m τ h
    obtain ⟨m', hm', he⟩ := List.mem_map.1 h
    simp only [Prod.mk.injEq] at he
    exact ⟨he.1 ▸ hm', he.2.symm⟩
  have hstle : ∀ m τ, (m, τ) ∈ tn.stamps → τ ≤ now := fun m τ h => Int.le_trans (ht.st_clock m τ h) hT1
  have hsub : ∀ d ∈ tn.stamps, d ∈ tn.stamps ++ (sent p r.2).map (fun m => (m, now)) :=
    fun d hd => List.mem_append_left _ hd
  -- a tallied sender has broadcast by `now`
  have hsentby : ∀ ph y, y ∈ sendersOf r.1 ph →
      SentBy (tn.stamps ++ (sent p r.2).map (fun m => (m, now))) y ph now := by
    intro ph y hy
    obtain ⟨my, hmy, h1, h2⟩ := hconv0 ph y hy
    obtain ⟨τy, hτy⟩ := ht.pool_st my hmy
    exact ⟨my, τy, hsub _ hτy, h1, h2, hstle my τy hτy⟩
  constructor
  case pool_st =>
    intro m hm
    rw [hpool] at hm
    rw [hst]
    rcases List.mem_append.1 hm with h | h
    · obtain ⟨τ, hτ⟩ := ht.pool_st m h
      exact ⟨τ, hsub _ hτ⟩
    · exact ⟨now, List.mem_append_right _ (List.mem_map.2 ⟨m, h, rfl⟩)⟩
  case st_pool =>
    intro m τ h
    rw [hst] at h
    rw [hpool]
    rcases List.mem_append.1 h with h | h
    · exact List.mem_append_left _ (ht.st_pool m τ h)
    · exact List.mem_append_right _ (hnew m τ h).1
  case st_clock =>
    intro m τ h
    rw [hst] at h
    rw [hclock]
    rcases List.mem_append.1 h with h | h
    · exact hstle m τ h
    · rw [(hnew m τ h).2]; exact Int.le_refl _
  case sts_clock =>
    intro q s' h
    rw [hclock]
    rcases hcase with ⟨_, he, _⟩ | ⟨_, he, _⟩ <;> rw [he] at h
    · exact Int.le_trans (ht.sts_clock q s' h) hT1
    · rcases List.mem_append.1 h with h | h
      · exact Int.le_trans (ht.sts_clock q s' h) hT1
      · simp only [List.mem_singleton, Prod.mk.injEq] at h
        rw [h.2]; exact Int.le_refl _
  case started =>
    intro q
    rcases hcase with ⟨_, he, hs, _⟩ | ⟨_, he, hs, _⟩ <;> rw [he, hs]
    · exact ht.started q
    · constructor
      · intro h
        rcases List.mem_append.1 h with h | h
        · obtain ⟨s', hs'⟩ := (ht.started q).1 h
          exact ⟨s', List.mem_append_left _ hs'⟩
        · simp only [List.mem_singleton] at h
          exact ⟨now, by rw [h]; simp⟩
      · rintro ⟨s', h⟩
        rcases List.mem_append.1 h with h | h
        · exact List.mem_append_left _ ((ht.started q).2 ⟨s', h⟩)
        · simp only [List.mem_singleton, Prod.mk.injEq] at h
          rw [h.1]; simp
  case stagger =>
    intro q s1 q' s2 h1 h2
    rcases hcase with ⟨_, he, _⟩ | ⟨_, he, _, _, h2a⟩ <;> rw [he] at h1 h2
    · exact ht.stagger q s1 q' s2 h1 h2
    · rcases List.mem_append.1 h1 with h1 | h1 <;> rcases List.mem_append.1 h2 with h2 | h2
      · exact ht.stagger q s1 q' s2 h1 h2
      · simp only [List.mem_singleton, Prod.mk.injEq] at h2
        rw [h2.2]; exact h2a q s1 h1
      · simp only [List.mem_singleton, Prod.mk.injEq] at h1
        have := Int.le_trans (ht.sts_clock q' s2 h2) hT1
        rw [h1.2]; omega
      · simp only [List.mem_singleton, Prod.mk.injEq] at h1 h2
        rw [h1.2, h2.2]; omega
  case qstamp =>
    intro m τ h hq
    rw [hst] at h
    rcases List.mem_append.1 h with h | h
    · exact hsts _ (ht.qstamp m τ h hq)
    · obtain ⟨hm, rfl⟩ := hnew m τ h
      have ha := (g.trans.new hm).1 hq
      rw [hsentp m hm]
      rcases hcase with ⟨hni, _⟩ | ⟨_, he, _⟩
      · exact absurd ha hni
      · rw [he]; simp
  case sender_started =>
    intro m τ h
    rw [hst] at h
    rcases List.mem_append.1 h with h | h
    · obtain ⟨s', h1, h2⟩ := ht.sender_started m τ h
      exact ⟨s', hsts _ h1, h2⟩
    · obtain ⟨hm, rfl⟩ := hnew m τ h
      rw [hsentp m hm]
      exact hpst
  case qlp =>
    intro m e h hph
    rw [hst] at h ⊢
    rcases List.mem_append.1 h with h | h
    · exact (ht.qlp m e h hph).mono hsub (Int.le_refl _)
    · obtain ⟨hm, rfl⟩ := hnew m e h
      obtain ⟨ha, hb⟩ := (g.trans.new hm).2.1 hph
      have hstr := g.sinv.qt.strong_imp hlen (sx.toP ha hb).2
      exact ⟨r.1.quality.senders, sx.qn htn.qn, hstr, fun y hy => hsentby .quality y hy⟩
  case qlc =>
    intro m e h hph
    rw [hst] at h ⊢
    rcases List.mem_append.1 h with h | h
    · exact (ht.qlc m e h hph).mono hsub (Int.le_refl _)
    · obtain ⟨hm, rfl⟩ := hnew m e h
      obtain ⟨ha, hb⟩ := (g.trans.new hm).2.2 hph
      rcases (sx.toC ha hb).2 with hs | hj
      · exact ⟨(r.1.getRound 0).prepared.senders, g.sinv.prep.nodup, g.sinv.prep.strong_imp hs,
          fun y hy => hsentby .prepare y hy⟩
      · have hne := sx.js htn.js hj
        obtain ⟨y, hy⟩ := List.exists_mem_of_ne_nil _ hne
        obtain ⟨my, hmy, _, h2⟩ := hconv0 .commit y hy
        obtain ⟨τy, hτy⟩ := ht.pool_st my hmy
        exact (ht.qlc my τy hτy h2).mono hsub (hstle my τy hτy)
  case node =>
    intro q x hq
    rw [hnodes] at hq
    rw [hst, hpool]
    rcases mem_setNode hq with ⟨rfl, rfl⟩ | ⟨hne, hmem⟩
    · refine TNode.step hlen hΔ hn ht hp r om now g sx hom hT1 hT3 (hT4 q hpH) tn'.starts hsts ?_
      intro hi
      rcases hcase with ⟨hni, _⟩ | ⟨_, he, _, hto, _⟩
      · exact absurd hi hni
      · exact ⟨hto, by rw [he]; simp⟩
    · exact (ht.node q x hmem).mono hΔ now
        (by intro d hd; obtain ⟨m', _, rfl⟩ := List.mem_map.1 hd; rfl)
        hstle hsts (fun m hm => List.mem_append_left _ hm)

/-- an event that does not run the model (unknown node, or delivery to a terminated instance) -/
theorem TInv.idle {tn tn' : TNet} (ht : TInv t Δ cfg tn) (hT1 : tn.clock ≤ tn'.clock)
    (hnodes : tn'.net.nodes = tn.net.nodes) (hpool : tn'.net.pool = tn.net.pool)
    (hstarted : tn'.net.started = tn.net.started) (hst : tn'.stamps = tn.stamps) (hsts : tn'.starts = tn.starts) :
    TInv t Δ cfg tn' := by
  constructor
  case pool_st =>
    rw [hpool, hst]; exact ht.pool_st
  case st_pool =>
    rw [hpool, hst]; exact ht.st_pool
  case st_clock =>
    rw [hst]; exact fun m τ h => Int.le_trans (ht.st_clock m τ h) hT1
  case sts_clock =>
    rw [hsts]; exact fun q s h => Int.le_trans (ht.sts_clock q s h) hT1
  case started =>
    rw [hstarted, hsts]; exact ht.started
  case stagger =>
    rw [hsts]; exact ht.stagger
  case qstamp =>
    rw [hst, hsts]; exact ht.qstamp
  case sender_started =>
    rw [hst, hsts]; exact ht.sender_started
  case qlp =>
    rw [hst]; exact ht.qlp
  case qlc =>
    rw [hst]; exact ht.qlc
  case node =>
    rw [hnodes, hst, hsts, hpool]; exact ht.node

theorem timed_T1 {tn : TNet} {op : NetOp} (h : timedOpOk Δ tn op = true) : tn.clock ≤ opTime op := by
  unfold timedOpOk at h
  simp only [Bool.and_eq_true, decide_eq_true_eq] at h
  exact h.1.1

theorem timed_T3 {tn : TNet} {op : NetOp} (h : timedOpOk Δ tn op = true) : T3 Δ tn (opTime op) := by
  unfold timedOpOk at h
  simp only [Bool.and_eq_true] at h
  have h3 := h.2
  intro m τ q s hm hq h1 h2
  have ha := List.all_eq_true.1 h3 (m, τ) hm
  have hb := List.all_eq_true.1 ha (q, s) hq
  simp only [h1, h2, decide_true, Bool.and_self, Bool.not_true, Bool.false_or, List.contains_eq_mem,
    decide_eq_true_eq] at hb
  exact hb

theorem timed_T2a {tn : TNet} {p : Pid} {now : Int} (h : timedOpOk Δ tn (.start p now) = true) :
    ∀ q s, (q, s) ∈ tn.starts → now ≤ s + Δ := by
  unfold timedOpOk at h
  simp only [Bool.and_eq_true] at h
  have h2 := h.1.2
  intro q s hq
  have := List.all_eq_true.1 h2 (q, s) hq
  exact of_decide_eq_true this

theorem timed_T2b {tn : TNet} {op : NetOp} (h : timedOpOk Δ tn op = true) (hop : ∀ p now, op ≠ .start p now) :
    (∃ q s, (q, s) ∈ tn.starts ∧ s + Δ ≤ opTime op) → allStarted tn.net = true := by
  unfold timedOpOk at h
  simp only [Bool.and_eq_true] at h
  have h2 := h.1.2
  rintro ⟨q, s, hq, hs⟩
  have hany : tn.starts.any (fun e => decide (e.2 + Δ ≤ opTime op)) = true :=
    List.any_eq_true.2 ⟨(q, s), hq, by simpa using hs⟩
  cases op with
  | start p now => exact absurd rfl (hop p now)
  | deliver p now m =>
    rw [hany] at h2
    simpa using h2
  | alarm p now =>
    rw [hany] at h2
    simpa using h2

theorem tstep_start_some {tn : TNet} {p : Pid} {now : Int} {s : State} (hnode : tn.net.node? p = some s) :
    (tstep tn (.start p now)).net.nodes = setNode tn.net.nodes p (step s (.start now)).1 ∧
    (tstep tn (.start p now)).net.pool = tn.net.pool ++ sent p (step s (.start now)).2 ∧
    (tstep tn (.start p now)).stamps = tn.stamps ++ (sent p (step s (.start now)).2).map (fun m => (m, now)) ∧
    (tstep tn (.start p now)).clock = now ∧
    (tstep tn (.start p now)).starts = tn.starts ++ [(p, now)] ∧
    (tstep tn (.start p now)).net.started = tn.net.started ++ [p] := by
  unfold tstep
  simp only [netStep, hnode, Net.apply, opTime, Option.isSome_some, if_true, List.drop_left, and_self]

theorem tstep_deliver_some {tn : TNet} {p : Pid} {now : Int} {m : Msg} {s : State} (hnode : tn.net.node? p = some s)
    (hterm : s.phase ≠ .terminated) :
    (tstep tn (.deliver p now m)).net.nodes = setNode tn.net.nodes p (step s (.recv now m)).1 ∧
    (tstep tn (.deliver p now m)).net.pool = tn.net.pool ++ sent p (step s (.recv now m)).2 ∧
    (tstep tn (.deliver p now m)).stamps = tn.stamps ++ (sent p (step s (.recv now m)).2).map (fun m => (m, now)) ∧
    (tstep tn (.deliver p now m)).clock = now ∧
    (tstep tn (.deliver p now m)).starts = tn.starts ∧
    (tstep tn (.deliver p now m)).net.started = tn.net.started := by
  have hb : (s.phase == Phase.terminated) = false := by simp [hterm]
  unfold tstep
  simp only [netStep, hnode, hb, Net.apply, opTime, Bool.false_eq_true, if_false, List.drop_left, and_self]

theorem tstep_alarm_some {tn : TNet} {p : Pid} {now : Int} {s : State} (hnode : tn.net.node? p = some s) :
    (tstep tn (.alarm p now)).net.nodes = setNode tn.net.nodes p (step s (.alarm now)).1 ∧
    (tstep tn (.alarm p now)).net.pool = tn.net.pool ++ sent p (step s (.alarm now)).2 ∧
    (tstep tn (.alarm p now)).stamps = tn.stamps ++ (sent p (step s (.alarm now)).2).map (fun m => (m, now)) ∧
    (tstep tn (.alarm p now)).clock = now ∧
    (tstep tn (.alarm p now)).starts = tn.starts ∧
    (tstep tn (.alarm p now)).net.started = tn.net.started := by
  unfold tstep
  by_cases hf : (s.phase == .quality && s.phaseTimeoutElapsed now) = true
  · simp only [netStep, hnode, hf, Net.apply, opTime, if_true, List.drop_left, and_self]
  · simp only [netStep, hnode, hf, Net.apply, opTime, Bool.false_eq_true, if_false, List.drop_left, and_self]

/-- the events that leave nodes, pool, started and the ghost stamps alone -/
theorem tstep_idle {tn : TNet} {op : NetOp}
    (h : (netStep tn.net op).nodes = tn.net.nodes ∧ (netStep tn.net op).pool = tn.net.pool ∧
      (netStep tn.net op).started = tn.net.started)
    (hs : ∀ p now, op = .start p now → tn.net.node? p = none) (ht : TInv t Δ cfg tn) (hT1 : tn.clock ≤ opTime op) :
    TInv t Δ cfg (tstep tn op) := by
  refine ht.idle hT1 h.1 h.2.1 h.2.2 ?_ ?_
  · show tn.stamps ++ ((netStep tn.net op).pool.drop tn.net.pool.length).map (fun m => (m, opTime op)) = tn.stamps
    rw [h.2.1, List.drop_length]
    simp
  · cases op with
    | start p now =>
      show (if (tn.net.node? p).isSome then tn.starts ++ [(p, now)] else tn.starts) = tn.starts
      rw [hs p now rfl]; rfl
    | deliver p now m => rfl
    | alarm p now => rfl

theorem deliver_facts (hctx : Ctx t c H) (hlen : 2 ≤ c.length) {n : Net} (hn : NInv t c H n) {p : Pid} {s : State}
    (hnode : n.node? p = some s) (now : Int) (m : Msg) (hok : opOk n (.deliver p now m) = true)
    (hsy : syncOpOk n (.deliver p now m) = true) (hterm : s.phase ≠ .terminated) :
    Good t c H p s (step s (.recv now m)) ∧ SX c now (some m) s (step s (.recv now m)) := by
  have hp := node?_mem hnode
  have hno := hn.node p s hp
  have hpH := hn.mem_H hp
  rw [opOk_deliver] at hok
  have hni : s.phase ≠ .initial := hno.started.1 hok.1
  obtain ⟨hm, hmH⟩ := hn.pool m hok.2
  have hself : m.phase = .prepare → m.sender = p → s.phase ≠ .quality := by
    intro h1 h2
    exact (hno.prepSelf ⟨m, hok.2, h2, h1⟩).2
  have hsm : SyncedM H s now m := hn.syncedM hno.sinv.round hnode now m hsy hterm
  exact ⟨(step_recv_good hctx hpH now m hno.sinv hno.pi hni hterm hm hmH hself hsm).1,
    step_recv_sx hctx hlen hpH now m hno.sinv hno.pi hni hterm hm hmH hself hsm⟩

theorem alarm_facts (hctx : Ctx t c H) (hlen : 2 ≤ c.length) {n : Net} (hn : NInv t c H n) {p : Pid} {s : State}
    (hnode : n.node? p = some s) (now : Int) (hok : opOk n (.alarm p now) = true)
    (hsy : syncOpOk n (.alarm p now) = true) :
    Good t c H p s (step s (.alarm now)) ∧ SX c now none s (step s (.alarm now)) := by
  have hp := node?_mem hnode
  have hno := hn.node p s hp
  have hpH := hn.mem_H hp
  rw [opOk_alarm] at hok
  have hni : s.phase ≠ .initial := hno.started.1 hok
  have hsd : Synced H s now := hn.synced hno.sinv.round hnode now hsy
  exact ⟨step_alarm_good hctx hpH now hno.sinv hno.pi hni hsd, step_alarm_sx hctx hlen hpH now hno.sinv hno.pi hni hsd⟩

/-- **one event**: the real-time conditions give the untimed synchrony condition, and both invariants carry over -/
theorem tstep_inv (hctx : Ctx t c H) (hlen : 2 ≤ c.length) (hΔ : 0 ≤ Δ)
    (hT4 : ∀ q ∈ H, 2 * Δ ≤ (cfg q).qualityTimeout2 ∧ 2 * Δ ≤ tableGet (cfg q).timeout2 0)
    {tn : TNet} (hn : NInv t c H tn.net) (ht : TInv t Δ cfg tn) (op : NetOp)
    (hok : opOk tn.net op = true) (htm : timedOpOk Δ tn op = true) :
    syncOpOk tn.net op = true ∧ NInv t c H (tstep tn op).net ∧ TInv t Δ cfg (tstep tn op) := by
  have hT1 := timed_T1 htm
  have hT3 := timed_T3 htm
  have hsy : syncOpOk tn.net op = true := by
    cases op with
    | start p now => rfl
    | deliver p now m =>
      have hT2 := timed_T2b htm (by intro _ _ h; cases h)
      show syncAt tn.net (tn.net.delivered ++ [(p, m)]) p now = true
      cases hnode : tn.net.node? p with
      | none => unfold syncAt; rw [hnode]
      | some s =>
        exact syncAt_of_timed hlen hΔ hn ht hnode now hT3 hT2 _ (fun d hd => List.mem_append_left _ hd)
    | alarm p now =>
      have hT2 := timed_T2b htm (by intro _ _ h; cases h)
      show syncAt tn.net tn.net.delivered p now = true
      cases hnode : tn.net.node? p with
      | none => unfold syncAt; rw [hnode]
      | some s => exact syncAt_of_timed hlen hΔ hn ht hnode now hT3 hT2 _ (fun d hd => hd)
  have hn' : NInv t c H (tstep tn op).net := netStep_inv hctx hn op hok hsy
  refine ⟨hsy, hn', ?_⟩
  cases op with
  | start p now =>
    cases hnode : tn.net.node? p with
    | none =>
      refine tstep_idle ?_ (fun _ _ h => by cases h; exact hnode) ht hT1
      simp only [netStep, hnode, and_self]
    | some s =>
      have hp := node?_mem hnode
      have hno := hn.node p s hp
      have hok' := hok
      rw [opOk_start] at hok'
      have hph : s.phase = .initial := by
        by_cases hne : s.phase = .initial
        · exact hne
        · exact absurd (hno.started.2 hne) hok'.2
      obtain ⟨e1, e2, e3, e4, e5, e6⟩ := tstep_start_some (tn := tn) (now := now) hnode
      obtain ⟨sx, hto⟩ := step_start_sx (c := c) (s := s) now hph
      exact TInv.step hlen hΔ hT4 hn ht hp _ none now (step_start_good now hno.sinv hno.pi hph) sx
        (fun _ h => by cases h) hT1 hT3 e1 e2 e3 e4 (Or.inr ⟨hph, e5, e6, hto, timed_T2a htm⟩)
  | deliver p now m =>
    cases hnode : tn.net.node? p with
    | none =>
      refine tstep_idle ?_ (fun _ _ h => by cases h) ht hT1
      simp only [netStep, hnode, and_self]
    | some s =>
      by_cases hterm : s.phase = .terminated
      · refine tstep_idle ?_ (fun _ _ h => by cases h) ht hT1
        have hb : (s.phase == Phase.terminated) = true := by simp [hterm]
        simp only [netStep, hnode, hb, if_true, and_self]
      · have hp := node?_mem hnode
        obtain ⟨g, sx⟩ := deliver_facts hctx hlen hn hnode now m hok hsy hterm
        obtain ⟨e1, e2, e3, e4, e5, e6⟩ := tstep_deliver_some (tn := tn) (now := now) (m := m) hnode hterm
        have hok' := hok
        rw [opOk_deliver] at hok'
        have hni : s.phase ≠ .initial := (hn.node p s hp).started.1 hok'.1
        exact TInv.step hlen hΔ hT4 hn ht hp _ (some m) now g sx
          (fun m' h => by cases h; exact hok'.2) hT1 hT3 e1 e2 e3 e4 (Or.inl ⟨hni, e5, e6, hok'.1⟩)
  | alarm p now =>
    cases hnode : tn.net.node? p with
    | none =>
      refine tstep_idle ?_ (fun _ _ h => by cases h) ht hT1
      simp only [netStep, hnode, and_self]
    | some s =>
      have hp := node?_mem hnode
      obtain ⟨g, sx⟩ := alarm_facts hctx hlen hn hnode now hok hsy
      obtain ⟨e1, e2, e3, e4, e5, e6⟩ := tstep_alarm_some (tn := tn) (now := now) hnode
      have hok' := hok
      rw [opOk_alarm] at hok'
      have hni : s.phase ≠ .initial := (hn.node p s hp).started.1 hok'
      exact TInv.step hlen hΔ hT4 hn ht hp _ none now g sx
        (fun _ h => by cases h) hT1 hT3 e1 e2 e3 e4 (Or.inl ⟨hni, e5, e6, hok'⟩)

theorem trun_sync (hctx : Ctx t c H) (hlen : 2 ≤ c.length) (hΔ : 0 ≤ Δ)
    (hT4 : ∀ q ∈ H, 2 * Δ ≤ (cfg q).qualityTimeout2 ∧ 2 * Δ ≤ tableGet (cfg q).timeout2 0)
    (ops : List NetOp) {tn : TNet} (hn : NInv t c H tn.net) (ht : TInv t Δ cfg tn)
    (hok : execOk tn.net ops = true) (htm : timedOk Δ tn ops = true) : syncOk tn.net ops = true := by
  induction ops generalizing tn with
  | nil => rfl
  | cons op ops ih =>
    unfold execOk at hok
    unfold timedOk at htm
    unfold syncOk
    simp only [Bool.and_eq_true] at hok htm ⊢
    obtain ⟨hsy, hn', ht'⟩ := tstep_inv hctx hlen hΔ hT4 hn ht op hok.1 htm.1
    exact ⟨hsy, ih (tn := tstep tn op) hn' ht' hok.2 htm.2⟩

theorem initT_inv (t : Table) (c : Chain) (H : List Pid) (Δ : Int) (cfg : Pid → Cfg) (ops : List NetOp) :
    TInv t Δ cfg (initT (initNet t H cfg (fun _ => c)) ops) := by
  constructor
  case pool_st =>
    intro m hm; cases hm
  case st_pool =>
    intro m τ hm; cases hm
  case st_clock =>
    intro m τ hm; cases hm
  case sts_clock =>
    intro q s hq; cases hq
  case started =>
    intro q
    constructor
    · intro h; cases h
    · rintro ⟨s, h⟩; cases h
  case stagger =>
    intro q s q' s' h; cases h
  case qstamp =>
    intro m τ hm; cases hm
  case sender_started =>
    intro m τ hm; cases hm
  case qlp =>
    intro m τ hm; cases hm
  case qlc =>
    intro m τ hm; cases hm
  case node =>
    intro q x hq
    have hq' : (q, x) ∈ H.map (fun p => (p, init (cfg p) t c)) := hq
    obtain ⟨p, _, hpe⟩ := List.mem_map.1 hq'
    simp only [Prod.mk.injEq] at hpe
    obtain ⟨rfl, rfl⟩ := hpe
    refine ⟨rfl, List.nodup_nil, ?_, ?_, ?_, ?_, ?_, ?_, ?_⟩
    · intro h; exact absurd rfl h
    · intro ph y hy
      cases ph <;> cases hy
    · intro h; cases h
    · intro h; cases h
    · intro h; cases h
    · intro h; exact absurd rfl h
    · intro h; rcases h with h | h | h <;> cases h

theorem timeouts_of_ok {t : Table} {H : List Pid} {Δ : Int} {cfg : Pid → Cfg} {input : Pid → Chain}
    (h : timeoutsOk Δ (initNet t H cfg input) = true) :
    ∀ q ∈ H, 2 * Δ ≤ (cfg q).qualityTimeout2 ∧ 2 * Δ ≤ tableGet (cfg q).timeout2 0 := by
  intro q hq
  unfold timeoutsOk at h
  have := List.all_eq_true.1 h (q, init (cfg q) t (input q)) (List.mem_map.2 ⟨q, hq, rfl⟩)
  simp only [init, Bool.and_eq_true] at this
  exact ⟨of_decide_eq_true this.1, of_decide_eq_true this.2⟩

/-- **real-time synchrony implies the untimed synchrony order**, for a unanimous run whose common input has at
least one tipset beyond the base -/
theorem timed_sync_ordered_core (hctx : Ctx t c H) (hlen : 2 ≤ c.length) (ops : List NetOp)
    (hexec : execOk (initNet t H cfg (fun _ => c)) ops = true)
    (htimed : TimedSync Δ (initNet t H cfg (fun _ => c)) ops) :
    SyncOrdered (initNet t H cfg (fun _ => c)) ops := by
  obtain ⟨hΔ, h4, htm⟩ := htimed
  exact trun_sync (tn := initT (initNet t H cfg (fun _ => c)) ops) hctx hlen hΔ (timeouts_of_ok h4) ops
    (initNet_inv t c H cfg) (initT_inv t c H Δ cfg ops) hexec htm

end

end F3.Sync
