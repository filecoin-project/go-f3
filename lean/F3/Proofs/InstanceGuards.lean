import F3.Proofs.InstanceDecision
/-!
# Layer B: the executable instance only emits under the guards of the abstract protocol

`W x r ph v` is the set of validly signed votes in existence (it contains every vote delivered to this
participant — signature validation — and every vote this participant broadcasts). Evidence of quorums is
kept at the list level (`QL`: strictly increasing table indices, strong, every index a member that voted);
`F3.Bridge.ql_to_Q` turns it into the `Finset`-based `Q` of `F3.Granite`.
-/
namespace F3.Instance

abbrev Votes := Pid → Nat → Phase → Chain → Prop

theorem Phase.toNat_lt_five {ph : Phase} (hd : ph ≠ .decide) (ht : ph ≠ .terminated) : ph.toNat < 5 := by
  cases ph <;> simp [Phase.toNat] at hd ht ⊢

theorem Phase.toNat_inj {a b : Phase} (h : a.toNat = b.toNat) : a = b := by
  cases a <;> cases b <;> first | rfl | exact absurd h (by decide)

/-- a strong quorum of `W`-votes for `(r, ph, v)` -/
def QL (W : Votes) (t : Table) (r : Nat) (ph : Phase) (v : Chain) : Prop :=
  ∃ sg : List Nat, sg.Pairwise (· < ·) ∧ (∀ i ∈ sg, i < t.entries.length ∧ 0 < t.powerAt i) ∧
    strongQ t (sumPow t sg) = true ∧ ∀ i ∈ sg, ∃ x, t.index? x = some i ∧ W x r ph v

/-- justification of a round-`r` CONVERGE / PREPARE for `v` (`r ≥ 1`) -/
def JL (W : Votes) (t : Table) (r : Nat) (v : Chain) : Prop :=
  QL W t (r - 1) .prepare v ∨ QL W t (r - 1) .commit []

/-- a justification whose aggregate verifies: its signers are a strong quorum of members that voted its payload -/
def JustOk (W : Votes) (t : Table) (j : Just) : Prop :=
  j.signers.Pairwise (· < ·) ∧ (∀ i ∈ j.signers, i < t.entries.length ∧ 0 < t.powerAt i) ∧
    strongQ t (sumPow t j.signers) = true ∧ ∀ i ∈ j.signers, ∃ x, t.index? x = some i ∧ W x j.round j.phase j.value

theorem JustOk.ql {W : Votes} {t : Table} {j : Just} (h : JustOk W t j) : QL W t j.round j.phase j.value :=
  ⟨j.signers, h.1, h.2.1, h.2.2.1, h.2.2.2⟩

/-- the justification a CONVERGE / PREPARE of round `r` for `c` may carry -/
def ConvJust (W : Votes) (t : Table) (r : Nat) (c : Chain) (j : Just) : Prop :=
  JustOk W t j ∧ j.round + 1 = r ∧ ((j.phase = .prepare ∧ j.value = c) ∨ (j.phase = .commit ∧ j.value = []))

theorem ConvJust.jl {W : Votes} {t : Table} {r : Nat} {c : Chain} {j : Just} (h : ConvJust W t r c j) : JL W t r c := by
  obtain ⟨hok, hr, hc⟩ := h
  have hq := hok.ql
  have : j.round = r - 1 := by omega
  rw [this] at hq
  rcases hc with ⟨hp, hv⟩ | ⟨hp, hv⟩
  · left; rw [hp, hv] at hq; exact hq
  · right; rw [hp, hv] at hq; exact hq

theorem ConvJust.prepare_ql {W : Votes} {t : Table} {r : Nat} {c : Chain} {j : Just} (h : ConvJust W t r c j)
    (hp : j.phase = .prepare) : QL W t j.round .prepare c := by
  obtain ⟨hok, _, ⟨_, hv⟩ | ⟨hc, _⟩⟩ := h
  · have := hok.ql; rwa [hp, hv] at this
  · rw [hp] at hc; cases hc

/-- the justification a COMMIT of round `r` for `c ≠ ⊥` carries -/
def CommitJust (W : Votes) (t : Table) (r : Nat) (c : Chain) (j : Just) : Prop :=
  JustOk W t j ∧ j.round = r ∧ j.phase = .prepare ∧ j.value = c

/-- what message validation (C05) guarantees about a delivered message, in the model's vocabulary -/
def MsgValid (W : Votes) (t : Table) (m : Msg) : Prop :=
  W m.sender m.round m.phase m.value ∧ 0 < t.power m.sender ∧
  match m.phase with
  | .quality => m.round = 0 ∧ m.value ≠ []
  | .converge => 0 < m.round ∧ m.value ≠ [] ∧ ∃ j, m.just = some j ∧ ConvJust W t m.round m.value j
  | .prepare => (m.round = 0 → m.just = none) ∧
      (0 < m.round → ∃ j, m.just = some j ∧ ConvJust W t m.round m.value j)
  | .commit => (m.value = [] → m.just = none) ∧
      (m.value ≠ [] → ∃ j, m.just = some j ∧ CommitJust W t m.round m.value j)
  | .decide => m.round = 0 ∧ m.value ≠ [] ∧
      ∃ j, m.just = some j ∧ JustOk W t j ∧ j.phase = .commit ∧ j.value = m.value
  | _ => False

section Mono
variable {W W' : Votes} {t : Table}

theorem QL.mono (hW : ∀ x r ph v, W x r ph v → W' x r ph v) {r : Nat} {ph : Instance.Phase} {v : Chain}
    (h : QL W t r ph v) : QL W' t r ph v := by
  obtain ⟨sg, h1, h2, h3, h4⟩ := h
  refine ⟨sg, h1, h2, h3, fun i hi => ?_⟩
  obtain ⟨x, hx, hw⟩ := h4 i hi
  exact ⟨x, hx, hW _ _ _ _ hw⟩

theorem JustOk.mono (hW : ∀ x r ph v, W x r ph v → W' x r ph v) {j : Just} (h : JustOk W t j) : JustOk W' t j := by
  obtain ⟨h1, h2, h3, h4⟩ := h
  refine ⟨h1, h2, h3, fun i hi => ?_⟩
  obtain ⟨x, hx, hw⟩ := h4 i hi
  exact ⟨x, hx, hW _ _ _ _ hw⟩

theorem ConvJust.mono (hW : ∀ x r ph v, W x r ph v → W' x r ph v) {r : Nat} {c : Chain} {j : Just}
    (h : ConvJust W t r c j) : ConvJust W' t r c j :=
  ⟨JustOk.mono hW h.1, h.2⟩

theorem CommitJust.mono (hW : ∀ x r ph v, W x r ph v → W' x r ph v) {r : Nat} {c : Chain} {j : Just}
    (h : CommitJust W t r c j) : CommitJust W' t r c j :=
  ⟨JustOk.mono hW h.1, h.2⟩

theorem MsgValid.mono (hW : ∀ x r ph v, W x r ph v → W' x r ph v) {m : Msg} (h : MsgValid W t m) :
    MsgValid W' t m := by
  obtain ⟨h1, h2, h3⟩ := h
  refine ⟨hW _ _ _ _ h1, h2, ?_⟩
  cases hph : m.phase <;> simp only [hph] at h3 ⊢
  · exact h3
  · obtain ⟨a, b, j, hj, hc⟩ := h3
    exact ⟨a, b, j, hj, ConvJust.mono hW hc⟩
  · refine ⟨h3.1, fun hr => ?_⟩
    obtain ⟨j, hj, hc⟩ := h3.2 hr
    exact ⟨j, hj, ConvJust.mono hW hc⟩
  · refine ⟨h3.1, fun hv => ?_⟩
    obtain ⟨j, hj, hc⟩ := h3.2 hv
    exact ⟨j, hj, CommitJust.mono hW hc⟩
  · obtain ⟨a, b, j, hj, hok, hc⟩ := h3
    exact ⟨a, b, j, hj, JustOk.mono hW hok, hc⟩

end Mono

/-- what a stored vote of `x` for `c` in the `(r, ph)` tally stands for: the vote exists and, for PREPARE,
it was validly justified -/
def VoteEv (W : Votes) (t : Table) (r : Nat) (ph : Phase) (x : Pid) (c : Chain) : Prop :=
  W x r ph c ∧ (ph = .prepare → (r = 0 ∨ JL W t r c))

/-- invariant of the PREPARE / COMMIT tally of round `r` -/
structure TallyOK (W : Votes) (t : Table) (r : Nat) (ph : Phase) (q : Tally) : Prop where
  wf : TallyWF (VoteEv W t r ph) t q
  justs : ∀ e ∈ q.justs,
    (ph = .prepare → ConvJust W t r e.1 e.2) ∧ (ph = .commit → e.1 ≠ [] ∧ CommitJust W t r e.1 e.2)
  /-- every non-bottom value with a vote also has a stored justification (COMMIT tallies) -/
  cover : ph = .commit → ∀ sup ∈ q.support, sup.chain ≠ [] → ∃ e ∈ q.justs, e.1 = sup.chain

theorem TallyOK_empty (W : Votes) (t : Table) (r : Nat) (ph : Phase) : TallyOK W t r ph {} :=
  ⟨TallyWF_empty _ t, by simp, by simp⟩

theorem receive_justs (t : Table) (q q' : Tally) (sender : Pid) (c : Chain) (h : q.receive t sender c = some q') :
    q'.justs = q.justs := by
  unfold Tally.receive at h
  split at h
  · cases h; rfl
  · unfold Tally.receiveInner at h
    dsimp only at h
    split at h
    · cases h
    · cases h; rfl

theorem TallyWF.justs_irrelevant {V : Pid → Chain → Prop} {t : Table} {q : Tally} (h : TallyWF V t q) (js : List (Chain × Just)) :
    TallyWF V t { q with justs := js } :=
  ⟨h.nodup, h.sub, h.pos, h.voted, h.sendersNodup, h.sendersPow, h.supPow, h.covered, h.chains, h.strongOk⟩

theorem receive_support (t : Table) (q q' : Tally) (sender : Pid) (c : Chain) (h : q.receive t sender c = some q')
    (sup : Support) (hs : sup ∈ q'.support) : sup ∈ q.support ∨ sup.chain = c := by
  unfold Tally.receive at h
  split at h
  · cases h; exact Or.inl hs
  · unfold Tally.receiveInner at h
    dsimp only at h
    split at h
    · cases h
    · cases h
      rcases upsertSupport_mem _ _ _ hs with rfl | hs
      · exact Or.inr rfl
      · exact Or.inl hs

theorem receiveJust_justs (q : Tally) (c : Chain) (j : Just) :
    (∀ e ∈ (q.receiveJust c j).justs, e ∈ q.justs ∨ e = (c, j)) ∧ (∀ e ∈ q.justs, e ∈ (q.receiveJust c j).justs) ∧
    (∃ e ∈ (q.receiveJust c j).justs, e.1 = c) ∧ (q.receiveJust c j).support = q.support ∧
    (q.receiveJust c j).senders = q.senders ∧ (q.receiveJust c j).sendersPower = q.sendersPower := by
  unfold Tally.receiveJust
  split
  · rename_i h
    simp only [List.any_eq_true, beq_iff_eq] at h
    obtain ⟨e, he, hec⟩ := h
    exact ⟨fun e he => Or.inl he, fun e he => he, ⟨e, he, hec⟩, rfl, rfl, rfl⟩
  · refine ⟨?_, ?_, ⟨(c, j), by simp, rfl⟩, rfl, rfl, rfl⟩
    · intro e he
      simp only [List.mem_append, List.mem_singleton] at he
      exact he
    · intro e he; simp [he]

theorem TallyWF.receiveJust {V : Pid → Chain → Prop} {t : Table} {q : Tally} (h : TallyWF V t q) (c : Chain) (j : Just) :
    TallyWF V t (q.receiveJust c j) := by
  unfold Tally.receiveJust
  split
  · exact h
  · exact h.justs_irrelevant _

theorem TallyOK.recvPrepare {W : Votes} {t : Table} {r : Nat} {q q' : Tally} (h : TallyOK W t r .prepare q)
    (m : Msg) (hpos : 0 < t.power m.sender) (hv : VoteEv W t r .prepare m.sender m.value)
    (hj : ∀ j, m.just = some j → ConvJust W t r m.value j)
    (hr : q.receive t m.sender m.value = some q') : TallyOK W t r .prepare (storePrepareJust q' m) := by
  have hwf' := receive_wf t q q' m.sender m.value h.wf hpos hv hr
  have hjs := receive_justs t q q' m.sender m.value hr
  unfold storePrepareJust
  split
  · rename_i j hmj
    obtain ⟨h1, _⟩ := receiveJust_justs q' m.value j
    refine ⟨hwf'.receiveJust _ _, ?_, fun hc => Phase.noConfusion hc⟩
    · intro e he
      rcases h1 e he with he | rfl
      · rw [hjs] at he; exact h.justs e he
      · exact ⟨fun _ => hj j hmj, fun hc => Phase.noConfusion hc⟩
  · exact ⟨hwf', by rw [hjs]; exact h.justs, fun hc => Phase.noConfusion hc⟩

theorem TallyOK.recvCommit {W : Votes} {t : Table} {r : Nat} {q q' : Tally} (h : TallyOK W t r .commit q)
    (m : Msg) (hpos : 0 < t.power m.sender) (hv : VoteEv W t r .commit m.sender m.value)
    (hj : m.value ≠ [] → ∃ j, m.just = some j ∧ CommitJust W t r m.value j)
    (hr : q.receive t m.sender m.value = some q') : TallyOK W t r .commit (storeCommitJust q' m) := by
  have hwf' := receive_wf t q q' m.sender m.value h.wf hpos hv hr
  have hjs := receive_justs t q q' m.sender m.value hr
  have hsupp := receive_support t q q' m.sender m.value hr
  -- a vote for bottom stores nothing and needs no cover
  have hbot : m.value = [] → TallyOK W t r .commit q' := fun hb =>
    ⟨hwf', by rw [hjs]; exact h.justs, fun _ sup hsup hne => by
      rcases hsupp sup hsup with hs | hs
      · obtain ⟨e, he, hec⟩ := h.cover rfl sup hs hne
        exact ⟨e, by rw [hjs]; exact he, hec⟩
      · exact absurd (hs.trans hb) hne⟩
  unfold storeCommitJust
  split
  · rename_i j hmj
    split
    · rename_i hb
      exact hbot (by simpa using hb)
    · rename_i hbot
      have hne : m.value ≠ [] := by simpa using hbot
      obtain ⟨j', hj', hcj⟩ := hj hne
      have hjj : j' = j := by rw [hmj] at hj'; exact (Option.some.inj hj').symm
      subst hjj
      obtain ⟨h1, h2, h3, h4, _⟩ := receiveJust_justs q' m.value j'
      refine ⟨hwf'.receiveJust _ _, ?_, ?_⟩
      · intro e he
        rcases h1 e he with he | rfl
        · rw [hjs] at he; exact h.justs e he
        · exact ⟨fun hc => Phase.noConfusion hc, fun _ => ⟨hne, hcj⟩⟩
      · intro _ sup hsup hne'
        rw [h4] at hsup
        rcases hsupp sup hsup with hs | hs
        · obtain ⟨e, he, hec⟩ := h.cover rfl sup hs hne'
          exact ⟨e, h2 e (by rw [hjs]; exact he), hec⟩
        · obtain ⟨e, he, hec⟩ := h3
          exact ⟨e, he, hec.trans hs.symm⟩
  · -- no justification: by validity the value is bottom
    rename_i hmj
    refine hbot (Classical.byContradiction fun hne => ?_)
    obtain ⟨j, hj', _⟩ := hj hne
    rw [hmj] at hj'; cases hj'

theorem TallyOK.found_ql {W : Votes} {t : Table} {r : Nat} {ph : Phase} {q : Tally} (h : TallyOK W t r ph q)
    (c : Chain) (sg : List Nat) (hf : q.findStrongQuorumFor t c = .found sg) : QL W t r ph c := by
  obtain ⟨h1, h2, h3, h4⟩ := findStrongQuorumFor_spec t q c sg h.wf hf
  exact ⟨sg, h1, h2, h3, fun i hi => by obtain ⟨x, hx, hv⟩ := h4 i hi; exact ⟨x, hx, hv.1⟩⟩

theorem TallyOK.getJustOf_mem {q : Tally} {ph' : Phase} {c : Chain} {j : Just} (h : q.getJustOf ph' c = some j) :
    ∃ e ∈ q.justs, e.2 = j ∧ j.phase = ph' ∧ (c = [] → j.value = []) ∧ (c ≠ [] → e.1 = c) := by
  unfold Tally.getJustOf at h
  split at h
  · rename_i hc
    obtain ⟨e, hf, rfl⟩ := Option.map_eq_some_iff.1 h
    have hp := List.find?_some hf
    simp only [Bool.and_eq_true, beq_iff_eq, List.isEmpty_iff] at hp
    exact ⟨e, List.mem_of_find?_eq_some hf, rfl, hp.2, fun _ => hp.1, fun hne => absurd (by simpa using hc) hne⟩
  · rename_i hc
    split at h
    · rename_i e hf
      split at h
      · rename_i hp
        cases h
        exact ⟨e, List.mem_of_find?_eq_some hf, rfl, by simpa using hp, fun h0 => absurd h0 (by simpa using hc),
          fun _ => by simpa using List.find?_some hf⟩
      · cases h
    · cases h

def ConvOK (W : Votes) (t : Table) (r : Nat) (cv : Conv) : Prop :=
  ∀ v ∈ cv.values, v.chain ≠ [] ∧ ConvJust W t r v.chain v.just

theorem ConvOK_empty (W : Votes) (t : Table) (r : Nat) : ConvOK W t r {} := by
  intro v hv; simp at hv

theorem updRank_mem (l : List ConvVal) (c : Chain) (rk : Nat) (v : ConvVal) (h : v ∈ updRank l c rk) :
    ∃ v' ∈ l, v.chain = v'.chain ∧ v.just = v'.just := by
  unfold updRank at h
  simp only [List.mem_map] at h
  obtain ⟨v', hv', rfl⟩ := h
  refine ⟨v', hv', ?_, ?_⟩ <;> split <;> rfl

theorem ConvOK.receive {W : Votes} {t : Table} {r : Nat} {cv : Conv} (h : ConvOK W t r cv)
    (sender : Pid) (c : Chain) (rk : Nat) (j : Just) (hc : c ≠ []) (hj : ConvJust W t r c j) :
    ConvOK W t r (cv.receive sender c rk j) := by
  unfold Conv.receive
  split
  · exact h
  · dsimp only
    split
    · intro v hv
      obtain ⟨v', hv', e1, e2⟩ := updRank_mem _ _ _ _ hv
      rw [e1, e2]; exact h v' hv'
    · intro v hv
      simp only [List.mem_append, List.mem_singleton] at hv
      rcases hv with hv | rfl
      · exact h v hv
      · exact ⟨hc, hj⟩

theorem ConvOK.setSelf {W : Votes} {t : Table} {r : Nat} {cv : Conv} (h : ConvOK W t r cv)
    (c : Chain) (j : Just) (hc : c ≠ []) (hj : ConvJust W t r c j) : ConvOK W t r (cv.setSelf c j) := by
  unfold Conv.setSelf
  split
  · exact h
  · intro v hv
    simp only [List.mem_append, List.mem_singleton] at hv
    rcases hv with hv | rfl
    · exact h v hv
    · exact ⟨hc, hj⟩

theorem findBest_mem (cv : Conv) (f : ConvVal → Bool) (w : ConvVal) (h : cv.findBest f = some w) :
    w ∈ cv.values ∧ f w = true := by
  unfold Conv.findBest at h
  suffices hgen : ∀ (l : List ConvVal) (init : Option ConvVal),
      (∀ b, init = some b → (b ∈ cv.values ∧ f b = true)) → (∀ x ∈ l, x ∈ cv.values) →
      ∀ w, l.foldl (fun best cv' =>
        let better := match best with
          | none => true
          | some b => rankLt cv'.rank b.rank
        if better && f cv' then some cv' else best) init = some w → (w ∈ cv.values ∧ f w = true) from
    hgen cv.values none (by intro b hb; cases hb) (fun x hx => hx) w h
  intro l
  induction l with
  | nil => intro init hi _ w hw; exact hi w hw
  | cons x xs ih =>
    intro init hi hl w hw
    simp only [List.foldl_cons] at hw
    apply ih _ ?_ (fun y hy => hl y (List.mem_cons_of_mem _ hy)) w hw
    intro b hb
    cases init with
    | none =>
      by_cases hfx : f x = true
      · simp [hfx] at hb; subst hb; exact ⟨hl _ List.mem_cons_self, hfx⟩
      · simp [hfx] at hb
    | some b0 =>
      by_cases hcond : (rankLt x.rank b0.rank && f x) = true
      · simp [hcond] at hb; subst hb
        simp only [Bool.and_eq_true] at hcond
        exact ⟨hl _ List.mem_cons_self, hcond.2⟩
      · simp [hcond] at hb; subst hb; exact hi _ rfl

theorem Conv.getJustOf_mem {cv : Conv} {ph' : Phase} {c : Chain} {j : Just} (h : cv.getJustOf ph' c = some j) :
    ∃ v ∈ cv.values, v.just = j ∧ j.phase = ph' ∧ (c = [] → j.value = []) ∧ (c ≠ [] → v.chain = c) := by
  unfold Conv.getJustOf at h
  split at h
  · rename_i hc
    obtain ⟨e, hf, rfl⟩ := Option.map_eq_some_iff.1 h
    have hp := List.find?_some hf
    simp only [Bool.and_eq_true, beq_iff_eq, List.isEmpty_iff] at hp
    exact ⟨e, List.mem_of_find?_eq_some hf, rfl, hp.2, fun _ => hp.1, fun hne => absurd (by simpa using hc) hne⟩
  · rename_i hc
    split at h
    · rename_i e hf
      split at h
      · rename_i hp
        cases h
        exact ⟨e, List.mem_of_find?_eq_some hf, rfl, by simpa using hp, fun h0 => absurd h0 (by simpa using hc),
          fun _ => by simpa using List.find?_some hf⟩
      · cases h
    · cases h

structure RoundOK (W : Votes) (t : Table) (r : Nat) (rs : RoundState) : Prop where
  conv : ConvOK W t r rs.converged
  prep : TallyOK W t r .prepare rs.prepared
  comm : TallyOK W t r .commit rs.committed

theorem RoundOK_empty (W : Votes) (t : Table) (r : Nat) : RoundOK W t r {} :=
  ⟨ConvOK_empty W t r, TallyOK_empty W t r _, TallyOK_empty W t r _⟩

def RoundsOK (W : Votes) (t : Table) (rounds : List (Nat × RoundState)) : Prop :=
  ∀ e ∈ rounds, RoundOK W t e.1 e.2

theorem getRound_ok {W : Votes} {s : State} (h : RoundsOK W s.tbl s.rounds) (r : Nat) : RoundOK W s.tbl r (s.getRound r) := by
  unfold State.getRound
  split
  · rename_i e hf
    have hk := List.find?_some hf
    have hr : e.1 = r := by simpa using hk
    rw [← hr]; exact h e (List.mem_of_find?_eq_some hf)
  · exact RoundOK_empty W s.tbl r

theorem setAssoc_mem (l : List (Nat × RoundState)) (r : Nat) (rs : RoundState) (e : Nat × RoundState)
    (h : e ∈ setAssoc l r rs) : e = (r, rs) ∨ e ∈ l := by
  induction l with
  | nil => simp [setAssoc] at h; exact Or.inl h
  | cons a as ih =>
    unfold setAssoc at h
    split at h
    · rcases List.mem_cons.1 h with h | h
      · exact Or.inl h
      · exact Or.inr (List.mem_cons_of_mem _ h)
    · rcases List.mem_cons.1 h with h | h
      · exact Or.inr (h ▸ List.mem_cons_self)
      · rcases ih h with h | h
        · exact Or.inl h
        · exact Or.inr (List.mem_cons_of_mem _ h)

theorem setRound_ok {W : Votes} {s : State} (h : RoundsOK W s.tbl s.rounds) (r : Nat) (rs : RoundState)
    (hrs : RoundOK W s.tbl r rs) : RoundsOK W (s.setRound r rs).tbl (s.setRound r rs).rounds := by
  intro e he
  rcases setAssoc_mem _ _ _ _ he with rfl | he
  · exact hrs
  · exact h e he

/-- PREPARE of round `r'` lies strictly before the progress point `pt` (3 is `Phase.prepare.toNat`) -/
def prepBefore (r' : Nat) (pt : Pt) : Prop := r' < pt.1 ∨ (r' = pt.1 ∧ 3 < pt.2)

theorem prepBefore_mono {r' : Nat} {a b : Pt} (h : prepBefore r' a) (hle : ptLe a b) : prepBefore r' b := by
  rcases hle with rfl | ⟨hlt, _⟩
  · exact h
  · unfold prepBefore at *
    rcases h with h | ⟨h1, h2⟩ <;> rcases hlt with h' | ⟨h'1, h'2⟩
    · left; omega
    · left; omega
    · left; omega
    · right; omega

/-- evidence for a candidate: a non-empty prefix of the input, or a value with a strong PREPARE quorum
in a round whose PREPARE lies before the current point -/
def CandOK (W : Votes) (s : State) (c : Chain) : Prop :=
  c ≠ [] ∧ (c <+: s.input ∨ ∃ r', QL W s.tbl r' .prepare c ∧ prepBefore r' s.pt)

/-- the part of the invariant that does not depend on the participant's identity or phase -/
structure GCore (W : Votes) (s : State) : Prop where
  rounds : RoundsOK W s.tbl s.rounds
  decision : TallyWF (fun x c => W x 0 .decide c) s.tbl s.decision
  cands : ∀ c ∈ s.candidates, CandOK W s c
  inputNe : s.input ≠ []
  propNe : s.proposal ≠ []
  totalPos : 0 < s.tbl.total

structure GInv (W : Votes) (me : Pid) (s : State) : Prop where
  core : GCore W s
  ownPrep : s.phase = .prepare → W me s.round .prepare s.proposal
  early : s.phase.toNat < 2 → s.round = 0

theorem GInv.of_core {W : Votes} {me : Pid} {s : State} (h : GCore W s) (hp : s.phase ≠ .prepare)
    (h2 : 2 ≤ s.phase.toNat) : GInv W me s :=
  ⟨h, fun hpp => absurd hpp hp, fun he => absurd he (Nat.not_lt.2 h2)⟩

/-- the guard of the abstract protocol (`F3.Granite.Guard`) at the list level -/
def GuardL (W : Votes) (t : Table) (me : Pid) (input : Chain) (r : Nat) (ph : Phase) (v : Chain) : Prop :=
  match ph with
  | .prepare => v ≠ [] ∧ (r = 0 ∨ JL W t r v) ∧ (v <+: input ∨ ∃ r', r' < r ∧ QL W t r' .prepare v)
  | .commit => (v = [] → ∃ y, W me r .prepare y ∧ ∃ s' z, z ≠ y ∧ W s' r .prepare z ∧ (r = 0 ∨ JL W t r z)) ∧
               (v ≠ [] → QL W t r .prepare v)
  | .decide => r = 0 → (v ≠ [] ∧ ∃ r', QL W t r' .commit v)
  | _ => True

/-- all broadcasts of an effect list are the participant's own votes in `W` -/
def OwnIn (W : Votes) (me : Pid) (es : List Eff) : Prop :=
  ∀ r ph v tk j, Eff.broadcast r ph v tk j ∈ es → W me r ph v

/-- all broadcasts of an effect list satisfy their guard -/
def Guarded (W : Votes) (t : Table) (me : Pid) (input : Chain) (es : List Eff) : Prop :=
  ∀ r ph v tk j, Eff.broadcast r ph v tk j ∈ es → GuardL W t me input r ph v

theorem OwnIn_append {W : Votes} {me : Pid} {a b : List Eff} (h : OwnIn W me (a ++ b)) : OwnIn W me a ∧ OwnIn W me b :=
  ⟨fun r ph v tk j hm => h r ph v tk j (List.mem_append_left _ hm),
   fun r ph v tk j hm => h r ph v tk j (List.mem_append_right _ hm)⟩

theorem Guarded_append {W : Votes} {t : Table} {me : Pid} {input : Chain} {a b : List Eff}
    (ha : Guarded W t me input a) (hb : Guarded W t me input b) : Guarded W t me input (a ++ b) := by
  intro r ph v tk j hm
  rcases List.mem_append.1 hm with hm | hm
  · exact ha r ph v tk j hm
  · exact hb r ph v tk j hm

theorem Guarded_nil {W : Votes} {t : Table} {me : Pid} {input : Chain} : Guarded W t me input [] := by
  intro r ph v tk j hm; simp at hm

/-- what a function of the model guarantees: unless it reports a failure, and provided its broadcasts are the
participant's own votes, it keeps the invariant and every broadcast is guarded -/
def GOK (W : Votes) (me : Pid) (s : State) (r : R) : Prop :=
  hasFailure r.2 = true ∨ (OwnIn W me r.2 → (GInv W me r.1 ∧ Guarded W s.tbl me s.input r.2))

theorem GOK.fail {W : Votes} {me : Pid} {s s' : State} {es : List Eff} (h : hasFailure es = true) : GOK W me s (s', es) :=
  Or.inl h

theorem GOK.nil {W : Votes} {me : Pid} {s : State} (h : GInv W me s) : GOK W me s (s, []) :=
  Or.inr fun _ => ⟨h, Guarded_nil⟩

/-- `GOK` mentions its start state only through table and input -/
theorem GOK.of_eq {W : Votes} {me : Pid} {s s1 : State} {r : R} (ht : s1.tbl = s.tbl) (hi : s1.input = s.input) (h : GOK W me s1 r) :
    GOK W me s r := by
  unfold GOK at *
  rw [ht, hi] at h; exact h

theorem andThen_gok {W : Votes} {me : Pid} {s : State} {r : R} {f : State → R} (h1 : GOK W me s r)
    (htbl : r.1.tbl = s.tbl) (hinp : r.1.input = s.input)
    (h2 : GInv W me r.1 → GOK W me r.1 (f r.1)) : GOK W me s (andThen r f) := by
  unfold andThen
  split
  · exact Or.inl (by assumption)
  · rename_i hnf
    rcases h1 with hf | h1
    · exact absurd hf hnf
    · by_cases hf2 : hasFailure (f r.1).2 = true
      · exact Or.inl (by simp [hf2])
      · refine Or.inr fun hown => ?_
        obtain ⟨ho1, ho2⟩ := OwnIn_append hown
        obtain ⟨hi1, hg1⟩ := h1 ho1
        rcases h2 hi1 with hf | h2'
        · exact absurd hf hf2
        · obtain ⟨hi2, hg2⟩ := h2' ho2
          rw [htbl, hinp] at hg2
          exact ⟨hi2, Guarded_append hg1 hg2⟩

theorem CandOK.mono {W : Votes} {s s' : State} {c : Chain} (h : CandOK W s c) (ht : s'.tbl = s.tbl)
    (hi : s'.input = s.input) (hle : ptLe s.pt s'.pt) : CandOK W s' c := by
  obtain ⟨hne, h⟩ := h
  refine ⟨hne, ?_⟩
  rw [ht, hi]
  rcases h with h | ⟨r', hq, hb⟩
  · exact Or.inl h
  · exact Or.inr ⟨r', hq, prepBefore_mono hb hle⟩

theorem Guarded_of_evs_nil {W : Votes} {t : Table} {me : Pid} {input : Chain} {es : List Eff} (h : evs es = []) :
    Guarded W t me input es := by
  intro r ph v tk j hm
  have : Ev.bc r ph ∈ evs es := by
    simp only [evs, List.mem_filterMap]; exact ⟨_, hm, rfl⟩
  rw [h] at this; simp at this

theorem addCandidate_mem (s : State) (c x : Chain) (h : x ∈ (s.addCandidate c).1.candidates) :
    x ∈ s.candidates ∨ x = c := by
  unfold State.addCandidate at h
  split at h
  · exact Or.inl h
  · simp only [List.mem_append, List.mem_singleton] at h; exact h

theorem addCandidatePrefixes_mem (s : State) (c x : Chain) (h : x ∈ (s.addCandidatePrefixes c).1.candidates) :
    x ∈ s.candidates ∨ ∃ l, 0 < l ∧ x = prefixTo c l := by
  unfold State.addCandidatePrefixes at h
  generalize hl : ((List.range (c.length - 1)).reverse.map (· + 1)) = l at h
  have hpos : ∀ y ∈ l, 0 < y := by
    intro y hy; rw [← hl] at hy; simp at hy; obtain ⟨a, _, rfl⟩ := hy; omega
  clear hl
  suffices hgen : ∀ (l : List Nat), (∀ y ∈ l, 0 < y) → ∀ (acc : State × Bool),
      (∀ y ∈ acc.1.candidates, y ∈ s.candidates ∨ ∃ l, 0 < l ∧ y = prefixTo c l) →
      ∀ y ∈ (l.foldl (fun (acc : State × Bool) l =>
        let r := acc.1.addCandidate (prefixTo c l); (r.1, acc.2 || r.2)) acc).1.candidates,
        y ∈ s.candidates ∨ ∃ l, 0 < l ∧ y = prefixTo c l from hgen l hpos (s, false) (fun y hy => Or.inl hy) x h
  intro l
  induction l with
  | nil => intro _ acc h y hy; exact h y (by simpa using hy)
  | cons a as ih =>
    intro hpos acc hacc y hy
    simp only [List.foldl_cons] at hy
    refine ih (fun z hz => hpos z (List.mem_cons_of_mem _ hz)) _ ?_ y hy
    intro z hz
    rcases addCandidate_mem _ _ _ hz with hz | rfl
    · exact hacc z hz
    · exact Or.inr ⟨a, hpos a List.mem_cons_self, rfl⟩

theorem prefixTo_prefix (c : Chain) (l : Nat) : prefixTo c l <+: c := List.take_prefix _ _

theorem prefixTo_ne_nil (c : Chain) (l : Nat) (hc : c ≠ []) : prefixTo c l ≠ [] := by
  unfold prefixTo
  cases c with
  | nil => exact absurd rfl hc
  | cons a as => simp

theorem longest_prefix_facts (q : Tally) (c : Chain) (hc : c ≠ []) :
    q.longestPrefixWithQuorum c <+: c ∧ q.longestPrefixWithQuorum c ≠ [] := by
  unfold Tally.longestPrefixWithQuorum
  split
  · exact ⟨List.prefix_refl _, hc⟩
  · split
    · rename_i p hf
      have hm := List.mem_of_find?_eq_some hf
      simp only [List.mem_map, List.mem_reverse, List.mem_range] at hm
      obtain ⟨i, _, rfl⟩ := hm
      exact ⟨prefixTo_prefix c i, prefixTo_ne_nil c i hc⟩
    · exact ⟨List.take_prefix _ _, by unfold baseChain; cases c with | nil => exact absurd rfl hc | cons a as => simp⟩

theorem quality_cands_mem (s : State) (q : Tally) (input : Chain) (hin : input ≠ []) (x : Chain)
    (h : x ∈ (s.addCandidatePrefixes (q.longestPrefixWithQuorum input)).1.candidates) :
    x ∈ s.candidates ∨ (x ≠ [] ∧ x <+: input) := by
  obtain ⟨hp, hne⟩ := longest_prefix_facts q input hin
  refine (addCandidatePrefixes_mem _ _ _ h).imp id ?_
  rintro ⟨l, _, rfl⟩
  exact ⟨prefixTo_ne_nil _ l hne, (prefixTo_prefix _ l).trans hp⟩

end F3.Instance
