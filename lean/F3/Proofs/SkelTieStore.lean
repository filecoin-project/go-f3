import F3.Gen.SkelStore
/-!
Hand-written expectations for the REGENERATED skeletons of `F3.Gen.SkelStore` (tools/go2lean/skel.go): the pre-order
list of the statements of a Go function as `<depth>:<kind>`. The expression-level tie theorems pin what single
conditions say; these pin that nothing was added around them (an extra early return, a cap, a dropped branch). A
structural change of the function — harmful or not — breaks the `rfl` below and with it the obligation of every
property importing this file; the check then searches for a failing input as for any broken obligation.
-/
namespace F3.SkelTie.SkelStore
open F3.Gen.SkelStore

/-- the structure the model of `StorePut` was written against -/
def skelStorePutExpected : List String :=
  ["0:if", "1:return1", "0:if", "1:return1", "0:elseif", "1:return1", "0:call:cs.mu.Lock", "0:defer",
   "0:assign:=", "0:if", "1:assign=", "0:if", "1:return1", "0:if", "1:return1", "0:assign:=", "0:if", "1:decl",
   "1:assign=", "1:if", "2:return1", "0:if", "1:return1", "0:elseif", "1:return1", "0:if", "1:return1",
   "0:decl", "0:if", "1:return1", "0:if", "1:return1", "0:if", "1:if", "2:return1", "0:if", "1:return1",
   "0:assign=", "0:assign=", "0:range", "1:select", "2:comm", "2:comm", "1:send",
   "0:call:metrics.latestInstance.Record", "0:call:metrics.tipsetsPerInstance.Record",
   "0:call:metrics.latestFinalizedEpoch.Record", "0:return1"]

theorem skelStorePut_expected : skelStorePut = skelStorePutExpected := rfl

/-- the structure the model of `StoreGetRange` was written against -/
def skelStoreGetRangeExpected : List String :=
  ["0:if", "1:return2", "0:if", "1:return2", "0:assign:=", "0:for", "1:assign:=", "1:if", "2:branch:break",
   "1:if", "2:return2", "1:assign=", "0:assign:=", "0:range", "1:assign:=", "1:if", "2:return2", "0:if",
   "1:return2", "0:return2"]

theorem skelStoreGetRange_expected : skelStoreGetRange = skelStoreGetRangeExpected := rfl

/-- the structure the model of `StoreOpen` was written against -/
def skelStoreOpenExpected : List String :=
  ["0:assign:=", "0:assign:=", "0:if", "1:return2", "0:if", "1:return2", "0:assign:=", "0:if", "1:return2",
   "0:elseif", "1:return2", "0:assign=", "0:if", "1:return2", "0:call:metrics.latestInstance.Record",
   "0:call:metrics.latestFinalizedEpoch.Record", "0:return2"]

theorem skelStoreOpen_expected : skelStoreOpen = skelStoreOpenExpected := rfl

/-- the structure the model of `ExportSnapshot` was written against -/
def skelExportSnapshotExpected : List String :=
  ["0:assign:=", "0:if", "1:return3", "0:assign:=", "0:assign:=", "0:if", "1:return3", "0:assign:=", "0:if",
   "1:return3", "0:for", "1:assign:=", "1:if", "2:return3", "1:assign:=", "1:if", "2:return3", "0:assign:=",
   "0:assign:=", "0:if", "1:return3", "0:return3"]

theorem skelExportSnapshot_expected : skelExportSnapshot = skelExportSnapshotExpected := rfl

/-- the structure the model of `ReadSnapshotBlock` was written against -/
def skelReadSnapshotBlockExpected : List String :=
  ["0:assign:=", "0:if", "1:return2", "0:assign:=", "0:assign:=", "0:if", "1:assign=", "0:if", "1:return2",
   "0:if", "1:return2", "0:return2"]

theorem skelReadSnapshotBlock_expected : skelReadSnapshotBlock = skelReadSnapshotBlockExpected := rfl

/-- the structure the model of `ImportSnapshot` was written against -/
def skelImportSnapshotExpected : List String :=
  ["0:return1"]

theorem skelImportSnapshot_expected : skelImportSnapshot = skelImportSnapshotExpected := rfl

end F3.SkelTie.SkelStore
