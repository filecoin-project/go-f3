import F3.Proofs.InstanceGuards2
/-! Layer B, continued: `tryDecide`, `tryCurrentPhase`, filing a message, `postReceive`, the instance `gokRule` of `StepRule`, runs. -/
namespace F3.Instance

variable {W : Votes} {me : Pid}

theorem tryDecide_gok {s : State} (now : Int) (h : GInv W me s) (hd : s.phase = .decide) :
    GOK W me s (s.tryDecide now) := by
  refine tryDecide_ind s now (fun _ _ => GOK.fail (by simp)) (fun v sg _ _ => ?_) fun _ => tryRebroadcast_gok now h
  refine Or.inr fun _ => ⟨?_, by intro r ph v tk j hm; simp [State.terminate, State.resetReb] at hm⟩
  unfold State.terminate State.resetReb
  refine GInv.of_core (h.core.mono rfl rfl rfl rfl ?_ (fun c hc => Or.inl hc) h.core.propNe)
    (fun hp => Phase.noConfusion hp) (by simp [Phase.toNat])
  exact Or.inr ⟨Or.inr ⟨rfl, by simp [State.pt, hd, Phase.toNat]⟩, fun _ => rfl⟩

theorem tryCurrentPhase_gok {s : State} (now : Int) (h : GInv W me s) : GOK W me s (s.tryCurrentPhase now) :=
  tryCurrentPhase_ind s now (fun _ => tryQuality_gok now h) (fun _ => tryConverge_gok now h)
    (fun _ => tryPrepare_gok now h) (fun hp => tryCommit_gok now s.round h (by simp [hp, Phase.toNat]))
    (fun hp => tryDecide_gok now h hp) (fun _ => GOK.nil h) fun _ => GOK.fail (by simp)

/-! Filing a valid message in its tally keeps `GInv` (the tally lemmas of InstanceGuards). -/

theorem GInv.setRound {s : State} (h : GInv W me s) (r : Nat) (rs : RoundState) (hrs : RoundOK W s.tbl r rs) :
    GInv W me (s.setRound r rs) :=
  h.of_rounds rfl rfl (setRound_ok h.core.rounds r rs hrs) rfl rfl rfl rfl rfl

theorem recvQuality_inv {s : State} (m : Msg) (h : GInv W me s) :
    GInv W me ({ s with quality := s.quality.receiveEachPrefix s.tbl m.sender m.value } : State) :=
  h.of_fields rfl rfl rfl rfl rfl rfl rfl rfl

theorem recvConverge_inv {s : State} (m : Msg) (j : Just) (h : GInv W me s)
    (hne : m.value ≠ []) (hj : ConvJust W s.tbl m.round m.value j) :
    GInv W me (s.setRound m.round { (s.getRound m.round) with
      converged := (s.getRound m.round).converged.receive m.sender m.value m.rank j }) := by
  have hro := getRound_ok h.core.rounds m.round
  exact h.setRound _ _ ⟨hro.conv.receive _ _ _ _ hne hj, hro.prep, hro.comm⟩

theorem recvPrepare_inv {s : State} (m : Msg) (q : Tally) (h : GInv W me s) (hm : MsgValid W s.tbl m)
    (hph : m.phase = .prepare) (hq : (s.getRound m.round).prepared.receive s.tbl m.sender m.value = some q) :
    GInv W me (s.setRound m.round { (s.getRound m.round) with prepared := storePrepareJust q m }) := by
  have hro := getRound_ok h.core.rounds m.round
  obtain ⟨hw, hpos, hrest⟩ := hm
  rw [hph] at hrest hw
  simp only at hrest
  obtain ⟨hr0, hrpos⟩ := hrest
  have hv : VoteEv W s.tbl m.round .prepare m.sender m.value := by
    refine ⟨hw, fun _ => ?_⟩
    by_cases h0 : m.round = 0
    · exact Or.inl h0
    · obtain ⟨j, _, hcj⟩ := hrpos (by omega)
      exact Or.inr hcj.jl
  have hj : ∀ j, m.just = some j → ConvJust W s.tbl m.round m.value j := by
    intro j hmj
    by_cases h0 : m.round = 0
    · rw [hr0 h0] at hmj; cases hmj
    · obtain ⟨j', hj', hcj⟩ := hrpos (by omega)
      rw [hmj] at hj'; cases hj'; exact hcj
  exact h.setRound _ _ ⟨hro.conv, hro.prep.recvPrepare m hpos hv hj hq, hro.comm⟩

theorem recvCommit_inv {s : State} (m : Msg) (q : Tally) (h : GInv W me s) (hm : MsgValid W s.tbl m)
    (hph : m.phase = .commit) (hq : (s.getRound m.round).committed.receive s.tbl m.sender m.value = some q) :
    GInv W me (s.setRound m.round { (s.getRound m.round) with committed := storeCommitJust q m }) := by
  have hro := getRound_ok h.core.rounds m.round
  obtain ⟨hw, hpos, hrest⟩ := hm
  rw [hph] at hrest hw
  simp only at hrest
  have hv : VoteEv W s.tbl m.round .commit m.sender m.value := ⟨hw, fun hc => Phase.noConfusion hc⟩
  exact h.setRound _ _ ⟨hro.conv, hro.prep, hro.comm.recvCommit m hpos hv hrest.2 hq⟩

theorem recvDecide_inv {s : State} (m : Msg) (q : Tally) (h : GInv W me s) (hm : MsgValid W s.tbl m)
    (hph : m.phase = .decide) (hq : s.decision.receive s.tbl m.sender m.value = some q) :
    GInv W me ({ s with decision := q } : State) := by
  obtain ⟨hw, hpos, hrest⟩ := hm
  rw [hph] at hrest hw
  rw [hrest.1] at hw
  exact ⟨⟨h.core.rounds, receive_wf s.tbl s.decision q _ _ h.core.decision hpos hw hq, h.core.cands,
    h.core.inputNe, h.core.propNe, h.core.totalPos⟩, h.ownPrep, h.early⟩

theorem skipToDecide_gok {s : State} (m : Msg) (h : GInv W me s) (h5 : s.phase.toNat < 5) (hne : m.value ≠ [])
    (hev : ∃ r', QL W s.tbl r' .commit m.value) : GOK W me s (s.skipToDecide m.value m.just) := by
  refine Or.inr fun _ => ?_
  unfold State.skipToDecide State.resetReb
  refine ⟨GInv.of_core (h.core.mono rfl rfl rfl rfl ?_ (fun c hc => Or.inl hc) hne)
    (fun hp => Phase.noConfusion hp) (by simp [Phase.toNat]), ?_⟩
  · right
    exact ⟨Or.inr ⟨rfl, by simpa [State.pt, Phase.toNat] using h5⟩, fun h' => by simp only [State.pt] at h'; omega⟩
  · intro r ph v tk j hm
    simp at hm
    obtain ⟨rfl, rfl, rfl, _⟩ := hm
    exact fun _ => ⟨hne, hev⟩

/-- the state in which `postReceive` calls `beginConverge` -/
def skipState (s : State) (round : Nat) (p : ConvVal) : State :=
  let s1 := { s with round := round }
  let s1 := if s1.phase == .quality then
      let q := s1.quality.longestPrefixWithQuorum s1.input
      (({ s1 with proposal := q }).addCandidatePrefixes q).1
    else s1
  if p.just.phase == .prepare then { (s1.addCandidate p.chain).1 with proposal := p.chain } else s1

theorem skipState_fields (s : State) (round : Nat) (p : ConvVal) :
    (skipState s round p).tbl = s.tbl ∧ (skipState s round p).input = s.input ∧
    (skipState s round p).rounds = s.rounds ∧ (skipState s round p).decision = s.decision ∧
    (skipState s round p).round = round ∧ (skipState s round p).phase = s.phase := by
  unfold skipState
  dsimp only
  split <;> split <;> simp

theorem skipState_proposal (s : State) (round : Nat) (p : ConvVal) :
    (p.just.phase = .prepare ∧ (skipState s round p).proposal = p.chain) ∨
    (p.just.phase ≠ .prepare ∧ ((skipState s round p).proposal = s.proposal ∨
      (skipState s round p).proposal = s.quality.longestPrefixWithQuorum s.input)) := by
  unfold skipState
  dsimp only
  split
  · rename_i hp; left; exact ⟨by simpa using hp, rfl⟩
  · rename_i hp
    right
    refine ⟨by simpa using hp, ?_⟩
    split
    · right; simp
    · left; rfl

theorem skipState_cands (s : State) (round : Nat) (p : ConvVal) (hin : s.input ≠ []) (c : Chain)
    (hc : c ∈ (skipState s round p).candidates) :
    c ∈ s.candidates ∨ (c ≠ [] ∧ c <+: s.input) ∨ (p.just.phase = .prepare ∧ c = p.chain) := by
  unfold skipState at hc
  dsimp only at hc
  split at hc
  · rename_i hp
    rcases addCandidate_mem _ _ _ hc with hold | rfl
    · split at hold
      · exact (quality_cands_mem _ s.quality s.input hin c hold).imp id Or.inl
      · exact Or.inl hold
    · exact Or.inr (Or.inr ⟨by simpa using hp, rfl⟩)
  · split at hc
    · exact (quality_cands_mem _ s.quality s.input hin c hc).imp id Or.inl
    · exact Or.inl hc

theorem postReceive_eq (s : State) (now : Int) (round : Nat) :
    s.postReceive now round = (s, []) ∨
    ∃ p, (s.getRound round).converged.findBest (fun _ => true) = some p ∧ p.chain ≠ [] ∧ s.round < round ∧
      s.phase ≠ .decide ∧ s.postReceive now round = (skipState s round p).beginConverge now p.just := by
  refine postReceive_cases s now round (fun _ => Or.inl rfl) fun hlt hnd _ w hw hne cs1 p1 h1 cs p h2 => Or.inr ⟨w, hw, by simpa using hne, hlt, hnd, ?_⟩
  have : skipState s round w = { s with round := round, candidates := cs, proposal := p } := by
    unfold skipState
    dsimp only
    rw [h1, h2]
  rw [this]

theorem postReceive_gok {s : State} (now : Int) (round : Nat) (h : GInv W me s) (hnt : s.phase ≠ .terminated) :
    GOK W me s (s.postReceive now round) := by
  rcases postReceive_eq s now round with heq | ⟨p, hp, hpne, hlt, hnd, heq⟩
  · rw [heq]; exact GOK.nil h
  · rw [heq]
    obtain ⟨ht, hi, hr, hd, hrd, hph⟩ := skipState_fields s round p
    obtain ⟨hmem, _⟩ := findBest_mem _ _ _ hp
    obtain ⟨_, hcj⟩ := (getRound_ok h.core.rounds round).conv p hmem
    have h5 := Phase.toNat_lt_five hnd hnt
    by_cases hfail : hasFailure ((skipState s round p).beginConverge now p.just).2 = true
    · exact Or.inl hfail
    · refine Or.inr fun _ => ?_
      have hle : ptLe s.pt ((skipState s round p).round, Phase.converge.toNat) := by
        rw [hrd]
        exact Or.inr ⟨Or.inl hlt, fun h' => by simp only [State.pt] at h'; omega⟩
      obtain ⟨hql, hqne⟩ := longest_prefix_facts s.quality s.input h.core.inputNe
      obtain ⟨hc', hp', _⟩ := beginConverge_core (W := W) (s0 := s) (s := skipState s round p) now p.just h.core ht hi
        (by rw [ht, hr]; exact h.core.rounds) hd hle
        (by
          intro c hc
          rcases skipState_cands s round p h.core.inputNe c hc with hold | hq | ⟨hpp, rfl⟩
          · exact Or.inl hold
          · exact Or.inr ⟨hq.1, Or.inl (by rw [hi]; exact hq.2)⟩
          · -- the adopted value: its justification is a PREPARE quorum of the round before
            refine Or.inr ⟨hpne, Or.inr ⟨p.just.round, ?_, ?_⟩⟩
            · rw [ht]; exact hcj.prepare_ql hpp
            · rw [hrd]; have := hcj.2.1; omega)
        (by
          rcases skipState_proposal s round p with ⟨_, hpr⟩ | ⟨_, hpr | hpr⟩
          · rw [hpr]; exact hpne
          · rw [hpr]; exact h.core.propNe
          · rw [hpr]; exact hqne)
        (by
          rw [ht, hrd]
          rcases skipState_proposal s round p with ⟨_, hpr⟩ | ⟨hnp, _⟩
          · rw [hpr]; exact hcj
          · obtain ⟨hok, hjr, hcase⟩ := hcj
            rcases hcase with ⟨hpp, _⟩ | hc'
            · exact absurd hpp hnp
            · exact ⟨hok, hjr, Or.inr hc'⟩)
        (by simpa using hfail)
      refine ⟨GInv.of_core hc' (by rw [hp']; exact fun hpp => Phase.noConfusion hpp) (by rw [hp']; decide), ?_⟩
      intro r ph v tk j' hm
      cases beginConverge_bc _ _ _ _ _ _ _ _ hm
      trivial

/-- validity of what is delivered, in the vocabulary of the guards -/
def OpValidG (W : Votes) (t : Table) : Op → Prop
  | .recv _ m => MsgValid W t m
  | _ => True

theorem MsgValid.msgOk {t : Table} {m : Msg} (h : MsgValid W t m) : MsgOk m := by
  intro hp
  obtain ⟨_, _, hrest⟩ := h
  rw [hp] at hrest
  exact hrest.1

theorem OpValidG.opOk {t : Table} {op : Op} (h : OpValidG W t op) : OpOk op := by
  cases op with
  | recv now m => exact MsgValid.msgOk (W := W) h
  | start _ => trivial
  | alarm _ => trivial

theorem OpValidG.mono {W' : Votes} {t : Table} (hW : ∀ x r ph v, W x r ph v → W' x r ph v) {op : Op} (h : OpValidG W t op) :
    OpValidG W' t op := by
  cases op with
  | recv now m => exact MsgValid.mono hW h
  | start _ => trivial
  | alarm _ => trivial

/-- filing a valid message keeps the Layer-B invariant (the five `recv*_inv`) -/
theorem Filed.ginv {s s1 : State} {m : Msg} (hf : Filed s m s1) (h : GInv W me s) (hm : MsgValid W s.tbl m) :
    GInv W me s1 := by
  cases hf with
  | quality _ => exact recvQuality_inv m h
  | converge j hph hne hj =>
    obtain ⟨_, _, hrest⟩ := hm
    rw [hph] at hrest
    obtain ⟨_, hne', j', hj', hcj⟩ := hrest
    rw [hj] at hj'; cases hj'
    exact recvConverge_inv m j h hne' hcj
  | prepare q hph hq => exact recvPrepare_inv m q h hm hph hq
  | commit q hph hq _ => exact recvCommit_inv m q h hm hph hq
  | decide q hph hq => exact recvDecide_inv m q h hm hph hq

theorem beginQuality_gok {s : State} (now : Int) (h : GInv W me s) : GOK W me s (s.beginQuality now) := by
  unfold State.beginQuality State.alarmAfter State.resetReb
  dsimp only
  split
  · exact GOK.fail (by simp)
  · rename_i hph
    have hi : s.phase = .initial := by simpa using hph
    refine Or.inr fun _ => ⟨⟨h.core.mono rfl rfl rfl rfl ?_ (fun c hc => Or.inl hc) h.core.propNe, ?_, ?_⟩, ?_⟩
    · right
      exact ⟨Or.inr ⟨rfl, by simp [State.pt, hi, Phase.toNat]⟩, fun h' => by simp [State.pt, hi, Phase.toNat] at h'⟩
    · intro hp; cases hp
    · intro _; exact h.early (by simp [hi, Phase.toNat])
    · intro r ph v tk j hm
      simp at hm
      obtain ⟨_, rfl, _⟩ := hm
      trivial

theorem updateCandidatesFromQuality_ginv {s : State} (h : GInv W me s) : GInv W me s.updateCandidatesFromQuality := by
  unfold State.updateCandidatesFromQuality
  refine ⟨h.core.mono (by simp) (by simp) (by simp) (by simp) (by simp [State.pt]; exact ptLe_refl _) ?_
    (by simpa using h.core.propNe), ?_, ?_⟩
  · intro c hc
    exact (quality_cands_mem _ _ _ h.core.inputNe c hc).imp id fun ⟨hne, hp⟩ => ⟨hne, Or.inl (by simpa using hp)⟩
  · intro hp; simp at hp; simpa using h.ownPrep hp
  · intro he; simp at he; simpa using h.early he

theorem gokRule : StepRule (GInv W me) (MsgValid W) (GOK W me) where
  seq h1 ht hin h2 := by
    rcases h1 with hf | h1'
    · exact .inl (by simp [andThen, hf])
    · cases hnf : hasFailure _
      · exact andThen_gok (.inr h1') ht hin (h2 hnf)
      · exact .inl (by simp [andThen, hnf])
  skip := GOK.nil
  malformed _ _ _ _ _ := GOK.fail (by simp)
  panic _ _ _ _ _ := GOK.fail (by simp)
  filed hi hv _ hf := .inr fun _ => ⟨hf.ginv hi hv, Guarded_nil⟩
  phase now := tryCurrentPhase_gok now
  commit now round hi h5 := tryCommit_gok now round hi h5
  toDecide hi hv hph h5 := by
    obtain ⟨_, _, hrest⟩ := hv
    rw [hph] at hrest
    obtain ⟨_, hne, j, _, hok, hjp, hjv⟩ := hrest
    exact skipToDecide_gok _ hi h5 hne ⟨j.round, by have := hok.ql; rwa [hjp, hjv] at this⟩
  late hi _ := .inr fun _ => ⟨updateCandidatesFromQuality_ginv hi, Guarded_nil⟩
  post now round hi hnt := postReceive_gok now round hi hnt

theorem step_gok {s : State} (op : Op) (h : GInv W me s) (hq : DQ s) (hop : OpValidG W s.tbl op) :
    GOK W me s (step s op) :=
  gokRule.step op h hq (fun _ _ e => by subst e; exact ⟨hop, MsgValid.msgOk (W := W) hop⟩)
    (fun now _ => beginQuality_gok now h) fun _ _ _ _ _ => GOK.fail (by simp)

theorem receiveOne_gok {s : State} (now : Int) (m : Msg) (h : GInv W me s) (hm : MsgValid W s.tbl m) :
    GOK W me s (s.receiveOne now m).1 :=
  gokRule.receiveOne now m h hm fun _ _ => GOK.fail (by simp)

theorem skipToDecide_gok_of_valid {s : State} (m : Msg) (h : GInv W me s) (hm : MsgValid W s.tbl m) (hph : m.phase = .decide)
    (hnd : s.phase ≠ .decide) (hnt : s.phase ≠ .terminated) : GOK W me s (s.skipToDecide m.value m.just) :=
  gokRule.toDecide h hm hph (Phase.toNat_lt_five hnd hnt)

theorem GInv_init (W : Votes) (me : Pid) (cfg : Cfg) (tbl : Table) (input : Chain) (hin : input ≠ [])
    (hT : 0 < tbl.total) : GInv W me (init cfg tbl input) := by
  refine ⟨⟨?_, TallyWF_empty _ tbl, ?_, hin, hin, hT⟩, ?_, ?_⟩
  · intro e he
    simp [init] at he
    subst he
    exact RoundOK_empty W tbl 0
  · intro c hc
    simp [init] at hc
    subst hc
    refine ⟨?_, Or.inl (List.take_prefix _ _)⟩
    cases input with
    | nil => exact absurd rfl hin
    | cons a as => simp
  · intro hp; simp [init] at hp
  · intro _; rfl

/-- **Layer B.** For every run of the instance model over validated messages that reports no failure, and whose
broadcasts are the participant's own votes in `W`: every broadcast satisfies the guard of the abstract protocol. -/
theorem runFrom_guarded {s : State} (ops : List Op) (h : GInv W me s) (hq : DQ s)
    (hops : ∀ op ∈ ops, OpValidG W s.tbl op) (hown : OwnIn W me (runFrom s ops).2)
    (hnf : hasFailure (runFrom s ops).2 = false) :
    Guarded W s.tbl me s.input (runFrom s ops).2 ∧ GInv W me (runFrom s ops).1 := by
  induction ops generalizing s with
  | nil => exact ⟨by simpa [runFrom] using Guarded_nil, by simpa [runFrom] using h⟩
  | cons op ops ih =>
    rw [runFrom_cons] at hown hnf ⊢
    simp only [hasFailure_append, Bool.or_eq_false_iff] at hnf
    obtain ⟨ho1, ho2⟩ := OwnIn_append hown
    have hopv := hops op (by simp)
    rcases step_gok (me := me) op h hq hopv with hf | hk
    · exact absurd (hf.symm.trans hnf.1) (by decide)
    · obtain ⟨hi1, hg1⟩ := hk ho1
      have hq1 : DQ (step s op).1 := by
        rcases step_ok s op hq hopv.opOk with hf | ⟨_, hq'⟩
        · exact absurd (hf.symm.trans hnf.1) (by decide)
        · exact hq'
      have htb := step_tbl s op
      have := ih hi1 hq1 (fun o ho => by rw [htb]; exact hops o (by simp [ho])) ho2 hnf.2
      rw [htb, step_input] at this
      exact ⟨Guarded_append hg1 this.1, this.2⟩

end F3.Instance
