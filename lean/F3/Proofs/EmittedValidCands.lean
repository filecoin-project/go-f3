import F3.Proofs.EmittedValid
import F3.Proofs.LongestPrefix
/-!
# Maximality of `longestPrefixWithQuorum`, and completeness of the candidate set

`CCI`: after `Start`, in CONVERGE / PREPARE / COMMIT every prefix of the proposal formed from the QUALITY votes
delivered so far (late ones included) is a candidate; `PrepC`: every prefix of the value of a justification-free
PREPARE (the round-0 PREPARE) is a candidate of every later state. Both are invariants of runs (`runFrom_cci`); hence
the best ticket overall is adopted as soon as its value is a candidate (`tryConverge_adopts`).
-/
namespace F3.EmittedValid
open F3.Instance
open F3.Liveness (rankLt_irrefl fbStep findBest_eq_foldl)

/-- **Maximality.** No prefix of the preferred chain that is longer than the result has a strong quorum. -/
theorem longest_prefix_maximal (q : Tally) (c x : Chain) (hx : x <+: c)
    (hl : (q.longestPrefixWithQuorum c).length < x.length) : q.hasStrongFor x = false := by
  cases h : q.hasStrongFor x
  · rfl
  · have hne : x ≠ [] := by intro h; rw [h] at hl; simp at hl
    have := (SyncGeneral.lpOf_max q.hasStrongFor c x hx hne h).length_le
    rw [← SyncGeneral.lpq_eq_lpOf] at this
    omega

theorem longest_prefix_sat (q : Tally) (c : Chain) :
    q.longestPrefixWithQuorum c = baseChain c ∨ q.hasStrongFor (q.longestPrefixWithQuorum c) = true :=
  (SyncGeneral.lpOf_sat q.hasStrongFor c).symm

/-- the proposal formed from the QUALITY votes delivered so far -/
def LP (s : State) : Chain := s.quality.longestPrefixWithQuorum s.input

/-- all prefixes, from the base and the prefixes `1 … len-1` (what `addCandidatePrefixes` adds) -/
theorem all_prefixes_mem (p : Chain) (C : List Chain) (hb : baseChain p ∈ C)
    (ha : ∀ l, 1 ≤ l → l ≤ p.length - 1 → prefixTo p l ∈ C) : ∀ l, prefixTo p l ∈ C := by
  intro l
  by_cases h0 : l = 0
  · subst h0; exact hb
  · by_cases hl : l ≤ p.length - 1
    · exact ha l (by omega) hl
    · have hfull : prefixTo p l = p := by
        unfold prefixTo; exact List.take_of_length_le (by omega)
      rw [hfull]
      by_cases h2 : 2 ≤ p.length
      · have := ha (p.length - 1) (by omega) (Nat.le_refl _)
        have hp : prefixTo p (p.length - 1) = p := by
          unfold prefixTo; exact List.take_of_length_le (by omega)
        rw [hp] at this; exact this
      · have : baseChain p = p := by
          unfold baseChain; exact List.take_of_length_le (by omega)
        rw [this] at hb; exact hb

theorem addCandidatePrefixes_adds (s : State) (c : Chain) (l : Nat) (h1 : 1 ≤ l) (h2 : l ≤ c.length - 1) :
    prefixTo c l ∈ (s.addCandidatePrefixes c).1.candidates := by
  have hk : l ∈ (List.range (c.length - 1)).reverse.map (· + 1) := by
    simp only [List.mem_map, List.mem_reverse, List.mem_range]
    exact ⟨l - 1, by omega, by omega⟩
  unfold State.addCandidatePrefixes
  exact addCandidatePrefixes_has_aux c _ (s, false) _ hk

theorem baseChain_lp (q : Tally) (c : Chain) : baseChain (q.longestPrefixWithQuorum c) = baseChain c := by
  by_cases hc : c = []
  · subst hc; simp [Tally.longestPrefixWithQuorum, baseChain]
  · obtain ⟨⟨tl, htl⟩, hne⟩ := longest_prefix_facts q c hc
    generalize q.longestPrefixWithQuorum c = L at *
    cases L with
    | nil => exact absurd rfl hne
    | cons a as => rw [← htl]; rfl

theorem addCandidatePrefixes_complete (s : State) (p : Chain) (hb : baseChain p ∈ s.candidates) :
    ∀ l, prefixTo p l ∈ (s.addCandidatePrefixes p).1.candidates :=
  all_prefixes_mem p _ (addCandidatePrefixes_sub _ _ _ hb) (fun l h1 h2 => addCandidatePrefixes_adds s p l h1 h2)

/-- after `Start`; the base is a candidate; in CONVERGE / PREPARE / COMMIT every prefix of the QUALITY proposal
(over the QUALITY votes delivered so far) is a candidate -/
structure CCI (s : State) : Prop where
  started : s.phase ≠ .initial
  base : baseChain s.input ∈ s.candidates
  complete : s.phase.mid = true → ∀ l, prefixTo (LP s) l ∈ s.candidates

/-- every prefix of the value of a justification-free PREPARE is a candidate of `s'` (run level: monotone) -/
def PrepC (s' : State) (es : List Eff) : Prop :=
  ∀ r v tk, Eff.broadcast r .prepare v tk none ∈ es → ∀ l, prefixTo v l ∈ s'.candidates

/-- step level: a justification-free PREPARE is broadcast only by a call that starts in QUALITY and leaves it; its
value is the proposal formed from the QUALITY tally as it stands after the call; all its prefixes are candidates -/
def PrepOK (s s' : State) (es : List Eff) : Prop :=
  ∀ r v tk, Eff.broadcast r .prepare v tk none ∈ es →
    s.phase = .quality ∧ v = LP s' ∧ s'.phase ≠ .quality ∧ ∀ l, prefixTo v l ∈ s'.candidates

theorem PrepOK.toC {s s' : State} {es : List Eff} (h : PrepOK s s' es) : PrepC s' es :=
  fun r v tk hm => (h r v tk hm).2.2.2

def NoPrepNone (es : List Eff) : Prop := ∀ r v tk, Eff.broadcast r .prepare v tk none ∉ es

structure Grow (s s' : State) : Prop where
  input : s'.input = s.input
  quality : s'.quality = s.quality
  cands : ∀ c ∈ s.candidates, c ∈ s'.candidates

theorem Grow.refl (s : State) : Grow s s := ⟨rfl, rfl, fun _ h => h⟩

theorem Grow.trans {a b c : State} (h1 : Grow a b) (h2 : Grow b c) : Grow a c :=
  ⟨h2.input.trans h1.input, h2.quality.trans h1.quality, fun x hx => h2.cands x (h1.cands x hx)⟩

def PhaseRel (a b : Phase) : Prop :=
  (a ≠ .initial → b ≠ .initial) ∧ (b.mid = true → a.mid = true) ∧ (b = .quality → a = .quality)

theorem PhaseRel.refl (a : Phase) : PhaseRel a a := And.intro id (And.intro id id)
theorem PhaseRel.trans {a b c : Phase} (h1 : PhaseRel a b) (h2 : PhaseRel b c) : PhaseRel a c :=
  And.intro (fun h => h2.1 (h1.1 h)) (And.intro (fun h => h1.2.1 (h2.2.1 h)) (fun h => h1.2.2 (h2.2.2 h)))
theorem PhaseRel.of_eq {a b : Phase} (h : b = a) : PhaseRel a b := h ▸ PhaseRel.refl a
theorem PhaseRel.to_decide (a : Phase) : PhaseRel a .decide := by
  unfold PhaseRel
  exact And.intro (fun _ => by decide) (And.intro (fun h => by simp [Phase.mid] at h) (fun h => by cases h))
theorem PhaseRel.to_terminated (a : Phase) : PhaseRel a .terminated := by
  unfold PhaseRel
  exact And.intro (fun _ => by decide) (And.intro (fun h => by simp [Phase.mid] at h) (fun h => by cases h))
theorem PhaseRel.mid {a b : Phase} (ha : a.mid = true) (hb : b.mid = true) : PhaseRel a b := by
  unfold PhaseRel
  refine And.intro (fun _ h => ?_) (And.intro (fun _ => ha) (fun h => ?_))
  · rw [h] at hb; simp [Phase.mid] at hb
  · rw [h] at hb; simp [Phase.mid] at hb

theorem CCI.grow {s s' : State} (h : CCI s) (g : Grow s s') (hp : PhaseRel s.phase s'.phase) : CCI s' := by
  refine ⟨hp.1 h.started, by rw [g.input]; exact g.cands _ h.base, fun hm l => ?_⟩
  have : LP s' = LP s := by unfold LP; rw [g.input, g.quality]
  rw [this]
  exact g.cands _ (h.complete (hp.2.1 hm) l)

/-- what one function of the model guarantees for the candidate set -/
structure CStepQ (s : State) (r : R) : Prop where
  input : r.1.input = s.input
  cands : ∀ c ∈ s.candidates, c ∈ r.1.candidates
  cci : CCI s → CCI r.1
  qphase : CCI s → r.1.phase = .quality → s.phase = .quality
  prep : CCI s → PrepOK s r.1 r.2

/-- … and leaves the QUALITY tally alone (everything but the delivery of a QUALITY vote) -/
structure CStep (s : State) (r : R) : Prop extends CStepQ s r where
  quality : r.1.quality = s.quality

/-- a function that leaves the QUALITY tally alone, only adds candidates, does not enter CONVERGE / PREPARE / COMMIT
from outside and broadcasts no justification-free PREPARE -/
structure Plain (s : State) (r : R) : Prop where
  grow : Grow s r.1
  phase : PhaseRel s.phase r.1.phase
  noPrep : NoPrepNone r.2

theorem Plain.cstep {s : State} {r : R} (h : Plain s r) : CStep s r :=
  ⟨⟨h.grow.input, h.grow.cands, fun hc => hc.grow h.grow h.phase, fun _ hq => h.phase.2.2 hq,
    fun _ r' v tk hm => absurd hm (h.noPrep r' v tk)⟩, h.grow.quality⟩

theorem NoPrepNone_nil : NoPrepNone [] := fun _ _ _ h => by simp at h
theorem NoPrepNone_append {a b : List Eff} (ha : NoPrepNone a) (hb : NoPrepNone b) : NoPrepNone (a ++ b) := by
  intro r v tk hm
  rcases List.mem_append.1 hm with hm | hm
  · exact ha r v tk hm
  · exact hb r v tk hm

theorem Plain.same {s : State} {es : List Eff} (h : NoPrepNone es) : Plain s (s, es) :=
  ⟨Grow.refl s, PhaseRel.refl _, h⟩

theorem Plain.of_fields {s s1 : State} {r : R} (h : Plain s1 r) (hi : s1.input = s.input) (hq : s1.quality = s.quality)
    (hc : s1.candidates = s.candidates) (hph : s1.phase = s.phase) : Plain s r :=
  ⟨⟨h.grow.input.trans hi, h.grow.quality.trans hq, fun c hcm => h.grow.cands c (by rw [hc]; exact hcm)⟩,
    by rw [← hph]; exact h.phase, h.noPrep⟩

theorem CStep.of_fields {s s1 : State} {r : R} (h : CStep s1 r) (hi : s1.input = s.input) (hq : s1.quality = s.quality)
    (hc : s1.candidates = s.candidates) (hph : s1.phase = s.phase) : CStep s r := by
  have hcci : CCI s → CCI s1 := fun hcs =>
    hcs.grow ⟨hi, hq, fun c hcm => by rw [hc]; exact hcm⟩ (PhaseRel.of_eq hph)
  exact ⟨⟨h.input.trans hi, fun c hcm => h.cands c (by rw [hc]; exact hcm), fun hcs => h.cci (hcci hcs),
    fun hcs hqq => by rw [← hph]; exact h.qphase (hcci hcs) hqq,
    fun hcs r' v tk hm => by rw [← hph]; exact h.prep (hcci hcs) r' v tk hm⟩, h.quality.trans hq⟩

theorem PrepC_mono {s s' : State} {es : List Eff} (h : PrepC s es) (hc : ∀ c ∈ s.candidates, c ∈ s'.candidates) :
    PrepC s' es := fun r v tk hm l => hc _ (h r v tk hm l)

theorem PrepC_append {s : State} {a b : List Eff} (ha : PrepC s a) (hb : PrepC s b) : PrepC s (a ++ b) := by
  intro r v tk hm
  rcases List.mem_append.1 hm with hm | hm
  · exact ha r v tk hm
  · exact hb r v tk hm

/-- sequencing: the second function leaves the QUALITY tally alone -/
theorem CStepQ.andThen {s : State} {r : R} {f : State → R} (h1 : CStepQ s r) (h2 : CStep r.1 (f r.1)) :
    CStepQ s (andThen r f) := by
  unfold Instance.andThen
  split
  · exact h1
  · refine ⟨h2.input.trans h1.input, fun c hc => h2.cands c (h1.cands c hc), fun hc => h2.cci (h1.cci hc),
      fun hc hq => h1.qphase hc (h2.qphase (h1.cci hc) hq), fun hc r' v tk hm => ?_⟩
    have hc1 := h1.cci hc
    rcases List.mem_append.1 hm with hm | hm
    · obtain ⟨a1, a2, a3, a4⟩ := h1.prep hc r' v tk hm
      refine ⟨a1, ?_, fun hq => a3 (h2.qphase hc1 hq), fun l => h2.cands _ (a4 l)⟩
      rw [a2]; unfold LP; rw [h2.input, h2.quality]
    · obtain ⟨a1, a2, a3, a4⟩ := h2.prep hc1 r' v tk hm
      exact ⟨h1.qphase hc a1, a2, a3, a4⟩

theorem CStep.andThen {s : State} {r : R} {f : State → R} (h1 : CStep s r) (h2 : CStep r.1 (f r.1)) :
    CStep s (andThen r f) := by
  refine ⟨CStepQ.andThen h1.toCStepQ h2, ?_⟩
  unfold Instance.andThen
  split
  · exact h1.quality
  · exact h2.quality.trans h1.quality

theorem tryRebroadcast_plain (s : State) (now : Int) : Plain s (s.tryRebroadcast now) :=
  ⟨⟨by simp, by simp, fun c hc => by simpa using hc⟩, PhaseRel.of_eq (tryRebroadcast_phase s now),
    fun _ _ _ hm => not_bc_of_evs_nil (tryRebroadcast_evs s now) hm⟩

theorem beginPrepare_phase (s : State) (now : Int) (j : Option Just) : (s.beginPrepare now j).1.phase = .prepare := by
  unfold State.beginPrepare State.alarmAfter State.resetReb; rfl

theorem beginPrepare_plain (s : State) (now : Int) (j : Just) (hm : s.phase.mid = true) :
    Plain s (s.beginPrepare now (some j)) := by
  refine ⟨⟨by simp, by simp, fun c hc => by simpa using hc⟩,
    PhaseRel.mid hm (by rw [beginPrepare_phase]; decide), ?_⟩
  intro r v tk hmem
  obtain ⟨_, _, _, h⟩ := beginPrepare_bc' _ _ _ _ _ _ _ _ hmem
  cases h

theorem beginCommit_plain (s : State) (now : Int) (hm : s.phase.mid = true) : Plain s (s.beginCommit now) := by
  refine ⟨⟨by simp, by simp, fun c hc => by simpa using hc⟩,
    PhaseRel.mid hm (by rw [(beginCommit_res s now).1]; decide), ?_⟩
  intro r v tk hmem
  obtain ⟨_, h, _⟩ := beginCommit_bc _ _ _ _ _ _ _ hmem
  cases h

theorem beginConverge_phase (s : State) (now : Int) (j : Just) :
    (s.beginConverge now j).1.phase = s.phase ∨ (s.beginConverge now j).1.phase = .converge := by
  unfold State.beginConverge State.alarmAfter State.resetReb State.setRound
  dsimp only
  split
  · exact Or.inl rfl
  · exact Or.inr rfl

theorem beginConverge_noPrep (s : State) (now : Int) (j : Just) : NoPrepNone (s.beginConverge now j).2 := by
  intro r v tk hmem
  have := beginConverge_bc _ _ _ _ _ _ _ _ hmem
  cases this

theorem beginConverge_plain (s : State) (now : Int) (j : Just) (hm : s.phase.mid = true) :
    Plain s (s.beginConverge now j) := by
  refine ⟨⟨by simp, by simp, fun c hc => by simpa using hc⟩, ?_, beginConverge_noPrep s now j⟩
  rcases beginConverge_phase s now j with h | h
  · exact PhaseRel.of_eq h
  · exact PhaseRel.mid hm (by rw [h]; decide)

theorem beginDecide_plain (s : State) (round : Nat) : Plain s (s.beginDecide round) := by
  refine ⟨⟨by simp, by simp, fun c hc => by simpa using hc⟩, ?_, ?_⟩
  · rw [(beginDecide_res s round).1]; exact PhaseRel.to_decide _
  · intro r v tk hmem
    obtain ⟨_, h, _⟩ := beginDecide_bc _ _ _ _ _ _ _ hmem
    cases h

theorem skipToDecide_plain (s : State) (v : Chain) (j : Option Just) : Plain s (s.skipToDecide v j) := by
  refine ⟨⟨by simp, by simp, fun c hc => by simpa using hc⟩, ?_, ?_⟩
  · rw [skipToDecide_phase]; exact PhaseRel.to_decide _
  · intro r v' tk hmem
    simp [State.skipToDecide, State.resetReb] at hmem

theorem beginNextRound_plain (s : State) (now : Int) (hm : s.phase.mid = true) : Plain s (s.beginNextRound now) := by
  unfold State.beginNextRound
  dsimp only
  split
  · exact Plain.of_fields (beginConverge_plain _ now _ hm) rfl rfl rfl rfl
  · exact ⟨⟨rfl, rfl, fun _ h => h⟩, PhaseRel.refl _, fun r v tk hmem => by simp at hmem⟩

theorem tryConverge_plain (s : State) (now : Int) : Plain s (s.tryConverge now) := by
  refine tryConverge_ind s now (fun _ => Plain.same (fun r v tk hm => by simp at hm))
    (fun _ _ _ => tryRebroadcast_plain s now) (fun _ _ _ => Plain.same NoPrepNone_nil)
    (fun _ _ _ => Plain.same (fun r v tk hm => by simp at hm)) (fun hq _ w _ _ cs hcs => ?_)
  have hp := beginPrepare_plain ({ s with candidates := cs, proposal := w.chain, value := w.chain } : State) now w.just
    (by simp [hq, Phase.mid])
  have hc : (s.addCandidate w.chain).1.candidates = cs := by rw [hcs]
  refine ⟨⟨hp.grow.input, hp.grow.quality, fun c hcm => hp.grow.cands c ?_⟩, hp.phase, hp.noPrep⟩
  show c ∈ cs
  rw [← hc]; exact addCandidate_sub _ _ _ hcm

theorem tryPrepare_plain (s : State) (now : Int) : Plain s (s.tryPrepare now) := by
  refine tryPrepare_ind s now (fun _ => Plain.same (fun r v tk hm => by simp at hm))
    (fun hq _ v _ => Plain.of_fields (beginCommit_plain _ now (by simp [hq, Phase.mid])) rfl rfl rfl rfl)
    (fun _ _ v _ _ => Plain.of_fields (tryRebroadcast_plain _ now) rfl rfl rfl rfl)
    (fun _ _ v _ _ => ⟨⟨rfl, rfl, fun _ h => h⟩, PhaseRel.refl _, NoPrepNone_nil⟩)

theorem commitSway_grow (s : State) (q : Tally) : Grow s (s.commitSway q) := by
  refine ⟨by simp, by simp, fun c hc => ?_⟩
  rcases commitSway_cases s q with ⟨_, heq⟩ | ⟨v, _, hcands, _⟩
  · rw [heq]; exact hc
  · rw [hcands]; exact addCandidate_sub _ _ _ hc

theorem tryCommit_plain (s : State) (now : Int) (round : Nat) : Plain s (s.tryCommit now round) := by
  have hmid : (s.round != round || s.phase != .commit) = false → s.phase.mid = true := fun hg => by
    simp only [Bool.or_eq_false_iff, bne_eq_false_iff_eq] at hg
    simp [hg.2, Phase.mid]
  refine tryCommit_ind s now round (fun _ => Plain.same (fun r v tk hm => by simp at hm))
    (fun c _ _ => Plain.of_fields (beginDecide_plain _ round) rfl rfl rfl rfl) (fun _ _ => Plain.same NoPrepNone_nil)
    (fun hg _ => beginNextRound_plain s now (hmid hg)) (fun hg _ _ _ cs p heq => ?_)
    (fun _ _ _ _ _ => tryRebroadcast_plain s now) (fun _ _ _ _ _ => Plain.same NoPrepNone_nil)
  have hp := beginNextRound_plain ({ s with candidates := cs, proposal := p } : State) now (hmid hg)
  exact ⟨(heq ▸ commitSway_grow s (s.getRound round).committed).trans hp.grow, hp.phase, hp.noPrep⟩

theorem tryDecide_plain (s : State) (now : Int) : Plain s (s.tryDecide now) :=
  tryDecide_ind s now (fun _ _ => Plain.same (fun r v tk hm => by simp at hm))
    (fun _ _ _ _ => ⟨⟨rfl, rfl, fun _ h => h⟩, PhaseRel.to_terminated _,
      fun r v tk hm => by simp [State.terminate, State.resetReb] at hm⟩)
    (fun _ => tryRebroadcast_plain s now)

theorem tryQuality_cstep (s : State) (now : Int) : CStep s (s.tryQuality now) := by
  unfold State.tryQuality
  dsimp only
  split
  · exact (Plain.same (fun r v tk hm => by simp at hm)).cstep
  · rename_i hph
    have hq : s.phase = .quality := by simpa using hph
    split
    · -- the state in which PREPARE begins
      have hcomp : CCI s → ∀ l, prefixTo (LP s) l ∈
          (({ s with proposal := s.quality.longestPrefixWithQuorum s.input } : State).addCandidatePrefixes
            (s.quality.longestPrefixWithQuorum s.input)).1.candidates := by
        intro hc
        exact addCandidatePrefixes_complete _ _ (by rw [baseChain_lp]; exact hc.base)
      have hlp : LP ((({ (({ s with proposal := s.quality.longestPrefixWithQuorum s.input } : State).addCandidatePrefixes
            (s.quality.longestPrefixWithQuorum s.input)).1 with
            value := (({ s with proposal := s.quality.longestPrefixWithQuorum s.input } : State).addCandidatePrefixes
              (s.quality.longestPrefixWithQuorum s.input)).1.proposal } : State).beginPrepare now none).1) = LP s := by
        unfold LP; simp
      refine ⟨⟨by simp, fun c hc => ?_, fun hc => ⟨?_, ?_, fun _ l => ?_⟩, fun _ hqq => ?_, fun hc r v tk hm => ?_⟩, by simp⟩
      · simpa using addCandidatePrefixes_sub ({ s with proposal := s.quality.longestPrefixWithQuorum s.input } : State) _ c hc
      · rw [beginPrepare_phase]; decide
      · simpa using addCandidatePrefixes_sub ({ s with proposal := s.quality.longestPrefixWithQuorum s.input } : State) _ _ hc.base
      · rw [hlp]
        simpa using hcomp hc l
      · rw [beginPrepare_phase] at hqq; cases hqq
      · obtain ⟨_, _, hv, _⟩ := beginPrepare_bc' _ _ _ _ _ _ _ _ hm
        have hv' : v = LP s := by rw [hv]; simp [LP]
        refine ⟨hq, by rw [hlp]; exact hv', by rw [beginPrepare_phase]; decide, fun l => ?_⟩
        rw [hv']
        simpa using hcomp hc l
    · exact (Plain.same NoPrepNone_nil).cstep

theorem tryCurrentPhase_cstep (s : State) (now : Int) : CStep s (s.tryCurrentPhase now) :=
  tryCurrentPhase_ind s now (fun _ => tryQuality_cstep s now) (fun _ => (tryConverge_plain s now).cstep)
    (fun _ => (tryPrepare_plain s now).cstep) (fun _ => (tryCommit_plain s now s.round).cstep)
    (fun _ => (tryDecide_plain s now).cstep) (fun _ => (Plain.same NoPrepNone_nil).cstep)
    (fun _ => (Plain.same (fun r v tk hm => by simp at hm)).cstep)

theorem recvQuality_cstep (s : State) (now : Int) (m : Msg) : CStepQ s (s.recvQuality now m) := by
  unfold State.recvQuality
  dsimp only
  split
  · rename_i hph
    -- a late QUALITY vote: the candidates are brought up to date
    refine ⟨by simp [State.updateCandidatesFromQuality], fun c hc => ?_, fun hc => ⟨?_, ?_, fun _ l => ?_⟩,
      fun _ hqq => ?_, fun _ r v tk hm => by simp at hm⟩
    · exact addCandidatePrefixes_sub ({ s with quality := s.quality.receiveEachPrefix s.tbl m.sender m.value } : State) _ c hc
    · simpa [State.updateCandidatesFromQuality] using hc.started
    · simpa [State.updateCandidatesFromQuality] using
        addCandidatePrefixes_sub ({ s with quality := s.quality.receiveEachPrefix s.tbl m.sender m.value } : State) _ _ hc.base
    · have : LP (({ s with quality := s.quality.receiveEachPrefix s.tbl m.sender m.value } : State).updateCandidatesFromQuality) =
          (s.quality.receiveEachPrefix s.tbl m.sender m.value).longestPrefixWithQuorum s.input := by
        unfold LP State.updateCandidatesFromQuality; simp
      rw [this]
      exact addCandidatePrefixes_complete ({ s with quality := s.quality.receiveEachPrefix s.tbl m.sender m.value } : State) _
        (by rw [baseChain_lp]; exact hc.base) l
    · simpa [State.updateCandidatesFromQuality] using hqq
  · rename_i hph
    have hq : s.phase = .quality := by simpa using hph
    have h1 := tryCurrentPhase_cstep ({ s with quality := s.quality.receiveEachPrefix s.tbl m.sender m.value } : State) now
    have hcci : CCI s → CCI ({ s with quality := s.quality.receiveEachPrefix s.tbl m.sender m.value } : State) :=
      fun hc => ⟨hc.started, hc.base, fun hm => by simp [hq, Phase.mid] at hm⟩
    exact ⟨h1.input, h1.cands, fun hc => h1.cci (hcci hc), fun _ _ => hq,
      fun hc r v tk hm => by
        obtain ⟨_, a2, a3, a4⟩ := h1.prep (hcci hc) r v tk hm
        exact ⟨hq, a2, a3, a4⟩⟩

theorem recvConverge_cstep (s : State) (now : Int) (m : Msg) (j : Just) : CStep s (s.recvConverge now m j) := by
  unfold State.recvConverge
  dsimp only
  exact CStep.of_fields (tryCurrentPhase_cstep _ now) rfl rfl rfl rfl

theorem recvPrepare_cstep (s : State) (now : Int) (m : Msg) : CStep s (s.recvPrepare now m) :=
  recvPrepare_ind s now m (fun _ => (Plain.same (fun r v tk hm => by simp at hm)).cstep)
    (fun q _ => CStep.of_fields (tryCurrentPhase_cstep _ now) rfl rfl rfl rfl)

theorem recvCommit_cstep (s : State) (now : Int) (m : Msg) : CStep s (s.recvCommit now m) :=
  recvCommit_ind s now m (fun _ _ => (Plain.same (fun r v tk hm => by simp at hm)).cstep)
    (fun _ _ _ _ _ _ _ => CStep.of_fields
      (CStep.andThen (tryCommit_plain _ now m.round).cstep (tryCurrentPhase_cstep _ now)) rfl rfl rfl rfl)
    (fun _ _ _ _ => CStep.of_fields (tryCommit_plain _ now m.round).cstep rfl rfl rfl rfl)
    (fun _ _ _ _ => CStep.of_fields (tryCurrentPhase_cstep _ now) rfl rfl rfl rfl)

theorem recvDecide_cstep (s : State) (now : Int) (m : Msg) : CStep s (s.recvDecide now m) :=
  recvDecide_ind s now m (fun _ => (Plain.same (fun r v tk hm => by simp at hm)).cstep)
    (fun _ q _ => CStep.of_fields
      (CStep.andThen (skipToDecide_plain _ m.value m.just).cstep (tryCurrentPhase_cstep _ now)) rfl rfl rfl rfl)
    (fun _ q _ => CStep.of_fields (tryCurrentPhase_cstep _ now) rfl rfl rfl rfl)

theorem receiveOne_cstep (s : State) (now : Int) (m : Msg) : CStepQ s (s.receiveOne now m).1 := by
  rcases receiveOne_cases' s now m with ⟨k, heq⟩ | heq | ⟨_, heq⟩ | ⟨j, _, _, _, heq⟩ | ⟨_, heq⟩ | ⟨_, _, heq⟩ | ⟨_, _, heq⟩
  · rw [heq]; exact (Plain.same (fun r v tk hm => by simp at hm)).cstep.toCStepQ
  · rw [heq]; exact (Plain.same NoPrepNone_nil).cstep.toCStepQ
  · rw [heq]; exact recvQuality_cstep s now m
  · rw [heq]; exact (recvConverge_cstep s now m j).toCStepQ
  · rw [heq]; exact (recvPrepare_cstep s now m).toCStepQ
  · rw [heq]; exact (recvCommit_cstep s now m).toCStepQ
  · rw [heq]; exact (recvDecide_cstep s now m).toCStepQ

theorem skipState_quality_input (s : State) (round : Nat) (p : ConvVal) :
    (skipState s round p).quality = s.quality ∧ (skipState s round p).input = s.input := by
  unfold skipState
  dsimp only
  split <;> split <;> simp

theorem skipState_complete (s : State) (round : Nat) (p : ConvVal) (hq : s.phase = .quality)
    (hb : baseChain s.input ∈ s.candidates) : ∀ l, prefixTo (LP s) l ∈ (skipState s round p).candidates := by
  intro l
  have hcomp := addCandidatePrefixes_complete
    ({ s with round := round, proposal := s.quality.longestPrefixWithQuorum s.input } : State)
    (s.quality.longestPrefixWithQuorum s.input) (by rw [baseChain_lp]; exact hb) l
  unfold skipState
  dsimp only
  split
  · simp only
    apply addCandidate_sub
    rw [if_pos (by simp [hq])]
    exact hcomp
  · rw [if_pos (by simp [hq])]
    exact hcomp

theorem postReceive_cstep (s : State) (now : Int) (round : Nat) (hnt : s.phase ≠ .terminated) :
    CStep s (s.postReceive now round) := by
  rcases postReceive_eq s now round with heq | ⟨p, _, _, _, hnd, heq⟩
  · rw [heq]; exact (Plain.same NoPrepNone_nil).cstep
  · rw [heq]
    obtain ⟨hqual, hinp⟩ := skipState_quality_input s round p
    obtain ⟨_, _, _, _, _, hph⟩ := skipState_fields s round p
    have hcands : ∀ c ∈ s.candidates, c ∈ ((skipState s round p).beginConverge now p.just).1.candidates := by
      intro c hc; simpa using skipState_sub s round p c hc
    refine ⟨⟨by simpa using hinp, hcands, fun hc => ⟨?_, ?_, fun hm l => ?_⟩, fun _ hqq => ?_,
      fun _ r v tk hm => absurd hm (beginConverge_noPrep _ now _ r v tk)⟩, by simpa using hqual⟩
    · rcases beginConverge_phase (skipState s round p) now p.just with h | h
      · rw [h, hph]; exact hc.started
      · rw [h]; decide
    · have := hcands _ hc.base
      simpa [hinp] using this
    · have hlp : LP ((skipState s round p).beginConverge now p.just).1 = LP s := by
        unfold LP; simp [hqual, hinp]
      rw [hlp]
      by_cases hq : s.phase = .quality
      · simpa using skipState_complete s round p hq hc.base l
      · -- already past QUALITY: the phase was CONVERGE / PREPARE / COMMIT
        have hmid : s.phase.mid = true := Phase.mid_of_ne hc.started hq hnd hnt
        exact hcands _ (hc.complete hmid l)
    · rcases beginConverge_phase (skipState s round p) now p.just with h | h
      · rw [h, hph] at hqq; exact hqq
      · rw [h] at hqq; cases hqq

theorem step_cstep (s : State) (op : Op) (hq : DQ s) (hop : OpOk op) : CStepQ s (step s op) := by
  cases op with
  | start now =>
    unfold step State.beginQuality State.alarmAfter State.resetReb
    dsimp only
    split
    · exact (Plain.same (fun r v tk hm => by simp at hm)).cstep.toCStepQ
    · rename_i hph
      have hi : s.phase = .initial := by simpa using hph
      exact ⟨rfl, fun _ h => h, fun hc => absurd hi hc.started, fun hc => absurd hi hc.started,
        fun hc => absurd hi hc.started⟩
  | alarm now => exact (tryCurrentPhase_cstep s now).toCStepQ
  | recv now m =>
    by_cases hst : s.phase = .terminated
    · simp only [step, hst, beq_self_eq_true, if_true]
      exact (Plain.same (fun r v tk hm => by simp at hm)).cstep.toCStepQ
    · have h1 := receiveOne_cstep s now m
      refine step_recv_ind s now m (fun ht => absurd ht hst) (fun _ => h1) (fun _ hnf => CStepQ.andThen h1 ?_)
      by_cases ht1 : (s.receiveOne now m).1.1.phase = .terminated
      · rw [postReceive_after_term hq hop hst hnf ht1]; exact (Plain.same NoPrepNone_nil).cstep
      · exact postReceive_cstep _ now m.round ht1

/-- … and for a delivery that is foreign (refused at the door, the state untouched) or validated -/
theorem step_cstep_valid {W : Votes} {t : Table} (s : State) (op : Op) (hq : DQ s)
    (hop : foreignOp op = true ∨ OpValidG W t op) : CStepQ s (step s op) := by
  by_cases hr : refusedOp s op = true
  · obtain ⟨k, hk, _⟩ := step_refusedOp hr
    rw [hk]; exact (Plain.same (fun r v tk hm => by simp at hm)).cstep.toCStepQ
  · exact step_cstep s op hq (of_not_refused hop hr).opOk

theorem start_cci (cfg : Cfg) (t : Table) (input : Chain) (now : Int) :
    CCI (step (init cfg t input) (.start now)).1 ∧ PrepC (step (init cfg t input) (.start now)).1
      (step (init cfg t input) (.start now)).2 := by
  refine ⟨⟨by simp [step, State.beginQuality, init, State.alarmAfter, State.resetReb], ?_,
    fun hm => by simp [step, State.beginQuality, init, Phase.mid, State.alarmAfter, State.resetReb] at hm⟩, ?_⟩
  · simp [step, State.beginQuality, init, State.alarmAfter, State.resetReb, baseChain]
  · intro r v tk hm
    simp [step, State.beginQuality, init, State.alarmAfter, State.resetReb] at hm

/-- **Run level, failure-free runs.** `CCI` and `PrepC` are invariants of runs over validated messages. -/
theorem runFrom_cci {s : State} (ops : List Op) (pre : List Eff) (h : CCI s) (hp : PrepC s pre) (hq : DQ s)
    (hops : ∀ op ∈ ops, OpOk op) (hnf : hasFailure (runFrom s ops).2 = false) :
    CCI (runFrom s ops).1 ∧ PrepC (runFrom s ops).1 (pre ++ (runFrom s ops).2) ∧
      (∀ c ∈ s.candidates, c ∈ (runFrom s ops).1.candidates) := by
  induction ops generalizing s pre with
  | nil => exact ⟨by simpa [runFrom] using h, by simpa [runFrom] using hp, fun c hc => by simpa [runFrom] using hc⟩
  | cons op ops ih =>
    rw [runFrom_cons] at hnf ⊢
    simp only [hasFailure_append, Bool.or_eq_false_iff] at hnf
    have hmsg := hops op (by simp)
    have hcs := step_cstep s op hq hmsg
    have hq1 := step_dq hq hmsg hnf.1
    have hp1 : PrepC (step s op).1 (pre ++ (step s op).2) :=
      PrepC_append (PrepC_mono hp hcs.cands) (hcs.prep h).toC
    obtain ⟨i1, i2, i3⟩ := ih (pre ++ (step s op).2) (hcs.cci h) hp1 hq1 (fun o ho => hops o (by simp [ho])) hnf.2
    exact ⟨i1, by simpa [List.append_assoc] using i2, fun c hc => i3 c (hcs.cands c hc)⟩

theorem rankLt_trans' {a t x : Option Nat} (h1 : rankLt a t = true) (h2 : rankLt x t = false) : rankLt a x = true := by
  cases a <;> cases t <;> cases x <;> simp_all [rankLt] <;> omega

theorem rankLt_trans'' {x c t : Option Nat} (h1 : rankLt x c = true) (h2 : rankLt c t = true) : rankLt x t = true := by
  cases x <;> cases c <;> cases t <;> simp_all [rankLt] <;> omega

/-- coupling of the unfiltered and the filtered scan: the unfiltered best is at least as good; when it passes the
filter the two agree -/
def FBInv (f : ConvVal → Bool) (T F : Option ConvVal) : Prop :=
  match T with
  | none => F = none
  | some t => (f t = true → F = some t) ∧ ∀ x, F = some x → rankLt x.rank t.rank = false

theorem FBInv_step (f : ConvVal → Bool) (T F : Option ConvVal) (cv : ConvVal) (h : FBInv f T F) :
    FBInv f (fbStep (fun _ => true) T cv) (fbStep f F cv) := by
  cases T with
  | none =>
    have hF : F = none := h
    subst hF
    by_cases hf : f cv = true
    · simp [fbStep, FBInv, hf, rankLt_irrefl]
    · simp [fbStep, FBInv, hf]
  | some t =>
    obtain ⟨h1, h2⟩ := h
    by_cases hb : rankLt cv.rank t.rank = true
    · -- the new value beats the unfiltered best
      have hT : fbStep (fun _ => true) (some t) cv = some cv := by simp [fbStep, hb]
      rw [hT]
      by_cases hf : f cv = true
      · have hF : fbStep f F cv = some cv := by
          cases F with
          | none => simp [fbStep, hf]
          | some x => simp [fbStep, hf, rankLt_trans' hb (h2 x rfl)]
        rw [hF]
        exact ⟨fun _ => rfl, fun x hx => by cases hx; exact rankLt_irrefl _⟩
      · have hF : fbStep f F cv = F := by
          cases F <;> simp [fbStep, hf]
        rw [hF]
        refine ⟨fun hc => absurd hc hf, fun x hx => ?_⟩
        have hxt := h2 x hx
        cases hxr : rankLt x.rank cv.rank with
        | false => rfl
        | true =>
          have := rankLt_trans'' hxr hb
          rw [hxt] at this; cases this
    · have hb' : rankLt cv.rank t.rank = false := by simpa using hb
      have hT : fbStep (fun _ => true) (some t) cv = some t := by simp [fbStep, hb']
      rw [hT]
      by_cases hft : f t = true
      · have hFt := h1 hft
        subst hFt
        have : fbStep f (some t) cv = some t := by simp [fbStep, hb']
        rw [this]
        exact ⟨fun _ => rfl, fun x hx => by cases hx; exact rankLt_irrefl _⟩
      · refine ⟨fun hc => absurd hc hft, fun x hx => ?_⟩
        cases F with
        | none =>
          by_cases hf : f cv = true
          · simp [fbStep, hf] at hx; subst hx; exact hb'
          · simp [fbStep, hf] at hx
        | some y =>
          by_cases hc : (rankLt cv.rank y.rank && f cv) = true
          · simp [fbStep, hc] at hx; subst hx; exact hb'
          · simp [fbStep, hc] at hx; subst hx; exact h2 _ rfl

/-- **The best ticket overall wins whenever it is admissible.** If the first lowest-rank value among *all* CONVERGE
values passes the filter, it is also the first lowest-rank value among those passing the filter. -/
theorem findBest_of_overall_best (c : Conv) (f : ConvVal → Bool) (b : ConvVal)
    (hb : c.findBest (fun _ => true) = some b) (hf : f b = true) : c.findBest f = some b := by
  rw [findBest_eq_foldl] at hb ⊢
  have key : ∀ (l : List ConvVal) (T F : Option ConvVal), FBInv f T F →
      FBInv f (l.foldl (fbStep (fun _ => true)) T) (l.foldl (fbStep f) F) := by
    intro l
    induction l with
    | nil => intro T F h; exact h
    | cons x xs ih => intro T F h; exact ih _ _ (FBInv_step f T F x h)
  have := key c.values none none rfl
  rw [hb] at this
  exact this.1 hf

/-- `tryConverge` adopts the best ticket overall as soon as its value is a candidate -/
theorem tryConverge_adopts (s : State) (now : Int) (b : ConvVal) (hph : s.phase = .converge)
    (hto : s.phaseTimeoutElapsed now = true)
    (hb : (s.getRound s.round).converged.findBest (fun _ => true) = some b) (hne : b.chain ≠ [])
    (hc : s.isCandidate b.chain = true) :
    Eff.broadcast s.round .prepare b.chain false (some b.just) ∈ (s.tryConverge now).2 := by
  have hfb := findBest_of_overall_best (s.getRound s.round).converged
    (fun cv => s.isCandidate cv.chain ||
      (cv.just.phase == .prepare && (s.getRound (s.round - 1)).committed.couldReach s.tbl cv.chain true)) b hb
    (by simp [hc])
  have hemp : b.chain.isEmpty = false := by cases hcb : b.chain <;> simp_all
  unfold State.tryConverge
  simp only [hph, hto, hfb, hemp, bne_self_eq_false, Bool.false_eq_true, if_false, Bool.not_true]
  unfold State.beginPrepare State.alarmAfter State.resetReb
  simp

theorem prepC_filter {s : State} {es : List Eff} : PrepC s (es.filter nonErr) ↔ PrepC s es := by
  constructor
  · intro h r v tk hm; exact h r v tk (bc_mem_filter_nonErr.2 hm)
  · intro h r v tk hm; exact h r v tk (bc_mem_filter_nonErr.1 hm)

/-- **`CCI` and `PrepC` hold along every validated run**: one `Start`, then alarms and validated (or foreign)
deliveries; no failure hypothesis. Also the Layer-B invariant (w.r.t. the trivial vote set) at the final state. -/
theorem run_cci (cfg : Cfg) (t : Table) (input : Chain) (W : Votes) (now0 : Int) (ops : List Op)
    (hin : input ≠ []) (hT : 0 < t.total)
    (hstart : ∀ op ∈ ops, op.isStart = false)
    (hvalid : ∀ op ∈ ops, foreignOp op = true ∨ OpValidG W t op) :
    CCI (run (init cfg t input) (.start now0 :: ops)).1 ∧
    PrepC (run (init cfg t input) (.start now0 :: ops)).1 (run (init cfg t input) (.start now0 :: ops)).2 ∧
    NFI (run (init cfg t input) (.start now0 :: ops)).1 ∧ DQ (run (init cfg t input) (.start now0 :: ops)).1 := by
  obtain ⟨h1, h2, h3⟩ := start_nf cfg t input now0 hin hT
  have htb : (step (init cfg t input) (.start now0)).1.tbl = t := by rw [step_tbl]; rfl
  have hnf := runFrom_nf ops h2 h3
    (fun o ho => ⟨hstart o ho, (hvalid o ho).imp id (fun hv => by rw [htb]; exact hv.top)⟩)
  obtain ⟨ops', p1, p2, p3, p4⟩ := clean_runI (OpValidG W t) _ _ hnf.1 hvalid
  obtain ⟨c0, c1⟩ := start_cci cfg t input now0
  have hops' : ∀ op ∈ ops', OpOk op := fun op hop => (p1 op hop).opOk
  obtain ⟨i1, i2, _⟩ := runFrom_cci ops' _ c0 c1 h3 hops' p2
  rw [run_eq_runFrom, runFrom_cons]
  rw [p3] at i1 i2
  refine ⟨i1, ?_, hnf.2.1, hnf.2.2⟩
  rw [p4] at i2
  intro r v tk hm
  rcases List.mem_append.1 hm with hm | hm
  · exact i2 r v tk (List.mem_append_left _ hm)
  · exact i2 r v tk (List.mem_append_right _ (bc_mem_filter_nonErr.2 hm))

theorem mem_of_prefix_all {p x : Chain} {C : List Chain} (h : ∀ l, prefixTo p l ∈ C) (hx : x <+: p) (hne : x ≠ []) :
    x ∈ C := by
  rw [prefix_eq_prefixTo hx hne]; exact h _

theorem cands_of_cci {s : State} {es : List Eff} {input : Chain} (hc : CCI s) (hp : PrepC s es) (hinp : s.input = input) :
    (s.phase = .converge ∨ s.phase = .prepare ∨ s.phase = .commit →
      ∀ x, x ≠ [] → x <+: s.quality.longestPrefixWithQuorum input → s.isCandidate x = true) ∧
    (∀ r v tk, Eff.broadcast r .prepare v tk none ∈ es → ∀ x, x ≠ [] → x <+: v → s.isCandidate x = true) := by
  constructor
  · intro hph x hne hx
    have hmid : s.phase.mid = true := by rcases hph with h | h | h <;> rw [h] <;> rfl
    have := hc.complete hmid
    unfold LP at this
    rw [hinp] at this
    simpa [State.isCandidate] using mem_of_prefix_all this hx hne
  · intro r v tk hm x hne hx
    simpa [State.isCandidate] using mem_of_prefix_all (hp r v tk hm) hx hne

/-- at the CONVERGE timeout the alarm PREPAREs the best ticket overall when its value is a prefix of the QUALITY
proposal or of the round-0 PREPARE value: by completeness it is a candidate -/
theorem alarm_adopts_best_ticket {s : State} {es : List Eff} {input : Chain} (hc : CCI s) (hp : PrepC s es)
    (hinp : s.input = input) (hr : RoundsOK WT s.tbl s.rounds) (now : Int) (b : ConvVal) (hph : s.phase = .converge)
    (hto : s.phaseTimeoutElapsed now = true)
    (hb : (s.getRound s.round).converged.findBest (fun _ => true) = some b)
    (hpre : b.chain <+: s.quality.longestPrefixWithQuorum input ∨
      ∃ r v tk, Eff.broadcast r .prepare v tk none ∈ es ∧ b.chain <+: v) :
    Eff.broadcast s.round .prepare b.chain false (some b.just) ∈ (step s (.alarm now)).2 := by
  obtain ⟨h1, h2⟩ := cands_of_cci hc hp hinp
  have hne : b.chain ≠ [] := ((getRound_ok hr _).conv b (findBest_mem _ _ _ hb).1).1
  have hcand : s.isCandidate b.chain = true := by
    rcases hpre with h | ⟨r, v, tk, hm, h⟩
    · exact h1 (Or.inl hph) _ hne h
    · exact h2 r v tk hm _ hne h
  have := tryConverge_adopts s now b hph hto hb hne hcand
  simpa [step, State.tryCurrentPhase, hph] using this

end F3.EmittedValid
