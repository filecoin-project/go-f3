import F3.Proofs.NoFailureBridge
import F3.Proofs.OwnBase
/-!
# Honest committee members that never begin the instance

`F3.Bridge.ValidRun` runs `.start start :: ops`, and `NetworkV.runs` demands one for *every* honest member of the
committee: a member that never begins the instance (crash-silent, lagging) could only be modelled as Byzantine,
eating the < 1/3 budget. `ValidRun'` allows the op list of an honest member to be **empty** (it never called
`Start`; `Participant` hands nothing to an instance that does not exist) or `Start` followed by alarms and
deliveries. A member with `ops = []` broadcasts nothing — so by `own` it has no vote in `W` — and terminates
nowhere; a `ValidRun'` converts into a `HonestRun` (`ValidRun'.toHonest`), so the lemmas about honest runs apply.
-/
namespace F3.Audit2
open F3 F3.Instance F3.Bridge

/-- the op list of an honest member: nothing at all, or its one `Start` followed by alarms and deliveries -/
def StartedOnce (ops : List Op) : Prop :=
  ops = [] ∨ ∃ now rest, ops = .start now :: rest ∧ ∀ op ∈ rest, op.isStart = false

/-- one honest committee member's execution of the instance model, possibly empty; no assumption on errors -/
structure ValidRun' (W : Votes) (t : Table) (p : Pid) where
  cfg : Cfg
  input : Chain
  /-- all calls on the instance, `Start` included -/
  ops : List Op
  inputNe : input ≠ []
  /-- the member never began the instance, or called `Start` once, first -/
  shape : StartedOnce ops
  /-- every delivered message of this instance passed validation (C05) -/
  valid : ∀ op ∈ ops, foreign op = true ∨ OpValidG W t op
  /-- unforgeability: the votes of `p` in existence are exactly those it broadcast (none if it never started) -/
  own : ∀ r ph v, W p r ph v ↔ ∃ tk j, Eff.broadcast r ph v tk j ∈ (run (init cfg t input) ops).2

variable {W : Votes} {t : Table} {p : Pid}

/-- the member never began the instance -/
def ValidRun'.quiet (vr : ValidRun' W t p) : Prop := vr.ops = []

theorem ValidRun'.okRun (vr : ValidRun' W t p) (hT : 0 < t.total) : okRun (init vr.cfg t vr.input) vr.ops = true := by
  rcases vr.shape with h | ⟨now, rest, h, hns⟩
  · rw [h]; rfl
  · rw [h]
    exact okRun_of_valid vr.cfg t vr.input W now rest vr.inputNe hT hns
      (fun op hop => vr.valid op (by rw [h]; exact List.mem_cons_of_mem _ hop))

def ValidRun'.toHonest (vr : ValidRun' W t p) (hT : 0 < t.total) : HonestRun W t p where
  cfg := vr.cfg
  input := vr.input
  ops := vr.ops
  inputNe := vr.inputNe
  valid := vr.valid
  ok := vr.okRun hT
  own := vr.own

/-- a `ValidRun` is a started `ValidRun'` -/
def ofValidRun (vr : ValidRun W t p) : ValidRun' W t p where
  cfg := vr.cfg
  input := vr.input
  ops := .start vr.start :: vr.ops
  inputNe := vr.inputNe
  shape := Or.inr ⟨vr.start, vr.ops, rfl, vr.noRestart⟩
  valid := by
    intro op hop
    rcases List.mem_cons.1 hop with rfl | hop
    · exact Or.inr trivial
    · exact vr.valid op hop
  own := vr.own

/-- the run of a member that never begins the instance; the only requirement is that it has no vote in `W` -/
def quietRun (W : Votes) (t : Table) (p : Pid) (cfg : Cfg) (input : Chain) (hin : input ≠ [])
    (hW : ∀ r ph v, ¬ W p r ph v) : ValidRun' W t p where
  cfg := cfg
  input := input
  ops := []
  inputNe := hin
  shape := Or.inl rfl
  valid := by intro op hop; cases hop
  own := by
    intro r ph v
    constructor
    · intro h; exact absurd h (hW r ph v)
    · rintro ⟨tk, j, h⟩; cases h

theorem ValidRun'.quiet_no_votes (vr : ValidRun' W t p) (hq : vr.quiet) : ∀ r ph v, ¬ W p r ph v := by
  intro r ph v hw
  obtain ⟨tk, j, h⟩ := (vr.own r ph v).1 hw
  rw [show vr.ops = [] from hq] at h
  cases h

theorem ValidRun'.quiet_no_decision (vr : ValidRun' W t p) (hq : vr.quiet) :
    (run (init vr.cfg t vr.input) vr.ops).1.termination = none := by
  rw [show vr.ops = [] from hq]; rfl

/-- a member that broadcast something, or decided, did begin the instance -/
theorem ValidRun'.started_of_decision (vr : ValidRun' W t p) (d : Just)
    (hd : (run (init vr.cfg t vr.input) vr.ops).1.termination = some d) : ¬ vr.quiet := by
  intro hq
  rw [vr.quiet_no_decision hq] at hd
  cases hd

/-- the standing assumptions about one instance; honest members may be quiet -/
structure NetworkV' (t : Table) (F : Finset Pid) (W : Votes) where
  idsNodup : (ids t).Nodup
  totalPos : 0 < t.total
  /-- Byzantine members hold less than a third of the scaled power; quiet honest members are **not** counted -/
  faultBound : 3 * (world t F W).power F < (world t F W).T
  nonMembers : ∀ p, p ∉ (ids t).toFinset → ∀ r ph v, ¬ W p r ph v
  runs : ∀ p, p ∈ (ids t).toFinset → p ∉ F → ValidRun' W t p

variable {F : Finset Pid}

def NetworkV'.toNetwork (N : NetworkV' t F W) : Network t F W where
  idsNodup := N.idsNodup
  totalPos := N.totalPos
  faultBound := N.faultBound
  nonMembers := N.nonMembers
  runs := fun p hp hF => (N.runs p hp hF).toHonest N.totalPos

def ofNetworkV (N : NetworkV t F W) : NetworkV' t F W where
  idsNodup := N.idsNodup
  totalPos := N.totalPos
  faultBound := N.faultBound
  nonMembers := N.nonMembers
  runs := fun p hp hF => ofValidRun (N.runs p hp hF)

theorem NetworkV'.rules (N : NetworkV' t F W) : (world t F W).Rules := N.toNetwork.rules

/-- **Agreement with quiet honest members.** -/
theorem model_agreement_quiet (N : NetworkV' t F W)
    (p q : Pid) (hp : p ∈ (ids t).toFinset) (hpF : p ∉ F) (hq : q ∈ (ids t).toFinset) (hqF : q ∉ F) (dp dq : Just)
    (hdp : (run (init (N.runs p hp hpF).cfg t (N.runs p hp hpF).input) (N.runs p hp hpF).ops).1.termination = some dp)
    (hdq : (run (init (N.runs q hq hqF).cfg t (N.runs q hq hqF).input) (N.runs q hq hqF).ops).1.termination = some dq) :
    dp.value = dq.value :=
  model_agreement N.toNetwork p q hp hpF hq hqF dp dq hdp hdq

/-- **Validity with quiet honest members**: the decision is not bottom, starts at the decider's own base, and is a
prefix of the input chain of an honest member **that began the instance** (a quiet member's would-be input supports
nothing). -/
theorem model_validity_quiet (N : NetworkV' t F W)
    (p : Pid) (hp : p ∈ (ids t).toFinset) (hpF : p ∉ F) (d : Just)
    (hd : (run (init (N.runs p hp hpF).cfg t (N.runs p hp hpF).input) (N.runs p hp hpF).ops).1.termination = some d) :
    d.value ≠ [] ∧ d.value.head? = (N.runs p hp hpF).input.head? ∧
    ∃ h, ∃ hh : h ∈ (ids t).toFinset, ∃ hF : h ∉ F, ¬ (N.runs h hh hF).quiet ∧ d.value <+: (N.runs h hh hF).input := by
  obtain ⟨hne, h, hh, hF, ⟨r, hx⟩, hpre⟩ := decided_of_guards N.nonMembers (fun p hc hp => (N.runs p hc hp).input)
    (fun p hc hp => (N.toNetwork.runs p hc hp).guardL N.totalPos) N.idsNodup N.rules
    ((N.toNetwork.runs p hp hpF).decision_Q F N.idsNodup d hd)
  refine ⟨hne, ?_, h, hh, hF, fun hquiet => (N.runs h hh hF).quiet_no_votes hquiet r .prepare d.value hx, hpre⟩
  exact (decision_on_own_base _ t _ _ d hd).resolve_left hne

/-! ### a concrete network with a quiet honest member

Four members of equal power (a strong quorum is any three). Members 1 and 2 are honest and run the instance;
member 3 is honest and **never begins it**; member 4 is Byzantine: it sends QUALITY for `[7,8,9]` to members 1 and
2 while a QUALITY of its for `[7,8]` and a COMMIT for bottom also exist, and otherwise votes for `[7,8]`. With
`NetworkV` member 3 would have to be declared faulty and the fault bound (`3·2 < 4`) would fail. -/
section Example

def qJp : Just := { round := 0, phase := .prepare, value := [7,8], signers := [0,1,3] }
def qJc : Just := { round := 0, phase := .commit, value := [7,8], signers := [0,1,3] }
def qVotes : List Vote :=
  [(1,0,.quality,[7,8]), (1,0,.prepare,[7,8]), (1,0,.commit,[7,8]), (1,0,.decide,[7,8]),
   (2,0,.quality,[7,8]), (2,0,.prepare,[7,8]), (2,0,.commit,[7,8]), (2,0,.decide,[7,8]),
   (4,0,.quality,[7,8,9]), (4,0,.quality,[7,8]), (4,0,.prepare,[7,8]), (4,0,.commit,[7,8]), (4,0,.commit,[]),
   (4,0,.decide,[7,8])]
def qOps : List Op :=
  [.start 0,
   .recv 1 { sender := 1, round := 0, phase := .quality, value := [7,8] },
   .recv 2 { sender := 4, round := 0, phase := .quality, value := [7,8,9] },
   .recv 3 { sender := 2, round := 0, phase := .quality, value := [7,8] },
   .recv 5 { sender := 4, round := 0, phase := .prepare, value := [9,9], suppOk := false },
   .recv 12 { sender := 4, round := 0, phase := .prepare, value := [7,8] },
   .recv 13 { sender := 1, round := 0, phase := .prepare, value := [7,8] },
   .recv 14 { sender := 2, round := 0, phase := .prepare, value := [7,8] },
   .recv 16 { sender := 1, round := 0, phase := .commit, value := [7,8], just := some qJp },
   .recv 17 { sender := 2, round := 0, phase := .commit, value := [7,8], just := some qJp },
   .recv 18 { sender := 4, round := 0, phase := .commit, value := [7,8], just := some qJp },
   .recv 19 { sender := 1, round := 0, phase := .decide, value := [7,8], just := some qJc },
   .recv 20 { sender := 2, round := 0, phase := .decide, value := [7,8], just := some qJc },
   .recv 21 { sender := 4, round := 0, phase := .decide, value := [7,8], just := some qJc }]

abbrev qW : Votes := Wof qVotes

theorem qOps_run : (run (init exCfg exTbl [7, 8]) qOps).1.termination =
    some { round := 0, phase := .decide, value := [7, 8], signers := [0, 1, 3] } := by
  decide +kernel

/-- members 1 and 2 -/
def qRun (p : Pid) (hp : p = 1 ∨ p = 2) : ValidRun' qW exTbl p where
  cfg := exCfg
  input := [7, 8]
  ops := qOps
  inputNe := by decide
  shape := Or.inr ⟨0, qOps.tail, rfl, by
    have : qOps.tail.all (fun op => !op.isStart) = true := by decide
    intro op hop
    simpa using List.all_eq_true.1 this op hop⟩
  valid := opValidB_sound qVotes exTbl qOps (by decide)
  own := by
    intro r ph v
    show Wof qVotes p r ph v ↔ _
    rw [bc_iff_triple, votesOf_iff]
    have : votesOf qVotes p = (run (init exCfg exTbl [7, 8]) qOps).2.filterMap bcTriple := by
      rcases hp with rfl | rfl <;> decide
    rw [this]

/-- member 3 never begins the instance -/
def qRun3 : ValidRun' qW exTbl 3 :=
  quietRun qW exTbl 3 exCfg [7, 8] (by decide) (by
    intro r ph v hw
    have hm : ∀ e ∈ qVotes, e.1 ≠ 3 := by decide
    exact hm _ hw rfl)

def qNet : NetworkV' exTbl exF qW where
  idsNodup := by decide
  totalPos := by decide
  faultBound := by
    rw [total_eq exTbl exF qW (by decide)]
    show 3 * (∑ p ∈ ({4} : Finset Pid), exTbl.power p) < exTbl.total
    rw [Finset.sum_singleton]
    decide
  nonMembers := by
    intro p hp r ph v hw
    rw [ex_ids] at hp
    have hm : ∀ e ∈ qVotes, e.1 = 1 ∨ e.1 = 2 ∨ e.1 = 3 ∨ e.1 = 4 := by decide
    have := hm _ hw
    simp only [Finset.mem_insert, Finset.mem_singleton] at hp
    exact hp this
  runs := fun p hp hF =>
    if h1 : p = 1 then qRun p (Or.inl h1)
    else if h2 : p = 2 then qRun p (Or.inr h2)
    else if h3 : p = 3 then h3 ▸ qRun3
    else absurd (by
      rw [ex_ids] at hp
      simp only [Finset.mem_insert, Finset.mem_singleton, exF] at hp hF
      rcases hp with h | h | h | h
      · exact absurd h h1
      · exact absurd h h2
      · exact absurd h h3
      · exact h) (by simpa [exF] using hF)

theorem qNet_facts :
    (qNet.runs 3 (by decide) (by decide)).quiet ∧ ¬ (qNet.runs 1 (by decide) (by decide)).quiet ∧
    qW 4 0 .quality [7, 8, 9] ∧ qW 4 0 .quality [7, 8] ∧
    (∃ d, (run (init (qNet.runs 1 (by decide) (by decide)).cfg exTbl (qNet.runs 1 (by decide) (by decide)).input)
      (qNet.runs 1 (by decide) (by decide)).ops).1.termination = some d ∧ d.value = [7, 8]) ∧
    -- were member 3 counted as faulty, the bound would fail
    ¬ 3 * (exTbl.power 3 + exTbl.power 4) < exTbl.total := by
  refine ⟨rfl, ?_, by show _ ∈ qVotes; decide, by show _ ∈ qVotes; decide, ?_, by decide⟩
  · intro h; exact absurd (show qOps = [] from h) (by decide)
  · refine ⟨{ round := 0, phase := .decide, value := [7, 8], signers := [0, 1, 3] }, ?_, rfl⟩
    -- name the run's fields before comparing with `qOps_run`: unifying through `qNet` would execute the run
    have hc : ∀ h1 h2, (qNet.runs 1 h1 h2).cfg = exCfg := fun _ _ => rfl
    have hi : ∀ h1 h2, (qNet.runs 1 h1 h2).input = [7, 8] := fun _ _ => rfl
    rw [hc, hi]
    exact qOps_run

end Example

end F3.Audit2
