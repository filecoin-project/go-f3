import F3.Proofs.SyncNet
import F3.Model.NetTimed
/-!
# The timing invariant of a unanimous run under the real-time synchrony assumption

`TInv`: what the ghost timestamps of `F3.Net.TNet` say about a unanimous, failure-free run (`NInv`). Its
consequences `quality_handed` and `no_late` (PREPARE and COMMIT at once) are exactly the untimed synchrony condition
`syncAt` of `F3/Model/Net.lean`. The real-time argument (for an input chain with at least one tipset beyond the base):

* QUALITY: starts are at most `Δ` apart and a node's QUALITY timer is `≥ 2Δ` after its own start, so when it expires
  every node has started at least `Δ` ago … and its QUALITY message has been handed over (T3).
* PREPARE: node `p` entered PREPARE at `e` because a strong quorum `S` had broadcast QUALITY by `e` (`qlp`). Every
  member of `S` has been handed all those QUALITY messages before `e + Δ`, hence left QUALITY by then (`leftQ` /
  `Prompt`), broadcasting PREPARE or (skipping ahead) DECIDE; these reach `p` before `e + 2Δ ≤` its timeout. So at the
  timeout `p` has a strong PREPARE quorum including its own vote, or a DECIDE — either way it is no longer in PREPARE.
* COMMIT: the same one phase later (`qlc`, `leftP`); `no_late` is stated over `Succ ph nx`.
So with staggered starts it is *not* true that everybody enters a phase within `Δ` of the first (a late starter may
lag `2Δ`); what is true is that a node whose PREPARE / COMMIT timer expires has already left that phase.
-/
namespace F3.Sync
open F3.Instance F3.Net

theorem Trans.kinds {p : Pid} {c : Chain} {a b : Phase} {ms : List Msg} (h : Trans p c a b ms) :
    (a = b ∧ ms = []) ∨
    (a = .initial ∧ b = .quality ∧ ms = [mkMsg p .quality c none]) ∨
    (a = .quality ∧ b = .prepare ∧ ms = [mkMsg p .prepare c none]) ∨
    (a = .prepare ∧ b = .commit ∧ ∃ j, ms = [mkMsg p .commit c (some j)]) ∨
    ((a = .quality ∨ a = .prepare ∨ a = .commit) ∧ (b = .decide ∨ b = .terminated) ∧ ∃ j, ms = [mkMsg p .decide c (some j)]) ∨
    (a = .decide ∧ b = .terminated ∧ ms = []) := by
  cases h with
  | same a => exact Or.inl ⟨rfl, rfl⟩
  | start => exact Or.inr (Or.inl ⟨rfl, rfl, rfl⟩)
  | q2p => exact Or.inr (Or.inr (Or.inl ⟨rfl, rfl, rfl⟩))
  | p2c j hj => exact Or.inr (Or.inr (Or.inr (Or.inl ⟨rfl, rfl, j, rfl⟩)))
  | x2d a b ha hb j hj => exact Or.inr (Or.inr (Or.inr (Or.inr (Or.inl ⟨ha, hb, j, rfl⟩))))
  | d2t => exact Or.inr (Or.inr (Or.inr (Or.inr (Or.inr ⟨rfl, rfl, rfl⟩))))

/-- `x` has broadcast a message of phase `ph` at a time `≤ e` -/
def SentBy (st : List (Msg × Int)) (x : Pid) (ph : Phase) (e : Int) : Prop :=
  ∃ m τ, (m, τ) ∈ st ∧ m.sender = x ∧ m.phase = ph ∧ τ ≤ e

/-- the members of a strong quorum have all broadcast their phase-`ph` message by time `e` -/
def StrongBy (t : Table) (st : List (Msg × Int)) (ph : Phase) (e : Int) : Prop :=
  ∃ S : List Pid, S.Nodup ∧ strongQ t (sumP t S) = true ∧ ∀ x ∈ S, SentBy st x ph e

/-- the event of `q` stamped `τ` happened at most `Δ` after any strong quorum containing `q` had broadcast its
phase-`ph` messages -/
def Prompt (t : Table) (Δ : Int) (st : List (Msg × Int)) (q : Pid) (ph : Phase) (τ : Int) : Prop :=
  ∀ e S, e + Δ < τ → S.Nodup → strongQ t (sumP t S) = true → (∀ x ∈ S, SentBy st x ph e) → q ∈ S → False

theorem SentBy.mono {st st' : List (Msg × Int)} {x : Pid} {ph : Phase} {e e' : Int} (h : SentBy st x ph e)
    (hsub : ∀ d ∈ st, d ∈ st') (he : e ≤ e') : SentBy st' x ph e' := by
  obtain ⟨m, τ, h1, h2, h3, h4⟩ := h
  exact ⟨m, τ, hsub _ h1, h2, h3, Int.le_trans h4 he⟩

theorem StrongBy.mono {t : Table} {st st' : List (Msg × Int)} {ph : Phase} {e e' : Int} (h : StrongBy t st ph e)
    (hsub : ∀ d ∈ st, d ∈ st') (he : e ≤ e') : StrongBy t st' ph e' := by
  obtain ⟨S, h1, h2, h3⟩ := h
  exact ⟨S, h1, h2, fun x hx => (h3 x hx).mono hsub he⟩

/-- new entries stamped after `e` do not matter -/
theorem SentBy.restrict {st new : List (Msg × Int)} {x : Pid} {ph : Phase} {e : Int} (h : SentBy (st ++ new) x ph e)
    (hnew : ∀ d ∈ new, e < d.2) : SentBy st x ph e := by
  obtain ⟨m, τ, h1, h2, h3, h4⟩ := h
  rcases List.mem_append.1 h1 with h | h
  · exact ⟨m, τ, h, h2, h3, h4⟩
  · have := hnew _ h
    dsimp only at this
    omega

theorem Prompt.mono {t : Table} {Δ : Int} {st new : List (Msg × Int)} {q : Pid} {ph : Phase} {τ now : Int}
    (h : Prompt t Δ st q ph τ) (hΔ : 0 ≤ Δ) (hτ : τ ≤ now) (hnew : ∀ d ∈ new, d.2 = now) :
    Prompt t Δ (st ++ new) q ph τ := by
  intro e S he hnd hs hall hq
  refine h e S he hnd hs (fun x hx => (hall x hx).restrict ?_) hq
  intro d hd
  rw [hnew d hd]
  omega

/-- per-node part: configuration, tallies, timers, and when the node left QUALITY / PREPARE -/
structure TNode (t : Table) (Δ : Int) (cfg : Pid → Cfg) (st : List (Msg × Int)) (sts : List (Pid × Int))
    (pool : List Msg) (q : Pid) (x : State) : Prop where
  cfg : x.cfg = cfg q
  qn : x.quality.senders.Nodup
  js : JS x
  conv : ∀ ph y, y ∈ sendersOf x ph → hasMsg pool y ph
  timerQ : x.phase = .quality → ∃ s, (q, s) ∈ sts ∧ s + 2 * Δ ≤ x.phaseTimeout
  timerP : x.phase = .prepare →
    ∃ m e, (m, e) ∈ st ∧ m.sender = q ∧ m.phase = .prepare ∧ e + 2 * Δ ≤ x.phaseTimeout
  timerC : x.phase = .commit →
    ∃ m e, (m, e) ∈ st ∧ m.sender = q ∧ m.phase = .commit ∧ e + 2 * Δ ≤ x.phaseTimeout
  leftQ : x.phase ≠ .initial → x.phase ≠ .quality →
    ∃ m τ, (m, τ) ∈ st ∧ m.sender = q ∧ (m.phase = .prepare ∨ m.phase = .decide) ∧ Prompt t Δ st q .quality τ
  leftP : x.phase = .commit ∨ x.phase = .decide ∨ x.phase = .terminated →
    ∃ m τ, (m, τ) ∈ st ∧ m.sender = q ∧ (m.phase = .commit ∨ m.phase = .decide) ∧ Prompt t Δ st q .prepare τ

structure TInv (t : Table) (Δ : Int) (cfg : Pid → Cfg) (tn : TNet) : Prop where
  pool_st : ∀ m, m ∈ tn.net.pool → ∃ τ, (m, τ) ∈ tn.stamps
  st_pool : ∀ m τ, (m, τ) ∈ tn.stamps → m ∈ tn.net.pool
  st_clock : ∀ m τ, (m, τ) ∈ tn.stamps → τ ≤ tn.clock
  sts_clock : ∀ q s, (q, s) ∈ tn.starts → s ≤ tn.clock
  started : ∀ q, q ∈ tn.net.started ↔ ∃ s, (q, s) ∈ tn.starts
  stagger : ∀ q s q' s', (q, s) ∈ tn.starts → (q', s') ∈ tn.starts → s' ≤ s + Δ
  qstamp : ∀ m τ, (m, τ) ∈ tn.stamps → m.phase = .quality → (m.sender, τ) ∈ tn.starts
  sender_started : ∀ m τ, (m, τ) ∈ tn.stamps → ∃ s, (m.sender, s) ∈ tn.starts ∧ s ≤ τ
  qlp : ∀ m e, (m, e) ∈ tn.stamps → m.phase = .prepare → StrongBy t tn.stamps .quality e
  qlc : ∀ m e, (m, e) ∈ tn.stamps → m.phase = .commit → StrongBy t tn.stamps .prepare e
  node : ∀ q x, (q, x) ∈ tn.net.nodes → TNode t Δ cfg tn.stamps tn.starts tn.net.pool q x

/-- T3 at an event with timestamp `now`, as a proposition -/
def T3 (Δ : Int) (tn : TNet) (now : Int) : Prop :=
  ∀ m τ q s, (m, τ) ∈ tn.stamps → (q, s) ∈ tn.starts → τ + Δ ≤ now → s + Δ ≤ now → (q, m) ∈ tn.net.delivered

/-- what T3 hands over: a node that started `Δ` ago has been handed every message broadcast `Δ` ago, so the senders of a
set `S` that had all broadcast their phase-`ph` message by `e` are in its tally -/
theorem senders_of_T3 {Δ : Int} {tn : TNet} {now e σ : Int} {x : Pid} {sx : State} {ph : Phase} {S : List Pid}
    (hT3 : T3 Δ tn now) (hxs : (x, σ) ∈ tn.starts) (hσ : σ + Δ ≤ now) (he : e + Δ ≤ now)
    (hdel : ∀ m, (x, m) ∈ tn.net.delivered → m.sender ∈ sendersOf sx m.phase)
    (hall : ∀ y ∈ S, SentBy tn.stamps y ph e) : ∀ y ∈ S, y ∈ sendersOf sx ph := by
  intro y hy
  obtain ⟨my, τy, hmy, hsy, hpy, hτy⟩ := hall y hy
  have := hdel my (hT3 my τy x σ hmy hxs (by omega) hσ)
  rw [hpy, hsy] at this; exact this

section
variable {t : Table} {c : Chain} {H : List Pid} {Δ : Int} {cfg : Pid → Cfg}

/-- QUALITY timer expired: every node has started and its QUALITY message has been handed over -/
theorem quality_handed (hΔ : 0 ≤ Δ) {tn : TNet} (hn : NInv t c H tn.net) (ht : TInv t Δ cfg tn) {p : Pid} {s : State}
    (hp : (p, s) ∈ tn.net.nodes) (hph : s.phase = .quality) (now : Int) (hel : s.phaseTimeout ≤ now)
    (hT3 : T3 Δ tn now) (hT2 : (∃ q s', (q, s') ∈ tn.starts ∧ s' + Δ ≤ now) → allStarted tn.net = true) :
    ∀ h ∈ H, ∃ m, (p, m) ∈ tn.net.delivered ∧ m.sender = h ∧ m.phase = .quality ∧ m.round = 0 := by
  obtain ⟨sp, hsp, hto⟩ := (ht.node p s hp).timerQ hph
  have hall := hT2 ⟨p, sp, hsp, by omega⟩
  unfold allStarted at hall
  simp only [List.all_eq_true, List.contains_eq_mem, decide_eq_true_eq] at hall
  intro h hh
  obtain ⟨x, hx⟩ := hn.node_of_H hh
  have hxo := hn.node h x hx
  obtain ⟨m, hm, hms, hmp⟩ := hxo.sentQ (hxo.started.1 (hall (h, x) hx))
  obtain ⟨τ, hτ⟩ := ht.pool_st m hm
  have hst := ht.qstamp m τ hτ hmp
  rw [hms] at hst
  have := ht.stagger p sp h τ hsp hst
  exact ⟨m, hT3 m τ p sp hτ hsp (by omega) (by omega), hms, hmp, (hn.pool m hm).1.1⟩

/-- a node still in QUALITY, PREPARE or COMMIT does not hold the votes of a strong quorum that contains itself -/
theorem NodeOK.no_quorum (hlen : 2 ≤ c.length) {pool : List Msg} {dl : List (Pid × Msg)} {st fi : List Pid}
    {q : Pid} {x : State} (h : NodeOK t c H pool dl st fi q x) (htp : timedPhase x.phase = true)
    {S : List Pid} (hnd : S.Nodup) (hstr : strongQ t (sumP t S) = true) (hown : q ∈ sendersOf x x.phase)
    (hsub : ∀ y ∈ S, y ∈ sendersOf x x.phase) : False := by
  have hpi := h.pi
  cases hph : x.phase <;> rw [hph] at hpi hsub htp hown <;> try cases htp
  · have := h.sinv.qt.hasStrongFor hlen (List.ne_nil_of_mem hown)
    rw [show x.quality.hasStrongFor c = false from hpi.1,
      strongQ_of_le t (sumP_le_of_subset t S x.quality.senders hnd hsub) hstr] at this
    cases this
  · have := h.sinv.prep.strong_of_subset S hnd hstr (List.ne_nil_of_mem hown) hsub
    rw [hpi.1 hown] at this; cases this
  · have := h.sinv.comm.strong_of_subset S hnd hstr (List.ne_nil_of_mem hown) hsub
    rw [show (x.getRound 0).committed.hasStrongFor c = false from hpi.1] at this; cases this

/-- `nx` is entered from `ph` -/
def Succ (ph nx : Phase) : Prop := (ph = .quality ∧ nx = .prepare) ∨ (ph = .prepare ∧ nx = .commit)

/-- PREPARE and COMMIT at once: a node whose `nx` timer has expired is no longer in `nx`. Stated over the three facts
of the timing invariant about the pair `ph → nx` (`timer`, `entry`, `left`). -/
theorem no_late (hlen : 2 ≤ c.length) (hΔ : 0 ≤ Δ) {tn : TNet} (hn : NInv t c H tn.net)
    (ht : TInv t Δ cfg tn) {ph nx : Phase} (hpn : Succ ph nx) {p : Pid} {s : State} (hp : (p, s) ∈ tn.net.nodes)
    (hph : s.phase = nx) (now : Int) (hel : s.phaseTimeout ≤ now) (hT3 : T3 Δ tn now)
    (timer : ∃ m e, (m, e) ∈ tn.stamps ∧ m.sender = p ∧ m.phase = nx ∧ e + 2 * Δ ≤ s.phaseTimeout)
    (entry : ∀ m e, (m, e) ∈ tn.stamps → m.phase = nx → StrongBy t tn.stamps ph e)
    (left : ∀ x sx, (x, sx) ∈ tn.net.nodes → sx.phase ≠ .initial → sx.phase ≠ .quality → sx.phase ≠ ph →
      ∃ m τ, (m, τ) ∈ tn.stamps ∧ m.sender = x ∧ (m.phase = nx ∨ m.phase = .decide) ∧ Prompt t Δ tn.stamps x ph τ) :
    False := by
  have hno := hn.node p s hp
  obtain ⟨mO, e, hmO, hsO, hpO, heO⟩ := timer
  obtain ⟨S, hnd, hstr, hall⟩ := entry mO e hmO hpO
  obtain ⟨sp, hsp, hspe⟩ := ht.sender_started mO e hmO
  rw [hsO] at hsp
  have hnt : s.phase ≠ .terminated := by rcases hpn with ⟨_, rfl⟩ | ⟨_, rfl⟩ <;> rw [hph] <;> decide
  have htp : timedPhase s.phase = true := by rcases hpn with ⟨_, rfl⟩ | ⟨_, rfl⟩ <;> rw [hph] <;> rfl
  have hnoD : s.decision.senders = [] := by
    have hpi := hno.pi
    rcases hpn with ⟨_, rfl⟩ | ⟨_, rfl⟩ <;> rw [hph] at hpi
    · exact hpi.2.2
    · exact hpi.2
  have hown : p ∈ sendersOf s s.phase := by
    have := hno.deliv mO (hT3 mO e p sp hmO hsp (by omega) (by omega)) hnt
    rw [hpO, hsO, ← hph] at this; exact this
  refine hno.no_quorum hlen htp hnd hstr hown (fun x hx => ?_)
  obtain ⟨mx, τx, hmx, hsx, hpx, hτx⟩ := hall x hx
  obtain ⟨σ, hxs, hσ⟩ := ht.sender_started mx τx hmx
  rw [hsx] at hxs
  have hmxp := ht.st_pool mx τx hmx
  have hxH : x ∈ H := by have := (hn.pool mx hmxp).2; rwa [hsx] at this
  obtain ⟨sx, hxn⟩ := hn.node_of_H hxH
  have hxo := hn.node x sx hxn
  have hni : sx.phase ≠ .initial := hxo.started.1 ((ht.started x).2 ⟨σ, hxs⟩)
  -- `x` is not in `ph` any more: it has held the whole of `S` since before `e + Δ`
  have hnph : sx.phase ≠ ph := by
    intro hq
    have hsubx : ∀ y ∈ S, y ∈ sendersOf sx ph :=
      senders_of_T3 hT3 hxs (by omega) (by omega)
        (fun m hm => hxo.deliv m hm (by rcases hpn with ⟨rfl, _⟩ | ⟨rfl, _⟩ <;> rw [hq] <;> decide)) hall
    rw [← hq] at hsubx
    exact hxo.no_quorum hlen (by rcases hpn with ⟨rfl, _⟩ | ⟨rfl, _⟩ <;> rw [hq] <;> rfl) hnd hstr (hsubx x hx) hsubx
  have hnq : sx.phase ≠ .quality := by
    rcases hpn with ⟨rfl, _⟩ | ⟨rfl, _⟩
    · exact hnph
    · exact (hxo.prepSelf ⟨mx, hmxp, hsx, hpx⟩).2
  obtain ⟨m, τ, hm, hms, hmph, hpr⟩ := left x sx hxn hni hnq hnph
  have hτ : τ ≤ e + Δ := Int.not_lt.1 (fun hc => hpr e S hc hnd hstr hall hx)
  have hd := hno.deliv m (hT3 m τ p sp hm hsp (by omega) (by omega)) hnt
  rcases hmph with h | h
  · rw [h, hms, ← hph] at hd; exact hd
  · rw [h, hms] at hd
    have hd' : x ∈ s.decision.senders := hd
    rw [hnoD] at hd'; cases hd'

/-- **the real-time conditions at an event imply the untimed synchrony condition at that event** -/
theorem syncAt_of_timed (hlen : 2 ≤ c.length) (hΔ : 0 ≤ Δ) {tn : TNet} (hn : NInv t c H tn.net)
    (ht : TInv t Δ cfg tn) {p : Pid} {s : State} (hnode : tn.net.node? p = some s) (now : Int)
    (hT3 : T3 Δ tn now) (hT2 : (∃ q s', (q, s') ∈ tn.starts ∧ s' + Δ ≤ now) → allStarted tn.net = true)
    (dl : List (Pid × Msg)) (hdl : ∀ d ∈ tn.net.delivered, d ∈ dl) : syncAt tn.net dl p now = true := by
  have hp := node?_mem hnode
  unfold syncAt
  rw [hnode]
  dsimp only
  split
  · rename_i hcond
    simp only [Bool.and_eq_true, beq_iff_eq] at hcond
    obtain ⟨⟨_, htp⟩, hel⟩ := hcond
    have hel' : s.phaseTimeout ≤ now := by
      unfold State.phaseTimeoutElapsed at hel
      simpa using hel
    cases hph : s.phase <;> rw [hph] at htp
    case quality =>
      unfold allHanded
      rw [List.all_eq_true]
      intro e he
      have heH : e.1 ∈ H := hn.mem_H (q := e.1) (x := e.2) he
      obtain ⟨m, hd, h1, h2, h3⟩ := quality_handed hΔ hn ht hp hph now hel' hT3 hT2 e.1 heH
      rw [List.any_eq_true]
      exact ⟨(p, m), hdl _ hd, by simp [h1, h2, h3]⟩
    case prepare =>
      exact (no_late hlen hΔ hn ht (.inl ⟨rfl, rfl⟩) hp hph now hel' hT3 ((ht.node p s hp).timerP hph) ht.qlp
        (fun x sx hx h1 h2 _ => (ht.node x sx hx).leftQ h1 h2)).elim
    case commit =>
      exact (no_late hlen hΔ hn ht (.inr ⟨rfl, rfl⟩) hp hph now hel' hT3 ((ht.node p s hp).timerC hph) ht.qlc
        (fun x sx hx h1 h2 h3 => (ht.node x sx hx).leftP (by
          have h4 := (hn.node x sx hx).pi.not_converge
          cases hq : sx.phase <;> simp_all))).elim
    all_goals exact absurd htp (by decide)
  · rfl

end

end F3.Sync
