import F3.Proofs.ParticipantInv
import F3.Proofs.BridgeEx
/-!
# Bridge at the participant API: honest executions given as `POp` sequences

The same statements as `F3.Bridge.rules_of_runs` / `model_agreement` / `model_validity`, but the honest members'
executions are participant-level runs (`pstepWith`: `ReceiveMessage` queues until the first `ReceiveAlarm` begins
the instance and drains the queue through `ReceiveMany` in an arbitrary sender order).
-/
namespace F3.Bridge
open F3 F3.Instance

variable {W : Votes} {t : Table}

/-- validity of a participant API call in the vocabulary of the guards -/
abbrev POpValidG (W : Votes) (t : Table) : POp → Prop := POpP (MsgValid W t)

/-- one honest participant's execution at the participant API: any sequence of `ReceiveMessage` /
`ReceiveAlarm` calls and any drain order -/
structure HonestRunP (W : Votes) (t : Table) (p : Pid) where
  cfg : Cfg
  input : Chain
  /-- the sender order in which the pre-start queue is drained (Go: map iteration order) -/
  order : List Pid
  ops : List POp
  inputNe : input ≠ []
  /-- every delivered message of this instance passed validation (C05); messages of other instances /
  supplemental data are refused at the door or dropped by the drain -/
  valid : ∀ op ∈ ops, pforeign op = true ∨ POpValidG W t op
  /-- no call reported an error other than a refusal at the door -/
  ok : okRunP order (pinit cfg t input) ops = true
  /-- unforgeability: the votes of `p` in existence are exactly those it broadcast -/
  own : ∀ r ph v, W p r ph v ↔ ∃ tk j, Eff.broadcast r ph v tk j ∈ (prun order (pinit cfg t input) ops).2

/-- the final instance state and the effects of an honest participant-level execution -/
abbrev HonestRunP.final {p : Pid} (hr : HonestRunP W t p) : State := (prun hr.order (pinit hr.cfg t hr.input) hr.ops).1.inst
abbrev HonestRunP.effs {p : Pid} (hr : HonestRunP W t p) : List Eff := (prun hr.order (pinit hr.cfg t hr.input) hr.ops).2

theorem HonestRunP.opOk {p : Pid} (hr : HonestRunP W t p) : ∀ op ∈ hr.ops, pforeign op = true ∨ POpOk op := by
  intro op hop
  rcases hr.valid op hop with h | h
  · exact Or.inl h
  · right
    cases op with
    | recv now m => exact MsgValid.msgOk (W := W) h
    | alarm _ => trivial

theorem HonestRunP.one_vote {p : Pid} (hr : HonestRunP W t p) (r : Nat) (ph : Instance.Phase) (x y : Chain)
    (hx : W p r ph x) (hy : W p r ph y) : x = y := by
  obtain ⟨tk1, j1, h1⟩ := (hr.own r ph x).1 hx
  obtain ⟨tk2, j2, h2⟩ := (hr.own r ph y).1 hy
  exact bc_unique
    (prun_wp_ok hr.order (pinit hr.cfg t hr.input) hr.ops (DQ_pinit _ _ _) (by simp [pinit]) hr.opOk hr.ok).1 h1 h2

theorem HonestRunP.guarded {p : Pid} (hr : HonestRunP W t p) (hT : 0 < t.total) :
    Guarded W t p hr.input hr.effs := by
  have hown : OwnIn W p hr.effs := by
    intro r ph v tk j hm
    exact (hr.own r ph v).2 ⟨tk, j, hm⟩
  exact (prun_guarded (W := W) (me := p) hr.order (pinit hr.cfg t hr.input) hr.ops
    (GInv_init W p hr.cfg t hr.input hr.inputNe hT) (DQ_pinit _ _ _) (by simp [pinit]) hr.valid hr.ok hown).1

theorem HonestRunP.decision_Q {p : Pid} (hr : HonestRunP W t p) (F : Finset Pid) (hnd : (ids t).Nodup) (d : Just)
    (hd : hr.final.termination = some d) : (world t F W).Q .decide 0 d.value := by
  obtain ⟨mops, hmok, hnf, hst, _⟩ :=
    prun_micro (MsgValid W t) (fun _ hm => MsgValid.msgOk (W := W) hm) hr.order (pinit hr.cfg t hr.input) hr.ops
      (DQ_pinit _ _ _) (by simp [pinit]) hr.valid hr.ok
  have hmok' : MOK (MsgValidD (fun x c => W x 0 .decide c) (init hr.cfg t hr.input).tbl) (init hr.cfg t hr.input) mops := by
    refine MOK.mono ?_ hmok
    intro m hv
    refine ⟨hv.2.1, fun hph => ?_⟩
    have hw := hv.1
    have hr0 := MsgValid.msgOk (W := W) hv hph
    rw [hph, hr0] at hw; exact hw
  have hdec := mrun_decinv (V := fun x c => W x 0 .decide c) (init hr.cfg t hr.input) mops (DecInv_init _ _ _) hmok'
  have htb := (mrun_tbl_input (init hr.cfg t hr.input) mops).1
  have hst' : (mrun (init hr.cfg t hr.input) mops).1 = hr.final := hst
  rw [hst'] at hdec htb
  have hok := hdec.2 d hd
  rw [htb] at hok
  exact ql_to_Q t F W hnd 0 .decide d.value ⟨d.signers, hok.increasing, hok.members, hok.strong, hok.signed⟩

theorem HonestRunP.guardL {p : Pid} (hr : HonestRunP W t p) (hT : 0 < t.total) (r : Nat) (ph : Instance.Phase)
    (v : Chain) (h : W p r ph v) : GuardL W t p hr.input r ph v := by
  obtain ⟨tk, j, hm⟩ := (hr.own r ph v).1 h
  exact hr.guarded hT r ph v tk j hm

/-- **The honest rules hold of the executable model driven through the participant API.** -/
theorem rules_of_runsP (t : Table) (F : Finset Pid) (W : Votes) (hnd : (ids t).Nodup) (hT : 0 < t.total)
    (hF : 3 * (world t F W).power F < (world t F W).T)
    (hnon : ∀ p, p ∉ (ids t).toFinset → ∀ r ph v, ¬ W p r ph v)
    (runs : ∀ p, p ∈ (ids t).toFinset → p ∉ F → HonestRunP W t p) : (world t F W).Rules :=
  rules_of_guards hnon (fun p hc hp => (runs p hc hp).input) (fun p hc hp => (runs p hc hp).guardL hT) hnd hF
    (fun p hc hp => (runs p hc hp).one_vote)

/-- the standing assumptions about one instance of the network, honest members driven through the participant API -/
structure NetworkP (t : Table) (F : Finset Pid) (W : Votes) where
  idsNodup : (ids t).Nodup
  totalPos : 0 < t.total
  /-- Byzantine members hold less than a third of the scaled power -/
  faultBound : 3 * (world t F W).power F < (world t F W).T
  /-- only committee members' votes count (the validator rejects everybody else: C05) -/
  nonMembers : ∀ p, p ∉ (ids t).toFinset → ∀ r ph v, ¬ W p r ph v
  /-- every honest committee member runs the participant wrapper of the model -/
  runs : ∀ p, p ∈ (ids t).toFinset → p ∉ F → HonestRunP W t p

theorem NetworkP.rules {t : Table} {F : Finset Pid} {W : Votes} (N : NetworkP t F W) : (world t F W).Rules :=
  rules_of_runsP t F W N.idsNodup N.totalPos N.faultBound N.nonMembers N.runs

theorem model_agreementP {t : Table} {F : Finset Pid} {W : Votes} (N : NetworkP t F W)
    (p q : Pid) (hp : p ∈ (ids t).toFinset) (hpF : p ∉ F) (hq : q ∈ (ids t).toFinset) (hqF : q ∉ F) (dp dq : Just)
    (hdp : (N.runs p hp hpF).final.termination = some dp)
    (hdq : (N.runs q hq hqF).final.termination = some dq) :
    dp.value = dq.value :=
  F3.Granite.World.decide_quorums_agree N.rules
    ((N.runs p hp hpF).decision_Q F N.idsNodup dp hdp) ((N.runs q hq hqF).decision_Q F N.idsNodup dq hdq)

theorem model_validityP {t : Table} {F : Finset Pid} {W : Votes} (N : NetworkP t F W)
    (p : Pid) (hp : p ∈ (ids t).toFinset) (hpF : p ∉ F) (d : Just)
    (hd : (N.runs p hp hpF).final.termination = some d) :
    d.value ≠ [] ∧ ∃ h, ∃ hh : h ∈ (ids t).toFinset, ∃ hF : h ∉ F, d.value <+: (N.runs h hh hF).input :=
  let ⟨hne, h, hh, hF, _, hpre⟩ := decided_of_guards N.nonMembers (fun p hc hp => (N.runs p hc hp).input)
    (fun p hc hp => (N.runs p hc hp).guardL N.totalPos) N.idsNodup N.rules
    ((N.runs p hp hpF).decision_Q F N.idsNodup d hd)
  ⟨hne, h, hh, hF, hpre⟩

theorem model_validity_baseP {t : Table} {F : Finset Pid} {W : Votes} (N : NetworkP t F W) (b : Nat)
    (hbase : ∀ h (hh : h ∈ (ids t).toFinset) (hF : h ∉ F), (N.runs h hh hF).input.head? = some b)
    (p : Pid) (hp : p ∈ (ids t).toFinset) (hpF : p ∉ F) (d : Just)
    (hd : (N.runs p hp hpF).final.termination = some d) :
    d.value.head? = some b := by
  obtain ⟨hne, h, hh, hF, hpre⟩ := model_validityP N p hp hpF d hd
  exact head?_of_prefix hne hpre (hbase h hh hF)

/-! ### a concrete network at the participant API

The four-member network of `BridgeEx`: each honest member receives, *before its instance begins*, the Byzantine
member's PREPARE for `[7,9]` (a PREPARE arriving before QUALITY), a message with foreign supplemental data (a
late-binding reject, dropped silently by the drain) and two QUALITY votes; the first alarm begins the instance and
drains the queue (sender order `[2, 4, 1]`), the rest is delivered to the running instance. -/
section Example

def popValidB (votes : List Vote) (t : Table) : POp → Bool
  | .recv _ m => msgValidB votes t m
  | _ => true

theorem popValidB_sound (votes : List Vote) (t : Table) (ops : List POp)
    (h : ops.all (fun op => pforeign op || popValidB votes t op) = true) :
    ∀ op ∈ ops, pforeign op = true ∨ POpValidG (Wof votes) t op := by
  intro op hop
  have := List.all_eq_true.1 h op hop
  simp only [Bool.or_eq_true] at this
  rcases this with hf | hv
  · exact Or.inl hf
  · right
    cases op with
    | recv now m => exact msgValidB_sound votes t m hv
    | alarm _ => trivial

def exOrder : List Pid := [2, 4, 1]

def exPOps : List POp :=
  [.recv 1 { sender := 4, round := 0, phase := .prepare, value := [7,9] },
   .recv 2 { sender := 3, round := 0, phase := .prepare, value := [9,9], suppOk := false },
   .recv 3 { sender := 1, round := 0, phase := .quality, value := [7,8] },
   .recv 4 { sender := 2, round := 0, phase := .quality, value := [7,8] },
   .alarm 5,
   .recv 6 { sender := 3, round := 0, phase := .quality, value := [7,8] },
   .recv 12 { sender := 4, round := 0, phase := .prepare, value := [7,8] },
   .recv 13 { sender := 1, round := 0, phase := .prepare, value := [7,8] },
   .recv 14 { sender := 2, round := 0, phase := .prepare, value := [7,8] },
   .recv 15 { sender := 3, round := 0, phase := .prepare, value := [7,8] },
   .recv 16 { sender := 1, round := 0, phase := .commit, value := [7,8], just := some exJp },
   .recv 17 { sender := 2, round := 0, phase := .commit, value := [7,8], just := some exJp },
   .recv 18 { sender := 3, round := 0, phase := .commit, value := [7,8], just := some exJp },
   .recv 19 { sender := 1, round := 0, phase := .decide, value := [7,8], just := some exJc },
   .recv 20 { sender := 2, round := 0, phase := .decide, value := [7,8], just := some exJc },
   .recv 21 { sender := 3, round := 0, phase := .decide, value := [7,8], just := some exJc },
   .recv 22 { sender := 1, round := 0, phase := .decide, value := [7,8], just := some exJc }]

/-- four messages are queued, three of them are drained into the instance at the first alarm -/
theorem ex_queue_drained :
    (prun exOrder (pinit exCfg exTbl [7, 8]) (exPOps.take 4)).1.queue.length = 4 ∧
    (drainWith exOrder (prun exOrder (pinit exCfg exTbl [7, 8]) (exPOps.take 4)).1.queue).map (·.sender) = [2, 1, 4, 3] ∧
    (prun exOrder (pinit exCfg exTbl [7, 8]) (exPOps.take 5)).1.inst.quality.senders = [2, 1] ∧
    ((prun exOrder (pinit exCfg exTbl [7, 8]) (exPOps.take 5)).1.inst.getRound 0).prepared.senders = [4] := by
  decide +kernel

def exRunP (p : Pid) (hp : p = 1 ∨ p = 2 ∨ p = 3) : HonestRunP exW exTbl p where
  cfg := exCfg
  input := [7, 8]
  order := exOrder
  ops := exPOps
  inputNe := by decide
  valid := popValidB_sound exVotes exTbl exPOps (by decide)
  ok := by decide
  own := by
    intro r ph v
    show Wof exVotes p r ph v ↔ _
    rw [bc_iff_triple, votesOf_iff]
    have : votesOf exVotes p = (prun exOrder (pinit exCfg exTbl [7, 8]) exPOps).2.filterMap bcTriple := by
      rcases hp with rfl | rfl | rfl <;> decide
    rw [this]

def exNetP : NetworkP exTbl exF exW where
  idsNodup := exNet.idsNodup
  totalPos := exNet.totalPos
  faultBound := exNet.faultBound
  nonMembers := exNet.nonMembers
  runs := fun p hp hF => exRunP p (by
    rw [ex_ids] at hp
    simp only [Finset.mem_insert, Finset.mem_singleton, exF] at hp hF
    rcases hp with h | h | h | h
    · exact Or.inl h
    · exact Or.inr (Or.inl h)
    · exact Or.inr (Or.inr h)
    · exact absurd h hF)

/-- In the participant-level example network the Byzantine member has equivocated, honest member 1 reports a
decision, and one of the queued messages was a late-binding reject dropped by the drain. -/
theorem ex_networkP_decides :
    exW 4 0 .prepare [7, 9] ∧ exW 4 0 .prepare [7, 8] ∧
    ∃ d, (exNetP.runs 1 (by decide) (by decide)).final.termination = some d ∧ d.value = [7, 8] :=
  ⟨by show _ ∈ exVotes; decide, by show _ ∈ exVotes; decide,
    { round := 0, phase := .decide, value := [7, 8], signers := [0, 1, 2] }, by decide +kernel, rfl⟩

end Example

end F3.Bridge
