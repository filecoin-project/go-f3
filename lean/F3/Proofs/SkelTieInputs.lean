import F3.Gen.SkelInputs
/-!
Hand-written expectations for the REGENERATED skeletons of `F3.Gen.SkelInputs` (tools/go2lean/skel.go): the pre-order
list of the statements of a Go function as `<depth>:<kind>`. The expression-level tie theorems pin what single
conditions say; these pin that nothing was added around them (an extra early return, a cap, a dropped branch). A
structural change of the function — harmful or not — breaks the `rfl` below and with it the obligation of every
property importing this file; the check then searches for a failing input as for any broken obligation.
-/
namespace F3.SkelTie.SkelInputs
open F3.Gen.SkelInputs

/-- the structure the model of `GetProposal` was written against -/
def skelGetProposalExpected : List String :=
  ["0:defer", "0:decl", "0:if", "1:assign:=", "1:if", "2:return3", "1:assign=", "0:else", "1:assign:=", "1:if",
   "2:return3", "1:assign=", "0:assign:=", "0:if", "1:return3", "0:assign:=", "0:if", "1:return3",
   "0:assign:=", "0:if", "1:return3", "0:if", "1:assign=", "0:if", "1:assign=", "0:assign:=", "0:assign=",
   "0:if", "1:return3", "0:assign:=", "0:assign:=", "0:range", "1:assign=", "1:assign=", "1:if", "2:return3",
   "0:assign:=", "0:if", "1:return3", "0:decl", "0:assign:=", "0:if", "1:return3", "0:assign=", "0:if",
   "1:return3", "0:return3"]

theorem skelGetProposal_expected : skelGetProposal = skelGetProposalExpected := rfl

/-- the structure the model of `PtCidForTipset` was written against -/
def skelPtCidForTipsetExpected : List String :=
  ["0:assign:=", "0:assign:=", "0:if", "1:return2", "0:assign:=", "0:if", "1:return2", "0:assign=", "0:if",
   "1:return2", "0:call:h.ptCache.Add", "0:return2"]

theorem skelPtCidForTipset_expected : skelPtCidForTipset = skelPtCidForTipsetExpected := rfl

end F3.SkelTie.SkelInputs
