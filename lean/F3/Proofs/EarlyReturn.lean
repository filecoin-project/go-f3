/-! A function written as a chain of early returns, `if c₁ then v₁ else if c₂ then v₂ else … else a`, ends in `a`
exactly when every test fails: rewriting with `ite_eq_iff_of_ne` once per test turns `f x = a` into the conjunction. -/
namespace F3.Proofs

theorem ite_eq_iff_of_ne {α : Type} {c : Prop} [Decidable c] {v rest a : α} (hv : v ≠ a) :
    (if c then v else rest) = a ↔ ¬ c ∧ rest = a := by
  by_cases h : c
  · simp [h, hv]
  · simp [h]

end F3.Proofs
