import F3.Proofs.NoFailureBridge
import F3.Proofs.EmittedValidEx
/-!
# `emitted_valid` for `ValidRun` / `NetworkV` (the vocabulary of the end-to-end agreement theorems)

`F3.EmittedValid.emitted_valid_run` restated over `F3.Bridge.ValidRun`: every broadcast of an honest participant with
positive power is a message its peers' validators accept (`MsgValid W t`), hence a delivery of it satisfies the
hypothesis `valid` of every other participant's `ValidRun`. The evidence set is the network's `W` itself.
-/
namespace F3.EmittedValid
open F3 F3.Instance F3.Bridge

/-- **`emitted_valid`.** Every broadcast of a valid run of an honest participant with positive power is accepted by
the validator model, w.r.t. the same set `W` of existing votes. -/
theorem emitted_valid {W : Votes} {t : Table} {p : Pid} (vr : ValidRun W t p) (hT : 0 < t.total) (hpos : 0 < t.power p) :
    ∀ r ph v tk j, Eff.broadcast r ph v tk j ∈ (run (init vr.cfg t vr.input) (.start vr.start :: vr.ops)).2 →
      MsgValid W t (msgOf p r ph v j) :=
  emitted_valid_run vr.cfg t vr.input W p vr.start vr.ops vr.inputNe hT hpos vr.noRestart
    (fun op hop => by rw [← foreign_eq]; exact vr.valid op hop)
    (fun r ph v tk j hm => (vr.own r ph v).2 ⟨tk, j, hm⟩)

/-- In a network of model participants every message an honest member with power emits may be delivered, at any time,
to any participant: the delivery satisfies the validity hypothesis of `ValidRun`. -/
theorem emitted_deliverable {t : Table} {F : Finset Pid} {W : Votes} (N : NetworkV t F W) (p : Pid)
    (hp : p ∈ (ids t).toFinset) (hF : p ∉ F) (hpos : 0 < t.power p) (r : Nat) (ph : Phase) (v : Chain) (tk : Bool)
    (j : Option Just)
    (hm : Eff.broadcast r ph v tk j ∈ (run (init (N.runs p hp hF).cfg t (N.runs p hp hF).input)
      (.start (N.runs p hp hF).start :: (N.runs p hp hF).ops)).2) (now : Int) :
    OpValidG W t (.recv now (msgOf p r ph v j)) :=
  emitted_valid (N.runs p hp hF) N.totalPos hpos r ph v tk j hm

/-- non-vacuity: member 1 of the example network `exNetV` (decides `[7,8]` in round 0) — its four broadcasts, the
COMMIT and the DECIDE with their justifications, are valid w.r.t. `exW` -/
example : MsgValid exW exTbl (msgOf 1 0 .quality [7, 8] none) ∧ MsgValid exW exTbl (msgOf 1 0 .prepare [7, 8] none) ∧
    MsgValid exW exTbl (msgOf 1 0 .commit [7, 8] (some exJp)) ∧ MsgValid exW exTbl (msgOf 1 0 .decide [7, 8] (some exJc)) := by
  have h := emitted_valid (exRunV 1 (Or.inl rfl)) (by decide) (by decide)
  have hb : bcList (run (init (exRunV 1 (Or.inl rfl)).cfg exTbl (exRunV 1 (Or.inl rfl)).input)
      (.start (exRunV 1 (Or.inl rfl)).start :: (exRunV 1 (Or.inl rfl)).ops)).2 =
      [(0, .quality, [7, 8], none), (0, .prepare, [7, 8], none), (0, .commit, [7, 8], some exJp),
       (0, .decide, [7, 8], some exJc)] := by decide +kernel
  have key := forall_bcList (P := fun r ph v j => MsgValid exW exTbl (msgOf 1 r ph v j)) h
  rw [hb] at key
  exact ⟨key (0, .quality, [7, 8], none) (by simp), key (0, .prepare, [7, 8], none) (by simp),
    key (0, .commit, [7, 8], some exJp) (by simp), key (0, .decide, [7, 8], some exJc) (by simp)⟩

end F3.EmittedValid
