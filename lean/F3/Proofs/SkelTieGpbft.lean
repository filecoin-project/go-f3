import F3.Gen.SkelGpbft
/-!
Hand-written expectations for the REGENERATED skeletons of `F3.Gen.SkelGpbft` (tools/go2lean/skel.go): the pre-order
list of the statements of a Go function as `<depth>:<kind>`. The expression-level tie theorems pin what single
conditions say; these pin that nothing was added around them (an extra early return, a cap, a dropped branch). A
structural change of the function — harmful or not — breaks the `rfl` below and with it the obligation of every
property importing this file; the check then searches for a failing input as for any broken obligation.
-/
namespace F3.SkelTie.SkelGpbft
open F3.Gen.SkelGpbft

/-- the structure the model of `QueueAdd` was written against -/
def skelQueueAddExpected : List String :=
  ["0:assign:=", "0:if", "1:assign=", "1:assign=", "0:if", "1:return0", "0:range", "1:if", "2:return0",
   "0:assign="]

theorem skelQueueAdd_expected : skelQueueAdd = skelQueueAddExpected := rfl

/-- the structure the model of `QueueDrain` was written against -/
def skelQueueDrainExpected : List String :=
  ["0:decl", "0:range", "1:assign=", "0:call:sort.SliceStable", "0:call:delete", "0:return1"]

theorem skelQueueDrain_expected : skelQueueDrain = skelQueueDrainExpected := rfl

/-- the structure the model of `ReceiveMessage` was written against -/
def skelReceiveMessageExpected : List String :=
  ["0:if", "1:call:panic", "0:defer", "0:defer", "0:assign:=", "0:assign:=", "0:if", "1:call:p.trace",
   "1:return1", "0:if", "1:if", "2:return1", "1:call:p.handleDecision", "0:else", "1:call:p.mqueue.Add",
   "0:return1"]

theorem skelReceiveMessage_expected : skelReceiveMessage = skelReceiveMessageExpected := rfl

/-- the structure the model of `HandleDecision` was written against -/
def skelHandleDecisionExpected : List String :=
  ["0:if", "1:return0", "0:assign:=", "0:assign:=", "0:if", "1:call:p.trace", "1:call:p.host.SetAlarm",
   "0:else", "1:call:p.beginNextInstance", "1:call:p.host.SetAlarm"]

theorem skelHandleDecision_expected : skelHandleDecision = skelHandleDecisionExpected := rfl

/-- the structure the model of `ReceiveOne` was written against -/
def skelReceiveOneExpected : List String :=
  ["0:if", "1:return2", "0:if", "1:return2", "0:if", "1:return2", "0:if", "1:return2", "0:assign:=", "0:if",
   "1:return2", "0:assign:=", "0:if", "1:return2", "0:assign:=", "0:switch", "1:case1",
   "2:call:i.quality.ReceiveEachPrefix", "2:if", "3:return2", "1:case1", "2:if", "3:return2", "1:case1",
   "2:call:msgRound.prepared.Receive", "2:if", "3:call:msgRound.prepared.ReceiveJustification", "1:case1",
   "2:call:msgRound.committed.Receive", "2:if", "3:call:msgRound.committed.ReceiveJustification", "2:if",
   "3:assign:=", "3:assign:=", "3:if", "4:return2", "1:case1", "2:call:i.decision.Receive", "2:if",
   "3:call:i.skipToDecide", "1:default", "2:return2", "0:return2"]

theorem skelReceiveOne_expected : skelReceiveOne = skelReceiveOneExpected := rfl

/-- the structure the model of `PostReceive` was written against -/
def skelPostReceiveExpected : List String :=
  ["0:call:slices.Reverse", "0:range", "1:if", "2:call:i.skipToRound", "2:return0"]

theorem skelPostReceive_expected : skelPostReceive = skelPostReceiveExpected := rfl

/-- the structure the model of `TryQuality` was written against -/
def skelTryQualityExpected : List String :=
  ["0:if", "1:return1", "0:assign:=", "0:assign:=", "0:if", "1:assign=", "1:call:i.addCandidatePrefixes",
   "1:assign=", "1:call:i.log", "1:call:i.beginPrepare", "0:return1"]

theorem skelTryQuality_expected : skelTryQuality = skelTryQualityExpected := rfl

/-- the structure the model of `TryConverge` was written against -/
def skelTryConvergeExpected : List String :=
  ["0:if", "1:return1", "0:assign:=", "0:if", "1:if", "2:call:i.tryRebroadcast", "1:return1", "0:assign:=",
   "0:assign:=", "0:assign:=", "0:if", "1:return1", "0:if", "1:call:i.log", "1:call:i.addCandidate", "0:else",
   "1:call:i.log", "0:assign=", "0:assign=", "0:call:i.beginPrepare", "0:return1"]

theorem skelTryConverge_expected : skelTryConverge = skelTryConvergeExpected := rfl

/-- the structure the model of `TryPrepare` was written against -/
def skelTryPrepareExpected : List String :=
  ["0:if", "1:return1", "0:assign:=", "0:assign:=", "0:assign:=", "0:assign:=", "0:assign:=", "0:assign:=",
   "0:assign:=", "0:assign:=", "0:if", "1:assign=", "0:elseif", "1:assign=", "0:if", "1:call:i.beginCommit",
   "0:elseif", "1:call:i.tryRebroadcast", "0:return1"]

theorem skelTryPrepare_expected : skelTryPrepare = skelTryPrepareExpected := rfl

/-- the structure the model of `TryCommit` was written against -/
def skelTryCommitExpected : List String :=
  ["0:assign:=", "0:assign:=", "0:assign:=", "0:assign:=", "0:assign:=", "0:assign:=", "0:switch", "1:case1",
   "2:assign=", "2:call:i.beginDecide", "1:case2", "1:case2", "2:call:i.beginNextRound", "1:case1", "2:range",
   "3:if", "4:if", "5:call:i.log", "5:call:i.addCandidate", "4:if", "5:assign=", "5:call:i.log",
   "4:branch:break", "2:call:i.beginNextRound", "1:case1", "2:call:i.tryRebroadcast", "0:return1"]

theorem skelTryCommit_expected : skelTryCommit = skelTryCommitExpected := rfl

/-- the structure the model of `TryDecide` was written against -/
def skelTryDecideExpected : List String :=
  ["0:assign:=", "0:if", "1:if", "2:assign:=", "2:call:i.terminate", "1:else", "2:call:panic", "0:else",
   "1:call:i.tryRebroadcast", "0:return1"]

theorem skelTryDecide_expected : skelTryDecide = skelTryDecideExpected := rfl

/-- the structure the model of `BeginDecide` was written against -/
def skelBeginDecideExpected : List String :=
  ["0:assign=", "0:call:i.participant.progression.NotifyProgress", "0:call:i.resetRebroadcastParams", "0:decl",
   "0:if", "1:assign=", "0:else", "1:call:panic", "0:call:i.broadcast", "0:call:i.reportPhaseMetrics"]

theorem skelBeginDecide_expected : skelBeginDecide = skelBeginDecideExpected := rfl

/-- the structure the model of `SkipToRound` was written against -/
def skelSkipToRoundExpected : List String :=
  ["0:call:i.log", "0:assign=", "0:call:metrics.currentRound.Record", "0:call:metrics.skipCounter.Add", "0:if",
   "1:assign=", "1:call:i.addCandidatePrefixes", "0:if", "1:call:i.log", "1:call:i.addCandidate", "1:assign=",
   "0:call:i.beginConverge"]

theorem skelSkipToRound_expected : skelSkipToRound = skelSkipToRoundExpected := rfl

/-- the structure the model of `TryRebroadcast` was written against -/
def skelTryRebroadcastExpected : List String :=
  ["0:switch", "1:case1", "2:decl", "2:if", "3:assign=", "2:else", "3:assign=", "2:assign=", "2:if",
   "3:call:i.participant.host.SetAlarm", "3:call:i.log", "2:elseif", "3:call:i.participant.host.SetAlarm",
   "3:call:i.log", "2:else", "3:call:i.log", "3:call:i.resetRebroadcastParams", "1:case1",
   "2:call:i.rebroadcast", "2:incdec++", "2:assign=", "2:if", "3:call:i.participant.host.SetAlarm",
   "3:call:i.log", "2:elseif", "3:call:i.participant.host.SetAlarm", "3:call:i.log", "2:else", "3:call:i.log",
   "3:call:i.participant.host.SetAlarm", "1:default"]

theorem skelTryRebroadcast_expected : skelTryRebroadcast = skelTryRebroadcastExpected := rfl

/-- the structure the model of `ReceiveEachPrefix` was written against -/
def skelReceiveEachPrefixExpected : List String :=
  ["0:assign:=", "0:if", "1:return0", "0:range", "1:assign:=", "1:call:q.receiveInner"]

theorem skelReceiveEachPrefix_expected : skelReceiveEachPrefix = skelReceiveEachPrefixExpected := rfl

/-- the structure the model of `FindStrongQuorumFor` was written against -/
def skelFindStrongQuorumForExpected : List String :=
  ["0:assign:=", "0:if", "1:return2", "0:assign:=", "0:range", "1:assign:=", "1:if", "2:call:panic",
   "1:assign=", "0:call:sort.Ints", "0:assign:=", "0:decl", "0:range", "1:if", "2:call:panic", "1:assign:=",
   "1:assign:=", "1:assign+=", "1:assign=", "1:if", "2:return2", "0:call:panic"]

theorem skelFindStrongQuorumFor_expected : skelFindStrongQuorumFor = skelFindStrongQuorumForExpected := rfl

/-- the structure the model of `BeginInstance` was written against -/
def skelBeginInstanceExpected : List String :=
  ["0:assign:=", "0:assign:=", "0:if", "1:return1", "0:if", "1:return1", "0:assign=", "0:if", "1:return1",
   "0:assign:=", "0:if", "1:return1", "0:if", "1:return1", "0:if", "1:return1", "0:assign:=", "0:if",
   "1:range", "2:call:p.trace", "0:if", "1:return1", "0:call:p.handleDecision", "0:return1"]

theorem skelBeginInstance_expected : skelBeginInstance = skelBeginInstanceExpected := rfl

/-- the structure the model of `ReceiveAlarm` was written against -/
def skelReceiveAlarmExpected : List String :=
  ["0:if", "1:call:panic", "0:defer", "0:defer", "0:if", "1:return1", "0:if", "1:return1",
   "0:call:p.handleDecision", "0:return1"]

theorem skelReceiveAlarm_expected : skelReceiveAlarm = skelReceiveAlarmExpected := rfl

/-- the structure the model of `HasBase` was written against -/
def skelHasBaseExpected : List String :=
  ["0:return1"]

theorem skelHasBase_expected : skelHasBase = skelHasBaseExpected := rfl

/-- the structure the model of `TipSetEqual` was written against -/
def skelTipSetEqualExpected : List String :=
  ["0:if", "1:return1", "0:return1"]

theorem skelTipSetEqual_expected : skelTipSetEqual = skelTipSetEqualExpected := rfl

/-- the structure the model of `ChainEq` was written against -/
def skelChainEqExpected : List String :=
  ["0:if", "1:return1", "0:if", "1:return1", "0:range", "1:if", "2:return1", "0:return1"]

theorem skelChainEq_expected : skelChainEq = skelChainEqExpected := rfl

/-- the structure the model of `ReceiveMany` was written against -/
def skelReceiveManyExpected : List String :=
  ["0:if", "1:return1", "0:assign:=", "0:range", "1:assign:=", "1:if", "2:if", "3:call:i.log", "2:else",
   "3:return1", "1:if", "2:assign=", "0:assign:=", "0:range", "1:assign=", "0:call:sort.Slice",
   "0:call:i.postReceive", "0:return1"]

theorem skelReceiveMany_expected : skelReceiveMany = skelReceiveManyExpected := rfl

/-- the structure the model of `ShouldSkipToRound` was written against -/
def skelShouldSkipToRoundExpected : List String :=
  ["0:assign:=", "0:if", "1:return3", "0:if", "1:return3", "0:assign:=", "0:if", "1:return3", "0:return3"]

theorem skelShouldSkipToRound_expected : skelShouldSkipToRound = skelShouldSkipToRoundExpected := rfl

end F3.SkelTie.SkelGpbft
