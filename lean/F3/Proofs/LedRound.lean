import F3.Proofs.InstanceEquations
/-!
# A round led by one value

`Led v r s`: in state `s`, working on round `r`, the COMMIT tally of round `r` and the DECIDE tally can hold a strong
quorum only for `v`, a strong quorum for `v` can be extracted, and nothing of round `r + 1` has arrived. That is all
`tryCommit` and `tryDecide` look at, and under it each has three outcomes (`tryCommit_led`, `tryDecide_led`: case
principles in the manner of `tryCommit_ind`, with the leaves for ⊥, for the next round and for failures discharged).
The synchronous runs (one common input; arbitrary inputs; round `r ≥ 1` after CONVERGE) are led rounds.
-/
namespace F3.Sync
open F3.Instance

/-- a tally in which only `v` can have a strong quorum, extractable under table `t` -/
structure LedTally (t : Table) (v : Chain) (T : Tally) : Prop where
  value : T.findStrongQuorumValue = if T.hasStrongFor v = true then .one v else .none
  quorum : T.hasStrongFor v = true → ∃ sg, T.findStrongQuorumFor t v = .found sg

structure Led (v : Chain) (r : Nat) (s : State) : Prop where
  vne : v ≠ []
  round : s.round = r
  next : s.getRound (r + 1) = {}
  comm : LedTally s.tbl v (s.getRound r).committed
  dec : LedTally s.tbl v s.decision

variable {v : Chain} {r : Nat} {s : State}

/-- `tryCommit` in a led round: DECIDE `v` on a quorum; otherwise nothing, or (in COMMIT) a rebroadcast. `full`: an
expired COMMIT timer with a strong quorum of senders heard means a quorum for `v`. -/
theorem tryCommit_led {P : R → Prop} (L : Led v r s) (now : Int)
    (full : s.phase = .commit → s.phaseTimeoutElapsed now = true → (s.getRound r).committed.fromStrong s.tbl = true →
      (s.getRound r).committed.hasStrongFor v = true)
    (decide : ∀ sg, (s.getRound r).committed.hasStrongFor v = true →
      P ({ s with value := v, phase := .decide, rebAttempts := 0, rebTimeout := none },
         [.progress s.round .decide,
          .broadcast 0 .decide v false (some { round := r, phase := .commit, value := v, signers := sg })]))
    (stay : (s.getRound r).committed.hasStrongFor v = false → P (s, []))
    (reb : (s.getRound r).committed.hasStrongFor v = false → s.phase = .commit → P (s.tryRebroadcast now)) :
    P (s.tryCommit now r) := by
  have hv := L.comm.value
  by_cases hq : (s.getRound r).committed.hasStrongFor v = true
  · rw [if_pos hq] at hv
    obtain ⟨sg, hsg⟩ := L.comm.quorum hq
    rw [tryCommit_one s now r v (isEmpty_false_of_ne L.vne) hv, beginDecide_eq _ r sg hsg]
    exact decide sg hq
  · have hq' : (s.getRound r).committed.hasStrongFor v = false := by simpa using hq
    rw [if_neg hq] at hv
    by_cases hc : s.phase = .commit
    · have hb : s.foundJustBottom r = false := by
        unfold State.foundJustBottom
        rw [L.next, getJustOf_empty, conv_getJustOf_empty]
        rfl
      have hcs : (s.phaseTimeoutElapsed now && (s.getRound r).committed.fromStrong s.tbl) = false := by
        cases hx : s.phaseTimeoutElapsed now
        · rfl
        · cases hy : (s.getRound r).committed.fromStrong s.tbl
          · rfl
          · exact absurd (full hc hx hy) hq
      rw [tryCommit_none_commit s now hc L.round hv hb hcs]
      split
      · exact reb hq' hc
      · exact stay hq'
    · rw [tryCommit_none_other s now r hc hv]
      exact stay hq'

/-- `tryDecide` in a led round: terminate with `v` on a quorum, otherwise a rebroadcast -/
theorem tryDecide_led {P : R → Prop} (L : Led v r s) (now : Int)
    (term : ∀ sg, s.decision.hasStrongFor v = true →
      P (s.terminate { round := 0, phase := .decide, value := v, signers := sg }))
    (reb : s.decision.hasStrongFor v = false → P (s.tryRebroadcast now)) : P (s.tryDecide now) := by
  have hv := L.dec.value
  by_cases hq : s.decision.hasStrongFor v = true
  · rw [if_pos hq] at hv
    obtain ⟨sg, hsg⟩ := L.dec.quorum hq
    rw [tryDecide_one s now v sg hv hsg]
    exact term sg hq
  · rw [if_neg hq] at hv
    rw [tryDecide_none s now hv]
    exact reb (by simpa using hq)

/-- the justification `beginCommit` builds for `v` in round `r`: the PREPARE quorum, or a justification a COMMIT carried -/
theorem commitJust_led (hr : s.round = r) (next : s.getRound (r + 1) = {}) (hprop : s.proposal = v) (hv : s.value = v)
    (quorum : (s.getRound r).prepared.hasStrongFor v = true →
      ∃ sg, (s.getRound r).prepared.findStrongQuorumFor s.tbl v = .found sg)
    (h : (s.prepFoundQuorum || s.prepFoundJust) = true) :
    ∃ j, s.commitJust = .ok j ∧
      ((∃ sg, j = { round := r, phase := .prepare, value := v, signers := sg }) ∨
        (s.getRound r).committed.getJustOf .prepare v = some j) := by
  unfold State.commitJust
  dsimp only
  rw [hr, hv]
  by_cases hq : (s.getRound r).prepared.hasStrongFor v = true
  · obtain ⟨sg, hsg⟩ := quorum hq
    rw [hsg]
    exact ⟨_, rfl, Or.inl ⟨sg, rfl⟩⟩
  · have hq' : (s.getRound r).prepared.hasStrongFor v = false := by simpa using hq
    rw [fsqf_none s.tbl _ v hq']
    dsimp only
    unfold State.prepFoundQuorum State.prepFoundJust at h
    rw [hr, hprop, hq', next, getJustOf_empty, conv_getJustOf_empty] at h
    cases hg : (s.getRound r).committed.getJustOf .prepare v with
    | none => rw [hg] at h; cases h
    | some j => exact ⟨j, rfl, Or.inr rfl⟩

end F3.Sync
