import F3.Proofs.RoundNetNode
import F3.Proofs.SyncNet
/-!
# The network invariant of a round `r ≥ 1` whose best ticket's value is admissible everywhere (`round_r_decides`)

Network level of `F3/Proofs/RoundNetNode.lean`, in the architecture of `F3/Proofs/SyncNet.lean`: `NInvR` is preserved by
every admissible (`opOk`), round-synchronous (`syncOpOkR`) event of `NetRanked.netStepR`; it holds at a `RoundStart`
whose best ticket's value is admissible everywhere (`admAllB`); a complete execution in which nobody is left waiting
for the CONVERGE timer has terminated with `val w` at every member.
-/
namespace F3.Liveness
open F3.Instance F3.Net F3.NetRanked F3.Sync

/-- the pool holds a relevant message of phase `ph` sent by `q` -/
def hasMsgR (r : Nat) (pool : List Msg) (q : Pid) (ph : Phase) : Prop :=
  ∃ m ∈ pool, relevant r m = true ∧ m.sender = q ∧ m.phase = ph

theorem hasMsgR_append (r : Nat) (a b : List Msg) (q : Pid) (ph : Phase) :
    hasMsgR r (a ++ b) q ph ↔ hasMsgR r a q ph ∨ hasMsgR r b q ph := by
  unfold hasMsgR
  constructor
  · rintro ⟨m, hm, h⟩
    rcases List.mem_append.1 hm with hm | hm
    · exact Or.inl ⟨m, hm, h⟩
    · exact Or.inr ⟨m, hm, h⟩
  · rintro (⟨m, hm, h⟩ | ⟨m, hm, h⟩)
    · exact ⟨m, List.mem_append_left _ hm, h⟩
    · exact ⟨m, List.mem_append_right _ hm, h⟩

/-- what a change of phase from `a` to `b` by member `p` that puts `ms` on the wire says about the shape of `ms` and about
which of `p`'s relevant messages exist (the bookkeeping of `NodeOKR`) -/
structure WireR (g : RCtx) (p : Pid) (a b : Phase) (ms : List Msg) : Prop where
  shape : ∀ m ∈ ms, relevant g.r m = true ∧ m.sender = p ∧ ShapeR g m
  sentP : b = .prepare ∨ b = .commit → (a = .prepare ∨ a = .commit) ∨ hasMsgR g.r ms p .prepare
  sentC : b = .commit → a = .commit ∨ hasMsgR g.r ms p .commit
  sentD : b = .decide ∨ b = .terminated → (a = .decide ∨ a = .terminated) ∨ hasMsgR g.r ms p .decide
  prepSelf : hasMsgR g.r ms p .prepare → b ≠ .converge
  pastConverge : a ≠ .converge → b ≠ .converge
  alive : b ≠ .terminated → a ≠ .terminated

theorem hasMsgR_nil (r : Nat) (q : Pid) (ph : Phase) : ¬ hasMsgR r [] q ph := fun ⟨_, h, _⟩ => nomatch h

theorem hasMsgR_single {r : Nat} {m : Msg} {q : Pid} {ph : Phase} :
    hasMsgR r [m] q ph ↔ relevant r m = true ∧ m.sender = q ∧ m.phase = ph := by
  unfold hasMsgR
  constructor
  · rintro ⟨m', hm', h⟩
    rw [List.mem_singleton] at hm'
    exact hm' ▸ h
  · exact fun h => ⟨m, List.mem_singleton.2 rfl, h⟩

theorem WireR.same {g : RCtx} {p : Pid} (a : Phase) : WireR g p a a [] :=
  ⟨(fun _ h => nomatch h), fun h => Or.inl h, fun h => Or.inl h, fun h => Or.inl h, fun h => (hasMsgR_nil _ _ _ h).elim,
   fun h => h, fun h => h⟩

/-- one relevant message of `p`, of phase `ph`, sent on the move from `a` to `b` -/
theorem WireR.one {g : RCtx} {p : Pid} {a b ph : Phase} {m : Msg} (hrel : relevant g.r m = true) (hs : m.sender = p) (hsh : ShapeR g m)
    (hph : m.phase = ph)
    (hP : b = .prepare ∨ b = .commit → (a = .prepare ∨ a = .commit) ∨ ph = .prepare)
    (hC : b = .commit → a = .commit ∨ ph = .commit)
    (hD : b = .decide ∨ b = .terminated → (a = .decide ∨ a = .terminated) ∨ ph = .decide)
    (hself : ph = .prepare → b ≠ .converge) (hpast : a ≠ .converge → b ≠ .converge) (halive : b ≠ .terminated → a ≠ .terminated) :
    WireR g p a b [m] := by
  have one : ∀ ph', ph = ph' → hasMsgR g.r [m] p ph' := fun ph' e => hasMsgR_single.2 ⟨hrel, hs, hph.trans e⟩
  refine ⟨fun m' hm' => ?_, fun h => (hP h).imp id (one _), fun h => (hC h).imp id (one _), fun h => (hD h).imp id (one _),
    fun h => hself (hph.symm.trans (hasMsgR_single.1 h).2.2), hpast, halive⟩
  rw [List.mem_singleton] at hm'
  exact hm' ▸ ⟨hrel, hs, hsh⟩

theorem TransR.facts {g : RCtx} {p : Pid} {a b : Phase} {ms : List Msg} (h : TransR g p a b ms) (hp : p ∈ g.H) :
    WireR g p a b ms := by
  cases h with
  | same a => exact WireR.same a
  | c2p j =>
    exact WireR.one (ph := .prepare) (by simp [relevant, mkR]) rfl ⟨rfl, rfl, hp, rfl, rfl⟩ rfl
      (fun _ => Or.inr rfl) (fun h => nomatch h) (fun h => by rcases h with h | h <;> cases h) (fun _ => nofun) (fun _ => nofun)
      (fun _ => nofun)
  | p2c j =>
    exact WireR.one (ph := .commit) (by simp [relevant, mkR]) rfl ⟨rfl, rfl, hp, rfl, rfl, j, rfl⟩ rfl
      (fun _ => Or.inl (Or.inl rfl)) (fun _ => Or.inr rfl) (fun h => by rcases h with h | h <;> cases h) (fun h => nomatch h)
      (fun _ => nofun) (fun _ => nofun)
  | x2d a b ha hb j =>
    refine WireR.one (ph := .decide) (by simp [relevant, mkR]) rfl ⟨rfl, rfl, hp, rfl, rfl⟩ rfl
      (fun h => ?_) (fun h => ?_) (fun _ => Or.inr rfl) (fun h => nomatch h) (fun _ => ?_) (fun _ => ?_)
    · rcases hb with rfl | rfl <;> rcases h with h | h <;> cases h
    · rcases hb with rfl | rfl <;> cases h
    · rcases hb with rfl | rfl <;> nofun
    · rcases ha with rfl | rfl | rfl <;> nofun
  | d2t => exact ⟨(fun _ h => nomatch h), (fun h => by rcases h with h | h <;> cases h), (fun h => nomatch h),
      fun _ => Or.inl (Or.inl rfl), fun h => (hasMsgR_nil _ _ _ h).elim, fun _ => nofun, fun _ => nofun⟩

structure NodeOKR (g : RCtx) (pool : List Msg) (dl : List (Pid × Msg)) (q : Pid) (x : State) : Prop where
  inv : RInv g x
  pi : PIR g q x x.phase
  deliv : ∀ m, (q, m) ∈ dl → relevant g.r m = true → x.phase ≠ .terminated → m.sender ∈ sendersR g x m.phase
  sentV : hasMsgR g.r pool q .converge
  sentP : x.phase = .prepare ∨ x.phase = .commit → hasMsgR g.r pool q .prepare
  sentC : x.phase = .commit → hasMsgR g.r pool q .commit
  sentD : x.phase = .decide ∨ x.phase = .terminated → hasMsgR g.r pool q .decide
  prepSelf : hasMsgR g.r pool q .prepare → x.phase ≠ .converge

/-- `f0`: the failures recorded before the round (nothing is added) -/
structure NInvR (g : RCtx) (f0 : List (Pid × Eff)) (n : Net) : Prop where
  nodup : (n.nodes.map (·.1)).Nodup
  mem : ∀ q ∈ g.H, q ∈ n.nodes.map (·.1)
  fails : n.fails = f0
  pool : ∀ m ∈ n.pool, relevant g.r m = true → ShapeR g m
  node : ∀ q x, q ∈ g.H → (q, x) ∈ n.nodes → NodeOKR g n.pool n.delivered q x

variable {g : RCtx} {f0 : List (Pid × Eff)}

/-- a node other than the one that moved -/
theorem NodeOKR.other {pool pool' : List Msg} {dl dl' : List (Pid × Msg)} {q : Pid} {x : State}
    (h : NodeOKR g pool dl q x)
    (hpool : ∀ ph, hasMsgR g.r pool' q ph ↔ hasMsgR g.r pool q ph) (hdl : ∀ m, (q, m) ∈ dl' ↔ (q, m) ∈ dl) :
    NodeOKR g pool' dl' q x :=
  ⟨h.inv, h.pi, fun m hm => h.deliv m ((hdl m).1 hm), (hpool _).2 h.sentV,
   fun hx => (hpool _).2 (h.sentP hx), fun hx => (hpool _).2 (h.sentC hx), fun hx => (hpool _).2 (h.sentD hx),
   fun hx => h.prepSelf ((hpool _).1 hx)⟩

/-- the node that moved -/
theorem NodeOKR.step {pool : List Msg} {dl dl' : List (Pid × Msg)} {p : Pid} {s : State}
    (h : NodeOKR g pool dl p s) (hp : p ∈ g.H) (r : R) (gd : GoodR g p s r)
    (hdl : ∀ m, (p, m) ∈ dl' → relevant g.r m = true → r.1.phase ≠ .terminated → m.sender ∈ sendersR g r.1 m.phase) :
    NodeOKR g (pool ++ sentR g.rankOf p r.2) dl' p r.1 := by
  have w := gd.trans.facts hp
  refine ⟨gd.inv, gd.pi, hdl, ?_, ?_, ?_, ?_, ?_⟩
  · exact (hasMsgR_append ..).2 (Or.inl h.sentV)
  · exact fun hx => (hasMsgR_append ..).2 ((w.sentP hx).imp h.sentP id)
  · exact fun hx => (hasMsgR_append ..).2 ((w.sentC hx).imp h.sentC id)
  · exact fun hx => (hasMsgR_append ..).2 ((w.sentD hx).imp h.sentD id)
  · exact fun hx => ((hasMsgR_append ..).1 hx).elim (fun h1 => w.pastConverge (h.prepSelf h1)) w.prepSelf

/-- the common part of every event that runs the model on member `p` -/
theorem NInvR.apply {n : Net} (hn : NInvR g f0 n) {p : Pid} {s : State} (hpH : p ∈ g.H) (hp : (p, s) ∈ n.nodes) (op : Op)
    (gd : GoodR g p s (step s op)) (n' : Net) (hnodes : n'.nodes = n.nodes) (hpool : n'.pool = n.pool)
    (hfails : n'.fails = n.fails)
    (hdlo : ∀ q m, q ≠ p → ((q, m) ∈ n'.delivered ↔ (q, m) ∈ n.delivered))
    (hdl : ∀ m, (p, m) ∈ n'.delivered → relevant g.r m = true → (step s op).1.phase ≠ .terminated →
      m.sender ∈ sendersR g (step s op).1 m.phase) :
    NInvR g f0 (applyR g.rankOf n' p s op) := by
  have hsent := (gd.trans.facts hpH).shape
  refine ⟨?_, ?_, ?_, ?_, ?_⟩
  · show ((setNode n'.nodes p (step s op).1).map (·.1)).Nodup
    rw [setNode_ids, hnodes]; exact hn.nodup
  · intro q hq
    show q ∈ (setNode n'.nodes p (step s op).1).map (·.1)
    rw [setNode_ids, hnodes]; exact hn.mem q hq
  · show n'.fails ++ failuresOf p (step s op).2 = f0
    rw [hfails, hn.fails, failuresOf_nil p _ gd.nofail]; exact List.append_nil _
  · intro m hm hrel
    have hm' : m ∈ n'.pool ++ sentR g.rankOf p (step s op).2 := hm
    rw [hpool] at hm'
    rcases List.mem_append.1 hm' with h | h
    · exact hn.pool m h hrel
    · exact (hsent m h).2.2
  · intro q x hqH hq
    have hq' : (q, x) ∈ setNode n'.nodes p (step s op).1 := hq
    rw [hnodes] at hq'
    show NodeOKR g (n'.pool ++ sentR g.rankOf p (step s op).2) n'.delivered q x
    rw [hpool]
    rcases mem_setNode hq' with ⟨rfl, rfl⟩ | ⟨hne, hmem⟩
    · exact (hn.node q s hqH hp).step hqH _ gd hdl
    · refine (hn.node q x hqH hmem).other ?_ (fun m => hdlo q m hne)
      intro ph
      rw [hasMsgR_append]
      constructor
      · rintro (h | ⟨m, hm, _, h1, _⟩)
        · exact h
        · exact absurd ((hsent m hm).2.1.symm.trans h1).symm hne
      · exact Or.inl

theorem node?_ex {n : Net} (hn : NInvR g f0 n) {p : Pid} (hp : p ∈ g.H) : ∃ s, n.node? p = some s ∧ (p, s) ∈ n.nodes := by
  obtain ⟨e, he, rfl⟩ := List.mem_map.1 (hn.mem p hp)
  exact ⟨e.2, node?_of_mem hn.nodup he, he⟩

/-- what `syncAtR` gives once its guard holds -/
theorem sync_handedR {n : Net} {p : Pid} {s : State} (hnode : n.node? p = some s)
    (dl : List (Pid × Msg)) (now : Int) (hsy : syncAtR g.r g.H n dl p now = true) (hr : s.round = g.r)
    (hph : s.phase = .converge) (hel : s.phaseTimeoutElapsed now = true) :
    ∀ h ∈ g.H, ∃ m, (p, m) ∈ dl ∧ m.sender = h ∧ m.phase = .converge ∧ m.round = g.r := by
  unfold syncAtR at hsy
  rw [hnode] at hsy
  dsimp only at hsy
  rw [if_pos (by simp [hr, hph, hel])] at hsy
  unfold allHandedR at hsy
  rw [List.all_eq_true] at hsy
  intro h hh
  have := hsy h hh
  rw [List.any_eq_true] at this
  obtain ⟨d, hd, hcond⟩ := this
  simp only [Bool.and_eq_true, beq_iff_eq] at hcond
  refine ⟨d.2, ?_, hcond.1.1.2, hcond.1.2, hcond.2⟩
  rw [← hcond.1.1.1]
  exact hd

theorem relevant_converge {r : Nat} {m : Msg} (hp : m.phase = .converge) (hr : m.round = r) : relevant r m = true := by
  simp [relevant, hp, hr]

theorem netStepR_deliver {n : Net} (hn : NInvR g f0 n) (p : Pid) (now : Int) (m : Msg)
    (hok : opOk n (.deliver p now m) = true) (hsy : syncOpOkR g.r g.H n (.deliver p now m) = true) :
    NInvR g f0 (netStepR g.rankOf n (.deliver p now m)) := by
  unfold syncOpOkR at hsy
  simp only [Bool.and_eq_true, List.contains_eq_mem, decide_eq_true_eq] at hsy
  obtain ⟨⟨hpH, hrel⟩, hsy⟩ := hsy
  obtain ⟨s, hnode, hp⟩ := node?_ex hn hpH
  simp only [netStepR, hnode]
  have hno := hn.node p s hpH hp
  rw [opOk_deliver] at hok
  have hm := hn.pool m hok.2 hrel
  by_cases hterm : s.phase = .terminated
  · rw [if_pos (by simp [hterm])]
    refine ⟨hn.nodup, hn.mem, hn.fails, hn.pool, ?_⟩
    intro q x hqH hq
    have hqo := hn.node q x hqH hq
    refine ⟨hqo.inv, hqo.pi, ?_, hqo.sentV, hqo.sentP, hqo.sentC, hqo.sentD, hqo.prepSelf⟩
    intro m' hm' hrel' hnt
    have hm'' : (q, m') ∈ n.delivered ++ [(p, m)] := hm'
    rcases List.mem_append.1 hm'' with h | h
    · exact hqo.deliv m' h hrel' hnt
    · simp only [List.mem_singleton, Prod.mk.injEq] at h
      obtain ⟨rfl, rfl⟩ := h
      have := nodes_unique hn.nodup hq hp
      rw [this] at hnt
      exact absurd hterm hnt
  · rw [if_neg (by simp [hterm])]
    have hself : m.phase = .prepare → m.sender = p → s.phase ≠ .converge := by
      intro h1 h2
      exact hno.prepSelf ⟨m, hok.2, hrel, h2, h1⟩
    have hsm : SyncedMR g s now m := by
      intro hph hel h hh
      obtain ⟨m', hm', h1, h2, h3⟩ := sync_handedR hnode _ now hsy hno.inv.round hph hel h hh
      rcases List.mem_append.1 hm' with hin | hin
      · left
        have := hno.deliv m' hin (relevant_converge h2 h3) hterm
        rw [h2, h1] at this
        exact this
      · right
        simp only [List.mem_singleton, Prod.mk.injEq] at hin
        rw [← hin.2]
        exact ⟨h2, h1⟩
    obtain ⟨gd, hin⟩ := step_recv_goodR now m hno.inv hno.pi hterm hm hself hsm
    refine hn.apply hpH hp (.recv now m) gd { n with delivered := n.delivered ++ [(p, m)] } rfl rfl rfl ?_ ?_
    · intro q m' hq
      show (q, m') ∈ n.delivered ++ [(p, m)] ↔ _
      simp [hq]
    · intro m' hm' hrel' hnt
      have hm'' : (p, m') ∈ n.delivered ++ [(p, m)] := hm'
      rcases List.mem_append.1 hm'' with h | h
      · exact gd.mono _ _ (hno.deliv m' h hrel' ((gd.trans.facts hpH).alive hnt))
      · simp only [List.mem_singleton, Prod.mk.injEq] at h
        rw [h.2]; exact hin

theorem netStepR_alarm {n : Net} (hn : NInvR g f0 n) (p : Pid) (now : Int)
    (hsy : syncOpOkR g.r g.H n (.alarm p now) = true) :
    NInvR g f0 (netStepR g.rankOf n (.alarm p now)) := by
  unfold syncOpOkR at hsy
  simp only [Bool.and_eq_true, List.contains_eq_mem, decide_eq_true_eq] at hsy
  obtain ⟨hpH, hsy⟩ := hsy
  obtain ⟨s, hnode, hp⟩ := node?_ex hn hpH
  simp only [netStepR, hnode]
  have hno := hn.node p s hpH hp
  have hnq : (s.phase == .quality && s.phaseTimeoutElapsed now) = false := by
    have hpi := hno.pi
    cases hph : s.phase <;> rw [hph] at hpi <;> first | exact hpi.elim | rfl
  rw [if_neg (by simp [hnq])]
  have hsd : SyncedR g s now := by
    intro hph hel h hh
    obtain ⟨m', hm', h1, h2, h3⟩ := sync_handedR hnode _ now hsy hno.inv.round hph hel h hh
    have hnt : s.phase ≠ .terminated := by rw [hph]; simp
    have := hno.deliv m' hm' (relevant_converge h2 h3) hnt
    rw [h2, h1] at this
    exact this
  have gd := step_alarm_goodR now hno.inv hno.pi hsd
  exact hn.apply hpH hp (.alarm now) gd n rfl rfl rfl (fun _ _ _ => Iff.rfl)
    (fun m' hm' hrel' hnt => gd.mono _ _ (hno.deliv m' hm' hrel' ((gd.trans.facts hpH).alive hnt)))

theorem netStepR_inv {n : Net} (hn : NInvR g f0 n) (op : NetOp)
    (hok : opOk n op = true) (hsy : syncOpOkR g.r g.H n op = true) : NInvR g f0 (netStepR g.rankOf n op) := by
  cases op with
  | start p now => simp [syncOpOkR] at hsy
  | deliver p now m => exact netStepR_deliver hn p now m hok hsy
  | alarm p now => exact netStepR_alarm hn p now hsy

theorem runNetR_inv (ops : List NetOp) {n : Net} (hn : NInvR g f0 n)
    (hok : execOkR g.rankOf n ops = true) (hsy : syncOkR g.rankOf g.r g.H n ops = true) :
    NInvR g f0 (runNetR g.rankOf n ops) := by
  induction ops generalizing n with
  | nil => exact hn
  | cons op ops ih =>
    unfold execOkR at hok
    unfold syncOkR at hsy
    simp only [Bool.and_eq_true] at hok hsy
    exact ih (netStepR_inv hn op hok.1 hsy.1) hok.2 hsy.2

theorem complete_terminatedR {n : Net} (hn : NInvR g f0 n) (hc : completeR g.r g.H n = true)
    (hnc : noneInConverge g.H n = true) :
    ∀ q x, q ∈ g.H → (q, x) ∈ n.nodes → x.phase = .terminated := by
  unfold completeR at hc
  simp only [List.all_eq_true, Bool.or_eq_true, Bool.not_eq_true', List.contains_eq_mem, decide_eq_true_eq] at hc
  have hdl : ∀ m ∈ n.pool, relevant g.r m = true → ∀ q ∈ g.H, (q, m) ∈ n.delivered := by
    intro m hm hrel q hq
    rcases hc m hm with h | h
    · rw [hrel] at h; cases h
    · exact h q hq
  have hncv : ∀ q x, q ∈ g.H → (q, x) ∈ n.nodes → x.phase ≠ .converge := by
    intro q x hqH hq
    unfold noneInConverge at hnc
    rw [List.all_eq_true] at hnc
    have := hnc q hqH
    rw [node?_of_mem hn.nodup hq] at this
    simpa using this
  intro q x hqH hq
  refine ladder (M := fun q x => q ∈ g.H ∧ (q, x) ∈ n.nodes) (snd := sendersR g) (has := hasMsgR g.r n.pool) (H := g.H)
    ?_ ?_ ?_ (fun q x hq => (hn.node q x hq.1 hq.2).sentP) (fun q x hq => (hn.node q x hq.1 hq.2).sentC)
    (fun q x hq => (hn.node q x hq.1 hq.2).sentD) ?_ ?_ ?_ ?_ q x ⟨hqH, hq⟩
  · intro h hh
    obtain ⟨s, _, hs⟩ := node?_ex hn hh
    exact ⟨s, hh, hs⟩
  · intro q x hq hnt y ph ⟨m, hm, hrel, h1, h2⟩
    have := (hn.node q x hq.1 hq.2).deliv m (hdl m hm hrel q hq.1) hrel hnt
    rw [h1, h2] at this
    exact this
  · intro q x hq
    have hpi := (hn.node q x hq.1 hq.2).pi
    cases hp : x.phase <;> rw [hp] at hpi
    · exact hpi.elim
    · exact hpi.elim
    · exact absurd hp (hncv q x hq.1 hq.2)
    · exact Or.inl rfl
    · exact Or.inr (Or.inl rfl)
    · exact Or.inr (Or.inr (Or.inl rfl))
    · exact Or.inr (Or.inr (Or.inr rfl))
  · intro q x hq hp hall
    have hno := hn.node q x hq.1 hq.2
    have hs := hno.inv.prep.strong_of_all g.ctx g.Hne hall
    have h1 := hno.pi
    rw [hp] at h1
    rw [h1.2.1 (hall q hq.1)] at hs
    cases hs
  · intro q x hq hp hall
    have hno := hn.node q x hq.1 hq.2
    have hs := hno.inv.comm.strong_of_all g.ctx g.Hne hall
    have h1 := hno.pi
    rw [hp] at h1
    rw [h1.1] at hs
    cases hs
  · intro q x hq hp hall
    have hno := hn.node q x hq.1 hq.2
    have hs := hno.inv.dec.strong_of_all g.ctx g.Hne hall
    have h1 := hno.pi
    rw [hp] at h1
    rw [show x.decision.hasStrongFor g.v = false from h1] at hs
    cases hs
  · intro q x hq hp
    have h1 := (hn.node q x hq.1 hq.2).pi
    rcases hp with hp | hp <;> rw [hp] at h1
    · exact h1.2.2.2
    · exact h1.2

theorem terminated_valueR {n : Net} (hn : NInvR g f0 n) {q : Pid} {x : State} (hqH : q ∈ g.H) (hq : (q, x) ∈ n.nodes)
    (hp : x.phase = .terminated) : ∃ d, x.termination = some d ∧ d.value = g.v := by
  have hno := hn.node q x hqH hq
  have h1 := hno.pi
  rw [hp] at h1
  obtain ⟨d, hd⟩ := h1
  exact ⟨d, hd, hno.inv.term d hd⟩

end F3.Liveness
