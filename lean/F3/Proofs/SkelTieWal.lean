import F3.Gen.SkelWal
/-!
Hand-written expectations for the REGENERATED skeletons of `F3.Gen.SkelWal` (tools/go2lean/skel.go): the pre-order
list of the statements of a Go function as `<depth>:<kind>`. The expression-level tie theorems pin what single
conditions say; these pin that nothing was added around them (an extra early return, a cap, a dropped branch). A
structural change of the function — harmful or not — breaks the `rfl` below and with it the obligation of every
property importing this file; the check then searches for a failing input as for any broken obligation.
-/
namespace F3.SkelTie.SkelWal
open F3.Gen.SkelWal

/-- the structure the model of `WalAppend` was written against -/
def skelWalAppendExpected : List String :=
  ["0:call:wal.lk.Lock", "0:defer", "0:if", "1:return1", "0:decl", "0:assign:=", "0:if", "1:return1",
   "0:assign:=", "0:if", "1:if", "2:if", "3:assign=", "1:return1", "0:assign=", "0:if", "1:return1",
   "0:assign=", "0:return1"]

theorem skelWalAppend_expected : skelWalAppend = skelWalAppendExpected := rfl

/-- the structure the model of `WalPurge` was written against -/
def skelWalPurgeExpected : List String :=
  ["0:call:wal.lk.Lock", "0:defer", "0:decl", "0:decl", "0:range", "1:if", "2:assign:=", "2:assign=",
   "2:branch:continue", "1:assign=", "0:assign=", "0:return1"]

theorem skelWalPurge_expected : skelWalPurge = skelWalPurgeExpected := rfl

/-- the structure the model of `WalClose` was written against -/
def skelWalCloseExpected : List String :=
  ["0:call:wal.lk.Lock", "0:defer", "0:return1"]

theorem skelWalClose_expected : skelWalClose = skelWalCloseExpected := rfl

end F3.SkelTie.SkelWal
