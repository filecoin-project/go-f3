import F3.Proofs.WalDir
/-! The invariant `Inv` of the WAL model (C11) — every file holds the encodings of its acknowledged records,
plus at most one cut record if it is not the active file — and its preservation by every operation. Core-only. -/
namespace F3.Wal
variable {α β : Type}

/-- no live memory object has `nm` as its active file -/
def notActive (s : State α β) (nm : Name) : Prop :=
  ∀ m st, s.mem = some m → m.active = some st → st.name ≠ nm

/-- The invariant tying the directory contents to the acknowledged / in-flight appends and to the
in-memory object. -/
structure Inv (cfg : Cfg α β) (s : State α β) : Prop where
  nodup : s.dir.names.Nodup
  content : ∀ nm bs, (nm, bs) ∈ s.dir →
    bs = encAll cfg.codec (ackedOf s nm) ∨
    (notActive s nm ∧ ∃ e k, (nm, e) ∈ s.inflight ∧
       bs = encAll cfg.codec (ackedOf s nm) ++ (cfg.codec.enc e).take k)
  files : ∀ m, s.mem = some m → m.files.Perm s.dir.names
  stats : ∀ m, s.mem = some m → ∀ st, (st ∈ m.logFiles ∨ m.active = some st) →
    st.maxEpoch = maxEpochOf cfg (readFile cfg.codec ((s.dir.get st.name).getD []))
  ackedNames : ∀ p ∈ s.acked, p.1 ∈ s.dir.names
  inflightNames : ∀ p ∈ s.inflight, p.1 ∈ s.dir.names

variable {cfg : Cfg α β} {s : State α β} {m : Mem}

theorem inv_init (cfg : Cfg α β) : Inv cfg (init : State α β) where
  nodup := by simp [init, Dir.names]
  content := by intro nm bs h; simp [init] at h
  files := by intro m h; simp [init] at h
  stats := by intro m h; simp [init] at h
  ackedNames := by intro p h; simp [init] at h
  inflightNames := by intro p h; simp [init] at h

theorem insertFile_perm (f : Name × List β) (d : Dir β) : (insertFile f d).Perm (f :: d) := by
  induction d with
  | nil => exact List.Perm.refl _
  | cons g t ih =>
    simp only [insertFile]
    split
    · exact List.Perm.refl _
    · exact ((List.Perm.cons g ih).trans (List.Perm.swap f g t))

theorem sortByName_perm (d : Dir β) : (sortByName d).Perm d := by
  induction d with
  | nil => exact List.Perm.refl _
  | cons f t ih =>
    simp only [sortByName, List.foldr_cons]
    exact (insertFile_perm f _).trans (List.Perm.cons f ih)

theorem hydrate_files (cfg : Cfg α β) (d : Dir β) : (hydrate cfg d).files.Perm d.names := by
  simp only [hydrate, Mem.files, Option.toList, List.map_nil, List.append_nil, List.map_map, Dir.names]
  exact (sortByName_perm d).map _

/-- `Open`, a crash, `Rotate` and `Close` replace the in-memory object by one without an active file and
leave the directory and the ghost lists alone. -/
theorem Inv.set_mem (h : Inv cfg s) (m' : Option Mem)
    (hact : ∀ m, m' = some m → m.active = none)
    (hfiles : ∀ m, m' = some m → m.files.Perm s.dir.names)
    (hstats : ∀ m, m' = some m → ∀ st, st ∈ m.logFiles →
      st.maxEpoch = maxEpochOf cfg (readFile cfg.codec ((s.dir.get st.name).getD []))) :
    Inv cfg { s with mem := m' } where
  nodup := h.nodup
  content := fun nm bs hm => (h.content nm bs hm).imp_right fun ⟨_, h2⟩ =>
    ⟨fun m st hmem hst => (nomatch (hact m hmem).symm.trans hst), h2⟩
  files := hfiles
  stats := fun m hm st hst => hstats m hm st (hst.resolve_right (by rw [hact m hm]; nofun))
  ackedNames := h.ackedNames
  inflightNames := h.inflightNames

theorem inv_open (h : Inv cfg s) : Inv cfg (step cfg s .open).1 := by
  refine h.set_mem (some (hydrate cfg s.dir)) (fun m hm => ?_) (fun m hm => ?_) (fun m hm st hst => ?_) <;>
    cases hm
  · rfl
  · exact hydrate_files cfg s.dir
  · obtain ⟨f, hf, rfl⟩ := List.mem_map.mp hst
    rw [Dir.get_eq_some_of_mem h.nodup ((sortByName_perm s.dir).mem_iff.mp hf)]
    rfl

theorem inv_crash (h : Inv cfg s) : Inv cfg (step cfg s .crash).1 :=
  h.set_mem none nofun nofun nofun

/-- `Rotate`/`Close`: replacing the memory object by its flushed version. -/
theorem inv_flush (h : Inv cfg s) (hm : s.mem = some m) :
    Inv cfg { s with mem := some (flush m) } := by
  refine h.set_mem (some (flush m)) (fun m' hm' => ?_) (fun m' hm' => ?_) (fun m' hm' st hst => ?_) <;>
    cases hm'
  · exact flush_active m
  · rw [flush_files]; exact h.files m hm
  · exact h.stats m hm st (mem_flush_logFiles.mp hst)

/-- `ackedOf` as a function of the ghost list only. -/
def ackedIn (a : List (Name × α)) (nm : Name) : List α := (a.filter (fun p => p.1 = nm)).map (·.2)

theorem ackedOf_eq (s : State α β) (nm : Name) : ackedOf s nm = ackedIn s.acked nm := rfl

theorem mem_ackedOf {nm : Name} {e : α} : e ∈ ackedOf s nm ↔ (nm, e) ∈ s.acked := by
  simp only [ackedOf, List.mem_map, List.mem_filter, decide_eq_true_eq]
  constructor
  · rintro ⟨p, ⟨hp, rfl⟩, rfl⟩; exact hp
  · intro h; exact ⟨(nm, e), ⟨h, rfl⟩, rfl⟩

theorem ackedIn_snoc_same (a : List (Name × α)) (nm : Name) (e : α) :
    ackedIn (a ++ [(nm, e)]) nm = ackedIn a nm ++ [e] := by
  simp [ackedIn, List.filter_append]

theorem ackedIn_snoc_ne (a : List (Name × α)) {nm n : Name} (e : α) (h : nm ≠ n) :
    ackedIn (a ++ [(nm, e)]) n = ackedIn a n := by
  simp [ackedIn, List.filter_append, h]

theorem ackedIn_nil_of_not_mem {a : List (Name × α)} {nm : Name} (h : ∀ p ∈ a, p.1 ≠ nm) : ackedIn a nm = [] := by
  simp only [ackedIn, List.map_eq_nil_iff, List.filter_eq_nil_iff]
  intro p hp; simpa using h p hp

theorem Inv.file_mem (h : Inv cfg s) (hm : s.mem = some m)
    {nm : Name} : nm ∈ m.files ↔ nm ∈ s.dir.names := (h.files m hm).mem_iff

theorem Inv.files_nodup (h : Inv cfg s) (hm : s.mem = some m) :
    m.files.Nodup := (h.files m hm).nodup_iff.mpr h.nodup

theorem Inv.active_name_mem (h : Inv cfg s) (hm : s.mem = some m)
    {st : Stat} (ha : m.active = some st) : st.name ∈ s.dir.names := by
  apply (h.file_mem hm).mp; simp [Mem.files, ha]

theorem Inv.closed_ne_active (h : Inv cfg s) (hm : s.mem = some m)
    {st st2 : Stat} (ha : m.active = some st) (h2 : st2 ∈ m.logFiles) : st2.name ≠ st.name := by
  have := h.files_nodup hm
  simp only [Mem.files, ha, Option.toList, List.map_cons, List.map_nil] at this
  rw [List.nodup_append] at this
  intro heq
  exact this.2.2 st2.name (List.mem_map.mpr ⟨st2, h2, rfl⟩) st.name (by simp) heq

/-- The active file never ends in a torn record: its content is exactly the acknowledged records. -/
theorem Inv.active_content (h : Inv cfg s) (hm : s.mem = some m)
    {st : Stat} (ha : m.active = some st) :
    s.dir.get st.name = some (encAll cfg.codec (ackedOf s st.name)) := by
  have hn := h.active_name_mem hm ha
  obtain ⟨f, hf, hfn⟩ := List.mem_map.mp hn
  obtain ⟨n, bs⟩ := f
  simp only at hfn; subst hfn
  rcases h.content _ bs hf with h1 | ⟨hna, _⟩
  · rw [Dir.get_eq_some_of_mem h.nodup hf, h1]
  · exact absurd rfl (hna m st hm ha)

theorem Inv.active_mem_content (h : Inv cfg s) (hm : s.mem = some m) {st : Stat} (ha : m.active = some st)
    {b0 : List β} (hb0 : (st.name, b0) ∈ s.dir) : b0 = encAll cfg.codec (ackedOf s st.name) :=
  Option.some.inj ((Dir.get_eq_some_of_mem h.nodup hb0).symm.trans (h.active_content hm ha))

/-- The `content` disjunction of a file whose bytes, acknowledged records and in-flight records are
untouched carries over; `P` is whatever replaces `notActive` in the target state. -/
theorem Inv.content_frame (h : Inv cfg s) {s' : State α β} {P : Prop} {n : Name} {b : List β}
    (hb : (n, b) ∈ s.dir) (hack : ackedOf s' n = ackedOf s n)
    (hinf : ∀ e, (n, e) ∈ s.inflight → (n, e) ∈ s'.inflight) (hna : notActive s n → P) :
    b = encAll cfg.codec (ackedOf s' n) ∨
      (P ∧ ∃ e k, (n, e) ∈ s'.inflight ∧ b = encAll cfg.codec (ackedOf s' n) ++ (cfg.codec.enc e).take k) := by
  rw [hack]
  exact (h.content n b hb).imp_right fun ⟨h1, e, k, hin, h2⟩ => ⟨hna h1, e, k, hinf e hin, h2⟩

theorem notActive_some {m' : Mem} (hm : s.mem = some m') {nm : Name}
    (h : ∀ st, m'.active = some st → st.name ≠ nm) : notActive s nm :=
  fun m st hm' ha => by rw [hm] at hm'; cases hm'; exact h st ha

/-- An acknowledged append to the active file `st` (no rotation). -/
theorem inv_append_same (hc : cfg.codec.Ok) (h : Inv cfg s)
    (hm : s.mem = some m) {st : Stat} (ha : m.active = some st) (e : α) :
    Inv cfg { dir := s.dir.appendTo st.name (cfg.codec.enc e)
              mem := some { m with active := some { st with maxEpoch := max st.maxEpoch (cfg.epoch e) } }
              acked := s.acked ++ [(st.name, e)]
              inflight := s.inflight } where
  nodup := by simpa [Dir.names_appendTo] using h.nodup
  content := by
    intro n b hmem
    obtain ⟨b0, hb0, rfl⟩ := Dir.mem_appendTo.mp hmem
    by_cases hn : n = st.name
    · subst hn
      left
      have := h.active_mem_content hm ha hb0
      simp only [if_true, ackedOf_eq]
      rw [ackedIn_snoc_same, encAll_append, encAll_singleton, this]
      rfl
    · simp only [hn, if_false]
      exact h.content_frame hb0 (ackedIn_snoc_ne _ e (Ne.symm hn)) (fun _ hin => hin)
        fun _ => notActive_some rfl fun st' hact => by cases hact; exact Ne.symm hn
  files := by
    intro m' hm'; cases hm'
    simpa [Mem.files, ha, Dir.names_appendTo] using h.files m hm
  stats := by
    intro m' hm' st2 hst2; cases hm'
    simp only [Option.some.injEq] at hst2
    rcases hst2 with hcl | hact
    · have hne := h.closed_ne_active hm ha hcl
      simp only [Dir.get_appendTo_ne hne]
      exact h.stats m hm st2 (Or.inl hcl)
    · subst hact
      simp only
      have hget := h.active_content hm ha
      rw [Dir.get_appendTo_eq hget]
      simp only [Option.getD_some]
      have hold := h.stats m hm st (Or.inr ha)
      rw [hget] at hold
      simp only [Option.getD_some, readFile_encAll hc] at hold
      have := readFile_encAll hc (ackedOf s st.name ++ [e])
      rw [encAll_append, encAll_singleton] at this
      rw [this, maxEpochOf_append, hold]
  ackedNames := by
    intro p hp
    simp only [Dir.names_appendTo]
    rcases List.mem_append.mp hp with hp | hp
    · exact h.ackedNames p hp
    · simp only [List.mem_singleton] at hp; subst hp; exact h.active_name_mem hm ha
  inflightNames := by
    intro p hp; simp only [Dir.names_appendTo]; exact h.inflightNames p hp

/-- `rotate()` onto a name not yet in the directory: the active file is closed and the empty file `nm` is
created and becomes the active one. An append that rotates first is this followed by a write to the
active file. -/
theorem inv_create (hc : cfg.codec.Ok) (h : Inv cfg s)
    (hm : s.mem = some m) {nm : Name} (hnm : nm ∉ s.dir.names) :
    Inv cfg { s with dir := s.dir ++ [(nm, [])], mem := some { flush m with active := some ⟨nm, 0⟩ } } where
  nodup := Dir.nodup_names_append h.nodup hnm []
  content := by
    intro n b hmem
    rcases Dir.mem_append_new hnm hmem with ⟨hin, hne⟩ | ⟨rfl, rfl⟩
    · exact h.content_frame hin rfl (fun _ hin => hin)
        fun _ => notActive_some rfl fun st' hact => by cases hact; exact fun heq => hne heq.symm
    · left
      show [] = encAll cfg.codec (ackedIn s.acked n)
      rw [ackedIn_nil_of_not_mem (fun p hp heq => hnm (by rw [← heq]; exact h.ackedNames p hp))]
      rfl
  files := by
    intro m' hm'
    cases hm'
    have h1 := h.files m hm
    rw [← flush_files] at h1
    simp only [Mem.files, flush_active, Option.toList, List.map_nil, List.append_nil] at h1
    simp only [Dir.names_append, Mem.files, Option.toList, List.map_cons, List.map_nil]
    exact h1.append_right [nm]
  stats := by
    intro m' hm' st2 hst2
    cases hm'
    rcases hst2 with hcl | hact
    · have hold := mem_flush_logFiles.mp hcl
      have hin : st2.name ∈ s.dir.names := by
        apply (h.file_mem hm).mp
        rcases hold with h1 | h1
        · exact List.mem_append_left _ (List.mem_map.mpr ⟨st2, h1, rfl⟩)
        · simp [Mem.files, h1]
      have hne : st2.name ≠ nm := fun heq => hnm (heq ▸ hin)
      show st2.maxEpoch = maxEpochOf cfg (readFile cfg.codec ((Dir.get (s.dir ++ [(nm, [])]) st2.name).getD []))
      rw [Dir.get_append_new hne]
      exact h.stats m hm st2 hold
    · cases hact
      show 0 = maxEpochOf cfg (readFile cfg.codec ((Dir.get (s.dir ++ [(nm, [])]) nm).getD []))
      rw [Dir.get_append_self hnm [], Option.getD_some, ← encAll_nil cfg.codec, readFile_encAll hc]
      rfl
  ackedNames := fun p hp => by
    rw [Dir.names_append]; exact List.mem_append_left _ (h.ackedNames p hp)
  inflightNames := fun p hp => by
    rw [Dir.names_append]; exact List.mem_append_left _ (h.inflightNames p hp)

theorem notActive_down (h : s.mem = none) (nm : Name) : notActive s nm := by
  intro m st hm; simp [h] at hm

/-- A crash in the middle of an append to the active file `st` (no rotation). -/
theorem inv_crashAppend_same (h : Inv cfg s)
    (hm : s.mem = some m) {st : Stat} (ha : m.active = some st) (e : α) (k : Nat) :
    Inv cfg { dir := s.dir.appendTo st.name ((cfg.codec.enc e).take k)
              mem := none
              acked := s.acked
              inflight := s.inflight ++ [(st.name, e)] } where
  nodup := by simpa [Dir.names_appendTo] using h.nodup
  content := by
    intro n b hmem
    obtain ⟨b0, hb0, rfl⟩ := Dir.mem_appendTo.mp hmem
    by_cases hn : n = st.name
    · subst hn
      right
      refine ⟨notActive_down rfl _, e, k, by simp, ?_⟩
      simp only [if_true, h.active_mem_content hm ha hb0]; rfl
    · simp only [hn, if_false]
      exact h.content_frame hb0 rfl (fun _ hin => List.mem_append_left _ hin) fun _ => notActive_down rfl _
  files := by intro m' hm'; simp at hm'
  stats := by intro m' hm'; simp at hm'
  ackedNames := by
    intro p hp; simp only [Dir.names_appendTo]; exact h.ackedNames p hp
  inflightNames := by
    intro p hp
    simp only [Dir.names_appendTo]
    rcases List.mem_append.mp hp with hp | hp
    · exact h.inflightNames p hp
    · simp only [List.mem_singleton] at hp; subst hp; exact h.active_name_mem hm ha

theorem step_purge_eq (hm : s.mem = some m) (k : Nat) :
    (step cfg s (.purge k)).1 =
      { dir := s.dir.filter (fun f => !((purgeDel m k).contains f.1))
        mem := some { m with logFiles := m.logFiles.filter (fun st => !(decide (st.maxEpoch < k))) }
        acked := s.acked.filter (fun p => !((purgeDel m k).contains p.1))
        inflight := s.inflight.filter (fun p => !((purgeDel m k).contains p.1)) } := by
  simp only [step, hm, purgeDel]

theorem Inv.logFiles_names_nodup (h : Inv cfg s) (hm : s.mem = some m) :
    (m.logFiles.map (·.name)).Nodup := by
  have := h.files_nodup hm
  simp only [Mem.files] at this
  exact (List.nodup_append.mp this).1

theorem Inv.kept_not_del (h : Inv cfg s) (hm : s.mem = some m)
    {k : Nat} {st : Stat} (hst : st ∈ m.logFiles) (hk : ¬ st.maxEpoch < k) : st.name ∉ purgeDel m k := by
  intro hin
  obtain ⟨st2, h2, hlt, hname⟩ := mem_purgeDel.mp hin
  have := nodup_map_inj (h.logFiles_names_nodup hm) h2 hst hname
  subst this; exact hk hlt

theorem Inv.active_not_del (h : Inv cfg s) (hm : s.mem = some m)
    {k : Nat} {st : Stat} (ha : m.active = some st) : st.name ∉ purgeDel m k := by
  intro hin
  obtain ⟨st2, h2, _, hname⟩ := mem_purgeDel.mp hin
  exact h.closed_ne_active hm ha h2 hname

theorem ackedIn_filter (a : List (Name × α)) (q : Name → Bool) {n : Name} (hq : q n = true) :
    ackedIn (a.filter (fun p => q p.1)) n = ackedIn a n := by
  simp only [ackedIn, List.filter_filter]
  congr 1
  apply List.filter_congr
  intro p _
  by_cases hp : p.1 = n
  · simp [hp, hq]
  · simp [hp]

theorem inv_purge (h : Inv cfg s) (hm : s.mem = some m) (k : Nat) :
    Inv cfg (step cfg s (.purge k)).1 := by
  rw [step_purge_eq hm]
  let q : Name → Bool := fun n => !((purgeDel m k).contains n)
  have hq : ∀ n, q n = true ↔ n ∉ purgeDel m k := by intro n; simp [q]
  refine ⟨?_, ?_, ?_, ?_, ?_, ?_⟩
  · show (Dir.names (s.dir.filter (fun f => q f.1))).Nodup
    rw [Dir.names_filter]; exact h.nodup.filter _
  · intro n b hmem
    have hmem' : (n, b) ∈ s.dir.filter (fun f => q f.1) := hmem
    obtain ⟨hin, hqn⟩ := List.mem_filter.mp hmem'
    simp only at hqn
    exact h.content_frame hin (ackedIn_filter _ q hqn) (fun _ hin' => List.mem_filter.mpr ⟨hin', hqn⟩)
      fun hna m' st' hm' hact => by cases hm'; exact hna m st' hm hact
  · intro m' hm'
    cases hm'
    show List.Perm _ (Dir.names (s.dir.filter (fun f => q f.1)))
    rw [Dir.names_filter]
    have hp := (h.files m hm).filter q
    have : m.files.filter q =
        (Mem.files { m with logFiles := m.logFiles.filter (fun st => !(decide (st.maxEpoch < k))) }) := by
      simp only [Mem.files, List.filter_append, List.filter_map]
      congr 1
      · congr 1
        apply List.filter_congr
        intro st hst
        by_cases hk : st.maxEpoch < k
        · have : st.name ∈ purgeDel m k := mem_purgeDel.mpr ⟨st, hst, hk, rfl⟩
          simp [q, hk, this]
        · have := h.kept_not_del hm hst hk
          simp [q, hk, this]
      · cases ha : m.active with
        | none => simp
        | some st =>
          have := h.active_not_del (k := k) hm ha
          simp [q, this]
    rw [← this]; exact hp
  · intro m' hm' st hst
    cases hm'
    simp only at hst
    have hnd : st.name ∉ purgeDel m k := by
      rcases hst with hcl | hact
      · obtain ⟨h1, h2⟩ := List.mem_filter.mp hcl
        exact h.kept_not_del hm h1 (by simpa using h2)
      · exact h.active_not_del hm hact
    have hold : st ∈ m.logFiles ∨ m.active = some st := by
      rcases hst with hcl | hact
      · exact Or.inl (List.mem_filter.mp hcl).1
      · exact Or.inr hact
    show st.maxEpoch = maxEpochOf cfg (readFile cfg.codec ((Dir.get (s.dir.filter (fun f => q f.1)) st.name).getD []))
    rw [Dir.get_filter q ((hq _).mpr hnd)]
    exact h.stats m hm st hold
  · intro p hp
    obtain ⟨hin, hqp⟩ := List.mem_filter.mp hp
    show p.1 ∈ Dir.names (s.dir.filter (fun f => q f.1))
    rw [Dir.names_filter]
    exact List.mem_filter.mpr ⟨h.ackedNames p hin, hqp⟩
  · intro p hp
    obtain ⟨hin, hqp⟩ := List.mem_filter.mp hp
    show p.1 ∈ Dir.names (s.dir.filter (fun f => q f.1))
    rw [Dir.names_filter]
    exact List.mem_filter.mpr ⟨h.inflightNames p hin, hqp⟩

theorem inv_step (hc : cfg.codec.Ok) (h : Inv cfg s) (op : Op α) : Inv cfg (step cfg s op).1 := by
  have hs := step_cases cfg s op
  generalize step cfg s op = r at hs ⊢
  cases hs with
  | down _ _ _ => exact h
  | «open» => exact inv_open h
  | crash => exact inv_crash h
  | rotate m hm => exact inv_flush h hm
  | close m hm => exact inv_flush h hm
  | all m hm => exact h
  | purge k m hm => exact step_purge_eq (cfg := cfg) hm k ▸ inv_purge h hm k
  | appendSame e nm m st hm ha => exact inv_append_same hc h hm ha e
  | appendFresh e nm m hm hn => exact inv_append_same hc (inv_create hc h hm hn) rfl rfl e
  | appendExists e nm m hm _ => exact inv_flush h hm
  | crashSame e nm n m st hm ha => exact inv_crashAppend_same h hm ha e n
  | crashFresh e nm n m hm hn => exact inv_crashAppend_same (inv_create hc h hm hn) rfl rfl e n
  | crashExists e nm n m hm _ => exact inv_crash h

theorem inv_run (hc : cfg.codec.Ok) (h : Inv cfg s) (ops : List (Op α)) :
    Inv cfg (run cfg s ops) := by
  induction ops generalizing s with
  | nil => exact h
  | cons op ops ih => exact ih (inv_step hc h op)

theorem inv_reachable {cfg : Cfg α β} (hc : cfg.codec.Ok) (ops : List (Op α)) : Inv cfg (run cfg init ops) :=
  inv_run hc (inv_init cfg) ops

end F3.Wal
