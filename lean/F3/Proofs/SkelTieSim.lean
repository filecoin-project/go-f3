import F3.Gen.SkelSim
/-!
Hand-written expectations for the REGENERATED skeletons of `F3.Gen.SkelSim` (tools/go2lean/skel.go): the pre-order
list of the statements of a Go function as `<depth>:<kind>`. The expression-level tie theorems pin what single
conditions say; these pin that nothing was added around them (an extra early return, a cap, a dropped branch). A
structural change of the function — harmful or not — breaks the `rfl` below and with it the obligation of every
property importing this file; the check then searches for a failing input as for any broken obligation.
-/
namespace F3.SkelTie.SkelSim
open F3.Gen.SkelSim

/-- the structure the model of `SimValidateDecision` was written against -/
def skelSimValidateDecisionExpected : List String :=
  ["0:switch", "1:case1", "2:return1", "1:case1", "2:return1", "1:case1", "2:return1", "1:case1", "2:return1",
   "1:case1", "2:return1", "0:decl", "0:assign:=", "0:assign:=", "0:if", "1:return1", "0:if", "1:return1",
   "0:assign:=", "0:if", "1:return1", "0:return1"]

theorem skelSimValidateDecision_expected : skelSimValidateDecision = skelSimValidateDecisionExpected := rfl

/-- the structure the model of `SimHasReachedConsensus` was written against -/
def skelSimHasReachedConsensusExpected : List String :=
  ["0:assign:=", "0:range", "1:assign=", "0:decl", "0:range", "1:if", "2:branch:continue", "1:assign:=",
   "1:if", "2:return2", "1:if", "2:assign=", "1:if", "2:return2", "0:return2"]

theorem skelSimHasReachedConsensus_expected : skelSimHasReachedConsensus = skelSimHasReachedConsensusExpected := rfl

/-- the structure the model of `CertchainValidate` was written against -/
def skelCertchainValidateExpected : List String :=
  ["0:range", "1:assign:=", "1:assign:=", "1:assign:=", "1:if", "2:return1", "1:if", "2:return1", "1:assign:=",
   "1:if", "2:return1", "1:assign:=", "1:if", "2:return1", "1:if", "2:return1", "1:assign:=", "1:if",
   "2:return1", "1:assign:=", "1:if", "2:return1", "1:if", "2:return1", "1:assign=", "0:return1"]

theorem skelCertchainValidate_expected : skelCertchainValidate = skelCertchainValidateExpected := rfl

/-- the structure the model of `CertchainGetCommittee` was written against -/
def skelCertchainGetCommitteeExpected : List String :=
  ["0:decl", "0:if", "1:assign=", "0:else", "1:assign:=", "1:if", "2:return2", "1:assign:=", "1:assign=",
   "0:assign:=", "0:if", "1:return2", "0:return1"]

theorem skelCertchainGetCommittee_expected : skelCertchainGetCommittee = skelCertchainGetCommitteeExpected := rfl

end F3.SkelTie.SkelSim
