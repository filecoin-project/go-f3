import F3.Proofs.InstanceGuards3
/-!
# AUDIT2 M1/M2 — the decision is on the participant's own base, and is not bottom under validation

`receiveOne` (gpbft.go:224-228) refuses a vote whose value is neither bottom nor on the instance's base *before*
it touches any tally. Hence — with no hypothesis on what is delivered, by whom, or in which order — every chain the
DECIDE tally has support for is bottom or starts at the instance's own base, and so does a reported decision
(`decision_on_own_base`). If in addition every delivered DECIDE is valid (`MsgValid`: DECIDE for bottom is not), the
decision is not bottom (`decision_not_bottom`), hence starts exactly at the own base.

Both are instances of one invariant, `ChainInv P`: every chain with an entry in `decision.support` and the value of a
stored termination satisfy `P`, provided every DECIDE that passes the door checks (`recvPre = accept`) satisfies `P`.
-/
namespace F3.Audit2
open F3.Instance

def ChainInv (P : Chain → Prop) (s : State) : Prop :=
  (∀ sup ∈ s.decision.support, P sup.chain) ∧ ∀ d, s.termination = some d → P d.value

variable {P : Chain → Prop}

theorem ChainInv_init (cfg : Cfg) (tbl : Table) (input : Chain) : ChainInv P (init cfg tbl input) :=
  ⟨fun sup hs => by simp [init] at hs, fun d hd => by simp [init] at hd⟩

theorem findStrongQuorumValue_one (q : Tally) (c : Chain) (h : q.findStrongQuorumValue = .one c) :
    ∃ sup ∈ q.support, sup.chain = c := by
  unfold Tally.findStrongQuorumValue at h
  split at h
  · cases h
  · rename_i s hs
    cases h
    have : s ∈ q.support.filter (·.strong) := by rw [hs]; exact List.mem_singleton.2 rfl
    exact ⟨s, (List.mem_filter.1 this).1, rfl⟩
  · cases h

theorem ChainInv_stable : DecideStable (ChainInv P) where
  frame := by
    intro s s' h hi
    unfold ChainInv
    rw [h.decision, h.termination]; exact hi
  terminate := by
    intro s v sg hv _ hi
    obtain ⟨sup, hsup, hc⟩ := findStrongQuorumValue_one _ _ hv
    refine ⟨hi.1, fun d hd => ?_⟩
    cases hd
    exact hc ▸ hi.1 sup hsup

def DecideP (P : Chain → Prop) (s : State) : Op → Prop
  | .recv _ m => m.phase = .decide → s.recvPre m = .accept → P m.value
  | _ => True

/-- a DECIDE vote enters the tally under its own value only -/
theorem step_chaininv (s : State) (op : Op) (hi : ChainInv P s) (hop : DecideP P s op) :
    ChainInv P (step s op).1 :=
  step_stable ChainInv_stable s op hi (by
    rintro now m rfl hph hacc q hq
    refine ⟨fun sup hsup => ?_, hi.2⟩
    rcases receive_support s.tbl s.decision q m.sender m.value hq sup hsup with h | h
    · exact hi.1 sup h
    · exact h ▸ hop hph hacc)

theorem runFrom_input (s : State) (ops : List Op) : (runFrom s ops).1.input = s.input := by
  induction ops generalizing s with
  | nil => rfl
  | cons op ops ih => rw [runFrom_cons]; simp only; rw [ih, step_input]

/-- the invariant along a run, the obligation being stated for states with the run's input and table -/
theorem runFrom_chaininv (s : State) (ops : List Op) (hi : ChainInv P s)
    (hops : ∀ op ∈ ops, ∀ s' : State, s'.input = s.input → s'.tbl = s.tbl → DecideP P s' op) :
    ChainInv P (runFrom s ops).1 := by
  induction ops generalizing s with
  | nil => exact hi
  | cons op ops ih =>
    rw [runFrom_cons]
    simp only
    apply ih _ (step_chaininv s op hi (hops op (by simp) s rfl rfl))
    intro o ho s' h1 h2
    exact hops o (by simp [ho]) s' (by rw [h1, step_input]) (by rw [h2, step_tbl])

def OnBase (input : Chain) (c : Chain) : Prop := c = [] ∨ c.head? = input.head?

/-- the door check `receiveOne` applies to the value of every message (gpbft.go:224-228) -/
theorem recvPre_accept_onBase (s : State) (m : Msg) (h : s.recvPre m = .accept) : OnBase s.input m.value := by
  rcases (recvPre_accept h).2.2.1 with hb | hb
  · exact Or.inl hb
  · unfold hasBase at hb
    simp only [Bool.and_eq_true, beq_iff_eq] at hb
    exact Or.inr hb.2

theorem decideP_onBase (input : Chain) (s : State) (hs : s.input = input) (op : Op) : DecideP (OnBase input) s op := by
  cases op with
  | recv now m => intro _ hacc; exact hs ▸ recvPre_accept_onBase s m hacc
  | start _ => trivial
  | alarm _ => trivial

/-- **M1 — the decision is on the participant's own base.** For every configuration, table, input chain and
*every* list of `Start` / `Receive` / `ReceiveAlarm` calls (no hypothesis whatsoever on the delivered messages:
not validated, any sender, any order, repeated `Start`s), a reported decision is bottom or starts at the tipset
the participant's own input chain starts at. -/
theorem decision_on_own_base (cfg : Cfg) (t : Table) (input : Chain) (ops : List Op) (d : Just)
    (hd : (run (init cfg t input) ops).1.termination = some d) :
    d.value = [] ∨ d.value.head? = input.head? := by
  have h := runFrom_chaininv (P := OnBase input) (init cfg t input) ops (ChainInv_init cfg t input)
    (fun op _ s' hs _ => decideP_onBase input s' hs op)
  exact h.2 d hd

/-- the same for the DECIDE tally itself: every chain it ever has an entry for is bottom or on the own base -/
theorem decide_tally_on_own_base (cfg : Cfg) (t : Table) (input : Chain) (ops : List Op) :
    ∀ sup ∈ (run (init cfg t input) ops).1.decision.support, sup.chain = [] ∨ sup.chain.head? = input.head? :=
  (runFrom_chaininv (P := OnBase input) (init cfg t input) ops (ChainInv_init cfg t input)
    (fun op _ s' hs _ => decideP_onBase input s' hs op)).1

/-- deliveries are validated, or are of another instance / carry other supplemental data (and are then refused) -/
def OpValidF (W : Votes) (t : Table) : Op → Prop
  | .recv _ m => (!m.instOk || !m.suppOk) = true ∨ MsgValid W t m
  | _ => True

theorem opValidG_toF {W : Votes} {t : Table} {op : Op} (h : OpValidG W t op) : OpValidF W t op := by
  cases op with
  | recv now m => exact Or.inr h
  | start _ => trivial
  | alarm _ => trivial

theorem recvPre_accept_ok (s : State) (m : Msg) (h : s.recvPre m = .accept) : (!m.instOk || !m.suppOk) = false := by
  rw [(recvPre_accept h).1, (recvPre_accept h).2.1]; rfl

theorem decideP_ne {W : Votes} {t : Table} (s : State) (op : Op) (h : OpValidF W t op) :
    DecideP (fun c => c ≠ []) s op := by
  cases op with
  | recv now m =>
    intro hph hacc
    rcases h with h | h
    · rw [recvPre_accept_ok s m hacc] at h; cases h
    · obtain ⟨_, _, hrest⟩ := h
      rw [hph] at hrest
      exact hrest.2.1
  | start _ => trivial
  | alarm _ => trivial

/-- **M2 — a decision built from validated deliveries is not bottom** (`MsgValid` has no DECIDE for bottom:
validator.go rejects it), whatever else is delivered from other instances. -/
theorem decision_not_bottom (W : Votes) (cfg : Cfg) (t : Table) (input : Chain) (ops : List Op)
    (hv : ∀ op ∈ ops, OpValidF W t op) (d : Just)
    (hd : (run (init cfg t input) ops).1.termination = some d) : d.value ≠ [] := by
  have h := runFrom_chaininv (P := fun c => c ≠ []) (init cfg t input) ops (ChainInv_init cfg t input)
    (fun op hop s' _ _ => decideP_ne s' op (hv op hop))
  exact h.2 d hd

/-- **M1, non-bottom version**: under validation the decision starts exactly at the own base. -/
theorem decision_head_own_base (W : Votes) (cfg : Cfg) (t : Table) (input : Chain) (ops : List Op)
    (hv : ∀ op ∈ ops, OpValidF W t op) (d : Just)
    (hd : (run (init cfg t input) ops).1.termination = some d) :
    d.value ≠ [] ∧ d.value.head? = input.head? := by
  have hne := decision_not_bottom W cfg t input ops hv d hd
  rcases decision_on_own_base cfg t input ops d hd with h | h
  · exact absurd h hne
  · exact ⟨hne, h⟩

/-- `DecInv` along a run over validated or foreign deliveries: a foreign message is not accepted at the door
(`recvPre_accept_ok`), so every DECIDE that is filed is a validated one -/
theorem runFrom_decinv_validated {W : Votes} (s : State) (ops : List Op) (hi : DecInv (fun x c => W x 0 .decide c) s)
    (hv : ∀ op ∈ ops, OpValidF W s.tbl op) : DecInv (fun x c => W x 0 .decide c) (runFrom s ops).1 := by
  induction ops generalizing s with
  | nil => exact hi
  | cons op ops ih =>
    rw [runFrom_cons]
    refine ih _ (step_stable DecInv_stable s op hi ?_) fun o ho => by rw [step_tbl]; exact hv o (List.mem_cons_of_mem _ ho)
    rintro now m rfl hph hacc q hq
    have hvm : MsgValid W s.tbl m := (hv _ List.mem_cons_self).resolve_left (by simp [recvPre_accept_ok s m hacc])
    refine ⟨receive_wf s.tbl s.decision q _ _ hi.1 hvm.2.1 ?_ hq, hi.2⟩
    have hw := hvm.1
    rwa [hph, MsgValid.msgOk (W := W) hvm hph] at hw

/-- **Decision well-formedness from validated deliveries.** `W` = the validly signed votes in existence. If every
delivery is valid w.r.t. `W` (or foreign, hence refused) the reported decision lists a strong quorum of members
whose DECIDE vote for exactly the decided value exists in `W`. -/
theorem decision_ok_validated (W : Votes) (cfg : Cfg) (t : Table) (input : Chain) (ops : List Op)
    (hv : ∀ op ∈ ops, OpValidF W t op) (d : Just)
    (hd : (run (init cfg t input) ops).1.termination = some d) :
    DecisionOK (fun x c => W x 0 .decide c) t d := by
  have := (runFrom_decinv_validated (init cfg t input) ops (DecInv_init cfg t input) hv).2 d hd
  rwa [runFrom_tbl] at this

end F3.Audit2
