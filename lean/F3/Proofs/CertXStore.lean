import F3.Model.CertX
import F3.Proofs.CertsTables
import F3.Proofs.CertsU64
/-! The certificate store as the exchange sees it (`F3.CertX.Store`): what `Latest`, `GetRange`, `GetPowerTable` and
`Put` return, and what appending certificates changes. -/
namespace F3.CertX
open F3.Certs

theorem first_append (s : Store) (l : List Cert) : ({ s with certs := s.certs ++ l } : Store).first = s.first := rfl

theorem nextInst_append (s : Store) (l : List Cert) :
    ({ s with certs := s.certs ++ l } : Store).nextInst = s.nextInst + l.length := by
  unfold Store.nextInst
  rw [List.length_append, Nat.add_assoc]

theorem pending_eq {s : Store} (hs : s.nextInst < 2 ^ 64) :
    s.pending = if s.certs = [] then 0 else s.first + s.certs.length := by
  unfold Store.nextInst at hs
  unfold Store.pending Store.latest?
  cases hc : s.certs with
  | nil => rfl
  | cons c cs =>
    rw [hc] at hs
    simp only [List.isEmpty_cons, Bool.false_eq_true, if_false, List.length_cons, reduceCtorEq] at hs ⊢
    unfold u64
    rw [Nat.mod_eq_of_lt] <;> omega

theorem getRange_eq (s : Store) {start stop : Nat} (h1 : start ≤ stop) (h2 : s.first ≤ start) :
    s.getRange start stop = (s.certs.drop (start - s.first)).take (stop - start + 1) := by
  unfold Store.getRange
  rw [if_neg (by omega), if_neg (by omega)]

theorem getRange_below (s : Store) (start stop : Nat) (h : start < s.first) :
    s.getRange start stop = [] := by
  unfold Store.getRange
  split <;> rfl

theorem getPowerTable_eq {s : Store} {i : Nat} (hlo : s.first ≤ i) (hhi : i ≤ s.nextInst) :
    s.getPowerTable i = if i = s.first then some s.init
      else match applyDiffs s.init (deltasBefore s i) with
        | .ok t => some t
        | .error _ => none := by
  unfold Store.getPowerTable
  rw [if_neg (by omega), if_neg (by omega)]
  rfl

theorem getPowerTable_append (s : Store) (ext : List Cert) (i : Nat) (hi : i ≤ s.nextInst) :
    ({ s with certs := s.certs ++ ext } : Store).getPowerTable i = s.getPowerTable i := by
  unfold Store.getPowerTable Store.nextInst deltasBefore
  unfold Store.nextInst at hi
  simp only [List.length_append]
  have a : ¬ s.first + s.certs.length < i := by omega
  have b : ¬ s.first + (s.certs.length + ext.length) < i := by omega
  simp only [a, b, if_false]
  rw [List.take_append_of_le_length (by omega)]

theorem getPowerTable_succ {s : Store} {i : Nat} {t nt : Table} {stored : Cert} (hlo : s.first ≤ i)
    (hget : s.certs[i - s.first]? = some stored) (ht : s.getPowerTable i = some t)
    (hd : applyDiff t stored.delta = .ok nt) : s.getPowerTable (i + 1) = some nt := by
  have hlen : i - s.first < s.certs.length := (List.getElem?_eq_some_iff.mp hget).1
  have hdb : deltasBefore s (i + 1) = deltasBefore s i ++ [stored.delta] := by
    unfold deltasBefore
    rw [show i + 1 - s.first = (i - s.first) + 1 by omega, List.take_add_one, hget]
    simp
  rw [getPowerTable_eq hlo (by unfold Store.nextInst; omega)] at ht
  rw [getPowerTable_eq (by omega) (by unfold Store.nextInst; omega), if_neg (by omega), hdb]
  by_cases hi : i = s.first
  · rw [if_pos hi] at ht
    cases ht
    have : deltasBefore s i = [] := by unfold deltasBefore; rw [hi, Nat.sub_self]; rfl
    rw [this]
    show (match applyDiff s.init stored.delta with | .ok t => some t | .error _ => none) = some nt
    rw [hd]
  · rw [if_neg hi] at ht
    cases ha : applyDiffs s.init (deltasBefore s i) with
    | error e => rw [ha] at ht; cases ht
    | ok t' =>
      rw [ha] at ht
      cases ht
      rw [applyDiffs_snoc stored.delta ha, hd]

theorem latestTable_eq (s : Store) :
    s.latestTable = if s.certs.length = 0 then some s.init
      else match applyDiffs s.init (s.certs.map (·.delta)) with
        | .ok t => some t
        | .error _ => none := by
  have hdb : deltasBefore s s.nextInst = s.certs.map (·.delta) := by
    unfold deltasBefore Store.nextInst
    rw [Nat.add_sub_cancel_left, List.take_length]
  unfold Store.latestTable
  rw [getPowerTable_eq (i := s.nextInst) (Nat.le_add_right ..) (Nat.le_refl _), hdb]
  unfold Store.nextInst
  by_cases h : s.certs.length = 0
  · rw [if_pos h, if_pos (by omega)]
  · rw [if_neg h, if_neg (by omega)]

theorem latestTable_snoc {s : Store} {lt nt : Table} (c : Cert) (h : s.latestTable = some lt)
    (hd : applyDiff lt c.delta = .ok nt) :
    ({ s with certs := s.certs ++ [c] } : Store).latestTable = some nt := by
  have := getPowerTable_succ (s := { s with certs := s.certs ++ [c] }) (i := s.nextInst) (Nat.le_add_right ..)
    (by show (s.certs ++ [c])[s.first + s.certs.length - s.first]? = some c; simp)
    (by rw [getPowerTable_append _ _ _ (Nat.le_refl _)]; exact h) hd
  unfold Store.latestTable Store.nextInst
  rw [List.length_append]
  exact this

/-- the latest table of a store that holds a certificate came out of `ApplyPowerTableDiffs` -/
theorem latestTable_canon {s : Store} {lt : Table} (hne : s.certs ≠ []) (h : s.latestTable = some lt) :
    applyDiff lt [] = .ok lt := by
  rw [latestTable_eq, if_neg (fun h0 => hne (List.eq_nil_of_length_eq_zero h0))] at h
  cases ha : applyDiffs s.init (s.certs.map (·.delta)) with
  | error e => rw [ha] at h; cases h
  | ok t =>
    rw [ha] at h
    cases h
    exact applyDiffs_fixed ha

theorem certs_ne_nil {s : Store} {i : Nat} (hlo : s.first ≤ i) (hlt : i < s.nextInst) : s.certs ≠ [] := by
  intro he
  unfold Store.nextInst at hlt
  rw [he] at hlt
  exact Nat.lt_irrefl _ (Nat.lt_of_le_of_lt hlo hlt)

theorem latest?_eq (s : Store) :
    s.latest? = if s.certs.length = 0 then none else some (s.nextInst - 1) := by
  unfold Store.latest? Store.nextInst
  cases s.certs with
  | nil => simp
  | cons c cs => simp

/-- the store can name its latest table, and that table is in canonical form -/
def StoreOK (s : Store) : Prop := ∃ lt, s.latestTable = some lt ∧ applyDiff lt [] = .ok lt

/-- `Put` skips the application of an empty delta; on a table in canonical form that changes nothing -/
theorem putDelta_eq {lt : Table} (hcanon : applyDiff lt [] = .ok lt) (d : Diff) :
    (if d.isEmpty then (Except.ok lt : Except DiffErr Table) else applyDiff lt d) = applyDiff lt d := by
  split
  · rename_i hd
    rw [List.isEmpty_iff.mp hd, hcanon]
  · rfl

theorem put_ok {s s' : Store} {c : Cert} (h : s.put c = .ok s') :
    (s' = s ∧ c.inst < s.nextInst) ∨ (s' = { s with certs := s.certs ++ [c] } ∧ c.inst = s.nextInst ∧
      ∃ lt nt, s.latestTable = some lt ∧
        (if c.delta.isEmpty then (Except.ok lt : Except DiffErr Table) else applyDiff lt c.delta) = .ok nt ∧
        c.pt = .table nt) := by
  unfold Store.put at h
  by_cases h1 : c.inst < s.first
  · rw [if_pos h1] at h; cases h
  by_cases h2 : c.chain.isEmpty = true
  · rw [if_neg h1, if_pos h2] at h; cases h
  by_cases h3 : (!chainValid c.chain) = true
  · rw [if_neg h1, if_neg h2, if_pos h3] at h; cases h
  by_cases h4 : s.nextInst < c.inst
  · rw [if_neg h1, if_neg h2, if_neg h3, if_pos h4] at h; cases h
  rw [if_neg h1, if_neg h2, if_neg h3, if_neg h4] at h
  by_cases h5 : c.inst < s.nextInst
  · rw [if_pos h5] at h
    exact Or.inl ⟨(Except.ok.inj h).symm, h5⟩
  rw [if_neg h5] at h
  cases hl : s.latestTable with
  | none => rw [hl] at h; cases h
  | some lt =>
    rw [hl] at h
    simp only at h
    cases hnt : (if c.delta.isEmpty then (Except.ok lt : Except DiffErr Table) else applyDiff lt c.delta) with
    | error e => rw [hnt] at h; cases h
    | ok nt =>
      rw [hnt] at h
      simp only at h
      by_cases hpt : (c.pt != .table nt) = true
      · rw [if_pos hpt] at h; cases h
      rw [if_neg hpt] at h
      split at h
      · cases h
      exact Or.inr ⟨(Except.ok.inj h).symm, by omega, lt, nt, rfl, hnt, by simpa using hpt⟩

theorem put_storeOK {s s' : Store} {c : Cert} (hs : StoreOK s) (h : s.put c = .ok s') : StoreOK s' := by
  rcases put_ok h with ⟨h, _⟩ | ⟨h, _, lt, nt, hlt, hnt, _⟩
  · rw [h]; exact hs
  · obtain ⟨lt', hlt', hc'⟩ := hs
    rw [hlt] at hlt'
    cases hlt'
    rw [putDelta_eq hc'] at hnt
    rw [h]
    exact ⟨nt, latestTable_snoc c hlt hnt, applyDiff_fixed hnt⟩

theorem store_append_nil (s : Store) : ({ s with certs := s.certs ++ [] } : Store) = s := by
  cases s; simp

end F3.CertX
