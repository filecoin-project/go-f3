import F3.Proofs.Bridge
import F3.Spec.GraniteR
import F3.Model.Restart
import Mathlib.Data.Fintype.EquivFin
/-!
# Agreement across crashes and restarts inside an instance (C01 ∘ C12)

An honest participant that crashes and restarts inside an instance is a list of *segments*: each segment is a
fresh run of the instance model from `init` (nothing of the previous incarnation is remembered by the
participant object).  What reaches the wire is what the C12 filter lets through: `PublishedOK`.

The proof reuses Layer B (`runFrom_guarded`) unchanged by a change of identity: a segment of `p` is run under a
*ghost identity* `g` outside the committee, in the world `W ∪ {g's votes = everything the segment requested}`.
In that world the segment is an ordinary `HonestRun` (its own votes are exactly its broadcasts), and because
`g` is not in the power table no quorum evidence ever mentions `g`: every guard obtained there is a guard in
`W`.  Requests that the filter dropped are thereby still *guarded* — which is what rule `commit_bottom` of
`F3.Granite.World.RulesR` needs (the PREPARE of the incarnation that sends COMMIT ⊥ may have been dropped).
-/
namespace F3.Restart
open F3 F3.Instance F3.Granite F3.Bridge

variable {W W' : Votes} {t : Table} in
theorem JL.mono (hW : ∀ x r ph v, W x r ph v → W' x r ph v) {r : Nat} {v : Chain}
    (h : JL W t r v) : JL W' t r v :=
  h.imp (QL.mono hW) (QL.mono hW)


/-- One incarnation of an honest participant inside the instance: a fresh run of the instance model from
`init` over any sequence of `Start`, alarms and deliveries.  The input chain may differ from incarnation to
incarnation (no theorem below needs it to be the same). -/
structure Segment (W : Votes) (t : Table) where
  cfg : Cfg
  input : Chain
  ops : List Op
  inputNe : input ≠ []
  /-- every delivered message of this instance passed validation: the votes it stands for exist in `W`, i.e.
  were *published* by their senders (a request the sender's filter dropped never reaches anybody — not even
  the sender itself) -/
  valid : ∀ op ∈ ops, foreign op = true ∨ OpValidG W t op
  /-- no call reported an error other than a refusal at the door -/
  ok : okRun (init cfg t input) ops = true

variable {W : Votes} {t : Table}

/-- the effects of the incarnation -/
def Segment.effs (s : Segment W t) : List Eff := (run (init s.cfg t s.input) s.ops).2

/-- the state in which the incarnation ends (crashes, or lives on) -/
def Segment.final (s : Segment W t) : State := (run (init s.cfg t s.input) s.ops).1

/-- the incarnation asked the host to broadcast the vote `(r, ph, v)` -/
def Segment.requested (s : Segment W t) (r : Nat) (ph : Instance.Phase) (v : Chain) : Prop :=
  ∃ tk j, Eff.broadcast r ph v tk j ∈ s.effs

theorem requested_iff (s : Segment W t) (r : Nat) (ph : Instance.Phase) (v : Chain) :
    s.requested r ph v ↔ (r, ph, v) ∈ requests s.effs := by
  unfold Segment.requested requests
  rw [List.mem_filterMap]
  constructor
  · rintro ⟨tk, j, h⟩; exact ⟨_, h, rfl⟩
  · rintro ⟨e, he, h⟩
    cases e <;> simp [reqOf] at h
    obtain ⟨rfl, rfl, rfl⟩ := h
    exact ⟨_, _, he⟩

/-- **The interface taken from C12.**  `W p` — the votes of `p` that exist, i.e. that left the node — given the
incarnations of `p`:
* `single` (C12 `wire_no_equivocation`): at most one value per slot is ever published;
* `requested` (unforgeability + C12 `record_before_publish`): every published vote was requested by some
  incarnation.
Nothing says that a request *is* published: the filter may drop it, the process may die first. -/
structure PublishedOK (W : Votes) (t : Table) (p : Pid) (segs : List (Segment W t)) : Prop where
  single : ∀ r ph x y, W p r ph x → W p r ph y → x = y
  requested : ∀ r ph v, W p r ph v → ∃ s ∈ segs, s.requested r ph v

/-- an honest participant that may crash and restart any number of times inside the instance -/
structure RestartingRun (W : Votes) (t : Table) (p : Pid) where
  segs : List (Segment W t)
  pub : PublishedOK W t p segs

/-- the world seen from a segment run under the identity `g`: `g`'s votes are the segment's requests -/
def ghostW (W : Votes) (g : Pid) (req : Nat → Instance.Phase → Chain → Prop) : Votes :=
  fun x r ph v => W x r ph v ∨ (x = g ∧ req r ph v)

theorem ghostW_mono (W : Votes) (g : Pid) (req : Nat → Instance.Phase → Chain → Prop) :
    ∀ x r ph v, W x r ph v → ghostW W g req x r ph v := fun _ _ _ _ h => Or.inl h

/-- a segment is an ordinary honest run under a ghost identity that has no votes in `W` -/
def Segment.ghostRun (s : Segment W t) (g : Pid) (hg : ∀ r ph v, ¬ W g r ph v) :
    HonestRun (ghostW W g s.requested) t g where
  cfg := s.cfg
  input := s.input
  ops := s.ops
  inputNe := s.inputNe
  valid := fun op hop => (s.valid op hop).imp id (OpValidG.mono (ghostW_mono W g s.requested))
  ok := s.ok
  own := by
    intro r ph v
    constructor
    · rintro (h | ⟨_, h⟩)
      · exact absurd h (hg r ph v)
      · exact h
    · intro h; exact Or.inr ⟨rfl, h⟩

/-- quorums never mention somebody outside the committee -/
theorem Q_ghost (F : Finset Pid) (g : Pid) (hg : g ∉ (ids t).toFinset) (req : Nat → Instance.Phase → Chain → Prop)
    {ph : Granite.Phase} {r : Nat} {v : Chain} (h : (world t F (ghostW W g req)).Q ph r v) :
    (world t F W).Q ph r v := by
  obtain ⟨S, ⟨hsub, hpow⟩, hv⟩ := h
  refine ⟨S, ⟨hsub, hpow⟩, fun s hs => ?_⟩
  rcases hv s hs with h | ⟨he, _⟩
  · exact h
  · exact absurd (he ▸ hsub hs) hg

theorem J_ghost (F : Finset Pid) (g : Pid) (hg : g ∉ (ids t).toFinset) (req : Nat → Instance.Phase → Chain → Prop)
    {r : Nat} {v : Chain} (h : (world t F (ghostW W g req)).J r v) : (world t F W).J r v :=
  h.imp (Q_ghost F g hg req) (Q_ghost F g hg req)

theorem exists_ghost (t : Table) : ∃ g : Pid, g ∉ (ids t).toFinset :=
  Infinite.exists_notMem_finset _

/-- the standing assumptions about the committee and the votes in existence -/
structure Base (t : Table) (F : Finset Pid) (W : Votes) : Prop where
  idsNodup : (ids t).Nodup
  totalPos : 0 < t.total
  /-- Byzantine members hold less than a third of the scaled power -/
  faultBound : 3 * (world t F W).power F < (world t F W).T
  /-- only committee members' votes count -/
  nonMembers : ∀ p, p ∉ (ids t).toFinset → ∀ r ph v, ¬ W p r ph v

/-- **Every request of every incarnation is guarded in the real world `W`**, whether or not it was published. -/
structure SegFacts (t : Table) (F : Finset Pid) (W : Votes) (s : Segment W t) : Prop where
  prepare : ∀ r x, s.requested r .prepare x →
    x ≠ [] ∧ (r = 0 ∨ (world t F W).J r x) ∧ (x <+: s.input ∨ ∃ r', r' < r ∧ (world t F W).Q .prepare r' x)
  commit : ∀ r x, s.requested r .commit x → x ≠ [] → (world t F W).Q .prepare r x
  /-- COMMIT ⊥: the incarnation *requested* a PREPARE for `y` in that round and saw a valid PREPARE for `z ≠ y` -/
  commit_bottom : ∀ r, s.requested r .commit [] →
    ∃ y z, z ≠ y ∧ s.requested r .prepare y ∧ (r = 0 ∨ (world t F W).J r z)
  decide : ∀ x, s.requested 0 .decide x → x ≠ [] ∧ ∃ r, (world t F W).Q .commit r x
  /-- a decision reported by the incarnation is backed by a strong DECIDE quorum -/
  decision : ∀ d, s.final.termination = some d → (world t F W).Q .decide 0 d.value

theorem Segment.facts {F : Finset Pid} (B : Base t F W) (s : Segment W t) : SegFacts t F W s := by
  obtain ⟨g, hg⟩ := exists_ghost t
  have hgW := B.nonMembers g hg
  let hr := s.ghostRun g hgW
  have hgd := hr.guarded B.totalPos
  have hQ := fun (ph : Granite.Phase) (r : Nat) (v : Chain) (h : QL (ghostW W g s.requested) t r (gphase ph) v) =>
    Q_ghost F g hg s.requested (ql_to_Q t F _ B.idsNodup r ph v h)
  have hJ := fun (r : Nat) (v : Chain) (h : JL (ghostW W g s.requested) t r v) =>
    J_ghost F g hg s.requested (jl_to_J t F _ B.idsNodup r v h)
  refine ⟨?_, ?_, ?_, ?_, ?_⟩
  · rintro r x ⟨tk, j, hm⟩
    have h := hgd r .prepare x tk j hm
    refine ⟨h.1, h.2.1.imp id (hJ r x), h.2.2.imp id ?_⟩
    rintro ⟨r', hlt, hq⟩
    exact ⟨r', hlt, hQ .prepare r' x hq⟩
  · rintro r x ⟨tk, j, hm⟩ hne
    exact hQ .prepare r x ((hgd r .commit x tk j hm).2 hne)
  · rintro r ⟨tk, j, hm⟩
    obtain ⟨y, hy, s', z, hne, _, hjz⟩ := (hgd r .commit [] tk j hm).1 rfl
    refine ⟨y, z, hne, (hr.own r .prepare y).1 hy, hjz.imp id (hJ r z)⟩
  · rintro x ⟨tk, j, hm⟩
    obtain ⟨hne, r', hq⟩ := hgd 0 .decide x tk j hm rfl
    exact ⟨hne, r', hQ .commit r' x hq⟩
  · intro d hd
    exact Q_ghost F g hg s.requested (hr.decision_Q F B.idsNodup d hd)

/-- **The restart-tolerant honest rules hold of any family of restarting model participants.** -/
theorem rulesR_of_runs {F : Finset Pid} (B : Base t F W)
    (runs : ∀ p, p ∈ (ids t).toFinset → p ∉ F → RestartingRun W t p) : (world t F W).RulesR := by
  -- a vote of an honest `p` in existence was requested by one of its incarnations
  have req : ∀ {p r ph v} (hp : p ∉ F) (hx : W p r ph v),
      ∃ s ∈ (runs p (mem_of_vote B.nonMembers hx) hp).segs, s.requested r ph v :=
    fun hp hx => (runs _ (mem_of_vote B.nonMembers hx) hp).pub.requested _ _ _ hx
  refine ⟨B.faultBound, ?_, ?_, ?_, ?_, ?_⟩
  · intro p hp r ph x y hx hy
    exact (runs p (mem_of_vote B.nonMembers hx) hp).pub.single r (gphase ph) x y hx hy
  · intro p hp r x hx
    obtain ⟨s, _, hreq⟩ := req hp hx
    exact ⟨((s.facts B).prepare r x hreq).1, ((s.facts B).prepare r x hreq).2.1⟩
  · intro p hp r x hx
    obtain ⟨s, _, hreq⟩ := req hp hx
    by_cases hb : x = []
    · exact Or.inl hb
    · exact Or.inr ((s.facts B).commit r x hreq hb)
  · intro p hp r hx
    obtain ⟨s, _, hreq⟩ := req hp hx
    obtain ⟨y, z, hne, hy, hz⟩ := (s.facts B).commit_bottom r hreq
    exact ⟨y, z, hne, ((s.facts B).prepare r y hy).2.1, hz⟩
  · intro p hp x hx
    obtain ⟨s, _, hreq⟩ := req hp hx
    exact (s.facts B).decide x hreq

/-- one instance of a network whose honest members may crash and restart inside the instance -/
structure NetworkR (t : Table) (F : Finset Pid) (W : Votes) where
  base : Base t F W
  /-- every honest committee member runs the model, possibly in several incarnations -/
  runs : ∀ p, p ∈ (ids t).toFinset → p ∉ F → RestartingRun W t p

theorem NetworkR.rulesR {F : Finset Pid} (N : NetworkR t F W) : (world t F W).RulesR :=
  rulesR_of_runs N.base N.runs

end F3.Restart
