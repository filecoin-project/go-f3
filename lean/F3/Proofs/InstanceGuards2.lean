import F3.Proofs.InstanceGuards
/-! Layer B, per-function lemmas: every function of the model keeps `GInv` and emits only guarded broadcasts. -/
namespace F3.Instance

variable {W : Votes} {me : Pid}

theorem GCore.mono_rounds {s s' : State} (h : GCore W s) (ht : s'.tbl = s.tbl) (hi : s'.input = s.input)
    (hr : RoundsOK W s'.tbl s'.rounds) (hd : s'.decision = s.decision) (hle : ptLe s.pt s'.pt)
    (hc : ∀ c ∈ s'.candidates, c ∈ s.candidates ∨ CandOK W s' c) (hp : s'.proposal ≠ []) : GCore W s' := by
  refine ⟨hr, by rw [ht, hd]; exact h.decision, ?_, by rw [hi]; exact h.inputNe, hp, by rw [ht]; exact h.totalPos⟩
  intro c hc'
  rcases hc c hc' with hold | hnew
  · exact (h.cands c hold).mono ht hi hle
  · exact hnew

theorem GCore.mono {s s' : State} (h : GCore W s) (ht : s'.tbl = s.tbl) (hi : s'.input = s.input)
    (hr : s'.rounds = s.rounds) (hd : s'.decision = s.decision) (hle : ptLe s.pt s'.pt)
    (hc : ∀ c ∈ s'.candidates, c ∈ s.candidates ∨ CandOK W s' c) (hp : s'.proposal ≠ []) : GCore W s' :=
  h.mono_rounds ht hi (by rw [ht, hr]; exact h.rounds) hd hle hc hp

theorem ptLe_refl (a : Pt) : ptLe a a := Or.inl rfl

theorem GInv.of_rounds {s s' : State} (h : GInv W me s) (ht : s'.tbl = s.tbl) (hi : s'.input = s.input)
    (hr : RoundsOK W s'.tbl s'.rounds) (hd : s'.decision = s.decision) (hc : s'.candidates = s.candidates)
    (hp : s'.proposal = s.proposal) (hph : s'.phase = s.phase) (hrd : s'.round = s.round) : GInv W me s' := by
  refine ⟨h.core.mono_rounds ht hi hr hd (by simp [State.pt, hph, hrd]; exact ptLe_refl _)
    (fun c hc' => Or.inl (by rw [hc] at hc'; exact hc')) (by rw [hp]; exact h.core.propNe), ?_, ?_⟩
  · intro hpp; rw [hph] at hpp; rw [hrd, hp]; exact h.ownPrep hpp
  · intro he; rw [hph] at he; rw [hrd]; exact h.early he

theorem GInv.of_fields {s s' : State} (h : GInv W me s) (ht : s'.tbl = s.tbl) (hi : s'.input = s.input)
    (hr : s'.rounds = s.rounds) (hd : s'.decision = s.decision) (hc : s'.candidates = s.candidates)
    (hp : s'.proposal = s.proposal) (hph : s'.phase = s.phase) (hrd : s'.round = s.round) : GInv W me s' :=
  h.of_rounds ht hi (by rw [ht, hr]; exact h.core.rounds) hd hc hp hph hrd

theorem ptLe_same_round {s s' : State} (hr : s'.round = s.round) (hp : s.phase.toNat ≤ s'.phase.toNat) :
    ptLe s.pt s'.pt := by
  by_cases heq : s'.phase.toNat = s.phase.toNat
  · left; simp [State.pt, hr, heq]
  · right
    refine ⟨Or.inr ⟨by simp [State.pt, hr], by simp only [State.pt]; omega⟩, fun h => by simp [State.pt, hr]⟩

theorem beginPrepare_bc (s : State) (now : Int) (j : Option Just) (r : Nat) (ph : Phase) (v : Chain) (tk : Bool)
    (j' : Option Just) (h : Eff.broadcast r ph v tk j' ∈ (s.beginPrepare now j).2) :
    r = s.round ∧ ph = .prepare ∧ v = s.value := by
  unfold State.beginPrepare State.alarmAfter State.resetReb at h
  simp at h
  exact ⟨h.1, h.2.1, h.2.2.1⟩

theorem beginCommit_bc (s : State) (now : Int) (r : Nat) (ph : Phase) (v : Chain) (tk : Bool)
    (j' : Option Just) (h : Eff.broadcast r ph v tk j' ∈ (s.beginCommit now).2) :
    r = s.round ∧ ph = .commit ∧ v = s.value ∧
      (v ≠ [] → ∃ j, j' = some j ∧ ({ s with phase := .commit, phaseTimeout := now + s.roundTimeout } : State).resetReb.commitJust = .ok j) := by
  unfold State.beginCommit State.alarmAfter at h
  dsimp only at h
  split at h
  · rename_i he
    simp at h
    refine ⟨h.1, h.2.1, h.2.2.1, fun hne => ?_⟩
    rw [h.2.2.1] at hne
    exact absurd (by simpa [State.resetReb] using he) hne
  · split at h
    · rename_i j hj
      simp at h
      refine ⟨h.1, h.2.1, h.2.2.1, fun _ => ⟨j, h.2.2.2.2, ?_⟩⟩
      simpa [State.roundTimeout] using hj
    · simp at h

theorem beginCommit_res (s : State) (now : Int) :
    (s.beginCommit now).1.phase = .commit ∧ (s.beginCommit now).1.round = s.round := by
  rw [beginCommit_fst]; exact ⟨rfl, rfl⟩

theorem beginDecide_res (s : State) (round : Nat) :
    (s.beginDecide round).1.phase = .decide ∧ (s.beginDecide round).1.round = s.round := by
  rw [beginDecide_fst]; exact ⟨rfl, rfl⟩

theorem beginDecide_bc (s : State) (round : Nat) (r : Nat) (ph : Phase) (v : Chain) (tk : Bool)
    (j' : Option Just) (h : Eff.broadcast r ph v tk j' ∈ (s.beginDecide round).2) :
    r = 0 ∧ ph = .decide ∧ v = s.value ∧
      ∃ sg, (s.getRound round).committed.findStrongQuorumFor s.tbl s.value = .found sg := by
  unfold State.beginDecide State.resetReb at h
  dsimp only at h
  split at h
  · rename_i sg hsg
    simp at h
    exact ⟨h.1, h.2.1, h.2.2.1, sg, by simpa [State.getRound] using hsg⟩
  · simp at h
  · simp at h

theorem beginConverge_bc (s : State) (now : Int) (j : Just) (r : Nat) (ph : Phase) (v : Chain) (tk : Bool)
    (j' : Option Just) (h : Eff.broadcast r ph v tk j' ∈ (s.beginConverge now j).2) : ph = .converge := by
  unfold State.beginConverge State.alarmAfter State.resetReb State.setRound at h
  dsimp only at h
  split at h
  · simp at h
  · simp at h; exact h.2.1

theorem tryRebroadcast_ginv {s : State} (now : Int) (h : GInv W me s) : GInv W me (s.tryRebroadcast now).1 :=
  h.of_fields (by simp) (by simp) (by simp) (by simp) (by simp) (by simp) (tryRebroadcast_phase s now)
    (tryRebroadcast_round s now)

theorem tryRebroadcast_gok {s : State} (now : Int) (h : GInv W me s) : GOK W me s (s.tryRebroadcast now) :=
  Or.inr fun _ => ⟨tryRebroadcast_ginv now h, Guarded_of_evs_nil (tryRebroadcast_evs s now)⟩

/-- `hph`: `s0` is before PREPARE (`Phase.prepare.toNat = 3`) -/
theorem beginPrepare_gok {s0 s : State} (now : Int) (j : Option Just) (h0 : GInv W me s0)
    (ht : s.tbl = s0.tbl) (hi : s.input = s0.input) (hr : s.rounds = s0.rounds) (hd : s.decision = s0.decision)
    (hrd : s.round = s0.round) (hph : s0.phase.toNat < 3)
    (hc : ∀ c ∈ s.candidates, c ∈ s0.candidates ∨
      (c ≠ [] ∧ (c <+: s0.input ∨ ∃ r', QL W s0.tbl r' .prepare c ∧ r' < s0.round)))
    (hv : s.value = s.proposal) (hg : GuardL W s0.tbl me s0.input s0.round .prepare s.proposal) :
    GOK W me s0 (s.beginPrepare now j) := by
  refine Or.inr fun hown => ?_
  have hres_round : (s.beginPrepare now j).1.round = s0.round := hrd
  have hres_phase : (s.beginPrepare now j).1.phase = .prepare := rfl
  have hbc : Eff.broadcast s.round .prepare s.value false j ∈ (s.beginPrepare now j).2 := by
    unfold State.beginPrepare State.alarmAfter State.resetReb; simp
  have hW := hown _ _ _ _ _ hbc
  rw [hv, hrd] at hW
  have hle : ptLe s0.pt (s.beginPrepare now j).1.pt :=
    ptLe_same_round hres_round (by rw [hres_phase]; exact Nat.le_of_lt hph)
  refine ⟨⟨h0.core.mono (by simp [ht]) (by simp [hi]) (by simp [hr]) (by simp [hd]) hle ?_ (by simpa using hg.1),
    fun _ => ?_, fun he => ?_⟩, ?_⟩
  · intro c hc'
    rcases hc c (by simpa using hc') with hold | ⟨hne, hev⟩
    · exact Or.inl hold
    · refine Or.inr ⟨hne, ?_⟩
      rw [beginPrepare_tbl, beginPrepare_input, ht, hi]
      exact hev.imp id fun ⟨r', hql, hlt⟩ => ⟨r', hql, Or.inl (by simp only [State.pt]; rw [hres_round]; exact hlt)⟩
  · rw [hres_round, beginPrepare_proposal]; exact hW
  · rw [hres_phase] at he; simp [Phase.toNat] at he
  · intro r ph v tk j' hm
    obtain ⟨rfl, rfl, rfl⟩ := beginPrepare_bc _ _ _ _ _ _ _ _ hm
    rw [hv, hrd]
    exact hg

theorem tryQuality_gok {s : State} (now : Int) (h : GInv W me s) : GOK W me s (s.tryQuality now) := by
  refine tryQuality_ind s now (fun _ => GOK.fail (by simp)) (fun _ _ => GOK.nil h) fun hq _ cs hcs => ?_
  obtain ⟨hpre, hpne⟩ := longest_prefix_facts s.quality s.input h.core.inputNe
  refine beginPrepare_gok now none h rfl rfl rfl rfl rfl (by simp [hq, Phase.toNat]) ?_ rfl
    ⟨hpne, Or.inl (h.early (by simp [hq, Phase.toNat])), Or.inl hpre⟩
  intro c hc
  exact (quality_cands_mem { s with proposal := s.quality.longestPrefixWithQuorum s.input } s.quality s.input
    h.core.inputNe c (by rw [hcs]; exact hc)).imp id
    fun ⟨hne, hp⟩ => ⟨hne, Or.inl hp⟩

theorem tryConverge_gok {s : State} (now : Int) (h : GInv W me s) : GOK W me s (s.tryConverge now) := by
  refine tryConverge_ind s now (fun _ => GOK.fail (by simp)) (fun _ _ _ => tryRebroadcast_gok now h)
    (fun _ _ _ => GOK.nil h) (fun _ _ _ => GOK.fail (by simp)) fun hq _ w hw _ cs hcs => ?_
  obtain ⟨hmem, hvalid⟩ := findBest_mem _ _ _ hw
  obtain ⟨hwne, hcj⟩ := (getRound_ok h.core.rounds s.round).conv w hmem
  -- evidence for the adopted value: a candidate, or justified by a PREPARE quorum of the round before
  have hback : w.chain <+: s.input ∨ ∃ r', QL W s.tbl r' .prepare w.chain ∧ r' < s.round := by
    simp only [Bool.or_eq_true, Bool.and_eq_true, beq_iff_eq] at hvalid
    rcases hvalid with hcand | ⟨hjp, _⟩
    · obtain ⟨_, hev⟩ := h.core.cands _ (by simpa [State.isCandidate] using hcand)
      refine hev.imp id fun ⟨r', hql, hb⟩ => ⟨r', hql, ?_⟩
      rcases hb with hb | ⟨_, hb⟩
      · exact hb
      · simp [State.pt, hq, Phase.toNat] at hb
    · exact Or.inr ⟨w.just.round, hcj.prepare_ql hjp, by have := hcj.2.1; omega⟩
  refine beginPrepare_gok now (some w.just) h rfl rfl rfl rfl rfl (by simp [hq, Phase.toNat]) ?_ rfl
    ⟨hwne, Or.inr hcj.jl, hback.imp id fun ⟨r', hql, hlt⟩ => ⟨r', hlt, hql⟩⟩
  intro c hc
  rcases addCandidate_mem s w.chain c (by rw [hcs]; exact hc) with hold | rfl
  · exact Or.inl hold
  · exact Or.inr ⟨hwne, hback⟩

/-- The dissent behind a COMMIT for bottom (rule H4): if the tally holds no strong quorum for `c`, and either a strong
quorum of senders has been heard or `c` can no longer reach one, then some sender voted for a different value. -/
theorem dissent {V : Pid → Chain → Prop} {t : Table} {q : Tally} (hwf : TallyWF V t q) (hT : 0 < t.total) (c : Chain)
    (hno : q.hasStrongFor c = false)
    (hcase : q.couldReach t c false = false ∨ q.fromStrong t = true) :
    ∃ x z, z ≠ c ∧ V x z := by
  by_cases hex : ∃ x ∈ q.senders, ∃ sup ∈ q.support, x ∈ sup.signers ∧ sup.chain ≠ c
  · obtain ⟨x, _, sup, hsup, hxs, hne⟩ := hex
    exact ⟨x, sup.chain, hne, hwf.voted sup hsup x hxs⟩
  · exfalso
    -- otherwise every sender is filed under `c`
    have hall : ∀ x ∈ q.senders, ∀ sup ∈ q.support, x ∈ sup.signers → sup.chain = c := by
      intro x hx sup hsup hxs
      by_cases hch : sup.chain = c
      · exact hch
      · exact absurd ⟨x, hx, sup, hsup, hxs, hch⟩ hex
    -- so the power heard is at most the support `pw` of `c`, which is not strong: neither alternative can hold
    have fin : ∀ pw : Nat, q.sendersPower ≤ pw → strongQ t pw = false →
        (Spec.Quorum.couldReach false t.total q.sendersPower pw = false ∨ q.fromStrong t = true) → False := by
      intro pw hdom hstr hc
      rcases hc with hcr | hfs
      · unfold Spec.Quorum.couldReach at hcr
        unfold strongQ at hstr
        unfold Spec.Quorum.strong at hcr hstr
        simp only [decide_eq_false_iff_not, Bool.false_eq_true, if_false] at hcr hstr
        apply hcr
        have hsp : (q.sendersPower : Int) ≤ (pw : Int) := by exact_mod_cast hdom
        have hT' : (0 : Int) < (t.total : Int) := by exact_mod_cast hT
        rw [Int.min_eq_right (by omega)]; omega
      · rw [strongQ_of_le t hdom hfs] at hstr; cases hstr
    cases hf : q.findSupport c with
    | none =>
      -- no entry: there cannot be any sender
      have hnos : q.senders = [] := by
        cases hs : q.senders with
        | nil => rfl
        | cons x xs =>
          exfalso
          obtain ⟨sup, hsup, hx⟩ := hwf.covered x (by rw [hs]; exact List.mem_cons_self)
          have hch := hall x (by rw [hs]; exact List.mem_cons_self) sup hsup hx
          have := find_of_mem_nodup q.support hwf.chains sup hsup
          rw [hch] at this
          unfold Tally.findSupport at hf
          rw [hf] at this; cases this
      refine fin 0 (by rw [hwf.sendersPow, hnos]; simp [sumP]) ?_
        (hcase.imp (fun h => by simpa [Tally.couldReach, hf] using h) id)
      have hT' : (0 : Int) < (t.total : Int) := by exact_mod_cast hT
      unfold strongQ Spec.Quorum.strong
      simp only [decide_eq_false_iff_not]
      omega
    | some ent =>
      have hent := findSupport_mem q c ent hf
      refine fin ent.power ?_ ?_ (hcase.imp (fun h => by simpa [Tally.couldReach, hf] using h) id)
      · rw [hwf.sendersPow, hwf.supPow ent hent]
        apply sumP_le_of_subset t _ _ hwf.sendersNodup
        intro x hx
        obtain ⟨sup, hsup, hxs⟩ := hwf.covered x hx
        have h1 := find_of_mem_nodup q.support hwf.chains sup hsup
        rw [hall x hx sup hsup hxs] at h1
        unfold Tally.findSupport at hf
        rw [hf] at h1
        cases h1; exact hxs
      · unfold Tally.hasStrongFor at hno
        rw [hf] at hno
        rw [← hwf.strongOk ent hent]; exact hno

theorem commitJust_ql {s : State} (hr : RoundsOK W s.tbl s.rounds) (hv : s.value ≠ []) (j : Just)
    (h : s.commitJust = .ok j) : QL W s.tbl s.round .prepare s.value := by
  unfold State.commitJust at h
  dsimp only at h
  have hcur := getRound_ok hr s.round
  have hnxt := getRound_ok hr (s.round + 1)
  split at h
  · rename_i sg hsg
    exact hcur.prep.found_ql _ _ hsg
  · cases h
  · split at h
    · rename_i j1 hj1
      obtain ⟨e, he, hej, hph, _, hkey⟩ := TallyOK.getJustOf_mem hj1
      obtain ⟨_, hcj⟩ := (hcur.comm.justs e he).2 rfl
      have hq := hcj.1.ql
      rw [hcj.2.1, hcj.2.2.1, hcj.2.2.2, hkey hv] at hq
      exact hq
    · split at h
      · rename_i j2 hj2
        obtain ⟨e, he, hej, hph, _, hkey⟩ := TallyOK.getJustOf_mem hj2
        have hcj := (hnxt.prep.justs e he).1 rfl
        have hq := hcj.prepare_ql (hej ▸ hph)
        rwa [hkey hv, show e.2.round = s.round from Nat.succ.inj hcj.2.1] at hq
      · split at h
        · rename_i j3 hj3
          obtain ⟨v, hvm, hvj, hph, _, hkey⟩ := Conv.getJustOf_mem hj3
          have hcj := (hnxt.conv v hvm).2
          have hq := hcj.prepare_ql (hvj ▸ hph)
          rwa [hkey hv, show v.just.round = s.round from Nat.succ.inj hcj.2.1] at hq
        · cases h

theorem tryPrepare_gok {s : State} (now : Int) (h : GInv W me s) : GOK W me s (s.tryPrepare now) := by
  have hpv_round : (s.prepareValue now).round = s.round := by simp
  have hpv_inv : GInv W me (s.prepareValue now) :=
    h.of_fields (by simp) (by simp) (by simp) (by simp) (by simp) (by simp) (by simp) (by simp)
  -- the leaves are stated for `{ s with value := v }`; it is `s.prepareValue now`
  refine tryPrepare_ind s now (fun _ => GOK.fail (by simp)) (fun hq hdone v hv => ?_)
    (fun _ _ v hv _ => hv ▸ GOK.of_eq (by simp) (by simp) (tryRebroadcast_gok now hpv_inv))
    (fun _ _ v hv _ => hv ▸ GOK.of_eq (by simp) (by simp) (GOK.nil hpv_inv))
  rw [← hv]
  by_cases hfail : hasFailure ((s.prepareValue now).beginCommit now).2 = true
  · exact Or.inl hfail
  · refine Or.inr fun hown => ?_
    obtain ⟨hres_phase, hres_round⟩ := beginCommit_res (s.prepareValue now) now
    rw [hpv_round] at hres_round
    have hle : ptLe s.pt ((s.prepareValue now).beginCommit now).1.pt :=
      ptLe_same_round hres_round (by rw [hres_phase, hq]; simp [Phase.toNat])
    refine ⟨GInv.of_core (h.core.mono (by simp) (by simp) (by simp) (by simp) hle
      (fun c hc => Or.inl (by simpa using hc)) (by simpa using h.core.propNe))
      (by rw [hres_phase]; exact fun hp => Phase.noConfusion hp) (by rw [hres_phase]; decide), ?_⟩
    · intro r ph v tk j hm
      obtain ⟨rfl, rfl, rfl, hjust⟩ := beginCommit_bc _ _ _ _ _ _ _ hm
      rw [hpv_round]
      refine ⟨?_, ?_⟩
      · intro hbot
        -- value bottom means neither quorum nor forwarded evidence, and (impossible or complete)
        have hA : s.prepFoundQuorum = false ∧ s.prepFoundJust = false := by
          rw [← Bool.or_eq_false_iff]
          refine Bool.eq_false_iff.2 fun hA => h.core.propNe ?_
          rw [State.prepareValue, if_pos hA] at hbot; exact hbot
        have hvals : s.prepNotPossible = true ∨ s.prepComplete now = true := by
          simpa [hA.1, hA.2] using hdone
        have hro := getRound_ok h.core.rounds s.round
        have hcase : (s.getRound s.round).prepared.couldReach s.tbl s.proposal false = false ∨
            (s.getRound s.round).prepared.fromStrong s.tbl = true := by
          rcases hvals with hnp | hc
          · left; simpa [State.prepNotPossible] using hnp
          · right
            unfold State.prepComplete at hc
            simp only [Bool.and_eq_true] at hc
            exact hc.2
        obtain ⟨x, z, hne, hev⟩ := dissent hro.prep.wf h.core.totalPos s.proposal
          (by simpa [State.prepFoundQuorum] using hA.1) hcase
        exact ⟨s.proposal, h.ownPrep hq, x, z, hne, hev.1, hev.2 rfl⟩
      · -- non-bottom: the attached justification is evidence of a PREPARE quorum
        intro hne
        obtain ⟨j', _, hcj⟩ := hjust hne
        have hrs := hpv_inv.core.rounds
        have htb : (s.prepareValue now).tbl = s.tbl := by simp
        generalize s.prepareValue now = sp at *
        have hrs' : RoundsOK W (({ sp with phase := .commit, phaseTimeout := now + sp.roundTimeout } : State).resetReb).tbl
            (({ sp with phase := .commit, phaseTimeout := now + sp.roundTimeout } : State).resetReb).rounds := hrs
        have := commitJust_ql (W := W) hrs' (by simpa [State.resetReb] using hne) j' hcj
        rw [← htb]
        simpa [State.resetReb, hpv_round] using this

theorem beginConverge_core {s0 s : State} (now : Int) (j : Just) (h0 : GCore W s0)
    (ht : s.tbl = s0.tbl) (hi : s.input = s0.input) (hrs : RoundsOK W s.tbl s.rounds) (hd : s.decision = s0.decision)
    (hle : ptLe s0.pt (s.round, Phase.converge.toNat))
    (hc : ∀ c ∈ s.candidates, c ∈ s0.candidates ∨ (c ≠ [] ∧ (c <+: s.input ∨ ∃ r', QL W s.tbl r' .prepare c ∧ r' < s.round)))
    (hp : s.proposal ≠ []) (hj : ConvJust W s.tbl s.round s.proposal j)
    (hnf : hasFailure (s.beginConverge now j).2 = false) :
    GCore W (s.beginConverge now j).1 ∧ (s.beginConverge now j).1.phase = .converge ∧
      (s.beginConverge now j).1.round = s.round := by
  unfold State.beginConverge State.alarmAfter State.resetReb at *
  dsimp only at *
  split
  · rename_i hbad; simp [hbad] at hnf
  · refine ⟨?_, rfl, rfl⟩
    refine h0.mono_rounds ht hi ?_ hd (by simpa [State.pt] using hle) ?_ hp
    · have hro := getRound_ok hrs s.round
      have : RoundsOK W (s.setRound s.round { (s.getRound s.round) with
          converged := (s.getRound s.round).converged.setSelf s.proposal j }).tbl
          (s.setRound s.round { (s.getRound s.round) with
          converged := (s.getRound s.round).converged.setSelf s.proposal j }).rounds :=
        setRound_ok hrs s.round _ ⟨hro.conv.setSelf _ _ hp hj, hro.prep, hro.comm⟩
      simpa [State.setRound, State.getRound] using this
    · intro c hc'
      have hc'' : c ∈ s.candidates := by simpa [State.setRound] using hc'
      rcases hc c hc'' with hold | ⟨hne, hev⟩
      · exact Or.inl hold
      · refine Or.inr ⟨hne, ?_⟩
        rcases hev with hpre | ⟨r', hql, hlt⟩
        · exact Or.inl (by simpa [State.setRound] using hpre)
        · exact Or.inr ⟨r', by simpa [State.setRound] using hql, Or.inl (by simpa [State.pt, State.setRound] using hlt)⟩

theorem nextRoundJust_conv {s1 : State} (hr : RoundsOK W s1.tbl s1.rounds) (hpos : 0 < s1.round) (j : Just)
    (h : s1.nextRoundJust = .ok j) : ConvJust W s1.tbl s1.round s1.proposal j := by
  unfold State.nextRoundJust at h
  dsimp only at h
  have hcur := getRound_ok hr s1.round
  have hprev := getRound_ok hr (s1.round - 1)
  split at h
  · rename_i sg hsg
    cases h
    obtain ⟨h1, h2, h3, h4⟩ := findStrongQuorumFor_spec s1.tbl _ [] sg hprev.comm.wf hsg
    exact ⟨⟨h1, h2, h3, fun i hi => by obtain ⟨x, hx, hv⟩ := h4 i hi; exact ⟨x, hx, hv.1⟩⟩, by simp; omega,
      Or.inr ⟨rfl, rfl⟩⟩
  · cases h
  · split at h
    · rename_i j1 hj1
      cases h
      obtain ⟨e, he, hej, hph, hbot, _⟩ := TallyOK.getJustOf_mem hj1
      obtain ⟨hok, hjr, hcase⟩ := (hcur.prep.justs e he).1 rfl
      rw [hej] at hok hjr
      exact ⟨hok, hjr, Or.inr ⟨hph, hbot rfl⟩⟩
    · split at h
      · rename_i j2 hj2
        cases h
        obtain ⟨v, hvm, hvj, hph, hbot, _⟩ := Conv.getJustOf_mem hj2
        obtain ⟨_, hok, hjr, _⟩ := hcur.conv v hvm
        rw [hvj] at hok hjr
        exact ⟨hok, hjr, Or.inr ⟨hph, hbot rfl⟩⟩
      · split at h
        · rename_i e he
          cases h
          have hem := List.mem_of_find?_eq_some he
          have hk : e.1 = s1.proposal := by simpa using List.find?_some he
          obtain ⟨_, hok, hjr, hph, hv⟩ := (hprev.comm.justs e hem).2 rfl
          exact ⟨hok, by omega, Or.inl ⟨hph, by rw [hv, hk]⟩⟩
        · cases h

theorem beginNextRound_gok {s0 s : State} (now : Int) (h0 : GInv W me s0) (hrs : RoundsOK W s.tbl s.rounds)
    (hpn : s.proposal ≠ [])
    (ht : s.tbl = s0.tbl) (hi : s.input = s0.input) (hrd : s.round = s0.round) (hcom : s0.phase = .commit)
    (hc : ∀ c ∈ s.candidates, c ∈ s0.candidates ∨ (c ≠ [] ∧ (c <+: s.input ∨ ∃ r', QL W s.tbl r' .prepare c ∧ r' ≤ s.round)))
    (hd : s.decision = s0.decision) :
    GOK W me s0 (s.beginNextRound now) := by
  unfold State.beginNextRound
  dsimp only
  split
  · rename_i j hj
    by_cases hfail : hasFailure (({ s with round := s.round + 1 } : State).beginConverge now j).2 = true
    · exact Or.inl hfail
    · refine Or.inr fun _ => ?_
      have hj' := nextRoundJust_conv (W := W) (s1 := { s with round := s.round + 1 }) hrs (by simp) j hj
      have hle : ptLe s0.pt (s.round + 1, Phase.converge.toNat) := by
        right
        refine ⟨Or.inl (by simp [State.pt, hrd]), fun h5 => ?_⟩
        simp [State.pt, hcom, Phase.toNat] at h5
      obtain ⟨hc', hp', hr'⟩ := beginConverge_core (W := W) (s0 := s0) (s := { s with round := s.round + 1 }) now j h0.core
        ht hi hrs hd hle
        (by
          intro c hcm
          rcases hc c hcm with hold | ⟨hne, hev⟩
          · exact Or.inl hold
          · refine Or.inr ⟨hne, ?_⟩
            rcases hev with hp | ⟨r', hq, hle'⟩
            · exact Or.inl hp
            · exact Or.inr ⟨r', hq, by simp; omega⟩)
        hpn hj' (by simpa using hfail)
      refine ⟨GInv.of_core hc' (by rw [hp']; exact fun hp => Phase.noConfusion hp) (by rw [hp']; decide), ?_⟩
      intro r ph v tk j' hm
      cases beginConverge_bc _ _ _ _ _ _ _ _ hm
      trivial
  · exact GOK.fail (by simp)

theorem firstNonZero_mem (q : Tally) (v : Chain) (h : q.firstNonZero = some v) :
    v ≠ [] ∧ ∃ sup ∈ q.support, sup.chain = v := by
  unfold Tally.firstNonZero at h
  cases hf : q.support.find? (fun s => !s.chain.isEmpty) with
  | none => simp [hf] at h
  | some sup =>
    simp [hf] at h
    have hp := List.find?_some hf
    refine ⟨?_, sup, List.mem_of_find?_eq_some hf, h⟩
    rw [← h]; simpa using hp

theorem commitSway_cases (s : State) (q : Tally) :
    (q.firstNonZero = none ∧ s.commitSway q = s) ∨
    ∃ v, q.firstNonZero = some v ∧ (s.commitSway q).candidates = (s.addCandidate v).1.candidates ∧
      ((s.commitSway q).proposal = v ∨ (s.commitSway q).proposal = s.proposal) := by
  unfold State.commitSway
  split
  · rename_i v hv
    right
    refine ⟨v, hv, ?_, ?_⟩
    · dsimp only; split <;> rfl
    · dsimp only; split
      · exact Or.inl rfl
      · exact Or.inr (addCandidate_proposal s v)
  · rename_i hv; exact Or.inl ⟨hv, rfl⟩

/-- `h5`: the instance has not reached DECIDE (`Phase.decide.toNat = 5`); from TERMINATED the decide branch would move the
progress point backwards -/
theorem tryCommit_gok {s : State} (now : Int) (round : Nat) (h : GInv W me s) (h5 : s.phase.toNat < 5) :
    GOK W me s (s.tryCommit now round) := by
  have hcur : (s.round != round || s.phase != .commit) = false → s.round = round ∧ s.phase = .commit := fun hg => by
    simpa using hg
  refine tryCommit_ind s now round (fun _ => GOK.fail (by simp)) (fun c _ hne => ?_) (fun _ _ => GOK.nil h)
    (fun hg _ => beginNextRound_gok now h h.core.rounds h.core.propNe rfl rfl rfl (hcur hg).2
      (fun x hx => Or.inl hx) rfl)
    (fun hg _ _ _ cs p hsw => ?_) (fun _ _ _ _ _ => tryRebroadcast_gok now h) (fun _ _ _ _ _ => GOK.nil h)
  · -- strong quorum for a non-bottom value
    have hcne : c ≠ [] := by simpa using hne
    by_cases hfail : hasFailure (({ s with value := c } : State).beginDecide round).2 = true
    · exact Or.inl hfail
    · refine Or.inr fun _ => ?_
      obtain ⟨hp, hr⟩ := beginDecide_res ({ s with value := c } : State) round
      have hle : ptLe s.pt (({ s with value := c } : State).beginDecide round).1.pt :=
        ptLe_same_round (by rw [hr]) (by rw [hp]; exact Nat.le_of_lt h5)
      refine ⟨GInv.of_core (h.core.mono (by simp) (by simp) (by simp) (by simp) hle
        (fun x hx => Or.inl (by simpa using hx)) (by simpa using h.core.propNe))
        (by rw [hp]; exact fun hpp => Phase.noConfusion hpp) (by rw [hp]; decide), ?_⟩
      intro r ph v tk j hm
      obtain ⟨rfl, rfl, rfl, sg, hsg⟩ := beginDecide_bc _ _ _ _ _ _ _ hm
      intro _
      exact ⟨hcne, round, (getRound_ok h.core.rounds round).comm.found_ql _ _ (by simpa [State.getRound] using hsg)⟩
  · -- COMMIT ended without a quorum: sway to a committed value (the leaf is stated for the swayed state spelled out)
    obtain ⟨hrd, hph⟩ := hcur hg
    have hro := getRound_ok h.core.rounds round
    rw [← hsw]
    refine beginNextRound_gok now h (by simpa using h.core.rounds) ?_ (by simp) (by simp) (by simp) hph ?_ (by simp)
    · rcases commitSway_cases s (s.getRound round).committed with ⟨_, heq⟩ | ⟨v, hv, _, hp | hp⟩
      · rw [heq]; exact h.core.propNe
      · rw [hp]; exact (firstNonZero_mem _ _ hv).1
      · rw [hp]; exact h.core.propNe
    · intro x hx
      rcases commitSway_cases s (s.getRound round).committed with ⟨_, heq⟩ | ⟨v, hv, hcands, _⟩
      · rw [heq] at hx; exact Or.inl hx
      · obtain ⟨hvne, sup, hsup, hch⟩ := firstNonZero_mem _ _ hv
        rw [hcands] at hx
        rcases addCandidate_mem _ _ _ hx with hold | rfl
        · exact Or.inl hold
        · -- the adopted value has a COMMIT vote, hence a stored justification: a PREPARE quorum of this round
          obtain ⟨e, he, hek⟩ := hro.comm.cover rfl sup hsup (by rw [hch]; exact hvne)
          obtain ⟨_, hok, hjr, hph', hvv⟩ := (hro.comm.justs e he).2 rfl
          have hq := hok.ql
          rw [hjr, hph', hvv, hek, hch] at hq
          exact Or.inr ⟨hvne, Or.inr ⟨round, by simpa using hq, by rw [commitSway_round]; exact Nat.le_of_eq hrd.symm⟩⟩

end F3.Instance
