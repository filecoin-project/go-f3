import F3.Proofs.CodecWire
/-! Allocation bound of the cbor-gen decoder model (C14c): requests are backed by consumed input or
bounded by a limit that was checked before the allocation. On accepted input (`Wire.backed`) this is an induction
over the wire form; on arbitrary input (`allocReq_le`) the accepted sub-runs are backed and the one element that
fails stays within its static budget. -/
namespace F3.Cbor
open F3.Codec

theorem allocN_eq_rep (e : Schema) : ∀ n b, allocN (allocReq e) (decode e) n b = allocReq (e.rep n) b := by
  intro n
  induction n with
  | zero => intro b; rfl
  | succ n ih => intro b; simp only [allocN, Schema.rep, allocReq, ih]

theorem allocReq_array (l : Lim) (e : Schema) (b : Bytes) :
    allocReq (.array l e) b = match readHdr b with
      | .ok (maj, n, r) => if n > l.dec ∨ maj ≠ 4 then 0 else n * e.memSize + allocReq (e.rep n) r
      | .error _ => 0 := by
  simp only [allocReq, allocN_eq_rep]; rfl

theorem two_le_allocPerByte (s : Schema) : 2 ≤ s.allocPerByte := by
  induction s <;> simp only [Schema.allocPerByte] <;> omega

theorem allocPerByte_rep (e : Schema) (n : Nat) : (e.rep n).allocPerByte ≤ e.allocPerByte := by
  induction n with
  | zero => exact two_le_allocPerByte e
  | succ n ih => exact Nat.max_le.mpr ⟨Nat.le_refl _, ih⟩

/-- a run of `n` structs: `n` values, and at least one byte (the array head) for each -/
theorem Wire.rep_count {a d : Nat} {fs : Schema} : ∀ {n : Nat} {w : Bytes} {v : Value},
    Wire ((Schema.tuple a d fs).rep n) w v → v.len = n ∧ n ≤ w.length
  | 0, _, _, h => by cases h; exact ⟨rfl, Nat.le_refl _⟩
  | n + 1, _, _, h => by
    cases h with
    | tcons h1 h2 =>
      cases h1 with
      | tuple hw _ =>
        obtain ⟨e1, e2⟩ := rep_count h2
        have := hw.pos
        simp only [Value.len, List.length_append]
        omega

theorem allocReq_nullAsEmpty_cons {s : Schema} {x : Nat} (hx : x ≠ 246) (b : Bytes) :
    allocReq (.nullAsEmpty s) (x :: b) =
      64 + 8 * (match decode s (x :: b) with | .ok (v, _) => v.len | .error _ => 0) + allocReq s (x :: b) := by
  simp only [allocReq, if_neg hx]; rfl

/-- a slice of structs: its head and at least one byte per element -/
theorem Wire.array_count {l : Lim} {e : Schema} {w : Bytes} {v : Value} (h : Wire (.array l e) w v) :
    v.len + 1 ≤ w.length := by
  cases h with
  | array hw _ hw' => have := hw.pos; have := hw'.rep_count; simp only [List.length_append]; omega

/-- the schema of a struct -/
def Schema.isTuple : Schema → Bool
  | .tuple _ _ _ => true
  | _ => false

/-- a byte-string leaf asks for at most twice its payload -/
theorem leaf_backed {K a c : Nat} (hK : 2 ≤ K) (h : a ≤ 2 * c) : a ≤ K * c :=
  Nat.le_trans h (Nat.mul_le_mul_right _ hK)

/-- **On accepted input every request is paid for by the bytes read**, at any rate `K ≥ allocPerByte`. -/
theorem Wire.backed {s : Schema} {w : Bytes} {v : Value} (h : Wire s w v) :
    ∀ K, s.allocPerByte ≤ K → ∀ r, allocReq s (w ++ r) ≤ K * w.length := by
  induction h with
  | uint _ _ | intPos _ _ | intNeg _ _ | ff _ | tt _ | fixed _ _ | tnil | null | emptyNull =>
    intro K _ r; exact Nat.zero_le _
  | @bytes l w x hw hn =>
    intro K hK r
    simp only [allocReq, List.append_assoc, hw.ok, List.length_append]
    rw [if_neg (by omega)]
    exact leaf_backed hK (by omega)
  | @cid w w1 c hw hw1 hn _ =>
    intro K hK r
    simp only [allocReq, List.append_assoc, hw.ok, hw1.ok, List.length_append, List.length_cons]
    rw [if_neg (by omega), if_neg (by omega)]
    exact leaf_backed hK (by omega)
  | bigZero hw =>
    intro K hK r
    simp only [allocReq, hw.ok]
    rw [if_neg (by omega)]; exact Nat.zero_le _
  | @bigPos w m hw hn =>
    intro K hK r
    simp only [allocReq, List.append_assoc, hw.ok, List.length_append, List.length_cons]
    rw [if_neg (by omega)]
    exact leaf_backed hK (by omega)
  | @bigNeg w m hw hn =>
    intro K hK r
    simp only [allocReq, List.append_assoc, hw.ok, List.length_append, List.length_cons]
    rw [if_neg (by omega)]
    exact leaf_backed hK (by omega)
  | @bitfield w x hw hn _ =>
    intro K hK r
    simp only [allocReq, List.append_assoc, hw.ok, List.length_append]
    rw [if_neg (by omega)]
    exact leaf_backed hK (by omega)
  | @array l a d fs w n w' v hw hn hw' ih =>
    intro K hK r
    simp only [allocReq_array, List.append_assoc, hw.ok, List.length_append]
    rw [if_neg (by omega)]
    -- each element is a struct: its array head pays for its slot in the slice
    have h1 := ih _ (allocPerByte_rep _ n) r
    have h2 : n * (Schema.tuple a d fs).memSize ≤ (Schema.tuple a d fs).memSize * w'.length :=
      Nat.mul_comm .. ▸ Nat.mul_le_mul_left _ hw'.rep_count.2
    calc _ ≤ ((Schema.tuple a d fs).memSize + (Schema.tuple a d fs).allocPerByte) * w'.length := by
          rw [Nat.add_mul]; exact Nat.add_le_add h2 h1
      _ ≤ K * (w.length + w'.length) := Nat.mul_le_mul hK (Nat.le_add_left _ _)
  | @tuple a d fs w w' v hw _ ih =>
    intro K hK r
    simp only [allocReq, List.append_assoc, hw.ok, List.length_append]
    rw [if_neg (by omega)]
    exact Nat.le_trans (ih K hK r) (Nat.mul_le_mul_left K (Nat.le_add_left _ _))
  | @tcons s t w1 w2 v1 v2 h1 _ ih1 ih2 =>
    intro K hK r
    have hK' := Nat.max_le.mp hK
    simp only [allocReq, List.append_assoc, h1.reads.ok, List.length_append, Nat.mul_add]
    exact Nat.add_le_add (ih1 K hK'.1 _) (ih2 K hK'.2 r)
  | @ptr s x w v hx _ ih =>
    intro K hK r
    simp only [allocReq, List.cons_append, if_neg hx]
    -- the pointee is a struct: its array head pays for the allocation of the struct
    calc _ ≤ s.memSize * (x :: w).length + s.allocPerByte * (x :: w).length :=
          Nat.add_le_add (Nat.le_mul_of_pos_right _ (Nat.succ_pos _)) (ih _ (Nat.le_refl _) r)
      _ = (s.memSize + s.allocPerByte) * (x :: w).length := (Nat.add_mul ..).symm
      _ ≤ K * _ := Nat.mul_le_mul_right _ hK
  | @chain l e x w v hx hs ih =>
    intro K hK r
    have hd := hs.reads.ok r
    simp only [List.cons_append] at hd
    simp only [List.cons_append, allocReq_nullAsEmpty_cons hx, hd]
    -- every tipset and the array head of the chain consumed at least one byte
    have hc := hs.array_count
    have := ih _ (Nat.le_refl _) r
    simp only [List.cons_append] at this
    calc _ ≤ 72 * (x :: w).length + (Schema.array l e).allocPerByte * (x :: w).length := by omega
      _ = (72 + (Schema.array l e).allocPerByte) * (x :: w).length := (Nat.add_mul ..).symm
      _ ≤ K * _ := Nat.mul_le_mul_right _ hK

/-- On accepted input every request of the decoder is backed by consumed bytes:
`allocReq ≤ K · (bytes consumed)` for every `K ≥ allocPerByte`. -/
theorem alloc_backed : ∀ (s : Schema), s.wf = true → ∀ (K : Nat), s.allocPerByte ≤ K → ∀ (b : Bytes) (v : Value) (r : Bytes),
    decode s b = .ok (v, r) → allocReq s b + K * r.length ≤ K * b.length := by
  intro s hwf K hK b v r h
  obtain ⟨w, rfl, hw⟩ := decode_wire s hwf b v r h
  rw [List.length_append, Nat.mul_add]
  exact Nat.add_le_add_right (hw.backed K hK r) _

/-- requests of a run of elements on arbitrary input: consumed bytes back the accepted elements, the
first rejected element costs at most its own static budget -/
theorem allocN_le (a : Bytes → Nat) (dec : Bytes → Except Err (Value × Bytes)) (K S : Nat)
    (hok : ∀ b v r, dec b = .ok (v, r) → a b + K * r.length ≤ K * b.length)
    (hany : ∀ b, a b ≤ K * b.length + S) :
    ∀ n b, allocN a dec n b ≤ K * b.length + S := by
  intro n
  induction n with
  | zero => intro b; simp [allocN]
  | succ n ih =>
    intro b
    simp only [allocN]
    cases h1 : dec b with
    | error e => simpa using hany b
    | ok p =>
      obtain ⟨v, r1⟩ := p
      have := hok b v r1 h1
      have := ih r1
      simp only
      omega

theorem Value.len_le_of_within {l : Lim} {e : Schema} {v : Value} (h : Value.within (.array l e) v = true) :
    v.len ≤ l.dec := by
  simp only [Value.within, Bool.and_eq_true, decide_eq_true_eq] at h
  exact h.1

/-- **Allocation bound of the model decoder.** On *any* input — accepted, truncated, oversized,
garbage — the decoder requests at most `allocPerByte · |input| + staticPrealloc` bytes: what it
allocates is either backed by input it has consumed or is one of the finitely many buffers whose size
was checked against the documented limit before `make`. -/
theorem allocReq_le : ∀ (s : Schema), s.wf = true → ∀ (K : Nat), s.allocPerByte ≤ K → ∀ (b : Bytes),
    allocReq s b ≤ K * b.length + s.staticPrealloc := by
  intro s
  induction s with
  | uint _ | int64 | bool | fixed _ _ _ | tnil => intro _ K _ b; exact Nat.zero_le _
  | bytes l =>
    intro hwf K _ b
    obtain ⟨htag, hed, _⟩ := (Lim.ok_iff l).mp hwf
    rw [allocReq, Schema.staticPrealloc]
    split
    · split <;> omega
    · exact Nat.zero_le _
  | cid =>
    intro _ K _ b
    rw [allocReq, Schema.staticPrealloc]
    split
    · split
      · exact Nat.zero_le _
      · split
        · split <;> omega
        · exact Nat.zero_le _
    · exact Nat.zero_le _
  | bigint =>
    intro _ K _ b
    rw [allocReq, Schema.staticPrealloc]
    split
    · split <;> omega
    · exact Nat.zero_le _
  | bitfield =>
    intro _ K _ b
    rw [allocReq, Schema.staticPrealloc]
    split
    · split <;> omega
    · exact Nat.zero_le _
  | array l e ih =>
    intro hwf K hK b
    obtain ⟨hok, hwe, _⟩ := Schema.wf_array hwf
    obtain ⟨htag, hed, _⟩ := (Lim.ok_iff l).mp hok
    have hK' : e.allocPerByte ≤ K := Nat.le_trans (Nat.le_add_left _ _) hK
    rw [allocReq, Schema.staticPrealloc]
    split
    · next maj n r0 hr =>
      split
      · exact Nat.zero_le _
      · -- the slice was made for `n ≤ l.tag` elements; the elements read are backed, the first one
        -- rejected (if any) stays within its own static budget
        have h1 : n * e.memSize ≤ l.tag * e.memSize := Nat.mul_le_mul_right _ (by omega)
        have h2 := allocN_le (allocReq e) (decode e) K e.staticPrealloc
          (fun b' v' r' hd => alloc_backed e hwe K hK' b' v' r' hd) (fun b' => ih hwe K hK' b') n r0
        have := Nat.mul_le_mul_left K (Nat.le_of_lt (readHdr_len hr))
        omega
    · exact Nat.zero_le _
  | tuple a d fs ih =>
    intro hwf K hK b
    rw [allocReq, Schema.staticPrealloc]
    split
    · next maj n r0 hr =>
      split
      · exact Nat.zero_le _
      · have := ih (Schema.wf_tuple hwf).2.2 K hK r0
        have := Nat.mul_le_mul_left K (Nat.le_of_lt (readHdr_len hr))
        omega
    · exact Nat.zero_le _
  | tcons x y ihx ihy =>
    intro hwf K hK b
    obtain ⟨hwx, hwy⟩ := Schema.wf_tcons hwf
    have hK' := Nat.max_le.mp hK
    rw [allocReq, Schema.staticPrealloc]
    split
    · next v1 r1 h1 =>
      have := alloc_backed x hwx K hK'.1 b v1 r1 h1
      have := ihy hwy K hK'.2 r1
      omega
    · have := ihx hwx K hK'.1 b
      omega
  | nullable s ih =>
    intro hwf K hK b
    have hK' : s.allocPerByte ≤ K := Nat.le_trans (Nat.le_add_left _ _) hK
    cases b with
    | nil => exact Nat.zero_le _
    | cons x r0 =>
      rw [allocReq, Schema.staticPrealloc]
      split
      · exact Nat.zero_le _
      · have := ih (Schema.wf_nullable hwf).1 K hK' (x :: r0)
        omega
  | nullAsEmpty s ih =>
    intro hwf K hK b
    obtain ⟨hws, l, e, rfl⟩ := Schema.wf_nullAsEmpty hwf
    have hK' : (Schema.array l e).allocPerByte ≤ K := Nat.le_trans (Nat.le_add_left _ _) hK
    cases b with
    | nil => exact Nat.zero_le _
    | cons x r0 =>
      rw [allocReq]
      split
      · exact Nat.zero_le _
      · have hi := ih hws K hK' (x :: r0)
        obtain ⟨htag, hed, _⟩ := (Lim.ok_iff l).mp (Schema.wf_array hws).1
        simp only [Schema.staticPrealloc] at hi ⊢
        -- the chain has at most `l.tag` slots: the decoder accepts no longer one
        split
        · next v r hd =>
          have := Value.len_le_of_within (decode_ok_within _ hws _ _ _ hd)
          omega
        · omega

end F3.Cbor
