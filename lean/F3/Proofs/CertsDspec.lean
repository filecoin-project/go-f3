import F3.Proofs.CertsPointwise
/-! `dspec` and `stepSpec` undo each other on entries of well-formed tables (`upd_iff_dspec`), so on a well-formed table
`applyLoop` accepts exactly the diffs that are, id by id, the canonical delta to their result (`applyLoop_toMap_iff`): the
pointwise content of `C04.apply_make` / `C04.apply_unique`. -/
namespace F3.Certs
open F3.SMap

/-- an optional entry at id `i` of a well-formed table -/
def EntOK (i : Nat) (o : Option Entry) : Prop :=
  ∀ e, o = some e → e.id = i ∧ 0 < e.power ∧ e.key ≠ 0

theorem entOK_of_wf {a : Table} (ha : WF a) (i : Nat) : EntOK i (L a i) := by
  intro e he
  have hm := lookup_mem Entry.id he
  exact ⟨lookup_key Entry.id he, ha.2 e hm⟩

/-- entries with the same id, power and key are the same entry -/
theorem entry_ext {e e' : Entry} (h1 : e.id = e'.id) (h2 : e.power = e'.power) (h3 : e.key = e'.key) : e = e' := by
  cases e; cases e'; simp only at h1 h2 h3; subst h1 h2 h3; rfl

theorem entOK_none (i : Nat) : EntOK i none := by intro e he; cases he

theorem dspec_self (o : Option Entry) : dspec o o = none := by
  cases o with
  | none => rfl
  | some e => simp [dspec, deltaFor, Delta.isZero]

theorem stepSpec_of_dspec {i : Nat} {o n : Option Entry} {δ : Delta} (ho : EntOK i o) (hn : EntOK i n)
    (h : dspec o n = some δ) : δ.isZero = false ∧ stepSpec o δ = .ok n := by
  rw [stepSpec_ok]
  cases o with
  | none =>
    cases n with
    | none => cases h
    | some e =>
      obtain ⟨_, hp, hk⟩ := hn e rfl
      cases h
      exact ⟨by simp [Delta.isZero, hk], hp, hk, rfl⟩
  | some pe =>
    obtain ⟨_, hpp, hpk⟩ := ho pe rfl
    cases n with
    | none =>
      cases h
      -- the delta `⟨pe.id, -pe.power, 0⟩` takes all the power away and carries no key
      have hzero : pe.power + -pe.power = 0 := by omega
      have hnz : (⟨pe.id, -pe.power, 0⟩ : Delta).isZero = false := by simp [Delta.isZero]; omega
      refine ⟨hnz, Ne.symm hpk, Int.le_of_eq hzero.symm, fun h => absurd rfl h, ?_⟩
      rw [if_pos hzero]
    | some e =>
      obtain ⟨_, hep, hek⟩ := hn e rfl
      simp only [dspec] at h
      split at h
      · cases h
      rename_i hz
      cases h
      have hpow : pe.power + (e.power - pe.power) = e.power := by omega
      simp only [deltaFor, hpow]
      refine ⟨by simpa [deltaFor] using hz, ?_, by omega, fun _ => by omega, ?_⟩
      · split
        · rename_i hkk; simpa using hkk
        · exact Ne.symm hpk
      · rw [if_neg (by omega)]
        -- same id, power and key as `e`: the key is the delta's if it carries one, else the old one
        refine congrArg some (entry_ext rfl rfl ?_)
        by_cases hkk : e.key = pe.key
        · simp [hkk]
        · simp [hkk, hek]

theorem dspec_none {i : Nat} {o n : Option Entry} (ho : EntOK i o) (hn : EntOK i n)
    (h : dspec o n = none) : o = n := by
  cases o with
  | none =>
    cases n with
    | none => rfl
    | some e => simp [dspec] at h
  | some pe =>
    cases n with
    | none => simp [dspec] at h
    | some e =>
      obtain ⟨hpi, _, _⟩ := ho pe rfl
      obtain ⟨hei, _, hek⟩ := hn e rfl
      simp only [dspec] at h
      split at h
      · rename_i hz
        simp only [Delta.isZero, deltaFor, Bool.and_eq_true, beq_iff_eq] at hz
        obtain ⟨hz1, hz2⟩ := hz
        have hkk : e.key = pe.key := by
          by_cases hkk : e.key = pe.key
          · exact hkk
          · have h1 : (e.key != pe.key) = true := by simpa using hkk
            rw [h1] at hz2; simp only [if_true] at hz2; exact absurd hz2 hek
        have hpw : e.power = pe.power := by omega
        exact congrArg some (entry_ext (hpi.trans hei.symm) hpw.symm hkk.symm)
      · cases h

theorem dspec_of_stepSpec {i : Nat} {o r : Option Entry} {δ : Delta} (ho : EntOK i o) (hδ : δ.id = i)
    (hz : δ.isZero = false) (h : stepSpec o δ = .ok r) : dspec o r = some δ ∧ EntOK i r := by
  rw [stepSpec_ok] at h
  cases o with
  | none =>
    obtain ⟨hd, hk, rfl⟩ := h
    exact ⟨rfl, fun e he => by cases he; exact ⟨hδ, hd, hk⟩⟩
  | some pe =>
    obtain ⟨hpi, hpp, hpk⟩ := ho pe rfl
    obtain ⟨huk, h0, hrk, rfl⟩ := h
    by_cases hp0 : pe.power + δ.delta = 0
    · -- removed: the delta takes all the power away and carries no key
      rw [if_pos hp0]
      refine ⟨?_, entOK_none i⟩
      have hk0 : δ.key = 0 := Decidable.by_contra fun hk => hrk hk hp0
      cases δ
      simp only at hδ hk0 hp0
      subst hk0
      simp only [dspec, hpi, hδ, Option.some.injEq, Delta.mk.injEq, and_true, true_and]
      omega
    · rw [if_neg hp0]
      refine ⟨?_, fun e he => ?_⟩
      · have hdf : deltaFor pe ⟨δ.id, pe.power + δ.delta, if (δ.key != 0) = true then δ.key else pe.key⟩ = δ := by
          cases δ with
          | mk did dd dk =>
            simp only [deltaFor, Delta.mk.injEq, true_and]
            refine ⟨by omega, ?_⟩
            by_cases hk : dk = 0
            · simp [hk]
            · simp only at huk
              simp [hk, huk]
        simp only [dspec, hdf, hz, Bool.false_eq_true, if_false]
      · cases he
        refine ⟨hδ, by show 0 < pe.power + δ.delta; omega, ?_⟩
        show (if (δ.key != 0) = true then δ.key else pe.key) ≠ 0
        split
        · rename_i hk; simpa using hk
        · exact hpk

theorem exists_stepSpec_ok_iff (o : Option Entry) (δ : Delta) :
    (∃ r, stepSpec o δ = .ok r) ↔
      match o with
      | some pe => δ.key ≠ pe.key ∧ 0 ≤ pe.power + δ.delta ∧ (δ.key ≠ 0 → pe.power + δ.delta ≠ 0)
      | none => 0 < δ.delta ∧ δ.key ≠ 0 := by
  simp only [stepSpec_ok]
  cases o with
  | none => exact ⟨fun ⟨_, h1, h2, _⟩ => ⟨h1, h2⟩, fun ⟨h1, h2⟩ => ⟨_, h1, h2, rfl⟩⟩
  | some pe => exact ⟨fun ⟨_, h1, h2, h3, _⟩ => ⟨h1, h2, h3⟩, fun ⟨h1, h2, h3⟩ => ⟨_, h1, h2, h3, rfl⟩⟩

/-- on entries of well-formed tables an update is the canonical delta, and conversely -/
theorem upd_iff_dspec {i : Nat} {o r : Option Entry} {x : Option Delta} (ho : EntOK i o)
    (hx : ∀ δ, x = some δ → δ.id = i) : Upd o x r ↔ EntOK i r ∧ dspec o r = x := by
  cases x with
  | none =>
    exact ⟨fun h => by cases h; exact ⟨ho, dspec_self _⟩, fun ⟨hr, hd⟩ => (dspec_none ho hr hd).symm⟩
  | some δ =>
    exact ⟨fun ⟨hz, h⟩ => (dspec_of_stepSpec ho (hx δ rfl) hz h).symm, fun ⟨hr, hd⟩ => stepSpec_of_dspec ho hr hd⟩

/-- **The delta algebra in one statement**: on a well-formed table, application accepts `d` with result `m'` iff `m'`
is a well-formed id-sorted table and `d` is, id by id, the canonical delta from the input to `m'`. -/
theorem applyLoop_toMap_iff {a : Table} (ha : WF a) {d : Diff} {m' : Table} :
    applyLoop (toMap a) none d = .ok m' ↔
      SSorted Delta.id d ∧ SSorted Entry.id m' ∧ ∀ i, EntOK i (L m' i) ∧ dspec (L a i) (L m' i) = LD d i := by
  rw [applyLoop_iff (ssorted_toMap a)]
  have hpt : ∀ i, Upd (L (toMap a) i) (LD d i) (L m' i) ↔ EntOK i (L m' i) ∧ dspec (L a i) (L m' i) = LD d i :=
    fun i => by rw [lookup_toMap ha.1]; exact upd_iff_dspec (entOK_of_wf ha i) fun _ h => lookup_key Delta.id h
  exact ⟨fun ⟨h1, _, h3, h4⟩ => ⟨h1, h3, fun i => (hpt i).mp (h4 i)⟩,
    fun ⟨h1, h3, h4⟩ => ⟨h1, fun _ _ _ h => (nomatch h), h3, fun i => (hpt i).mpr (h4 i)⟩⟩

/-- accepted diffs with the same result have the same entry under every id -/
theorem applyLoop_injective {a : Table} (ha : WF a) {d₁ d₂ : Diff} {m' : Table}
    (h₁ : applyLoop (toMap a) none d₁ = .ok m') (h₂ : applyLoop (toMap a) none d₂ = .ok m') : d₁ = d₂ := by
  obtain ⟨s₁, _, p₁⟩ := (applyLoop_toMap_iff ha).mp h₁
  obtain ⟨s₂, _, p₂⟩ := (applyLoop_toMap_iff ha).mp h₂
  exact ext Delta.id s₁ s₂ fun i => ((p₁ i).2.symm.trans (p₂ i).2 : LD d₁ i = LD d₂ i)

end F3.Certs
