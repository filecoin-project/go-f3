import F3.Spec.Store
import F3.Proofs.SMap
import F3.Proofs.SortBy
/-! Laws of the power-table arithmetic used by the store proofs: canonical tables, the map/array
round trip and "folding single deltas = applying all deltas at once". `Model/Store.lean` writes out the map of a table and
its sorting; they are `F3.SMap` at key `Entry.id` (`pmInsert_eq`, `toMap_eq`) and an insertion sort (`isInsert_insertEntry`),
and take their laws from `Proofs/SMap.lean` and `Proofs/SortBy.lean`. -/
namespace F3.Store
open F3.SMap

/-- Canonical map representation: strictly increasing ids. -/
def IdSorted (m : PMap) : Prop := m.Pairwise (fun a b => a.id < b.id)

theorem pmInsert_eq (m : PMap) (e : Entry) : pmInsert m e = F3.SMap.insert Entry.id e m := by
  induction m with
  | nil => rfl
  | cons x r ih => simp only [pmInsert, F3.SMap.insert, ih]

theorem toMap_eq (t : Table) : toMap t = ofList Entry.id t := by
  unfold toMap ofList
  congr 1; funext m e; exact pmInsert_eq m e

theorem isInsert_insertEntry : F3.SortBy.IsInsert entryLe insertEntry := ⟨fun _ => rfl, fun _ _ _ => rfl⟩

theorem idSorted_pmInsert {m : PMap} (hm : IdSorted m) (e : Entry) : IdSorted (pmInsert m e) := by
  rw [pmInsert_eq]; exact ssorted_insert Entry.id e hm

theorem pmErase_sublist (m : PMap) (i : Nat) : (pmErase m i).Sublist m := by
  induction m with
  | nil => exact List.Sublist.refl _
  | cons y r ih =>
    unfold pmErase
    split
    · exact List.sublist_cons_self _ _
    · exact ih.cons_cons _

theorem idSorted_finishEntry {m m' : PMap} {pe : Entry} (hm : IdSorted m) (h : finishEntry m pe = .ok m') :
    IdSorted m' := by
  unfold finishEntry at h
  split at h
  · cases h; exact List.Pairwise.sublist (pmErase_sublist m _) hm
  · split at h
    · cases h; exact idSorted_pmInsert hm _
    · cases h

theorem idSorted_applyDelta {m m' : PMap} {d : Delta} (hm : IdSorted m) (h : applyDelta m d = .ok m') :
    IdSorted m' := by
  unfold applyDelta at h
  split at h
  · cases h
  -- known or new participant: two more rejections each, then `finishEntry`
  split at h <;> iterate 2 (split at h; · cases h)
  all_goals exact idSorted_finishEntry hm h

theorem idSorted_applyDiffFrom {m m' : PMap} {last : Option Nat} {d : Diff} (hm : IdSorted m)
    (h : applyDiffFrom m last d = .ok m') : IdSorted m' := by
  induction d generalizing m last with
  | nil => simp [applyDiffFrom] at h; cases h; exact hm
  | cons x r ih =>
    unfold applyDiffFrom at h
    by_cases hc : outOfOrder last x.id = true
    · simp only [hc, if_true] at h; cases h
    · simp only [hc] at h
      cases h1 : applyDelta m x with
      | error e => rw [h1] at h; cases h
      | ok m1 => rw [h1] at h; exact ih (idSorted_applyDelta hm h1) h

theorem idSorted_applyDiffMap {m m' : PMap} {d : Diff} (hm : IdSorted m) (h : applyDiffMap m d = .ok m') :
    IdSorted m' := idSorted_applyDiffFrom hm h

theorem idSorted_applyDiffsMap {m m' : PMap} {ds : List Diff} (hm : IdSorted m) (h : applyDiffsMap m ds = .ok m') :
    IdSorted m' := by
  induction ds generalizing m with
  | nil => simp [applyDiffsMap] at h; cases h; exact hm
  | cons d r ih =>
    unfold applyDiffsMap at h
    split at h
    · cases h
    · rename_i m1 h1
      exact ih (idSorted_applyDiffMap hm h1) h

theorem toArray_perm (m : PMap) : (toArray m).Perm m := isInsert_insertEntry.sort_perm m

theorem toMap_toArray {m : PMap} (hm : IdSorted m) : toMap (toArray m) = m := by
  rw [toMap_eq]
  have hp := toArray_perm m
  have hnd : ((toArray m).map Entry.id).Nodup := (hp.map _).nodup_iff.2 (nodup_of_ssorted _ hm)
  exact ((ofList_perm Entry.id hnd).trans hp).eq_of_pairwise (fun a b _ _ h1 h2 => absurd h1 (Nat.lt_asymm h2))
    (ssorted_ofList _ _) hm

/-- A canonical power table: what `PowerTableMapToArray` produces from a duplicate-free map. -/
def Canon (t : Table) : Prop := ∃ m, IdSorted m ∧ t = toArray m

theorem toArray_nil : toArray [] = [] := rfl

theorem canon_nil : Canon [] := ⟨[], by simp [IdSorted], toArray_nil.symm⟩

theorem applyDiffs_canon_eq {m : PMap} (hm : IdSorted m) (ds : List Diff) :
    applyDiffs (toArray m) ds = (match applyDiffsMap m ds with | .ok m' => .ok (toArray m') | .error e => .error e) := by
  unfold applyDiffs; rw [toMap_toArray hm]
  cases applyDiffsMap m ds <;> rfl

theorem tableStep_canon {m : PMap} (hm : IdSorted m) (d : Diff) :
    tableStep (toArray m) d = (match applyDiffMap m d with | .ok m' => .ok (toArray m') | .error e => .error e) := by
  unfold tableStep
  split
  · next h => subst h; rfl
  · rw [applyDiffs_canon_eq hm, applyDiffsMap]
    cases applyDiffMap m d <;> rfl

theorem canon_tableStep {t t' : Table} {d : Diff} (ht : Canon t) (h : tableStep t d = .ok t') : Canon t' := by
  obtain ⟨m, hm, rfl⟩ := ht
  rw [tableStep_canon hm] at h
  split at h
  · rename_i m' hm'
    cases h
    exact ⟨m', idSorted_applyDiffMap hm hm', rfl⟩
  · cases h

theorem foldTables_none (l : List Cert) : List.foldl Spec.stepOpt none l = none := by
  induction l with
  | nil => rfl
  | cons x xs ih => simpa [Spec.stepOpt] using ih

/-- Folding single certificate steps from a canonical table = `ApplyPowerTableDiffs` with all the
deltas at once (as options: both fail together). -/
theorem foldTables_eq_applyDiffs {m : PMap} (hm : IdSorted m) (cs : List Cert) :
    Spec.foldTables (toArray m) cs =
      (match applyDiffs (toArray m) (cs.map (·.delta)) with | .ok t => some t | .error _ => none) := by
  induction cs generalizing m with
  | nil =>
    simp [Spec.foldTables, applyDiffs_canon_eq hm, applyDiffsMap]
  | cons c r ih =>
    simp only [Spec.foldTables, List.foldl_cons, List.map_cons] at ih ⊢
    rw [applyDiffs_canon_eq hm]
    unfold applyDiffsMap
    unfold Spec.stepOpt
    simp only
    rw [tableStep_canon hm]
    cases hd : applyDiffMap m c.delta with
    | error e =>
      exact foldTables_none r
    | ok m' =>
      simp only
      have := ih (idSorted_applyDiffMap hm hd)
      rw [applyDiffs_canon_eq (idSorted_applyDiffMap hm hd)] at this
      exact this

theorem foldTables_append (t : Table) (a b : List Cert) :
    Spec.foldTables t (a ++ b) = (match Spec.foldTables t a with | some t' => Spec.foldTables t' b | none => none) := by
  unfold Spec.foldTables
  rw [List.foldl_append]
  cases List.foldl Spec.stepOpt (some t) a with
  | none => simp [foldTables_none]
  | some t' => rfl

theorem canon_foldTables {t t' : Table} (ht : Canon t) {cs : List Cert} (h : Spec.foldTables t cs = some t') : Canon t' := by
  induction cs generalizing t with
  | nil => simp [Spec.foldTables] at h; cases h; exact ht
  | cons c r ih =>
    simp only [Spec.foldTables, List.foldl_cons] at h
    cases hs : tableStep t c.delta with
    | error e =>
      have h0 : Spec.stepOpt (some t) c = none := by simp [Spec.stepOpt, hs]
      rw [h0, foldTables_none] at h; cases h
    | ok t1 =>
      have h0 : Spec.stepOpt (some t) c = some t1 := by simp [Spec.stepOpt, hs]
      rw [h0] at h
      exact ih (canon_tableStep ht hs) h

theorem entryLe_iff (a b : Entry) : entryLe a b = true ↔ (b.power < a.power ∨ (a.power = b.power ∧ a.id ≤ b.id)) := by
  simp [entryLe]

theorem entryLe_total (a b : Entry) : entryLe a b = true ∨ entryLe b a = true := by
  rw [entryLe_iff, entryLe_iff]; omega

theorem entryLe_trans {a b c : Entry} (h1 : entryLe a b = true) (h2 : entryLe b c = true) : entryLe a c = true := by
  rw [entryLe_iff] at *; omega

/-- The array handed out for a map is ordered by power descending, then id ascending. -/
theorem toArray_sorted (m : PMap) : (toArray m).Pairwise (fun a b => entryLe a b = true) :=
  isInsert_insertEntry.sort_pairwise (fun _ _ _ => entryLe_trans) (fun a b => Bool.or_eq_true_iff.2 (entryLe_total a b)) m

end F3.Store
