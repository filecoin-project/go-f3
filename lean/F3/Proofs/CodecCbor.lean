import F3.Model.Cbor
import F3.Proofs.CodecBytes
/-! The generic cbor-gen codec model (C14c): the pieces the generated codecs are made of. `takeN` and `readHdr`
(a head that `WriteMajorTypeHeader` wrote is read back), what `Schema.wf` demands, the first byte of a struct's or
slice's encoding, the documented limits, the zstd cap. What the decoders accept as a whole is `F3.Proofs.CodecWire`. -/
namespace F3.Cbor
open F3.Codec

theorem takeN_append {n : Nat} (a r : Bytes) (h : a.length = n) : takeN n (a ++ r) = some (a, r) := by
  subst h
  induction a with
  | nil => cases r <;> rfl
  | cons x a ih => rw [List.cons_append, List.length_cons, takeN, ih]

theorem takeN_some {n : Nat} {b h t : Bytes} (e : takeN n b = some (h, t)) : b = h ++ t ∧ h.length = n := by
  induction n generalizing b h t with
  | zero => cases e; exact ⟨rfl, rfl⟩
  | succ n ih =>
    cases b with
    | nil => cases e
    | cons x b =>
      rw [takeN] at e
      split at e
      · next hx =>
        cases e
        obtain ⟨rfl, rfl⟩ := ih hx
        exact ⟨rfl, rfl⟩
      · cases e

theorem takeN_len {n : Nat} {b h t : Bytes} (e : takeN n b = some (h, t)) : t.length + n = b.length := by
  obtain ⟨rfl, rfl⟩ := takeN_some e
  rw [List.length_append, Nat.add_comm]

theorem takeN_none {n : Nat} {b : Bytes} (h : b.length < n) : takeN n b = none := by
  induction n generalizing b with
  | zero => cases h
  | succ n ih =>
    cases b with
    | nil => rfl
    | cons x b => rw [takeN, ih (Nat.lt_of_succ_lt_succ h)]

/-- `CborReadHeader` reads back what `WriteMajorTypeHeader` wrote. -/
theorem readHdr_hdr (maj n : Nat) (hm : maj < 8) (hn : n < 2 ^ 64) (rest : Bytes) :
    readHdr (hdr maj n ++ rest) = .ok (maj, n, rest) := by
  -- the initial byte `maj * 32 + low` gives back `maj` and `low`; what `simp` leaves for `omega` is the
  -- non-minimality guard (`n < 24`, `fromBE .. ≤ 255`, ..), which fails by the range `hdr_cases` gives
  have arith : ∀ low, low < 32 → (maj * 32 + low) % 32 = low ∧ (maj * 32 + low) / 32 % 8 = maj := by omega
  rcases hdr_cases maj n with ⟨h, e⟩ | ⟨h, _, e⟩ | ⟨h, h', e⟩ | ⟨h, h', e⟩ | ⟨h, e⟩ <;> rw [e]
  · simp [readHdr, arith n (by omega), h]
  · simp [readHdr, arith 24 (by omega)]; omega
  · simp [readHdr, arith 25 (by omega), takeN_append (beN 2 n) rest (beN_length 2 n),
      fromBE_beN 2 n (by norm_num; omega)]; omega
  · simp [readHdr, arith 26 (by omega), takeN_append (beN 4 n) rest (beN_length 4 n),
      fromBE_beN 4 n (by norm_num; omega)]; omega
  · simp [readHdr, arith 27 (by omega), takeN_append (beN 8 n) rest (beN_length 8 n),
      fromBE_beN 8 n (by norm_num; omega)]; omega

/-- heads of major types 0–6 never start with the CBOR `null` byte -/
theorem hdr_head (maj n : Nat) (hm : maj < 7) : ∃ x t, hdr maj n = x :: t ∧ x ≠ 246 := by
  rcases hdr_cases maj n with ⟨_, e⟩ | ⟨_, _, e⟩ | ⟨_, _, e⟩ | ⟨_, _, e⟩ | ⟨_, e⟩ <;> exact ⟨_, _, e, by omega⟩

theorem Lim.ok_iff (l : Lim) : l.ok = true ↔ l.tag = l.enc ∧ l.enc = l.dec ∧ l.enc < 2 ^ 64 := by
  simp [Lim.ok, and_assoc]

theorem Schema.wf_fixed {encN decN : Nat} {l : Lim} (h : (Schema.fixed encN decN l).wf = true) :
    encN = decN ∧ l.ok = true ∧ encN ≤ l.enc := by
  simpa only [Schema.wf, Bool.and_eq_true, beq_iff_eq, decide_eq_true_eq, and_assoc] using h

theorem Schema.wf_tuple {encN decN : Nat} {fs : Schema} (h : (Schema.tuple encN decN fs).wf = true) :
    encN = decN ∧ encN < 2 ^ 64 ∧ fs.wf = true := by
  simpa only [Schema.wf, Bool.and_eq_true, beq_iff_eq, decide_eq_true_eq, and_assoc] using h

theorem Schema.wf_tcons {x y : Schema} (h : (Schema.tcons x y).wf = true) : x.wf = true ∧ y.wf = true := by
  simpa only [Schema.wf, Bool.and_eq_true] using h

/-! The shape demands of `wf`: slice elements and pointees are structs, a `nullAsEmpty` wraps a slice. -/

theorem Schema.wf_array {l : Lim} {e : Schema} (h : (Schema.array l e).wf = true) :
    l.ok = true ∧ e.wf = true ∧ ∃ a d fs, e = .tuple a d fs := by
  simp only [Schema.wf, Bool.and_eq_true] at h
  cases e with
  | tuple a d fs => exact ⟨h.1.1, h.1.2, a, d, fs, rfl⟩
  | _ => cases h.2

theorem Schema.wf_nullable {s : Schema} (h : (Schema.nullable s).wf = true) :
    s.wf = true ∧ ∃ a d fs, s = .tuple a d fs := by
  simp only [Schema.wf, Bool.and_eq_true] at h
  cases s with
  | tuple a d fs => exact ⟨h.1, a, d, fs, rfl⟩
  | _ => cases h.2

theorem Schema.wf_nullAsEmpty {s : Schema} (h : (Schema.nullAsEmpty s).wf = true) :
    s.wf = true ∧ ∃ l e, s = .array l e := by
  simp only [Schema.wf, Bool.and_eq_true] at h
  cases s with
  | array l e => exact ⟨h.1, l, e, rfl⟩
  | _ => cases h.2

theorem ite_none_some {α : Type} {c : Prop} [Decidable c] {x y : α}
    (h : (if c then some x else none) = some y) : c ∧ x = y := by
  by_cases hc : c
  · rw [if_pos hc] at h; exact ⟨hc, Option.some.inj h⟩
  · rw [if_neg hc] at h; cases h

section
variable {v : Value} {b : Bytes}

theorem encode_array_some {l : Lim} {e : Schema} (h : encode (.array l e) v = some b) :
    ∃ n bs, encodeList (encode e) v = some (n, bs) ∧ n ≤ l.enc ∧ b = hdr 4 n ++ bs := by
  rw [encode] at h
  split at h
  · next n bs hl =>
    obtain ⟨hle, rfl⟩ := ite_none_some h
    exact ⟨n, bs, hl, hle, rfl⟩
  · cases h

theorem encode_tuple_some {encN decN : Nat} {fs : Schema}
    (h : encode (.tuple encN decN fs) v = some b) : ∃ bs, encode fs v = some bs ∧ b = hdr 4 encN ++ bs := by
  rw [encode] at h
  split at h
  · next bs hf => cases h; exact ⟨bs, hf, rfl⟩
  · cases h

end

/-- Induction along an accepting run of the element-wise encoder. -/
theorem encodeList_induction {f : Value → Option Bytes} {P : Value → Nat → Bytes → Prop} (nil : P .nil 0 [])
    (cons : ∀ v vs b n bs, f v = some b → encodeList f vs = some (n, bs) → P vs n bs →
      P (.cons v vs) (n + 1) (b ++ bs)) :
    ∀ vs n bs, encodeList f vs = some (n, bs) → P vs n bs := by
  intro vs
  induction vs with
  | nil => intro n bs h; cases h; exact nil
  | cons v vs _ ih =>
    intro n bs h
    rw [encodeList] at h
    split at h
    · next b m bs' hv hvs => cases h; exact cons v vs b m bs' hv hvs (ih m bs' hvs)
    · cases h
  | _ => intro n bs h; cases h

section
variable {v : Value} {b : Bytes}

/-- the encoding of a struct or of a slice starts with an array head, never with `0xf6` -/
theorem encode_tuple_head {encN decN : Nat} {fs : Schema}
    (h : encode (.tuple encN decN fs) v = some b) : ∃ x t, b = x :: t ∧ x ≠ 246 := by
  obtain ⟨bs, _, rfl⟩ := encode_tuple_some h
  obtain ⟨x, t, hx, hne⟩ := hdr_head 4 encN (by omega)
  exact ⟨x, t ++ bs, by rw [hx]; rfl, hne⟩

theorem encode_array_head {l : Lim} {e : Schema}
    (h : encode (.array l e) v = some b) : ∃ x t, b = x :: t ∧ x ≠ 246 := by
  obtain ⟨n, bs, _, _, rfl⟩ := encode_array_some h
  obtain ⟨x, t, hx, hne⟩ := hdr_head 4 n (by omega)
  exact ⟨x, t ++ bs, by rw [hx]; rfl, hne⟩

end

theorem ite_error_ok {α : Type} {c : Prop} [Decidable c] {e : Err} {x : Except Err α} {y : α}
    (h : (if c then .error e else x) = .ok y) : ¬ c ∧ x = .ok y := by
  by_cases hc : c
  · rw [if_pos hc] at h; cases h
  · rw [if_neg hc] at h; exact ⟨hc, h⟩

theorem ite_ne_error_ok {α : Type} {a b : Nat} {e : Err} {x : Except Err α} {y : α}
    (h : (if a ≠ b then .error e else x) = .ok y) : a = b ∧ x = .ok y :=
  ⟨Decidable.not_not.mp (ite_error_ok h).1, (ite_error_ok h).2⟩

section
variable {b : Bytes} {v : Value} {r : Bytes}

theorem readBody_ok {n : Nat} {r0 : Bytes} (h : readBody n r0 = .ok (v, r)) :
    ∃ x, takeN n r0 = some (x, r) ∧ v = .bytes x := by
  rw [readBody] at h
  split at h
  · cases h
  · next x r' hx => cases h; exact ⟨x, hx, rfl⟩

theorem decode_tnil_ok (h : decode .tnil b = .ok (v, r)) :
    v = .nil ∧ r = b := by
  cases h; exact ⟨rfl, rfl⟩

theorem decode_tcons_ok {s t : Schema}
    (h : decode (.tcons s t) b = .ok (v, r)) :
    ∃ v1 r1 v2, decode s b = .ok (v1, r1) ∧ decode t r1 = .ok (v2, r) ∧ v = .cons v1 v2 := by
  rw [decode] at h
  split at h
  · cases h
  · next v1 r1 h1 =>
    split at h
    · cases h
    · next v2 r2 h2 => cases h; exact ⟨v1, r1, v2, h1, h2, rfl⟩

end

/-- on a first byte other than `0xf6` the two pointer wrappers are transparent -/
theorem decode_nullable_cons {s : Schema} {x : Nat} (hx : x ≠ 246) (r : Bytes) :
    decode (.nullable s) (x :: r) = decode s (x :: r) := by
  simp only [decode, if_neg hx]

theorem decode_nullAsEmpty_cons {s : Schema} {x : Nat} (hx : x ≠ 246) (r : Bytes) :
    decode (.nullAsEmpty s) (x :: r) = decode s (x :: r) := by
  simp only [decode, if_neg hx]

theorem fromBE_magBytesFuel : ∀ f n, n ≤ f → fromBE (magBytesFuel f n) = n := by
  intro f
  induction f with
  | zero => intro n hn; have : n = 0 := by omega
            subst this; rfl
  | succ f ih =>
    intro n hn
    by_cases h0 : n = 0
    · subst h0; rfl
    · simp only [magBytesFuel, h0, if_false, fromBE_append_singleton]
      rw [ih (n / 256) (by omega)]
      omega

theorem fromBE_magBytes (n : Nat) : fromBE (magBytes n) = n := fromBE_magBytesFuel n n (Nat.le_refl n)

theorem Lim.documented_eq (l : Lim) (h : l.ok = true) : l.documented = l := by
  obtain ⟨h1, h2, _⟩ := (Lim.ok_iff l).mp h
  cases l; simp_all [Lim.documented]

/-- On a well-formed schema the documented limits are the enforced ones. -/
theorem Schema.documented_eq_of_wf : ∀ (s : Schema), s.wf = true → s.documented = s := by
  intro s
  induction s with
  | bytes l => intro h; rw [Schema.documented, Lim.documented_eq l h]
  | fixed a b l => intro h; rw [Schema.documented, Lim.documented_eq l (Schema.wf_fixed h).2.1]
  | array l e ih =>
    intro h; rw [Schema.documented, Lim.documented_eq l (Schema.wf_array h).1, ih (Schema.wf_array h).2.1]
  | tuple a b fs ih => intro h; rw [Schema.documented, ih (Schema.wf_tuple h).2.2]
  | tcons x y ihx ihy =>
    intro h; rw [Schema.documented, ihx (Schema.wf_tcons h).1, ihy (Schema.wf_tcons h).2]
  | nullable s ih => intro h; rw [Schema.documented, ih (Schema.wf_nullable h).1]
  | nullAsEmpty s ih => intro h; rw [Schema.documented, ih (Schema.wf_nullAsEmpty h).1]
  | _ => intro _; rfl

/-- `ZSTD.Encode` never emits a frame whose plain text is larger than the decoder's cap. -/
theorem Zstd.encode_within_cap (z : Zstd) (s : Schema) (v : Value) (c : Bytes) (h : z.encode s v = some c) :
    ∃ b, F3.Cbor.encode s v = some b ∧ b.length ≤ z.cap ∧ c = z.compress b := by
  unfold Zstd.encode at h
  split at h
  · cases h
  · next b he =>
    split at h
    · cases h
    · next hc => cases h; exact ⟨b, he, Nat.not_lt.mp hc, rfl⟩

end F3.Cbor
