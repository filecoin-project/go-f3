import F3.Proofs.CertXStore
/-! Lemmas for C16: the served range and the client's receive loop. -/
namespace F3.CertX
open F3.Certs

/-- the served range `first … serveEnd` holds `min limit (pending - first)` instances: the end is
`first + limit - 1` clamped at `pending - 1`, wrap-around of the sum included -/
theorem serveEnd_len {first limit pending : Nat} (hl : 0 < limit) (hl2 : limit ≤ 256)
    (hf : first < pending) (hp : pending < 2 ^ 64) :
    first ≤ serveEnd first limit pending ∧
      serveEnd first limit pending - first + 1 = min limit (pending - first) := by
  unfold serveEnd u64
  simp only [Bool.or_eq_true, decide_eq_true_eq]
  -- only `256 < 2 ^ 64` matters
  generalize hN : 2 ^ 64 = N at *
  have hN' : 256 < N := by rw [← hN]; decide
  clear hN
  have hclamp : pending - first ≤ limit → first ≤ pending - 1 ∧ pending - 1 - first + 1 = min limit (pending - first) :=
    fun h => by rw [Nat.min_eq_right h]; omega
  by_cases hw : first + limit - 1 < N
  · rw [Nat.mod_eq_of_lt hw]
    split
    · exact hclamp (by omega)
    · rw [Nat.min_eq_left (by omega)]; omega
  · rw [Nat.mod_eq_sub_mod (by omega), Nat.mod_eq_of_lt (by omega), if_pos (Or.inr (by omega))]
    exact hclamp (by omega)

theorem serve_eq (s : Store) (r : Request) :
    serve s r =
      (if r.first ≤ s.pending ∧ r.includePT = true then (s.getPowerTable r.first).map some else some none).map
        fun pt => (⟨s.pending, pt⟩,
          if r.first < s.pending ∧ 0 < min r.limit maxResponseLen then
            s.getRange r.first (serveEnd r.first (min r.limit maxResponseLen) s.pending)
          else []) := by
  unfold serve
  simp only [Bool.and_eq_true, decide_eq_true_eq]
  by_cases hc : r.first ≤ s.pending ∧ r.includePT = true
  · simp only [if_pos hc]
    cases s.getPowerTable r.first <;> rfl
  · simp only [if_neg hc]
    rfl

theorem getRange_serveEnd {s : Store} (hs : s.nextInst < 2 ^ 64) (first : Nat) {limit : Nat}
    (hl : limit ≤ 256) :
    (if first < s.pending ∧ 0 < limit then s.getRange first (serveEnd first limit s.pending) else []) =
      if s.first ≤ first then (s.certs.drop (first - s.first)).take limit else [] := by
  have hp := pending_eq hs
  by_cases he : s.certs = []
  · rw [if_pos he] at hp
    rw [if_neg (fun h => by rw [hp] at h; exact Nat.not_lt_zero _ h.1), he, List.drop_nil, List.take_nil, ite_self]
  rw [if_neg he] at hp
  by_cases hc : first < s.pending ∧ 0 < limit
  · obtain ⟨hle, hn⟩ := serveEnd_len hc.2 hl hc.1 (hp ▸ hs)
    rw [if_pos hc]
    by_cases hlow : s.first ≤ first
    · -- the clamp at `pending - 1` cuts where the list ends
      rw [if_pos hlow, getRange_eq s hle hlow, hn, List.take_eq_take_iff, List.length_drop,
        show s.certs.length - (first - s.first) = s.pending - first by omega, Nat.min_assoc, Nat.min_self]
    · rw [if_neg hlow, getRange_below s _ _ (by omega)]
  · rw [if_neg hc]
    split
    · by_cases h0 : limit = 0
      · rw [h0, List.take_zero]
      · rw [List.drop_eq_nil_of_le (by omega), List.take_nil]
    · rfl

theorem serve_certs {s : Store} {r : Request} {h : Header} {cs : List Cert}
    (hs : s.nextInst < 2 ^ 64) (hserve : serve s r = some (h, cs)) :
    h.pending = s.pending ∧
      cs = if s.first ≤ r.first then (s.certs.drop (r.first - s.first)).take (min r.limit maxResponseLen)
        else [] := by
  rw [serve_eq, Option.map_eq_some_iff] at hserve
  obtain ⟨pt, _, hpc⟩ := hserve
  cases hpc
  exact ⟨rfl, getRange_serveEnd hs r.first (Nat.min_le_right ..)⟩

theorem clientRecv_cons (first limit i : Nat) (c : Cert) (rest : List (Option Cert)) :
    clientRecv first limit i (some c :: rest) =
      if i < limit ∧ c.inst = u64 (first + i) then c :: clientRecv first limit (i + 1) rest else [] := by
  conv => lhs; unfold clientRecv
  by_cases h1 : limit ≤ i
  · rw [if_pos h1, if_neg (by omega)]
  · by_cases h2 : c.inst = u64 (first + i)
    · rw [if_neg h1, if_neg (by simpa using h2), if_pos ⟨by omega, h2⟩]
    · rw [if_neg h1, if_pos (by simpa using h2), if_neg (fun h => h2 h.2)]

theorem clientRecv_length (first limit i : Nat) (items : List (Option Cert)) :
    (clientRecv first limit i items).length + i ≤ max limit i := by
  induction items generalizing i with
  | nil => simp [clientRecv]; omega
  | cons x xs ih =>
    cases x with
    | none => simp [clientRecv]; omega
    | some c =>
      rw [clientRecv_cons]
      split
      · rw [List.length_cons]; have := ih (i + 1); omega
      · simp; omega

theorem clientRecv_seq (first limit i : Nat) (items : List (Option Cert)) :
    ∀ j (hj : j < (clientRecv first limit i items).length),
      ((clientRecv first limit i items)[j]).inst = u64 (first + (i + j)) := by
  induction items generalizing i with
  | nil => intro j hj; simp [clientRecv] at hj
  | cons x xs ih =>
    cases x with
    | none => intro j hj; simp [clientRecv] at hj
    | some c =>
      intro j hj
      simp only [clientRecv_cons] at hj ⊢
      split at hj
      · rename_i h
        simp only [if_pos h]
        cases j with
        | zero => exact h.2
        | succ k =>
          rw [List.getElem_cons_succ, ih (i + 1) k (by simpa using hj)]
          congr 1; omega
      · cases hj

theorem clientRecv_prefix (first limit i : Nat) (items : List (Option Cert)) :
    ((clientRecv first limit i items).map some) <+: items := by
  induction items generalizing i with
  | nil => simp [clientRecv]
  | cons x xs ih =>
    cases x with
    | none => simp [clientRecv]
    | some c =>
      rw [clientRecv_cons]
      split
      · rw [List.map_cons]
        exact (List.prefix_cons_inj _).mpr (ih (i + 1))
      · simp

theorem clientRecv_stop (first limit i : Nat) (items : List (Option Cert)) :
    (clientRecv first limit i items).length = items.length ∨
      limit ≤ i + (clientRecv first limit i items).length ∨
      items[(clientRecv first limit i items).length]? = some none ∨
      ∃ c, items[(clientRecv first limit i items).length]? = some (some c) ∧
        c.inst ≠ u64 (first + (i + (clientRecv first limit i items).length)) := by
  induction items generalizing i with
  | nil => simp [clientRecv]
  | cons x xs ih =>
    cases x with
    | none => simp [clientRecv]
    | some c =>
      rw [clientRecv_cons]
      split
      · simp only [List.length_cons, List.getElem?_cons_succ]
        rcases ih (i + 1) with h | h | h | ⟨c', hc', hne⟩
        · left; omega
        · right; left; omega
        · right; right; left; exact h
        · right; right; right
          refine ⟨c', hc', ?_⟩
          rw [show i + ((clientRecv first limit (i + 1) xs).length + 1) = i + 1 + (clientRecv first limit (i + 1) xs).length by omega]
          exact hne
      · rename_i hs
        simp only [List.length_nil, List.length_cons, Nat.add_zero, List.getElem?_cons_zero]
        by_cases h1 : i < limit
        · exact Or.inr (Or.inr (Or.inr ⟨c, rfl, fun h2 => hs ⟨h1, h2⟩⟩))
        · exact Or.inr (Or.inl (by omega))

theorem clientRecv_all {first limit : Nat} (k : Nat) (l : List Cert) (hk : k + l.length ≤ limit)
    (hinst : ∀ i (hi : i < l.length), l[i].inst = u64 (first + (k + i))) :
    clientRecv first limit k (l.map some) = l := by
  induction l generalizing k with
  | nil => rfl
  | cons c l ih =>
    rw [List.length_cons] at hk
    rw [List.map_cons, clientRecv_cons, if_pos ⟨by omega, hinst 0 (Nat.zero_lt_succ _)⟩,
      ih (k + 1) (by omega) fun i hi => by
        rw [show k + 1 + i = k + (i + 1) by omega]
        exact hinst (i + 1) (Nat.succ_lt_succ hi)]

end F3.CertX
