import F3.Proofs.AlarmInvStep
/-!
# `alarm_pending_inv` and `no_stuck_phase` at run level
-/
namespace F3.Liveness
open F3.Instance

/-- one call of a host run keeps the timer armed: the call is a refusal at the door (state untouched) or reports no
failure -/
theorem hostStep_armed {h : Host} {op : Op} (ha : Armed h.st h.timer h.clock) (hok : hostOpOk h op = true)
    (hs : refusedOp h.st op = true ∨ hasFailure (step h.st op).2 = false) :
    Armed (hostStep h op).st (hostStep h op).timer (hostStep h op).clock := by
  unfold hostOpOk at hok
  rw [Bool.and_eq_true, decide_eq_true_eq] at hok
  obtain ⟨hclk, hal⟩ := hok
  by_cases hr : refusedOp h.st op = true
  · obtain ⟨k, hk, _⟩ := step_refusedOp hr
    cases op with
    | recv now m =>
      simp only [hostStep, hk, timerBefore, lastAlarm_cons, alarmUpd, lastAlarm_nil]
      exact ha.same (SameT.refl _) hclk
    | start _ => cases hr
    | alarm _ => cases hr
  · have hnf : hasFailure (step h.st op).2 = false := hs.resolve_left hr
    cases op with
    | alarm now =>
      cases htm : h.timer with
      | none => rw [htm] at hal; cases hal
      | some t =>
        rw [htm] at hal ha
        have ht : t ≤ now := by simpa using hal
        rcases step_alarmOK h.st now with hf | hgood
        · rw [hnf] at hf; cases hf
        · exact hgood t h.clock hclk ht ha
    | start now =>
      rcases step_recvOK h.st (.start now) (fun _ hh => by cases hh) with hf | hgood
      · rw [hnf] at hf; cases hf
      · exact hgood h.timer h.clock hclk ha
    | recv now m =>
      rcases step_recvOK h.st (.recv now m) (fun _ hh => by cases hh) with hf | hgood
      · rw [hnf] at hf; cases hf
      · exact hgood h.timer h.clock hclk ha

theorem hostRun_armed (h : Host) (ops : List Op) (ha : Armed h.st h.timer h.clock) (hok : hostOk h ops = true)
    (hrun : okRunI h.st ops = true) :
    Armed (hostRun h ops).st (hostRun h ops).timer (hostRun h ops).clock := by
  induction ops generalizing h with
  | nil => exact ha
  | cons op ops ih =>
    simp only [hostOk, Bool.and_eq_true] at hok
    simp only [okRunI, Bool.and_eq_true, Bool.or_eq_true, Bool.not_eq_true'] at hrun
    rw [hostRun_cons]
    exact ih _ (hostStep_armed ha hok.1 hrun.1) hok.2 hrun.2

/-- the host of a freshly created instance: nothing armed -/
def initHost (cfg : Cfg) (t : Table) (input : Chain) (now0 : Int) : Host :=
  { st := init cfg t input, timer := none, clock := now0 }

/-- **The host's timer is armed in every reachable state of QUALITY / CONVERGE / PREPARE / COMMIT of a round up to
`rebroadcastImmediatelyAfterRound`.** `ops` is arbitrary, so this covers every state the run passes through. The run
hypothesis `okRunI` (every call a refusal at the door or failure-free) is what `C07.no_internal_error_or_panic` proves
for validated deliveries (see `C06.alarm_pending_validated`). -/
theorem alarm_pending_inv (cfg : Cfg) (t : Table) (input : Chain) (now0 : Int) (ops : List Op)
    (hrun : okRunI (init cfg t input) (.start now0 :: ops) = true)
    (hhost : hostOk (initHost cfg t input now0) (.start now0 :: ops) = true) :
    Armed (hostRun (initHost cfg t input now0) (.start now0 :: ops)).st
      (hostRun (initHost cfg t input now0) (.start now0 :: ops)).timer
      (hostRun (initHost cfg t input now0) (.start now0 :: ops)).clock := by
  apply hostRun_armed _ _ _ hhost hrun
  apply Armed.of_out
  intro hs
  rcases hs.2 with h | h | h | h <;> cases h

/-- some alarm is pending in every such state, so an `alarm` call is still to come -/
theorem alarm_pending (cfg : Cfg) (t : Table) (input : Chain) (now0 : Int) (ops : List Op)
    (hrun : okRunI (init cfg t input) (.start now0 :: ops) = true)
    (hhost : hostOk (initHost cfg t input now0) (.start now0 :: ops) = true)
    (hs : InScope (hostRun (initHost cfg t input now0) (.start now0 :: ops)).st) :
    ∃ tm, (hostRun (initHost cfg t input now0) (.start now0 :: ops)).timer = some tm :=
  (alarm_pending_inv cfg t input now0 ops hrun hhost).some hs

theorem hostOk_take (h : Host) (ops : List Op) (k : Nat) (hok : hostOk h ops = true) : hostOk h (ops.take k) = true := by
  induction ops generalizing h k with
  | nil => simp [hostOk]
  | cons op ops ih =>
    cases k with
    | zero => rfl
    | succ k =>
      simp only [hostOk, Bool.and_eq_true, List.take_succ_cons] at hok ⊢
      exact ⟨hok.1, ih _ k hok.2⟩

theorem okRunI_take (s : State) (ops : List Op) (k : Nat) (hok : okRunI s ops = true) : okRunI s (ops.take k) = true := by
  induction ops generalizing s k with
  | nil => simp [okRunI]
  | cons op ops ih =>
    cases k with
    | zero => rfl
    | succ k =>
      simp only [okRunI, Bool.and_eq_true, List.take_succ_cons] at hok ⊢
      exact ⟨hok.1, ih _ k hok.2⟩

theorem okRunI_snoc (s : State) (ops : List Op) (op : Op) (h : okRunI s (ops ++ [op]) = true) :
    okRunI s ops = true ∧
    (refusedOp (runFrom s ops).1 op = true ∨ hasFailure (step (runFrom s ops).1 op).2 = false) := by
  induction ops generalizing s with
  | nil =>
    simp only [List.nil_append, okRunI, Bool.and_eq_true, Bool.or_eq_true, Bool.not_eq_true'] at h
    exact ⟨rfl, h.1⟩
  | cons o ops ih =>
    simp only [List.cons_append, okRunI, Bool.and_eq_true, Bool.or_eq_true, Bool.not_eq_true'] at h ⊢
    obtain ⟨h1, h2⟩ := ih _ h.2
    refine ⟨⟨h.1, h1⟩, ?_⟩
    rw [runFrom_cons]; exact h2

theorem hostOk_snoc (h : Host) (ops : List Op) (op : Op) (hok : hostOk h (ops ++ [op]) = true) :
    hostOk h ops = true ∧ hostOpOk (hostRun h ops) op = true := by
  induction ops generalizing h with
  | nil =>
    simp only [List.nil_append, hostOk, Bool.and_eq_true] at hok
    exact ⟨rfl, hok.1⟩
  | cons o ops ih =>
    simp only [List.cons_append, hostOk, Bool.and_eq_true] at hok ⊢
    obtain ⟨h1, h2⟩ := ih _ hok.2
    exact ⟨⟨hok.1, h1⟩, h2⟩

/-- the instance stayed in its phase and round, requested the rebroadcast round when one was scheduled, scheduled the
next rebroadcast and set the timer to it -/
def Rearmed (s : State) (r : R) : Prop :=
  r.1.phase = s.phase ∧ r.1.round = s.round ∧
  (s.rebTimeout ≠ none → ∀ e ∈ rebroadcastEffs s, e ∈ r.2) ∧
  ∃ rt, r.1.rebTimeout = some rt ∧ lastAlarm none r.2 = some rt

theorem armed_due_elapsed {s : State} {t c now : Int} (ha : Armed s (some t) c) (hs : InScope s) (hc : c ≤ now)
    (ht : t ≤ now) : s.phaseTimeoutElapsed now = true := by
  rw [elapsed_iff]
  rcases ha hs with ⟨_, _, h⟩ | ⟨rt, _, _, h⟩
  · injection h with h; omega
  · omega

theorem reb_rearm {s s' : State} {t c now : Int} (hT : SameT s s') (hre : rebroadcastEffs s' = rebroadcastEffs s)
    (ha : Armed s (some t) c) (hs : InScope s) (ht : t ≤ now) (hel : s'.phaseTimeoutElapsed now = true) :
    Rearmed s (s'.tryRebroadcast now) := by
  obtain ⟨_, h2, h3, _⟩ := tryRebroadcast_same s' now
  refine ⟨h3.trans hT.phase, h2.trans hT.round, ?_⟩
  rcases ha hs with ⟨h1, h2, _⟩ | ⟨rt0, h1, h2, _⟩
  · obtain ⟨rt, hr1, hr2⟩ := reb_first s' now (by rw [hT.rt, h1]) (by rw [hT.att, h2]) hel
    exact ⟨fun hne => absurd h1 hne, rt, hr1, by rw [hr2]; rfl⟩
  · have hd : rt0 ≤ now := by
      injection h2 with h2; omega
    obtain ⟨rt, hr1, hr2, _⟩ := reb_due s' now rt0 (by rw [hT.rt, h1]) hd hel
    refine ⟨fun _ e he => ?_, rt, hr1, ?_⟩
    · rw [hr2, hre]; exact List.mem_append_left _ he
    · rw [hr2, lastAlarm_append, lastAlarm_rebroadcastEffs]; rfl

theorem elapsed_should {s : State} {now : Int} (h : s.phaseTimeoutElapsed now = true) : s.shouldRebroadcast now = true := by
  unfold State.shouldRebroadcast; rw [h]; rfl

theorem rebroadcastEffs_congr {s s' : State} (h1 : s'.phase = s.phase) (h2 : s'.round = s.round) :
    rebroadcastEffs s' = rebroadcastEffs s := by
  unfold rebroadcastEffs; rw [h1, h2]

theorem beginPrepare_phase_round (s : State) (now : Int) (j : Option Just) :
    (s.beginPrepare now j).1.phase = .prepare ∧ (s.beginPrepare now j).1.round = s.round := by
  unfold State.beginPrepare State.alarmAfter State.resetReb
  exact ⟨rfl, rfl⟩

theorem beginNextRound_phase_round (s : State) (now : Int) (hnf : hasFailure (s.beginNextRound now).2 = false) :
    (s.beginNextRound now).1.phase = .converge ∧ (s.beginNextRound now).1.round = s.round + 1 := by
  unfold State.beginNextRound at hnf ⊢
  dsimp only at hnf ⊢
  split
  · rename_i j hj
    simp only [hj] at hnf
    unfold State.beginConverge State.alarmAfter State.resetReb State.setRound at hnf ⊢
    dsimp only at hnf ⊢
    split
    · rename_i hc; simp [hc, hasFailure] at hnf
    · exact ⟨rfl, rfl⟩
  · rename_i p hp
    simp [hp, hasFailure] at hnf

/-- QUALITY: the due alarm ends the phase, whatever was received -/
theorem quality_alarm_leaves {s : State} {now : Int} (hp : s.phase = .quality) (hel : s.phaseTimeoutElapsed now = true) :
    (step s (.alarm now)).1.phase = .prepare ∧ (step s (.alarm now)).1.round = s.round := by
  have e : step s (.alarm now) = s.tryQuality now := tryCurrentPhase_quality s now hp
  rw [e]
  refine tryQuality_ind s now ?_ ?_ ?_
  · exact fun h => absurd hp h
  · intro _ h; rw [hel, Bool.or_true] at h; cases h
  · exact fun _ _ _ _ => beginPrepare_phase_round _ _ _

/-- CONVERGE: the due alarm ends the phase (the alternative, `noValuesAtConverge`, is a failure) -/
theorem converge_alarm_leaves {s : State} {now : Int} (hp : s.phase = .converge)
    (hel : s.phaseTimeoutElapsed now = true) (hnf : hasFailure (step s (.alarm now)).2 = false) :
    (step s (.alarm now)).1.phase = .prepare ∧ (step s (.alarm now)).1.round = s.round := by
  have e : step s (.alarm now) = s.tryConverge now := tryCurrentPhase_converge s now hp
  rw [e] at hnf ⊢
  revert hnf
  refine tryConverge_ind s now
    ?_ ?_ ?_ ?_ ?_
  · exact fun h => absurd hp h
  · intro _ h; rw [hel] at h; cases h
  · intro _ h; rw [hel] at h; cases h
  · intro _ _ _ hf; cases hf
  · exact fun _ _ _ _ _ _ _ _ => beginPrepare_phase_round _ _ _

/-- PREPARE: the due alarm ends the phase, or — no strong quorum of senders heard, proposal still possible — the
rebroadcast path re-arms the timer -/
theorem prepare_alarm {s : State} {t c now : Int} (hp : s.phase = .prepare) (ha : Armed s (some t) c) (hs : InScope s)
    (ht : t ≤ now) (hel : s.phaseTimeoutElapsed now = true) :
    ((step s (.alarm now)).1.phase = .commit ∧ (step s (.alarm now)).1.round = s.round) ∨
    (Rearmed s (step s (.alarm now)) ∧ (s.getRound s.round).prepared.fromStrong s.tbl = false) := by
  have e : step s (.alarm now) = s.tryPrepare now := tryCurrentPhase_prepare s now hp
  rw [e]
  refine tryPrepare_ind s now ?_ ?_ ?_ ?_
  · exact fun h => absurd hp h
  · exact fun _ _ _ _ => Or.inl (beginCommit_res _ now)
  · intro _ hc v _ _
    have hq : s.prepComplete now = false := (Bool.or_eq_false_iff.1 hc).2
    unfold State.prepComplete at hq
    rw [hel, Bool.true_and] at hq
    exact Or.inr ⟨reb_rearm (s' := { s with value := v }) ⟨rfl, rfl, rfl, rfl, rfl, rfl⟩ (rebroadcastEffs_congr rfl rfl)
      ha hs ht hel, hq⟩
  · intro _ _ v _ h
    rw [elapsed_should (s := { s with value := v }) hel] at h; cases h

/-- COMMIT: the due alarm ends the phase (DECIDE, or CONVERGE of the next round), or — no strong quorum of senders
heard — the rebroadcast path re-arms the timer -/
theorem commit_alarm {s : State} {t c now : Int} (hp : s.phase = .commit) (ha : Armed s (some t) c) (hs : InScope s)
    (ht : t ≤ now) (hel : s.phaseTimeoutElapsed now = true) (hnf : hasFailure (step s (.alarm now)).2 = false) :
    (step s (.alarm now)).1.phase = .decide ∨
    ((step s (.alarm now)).1.phase = .converge ∧ (step s (.alarm now)).1.round = s.round + 1) ∨
    (Rearmed s (step s (.alarm now)) ∧ (s.getRound s.round).committed.fromStrong s.tbl = false) := by
  have e : step s (.alarm now) = s.tryCommit now s.round := tryCurrentPhase_commit s now hp
  rw [e] at hnf ⊢
  revert hnf
  refine tryCommit_ind s now s.round ?_ ?_ ?_ ?_ ?_ ?_ ?_
  · intro _ hf; cases hf
  · exact fun _ _ _ _ => Or.inl (by rw [beginDecide_fst])
  · intro h _; simp [hp] at h
  · exact fun _ _ hf => Or.inr (Or.inl (beginNextRound_phase_round s now hf))
  · exact fun _ _ _ _ _ _ _ hf => Or.inr (Or.inl (beginNextRound_phase_round _ now hf))
  · intro _ _ _ hc _ _
    rw [hel, Bool.true_and] at hc
    exact Or.inr (Or.inr ⟨reb_rearm (SameT.refl s) rfl ha hs ht hel, hc⟩)
  · intro _ _ _ _ h
    rw [elapsed_should hel] at h; cases h

theorem tryCurrentPhase_cfg (s : State) (now : Int) : (s.tryCurrentPhase now).1.cfg = s.cfg :=
  tryCurrentPhase_ind s now (fun _ => tryQuality_cfg s now) (fun _ => tryConverge_cfg s now)
    (fun _ => tryPrepare_cfg s now) (fun _ => tryCommit_cfg s now s.round)
    (fun _ => tryDecide_ind s now (fun _ _ => rfl) (fun _ _ _ _ => rfl)
      (fun _ => tryRebroadcast_cfg s now))
    (fun _ => rfl) (fun _ => rfl)

/-- **No stuck phase.** In a state of QUALITY / CONVERGE / PREPARE / COMMIT (round up to
`rebroadcastImmediatelyAfterRound`) whose timer is armed as the invariant says, the alarm — fired when due, time not
running backwards — finds the phase timeout expired, and: QUALITY and CONVERGE are left for PREPARE; PREPARE is left for
COMMIT and COMMIT for DECIDE or the next round, unless no strong quorum of senders has been heard, in which case the
instance stays, requests the rebroadcast round that was scheduled, and re-arms the timer; in every case an alarm is
pending afterwards unless the instance is now in DECIDE. -/
theorem no_stuck_phase (s : State) (t c now : Int) (ha : Armed s (some t) c) (hs : InScope s) (hc : c ≤ now)
    (ht : t ≤ now) (hnf : hasFailure (step s (.alarm now)).2 = false) :
    s.phaseTimeoutElapsed now = true ∧
    (s.phase = .quality → (step s (.alarm now)).1.phase = .prepare ∧ (step s (.alarm now)).1.round = s.round) ∧
    (s.phase = .converge → (step s (.alarm now)).1.phase = .prepare ∧ (step s (.alarm now)).1.round = s.round) ∧
    (s.phase = .prepare →
      ((step s (.alarm now)).1.phase = .commit ∧ (step s (.alarm now)).1.round = s.round) ∨
      (Rearmed s (step s (.alarm now)) ∧ (s.getRound s.round).prepared.fromStrong s.tbl = false)) ∧
    (s.phase = .commit →
      (step s (.alarm now)).1.phase = .decide ∨
      ((step s (.alarm now)).1.phase = .converge ∧ (step s (.alarm now)).1.round = s.round + 1) ∨
      (Rearmed s (step s (.alarm now)) ∧ (s.getRound s.round).committed.fromStrong s.tbl = false)) ∧
    ((step s (.alarm now)).1.phase = .decide ∨ ∃ t', lastAlarm none (step s (.alarm now)).2 = some t') := by
  have hel := armed_due_elapsed ha hs hc ht
  refine ⟨hel, fun hp => quality_alarm_leaves hp hel, fun hp => converge_alarm_leaves hp hel hnf,
    fun hp => prepare_alarm hp ha hs ht hel, fun hp => commit_alarm hp ha hs ht hel hnf, ?_⟩
  rcases step_alarmOK s now with hf | hgood
  · rw [hnf] at hf; cases hf
  · have harm := hgood t c hc ht ha
    have hcfg : (step s (.alarm now)).1.cfg = s.cfg := tryCurrentPhase_cfg s now
    by_cases hs' : InScope (step s (.alarm now)).1
    · exact Or.inr (harm.some hs')
    · -- left the scope: DECIDE, or a round beyond `rebImmediateAfter` entered by `beginNextRound` (fresh alarm)
      rcases hs.2 with hp | hp | hp | hp
      · exact absurd ⟨by rw [(quality_alarm_leaves hp hel).2, hcfg]; exact hs.1, Or.inr (Or.inr (Or.inl (quality_alarm_leaves hp hel).1))⟩ hs'
      · exact absurd ⟨by rw [(converge_alarm_leaves hp hel hnf).2, hcfg]; exact hs.1,
          Or.inr (Or.inr (Or.inl (converge_alarm_leaves hp hel hnf).1))⟩ hs'
      · rcases prepare_alarm hp ha hs ht hel with h | ⟨h, _⟩
        · exact absurd ⟨by rw [h.2, hcfg]; exact hs.1, Or.inr (Or.inr (Or.inr h.1))⟩ hs'
        · obtain ⟨_, _, _, rt, _, h4⟩ := h; exact Or.inr ⟨rt, h4⟩
      · rcases commit_alarm hp ha hs ht hel hnf with h | h | ⟨h, _⟩
        · exact Or.inl h
        · -- entered the next round: `beginConverge` requested the phase timeout
          right
          rcases tryCurrentPhase_outcome s now with hf | ho | hfr | ⟨hsame, _, _⟩ | ⟨s', hT, _, heq⟩
          · have : hasFailure (s.tryCurrentPhase now).2 = false := hnf
            rw [this] at hf; cases hf
          · exfalso
            have h1 : (s.tryCurrentPhase now).1.phase = .converge := h.1
            rcases ho with ho | ho | ho <;> rw [h1] at ho <;> cases ho
          · exact ⟨_, hfr.2.2 none⟩
          · exfalso
            have h2 : (s.tryCurrentPhase now).1.round = s.round + 1 := h.2
            rw [hsame.round] at h2; omega
          · exfalso
            have h2 : (s.tryCurrentPhase now).1.round = s.round + 1 := h.2
            rw [heq, (tryRebroadcast_same s' now).2.1, hT.round] at h2; omega
        · obtain ⟨_, _, _, rt, _, h4⟩ := h; exact Or.inr ⟨rt, h4⟩

end F3.Liveness
