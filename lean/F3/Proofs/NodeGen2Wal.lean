import F3.Model.Wal
import F3.Gen.Wal2
import F3.Proofs.GenTie
/-! Which files `WriteAheadLog.Purge` deletes (`internal/writeaheadlog/wal.go`) against `F3.Gen.Wal2`, regenerated on
every run from `tools/go2lean/targets.d/Wal2.json`. Core-only. -/
namespace F3.Gen2Tie
open F3.Wal F3.Proofs.GenTie

/-- **`Purge` deletes a closed file exactly when the source's `c.maxEpoch < keepEpoch` holds**: the
closed files the model keeps after `purge k`, and the names it deletes, are given by the regenerated
condition. Every codec, state and epoch; the active file is not in `logFiles`. -/
theorem purge_selection_is_regenerated {α β : Type} (cfg : Cfg α β) (s : State α β) (m : Mem) (k : Nat)
    (hm : s.mem = some m) :
    ((step cfg s (.purge k)).1.mem.map (·.logFiles)) =
      some (m.logFiles.filter (fun st => !F3.Gen.Wal2.purgeDeletes st.maxEpoch k)) ∧
    (step cfg s (.purge k)).1.dir =
      s.dir.filter (fun f => !(((m.logFiles.filter (fun st => F3.Gen.Wal2.purgeDeletes st.maxEpoch k)).map
        (·.name)).contains f.1)) := by
  have e : ∀ st : Stat, F3.Gen.Wal2.purgeDeletes st.maxEpoch k = decide (st.maxEpoch < k) := by
    intro st; unfold F3.Gen.Wal2.purgeDeletes; exact cast_lt _ _
  simp only [e]
  unfold step
  simp [hm]

/-- the only file-system effect of `Purge` is `os.Remove` of the selected file, from the source -/
theorem purge_call_site :
    F3.Gen.Wal2.callSites =
      [("internal/writeaheadlog/wal.go", "Remove", ["filepath.Join(wal.path, c.logName)"])] := rfl

end F3.Gen2Tie
