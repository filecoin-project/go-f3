import F3.Proofs.NoFailureRun
/-!
# Every message an honest participant emits is acceptable to the validator model (`MsgValid`)

`GuardL` (Layer B) proves the *existence* of quorum evidence behind a broadcast. Here the **attached**
justification itself is shown to be the one `MsgValid` (the model of `gpbft/validator.go`) demands:

* QUALITY: round 0, non-bottom value;
* CONVERGE: round `≥ 1`, non-bottom value, justification `ConvJust` of the previous round (strong PREPARE quorum
  for the value or strong COMMIT quorum for bottom);
* PREPARE: round 0 without justification, round `≥ 1` with a `ConvJust` justification;
* COMMIT: bottom without justification, a value with the `CommitJust` justification (strong PREPARE quorum of the
  same round for the same value);
* DECIDE: round 0, non-bottom value, justification = strong COMMIT quorum (any round) for the same value.

`Shape W t r ph v j` is the phase-specific part of `MsgValid`; `Shaped` says every broadcast of an effect list has
it. The evidence set is the same `W` as in Layer B: the validly signed votes in existence — it contains every vote
delivered to the participant (hypothesis `OpValidG W t`) and the participant's own broadcasts (hypothesis `OwnIn`).
No further votes are needed: every signer of an attached justification is a sender whose vote was *delivered*
(self-delivery included) or a signer of a justification that was delivered.
-/
namespace F3.EmittedValid
open F3.Instance

variable {W : Votes} {me : Pid}

/-- the phase-specific part of `MsgValid`: what the validator demands of round, value and justification -/
def Shape (W : Votes) (t : Table) (r : Nat) (ph : Phase) (v : Chain) (j : Option Just) : Prop :=
  match ph with
  | .quality => r = 0 ∧ v ≠ []
  | .converge => 0 < r ∧ v ≠ [] ∧ ∃ j', j = some j' ∧ ConvJust W t r v j'
  | .prepare => (r = 0 → j = none) ∧ (0 < r → ∃ j', j = some j' ∧ ConvJust W t r v j')
  | .commit => (v = [] → j = none) ∧ (v ≠ [] → ∃ j', j = some j' ∧ CommitJust W t r v j')
  | .decide => r = 0 ∧ v ≠ [] ∧ ∃ j', j = some j' ∧ JustOk W t j' ∧ j'.phase = .commit ∧ j'.value = v
  | _ => False

/-- the message a peer receives for a broadcast request of participant `p` (ticket rank irrelevant to `MsgValid`) -/
def msgOf (p : Pid) (r : Nat) (ph : Phase) (v : Chain) (j : Option Just) : Msg :=
  { sender := p, round := r, phase := ph, value := v, just := j }

theorem msgValid_of_shape {t : Table} {p : Pid} {r : Nat} {ph : Phase} {v : Chain} {j : Option Just}
    (hw : W p r ph v) (hp : 0 < t.power p) (hs : Shape W t r ph v j) : MsgValid W t (msgOf p r ph v j) :=
  ⟨hw, hp, by cases ph <;> exact hs⟩

theorem shape_of_msgValid {t : Table} {m : Msg} (h : MsgValid W t m) : Shape W t m.round m.phase m.value m.just := by
  obtain ⟨_, _, h3⟩ := h
  revert h3
  cases m.phase <;> exact fun h => h

/-- every broadcast of an effect list has the shape the validator demands -/
def Shaped (W : Votes) (t : Table) (es : List Eff) : Prop :=
  ∀ r ph v tk j, Eff.broadcast r ph v tk j ∈ es → Shape W t r ph v j

theorem Shaped_nil {t : Table} : Shaped W t [] := by
  intro r ph v tk j hm; simp at hm

theorem Shaped_append {t : Table} {a b : List Eff} (ha : Shaped W t a) (hb : Shaped W t b) : Shaped W t (a ++ b) := by
  intro r ph v tk j hm
  rcases List.mem_append.1 hm with hm | hm
  · exact ha r ph v tk j hm
  · exact hb r ph v tk j hm

theorem not_bc_of_evs_nil {es : List Eff} (h : evs es = []) {r : Nat} {ph : Phase} {v : Chain} {tk : Bool}
    {j : Option Just} : Eff.broadcast r ph v tk j ∉ es := by
  intro hm
  have : Ev.bc r ph ∈ evs es := by
    simp only [evs, List.mem_filterMap]; exact ⟨_, hm, rfl⟩
  rw [h] at this; simp at this

theorem ConvJust.round_pos {t : Table} {r : Nat} {c : Chain} {j : Just} (h : ConvJust W t r c j) : 0 < r := by
  have := h.2.1; omega

theorem beginPrepare_bc' (s : State) (now : Int) (j : Option Just) (r : Nat) (ph : Phase) (v : Chain) (tk : Bool)
    (j' : Option Just) (h : Eff.broadcast r ph v tk j' ∈ (s.beginPrepare now j).2) :
    r = s.round ∧ ph = .prepare ∧ v = s.value ∧ j' = j := by
  unfold State.beginPrepare State.alarmAfter State.resetReb at h
  simp at h
  exact ⟨h.1, h.2.1, h.2.2.1, h.2.2.2.2⟩

theorem beginCommit_bc' (s : State) (now : Int) (r : Nat) (ph : Phase) (v : Chain) (tk : Bool)
    (j' : Option Just) (h : Eff.broadcast r ph v tk j' ∈ (s.beginCommit now).2) :
    r = s.round ∧ ph = .commit ∧ v = s.value ∧ (v = [] → j' = none) ∧
      (v ≠ [] → ∃ j, j' = some j ∧
        ({ s with phase := .commit, phaseTimeout := now + s.roundTimeout } : State).resetReb.commitJust = .ok j) := by
  unfold State.beginCommit State.alarmAfter at h
  dsimp only at h
  split at h
  · rename_i he
    simp at h
    refine ⟨h.1, h.2.1, h.2.2.1, fun _ => h.2.2.2.2, fun hne => ?_⟩
    rw [h.2.2.1] at hne
    exact absurd (by simpa [State.resetReb] using he) hne
  · rename_i he
    split at h
    · rename_i j hj
      simp at h
      refine ⟨h.1, h.2.1, h.2.2.1, fun hv => ?_, fun _ => ⟨j, h.2.2.2.2, ?_⟩⟩
      · rw [h.2.2.1] at hv
        exact absurd (by simpa [State.resetReb] using hv) he
      · simpa [State.roundTimeout] using hj
    · simp at h

theorem beginDecide_bc' (s : State) (round : Nat) (r : Nat) (ph : Phase) (v : Chain) (tk : Bool)
    (j' : Option Just) (h : Eff.broadcast r ph v tk j' ∈ (s.beginDecide round).2) :
    r = 0 ∧ ph = .decide ∧ v = s.value ∧
      ∃ sg, (s.getRound round).committed.findStrongQuorumFor s.tbl s.value = .found sg ∧
        j' = some { round := round, phase := .commit, value := s.value, signers := sg } := by
  unfold State.beginDecide State.resetReb at h
  dsimp only at h
  split at h
  · rename_i sg hsg
    simp at h
    exact ⟨h.1, h.2.1, h.2.2.1, sg, by simpa [State.getRound] using hsg, h.2.2.2.2⟩
  · simp at h
  · simp at h

theorem beginConverge_bc' (s : State) (now : Int) (j : Just) (r : Nat) (ph : Phase) (v : Chain) (tk : Bool)
    (j' : Option Just) (h : Eff.broadcast r ph v tk j' ∈ (s.beginConverge now j).2) :
    r = s.round ∧ ph = .converge ∧ v = s.proposal ∧ j' = some j := by
  unfold State.beginConverge State.alarmAfter State.resetReb State.setRound at h
  dsimp only at h
  split at h
  · simp at h
  · simp at h
    exact ⟨h.1, h.2.1, h.2.2.1, h.2.2.2.2⟩

theorem tryRebroadcast_shaped {t : Table} (s : State) (now : Int) : Shaped W t (s.tryRebroadcast now).2 :=
  fun _ _ _ _ _ hm => absurd hm (not_bc_of_evs_nil (tryRebroadcast_evs s now))

/-- a single non-broadcast effect -/
theorem Shaped_single {t : Table} {e : Eff} (h : ∀ r ph v tk j, e ≠ .broadcast r ph v tk j) : Shaped W t [e] :=
  fun r ph v tk j hm => absurd (List.mem_singleton.1 hm).symm (h r ph v tk j)

theorem tryQuality_shaped {s : State} (now : Int) (h : GInv W me s) : Shaped W s.tbl (s.tryQuality now).2 := by
  refine tryQuality_ind s now (fun _ => Shaped_single (by simp)) (fun _ _ => Shaped_nil)
    (fun hq _ cs _ r ph v tk j hm => ?_)
  obtain ⟨hr, rfl, _, rfl⟩ := beginPrepare_bc' _ _ _ _ _ _ _ _ hm
  have hr0 : r = 0 := hr.trans (h.early (by simp [hq, Phase.toNat]))
  exact ⟨fun _ => rfl, fun hpos => by omega⟩

theorem tryConverge_shaped {s : State} (now : Int) (h : GInv W me s) : Shaped W s.tbl (s.tryConverge now).2 := by
  refine tryConverge_ind s now (fun _ => Shaped_single (by simp)) (fun _ _ _ => tryRebroadcast_shaped s now)
    (fun _ _ _ => Shaped_nil) (fun _ _ _ => Shaped_single (by simp)) (fun _ _ w hw _ cs _ r ph v tk j hm => ?_)
  obtain ⟨hr, rfl, hv, rfl⟩ := beginPrepare_bc' _ _ _ _ _ _ _ _ hm
  obtain ⟨_, hcj⟩ := (getRound_ok h.core.rounds s.round).conv w (findBest_mem _ _ _ hw).1
  rw [hr, hv]
  exact ⟨fun h0 => by have := ConvJust.round_pos hcj; simp only at h0; omega, fun _ => ⟨w.just, rfl, hcj⟩⟩

theorem commitJust_cj {s : State} (hr : RoundsOK W s.tbl s.rounds) (hv : s.value ≠ []) (j : Just)
    (h : s.commitJust = .ok j) : CommitJust W s.tbl s.round s.value j := by
  unfold State.commitJust at h
  dsimp only at h
  have hcur := getRound_ok hr s.round
  have hnxt := getRound_ok hr (s.round + 1)
  split at h
  · rename_i sg hsg
    cases h
    obtain ⟨h1, h2, h3, h4⟩ := findStrongQuorumFor_spec s.tbl _ s.value sg hcur.prep.wf hsg
    exact ⟨⟨h1, h2, h3, fun i hi => by obtain ⟨x, hx, hvv⟩ := h4 i hi; exact ⟨x, hx, hvv.1⟩⟩, rfl, rfl, rfl⟩
  · cases h
  · split at h
    · rename_i j1 hj1
      cases h
      obtain ⟨e, he, hej, _, _, hkey⟩ := TallyOK.getJustOf_mem hj1
      obtain ⟨_, hcj⟩ := (hcur.comm.justs e he).2 rfl
      rw [hej, hkey hv] at hcj
      exact hcj
    · split at h
      · rename_i j2 hj2
        cases h
        obtain ⟨e, he, hej, hph, _, hkey⟩ := TallyOK.getJustOf_mem hj2
        obtain ⟨hok, hjr, hcase⟩ := (hnxt.prep.justs e he).1 rfl
        rw [hej] at hok hjr hcase
        rw [hkey hv] at hcase
        rcases hcase with ⟨hp, hvv⟩ | ⟨hp, _⟩
        · exact ⟨hok, by omega, hp, hvv⟩
        · rw [hph] at hp; cases hp
      · split at h
        · rename_i j3 hj3
          cases h
          obtain ⟨cv, hcm, hcj, hph, _, hkey⟩ := Conv.getJustOf_mem hj3
          obtain ⟨_, hok, hjr, hcase⟩ := hnxt.conv cv hcm
          rw [hcj] at hok hjr hcase
          rw [hkey hv] at hcase
          rcases hcase with ⟨hp, hvv⟩ | ⟨hp, _⟩
          · exact ⟨hok, by omega, hp, hvv⟩
          · rw [hph] at hp; cases hp
        · cases h

theorem tryPrepare_shaped {s : State} (now : Int) (h : GInv W me s) : Shaped W s.tbl (s.tryPrepare now).2 := by
  refine tryPrepare_ind s now (fun _ => Shaped_single (by simp)) (fun _ _ v _ r ph v' tk j hm => ?_)
    (fun _ _ v _ _ => tryRebroadcast_shaped _ now) (fun _ _ v _ _ => Shaped_nil)
  obtain ⟨hr, rfl, hv, hbot, hjust⟩ := beginCommit_bc' _ _ _ _ _ _ _ hm
  refine ⟨hbot, fun hne => ?_⟩
  obtain ⟨j', hj', hcj⟩ := hjust hne
  have := (fun hrs hvv => commitJust_cj (W := W) hrs hvv j' hcj) h.core.rounds (by rw [hv] at hne; exact hne)
  rw [hr, hv]
  exact ⟨j', hj', this⟩

theorem beginNextRound_shaped {s : State} (now : Int) (hr : RoundsOK W s.tbl s.rounds) (hp : s.proposal ≠ []) :
    Shaped W s.tbl (s.beginNextRound now).2 := by
  intro r ph v tk j hm
  unfold State.beginNextRound at hm
  dsimp only at hm
  split at hm
  · rename_i j0 hj0
    obtain ⟨rfl, rfl, rfl, rfl⟩ := beginConverge_bc' _ _ _ _ _ _ _ _ hm
    have hcj := nextRoundJust_conv (W := W) (s1 := { s with round := s.round + 1 }) hr (by simp) j0 hj0
    exact ⟨by simp, hp, j0, rfl, hcj⟩
  · simp at hm

theorem tryCommit_shaped {s : State} (now : Int) (round : Nat) (h : GInv W me s) :
    Shaped W s.tbl (s.tryCommit now round).2 := by
  have hnext := beginNextRound_shaped (W := W) now h.core.rounds h.core.propNe
  refine tryCommit_ind s now round (fun _ => Shaped_single (by simp)) (fun c _ hne r ph v tk j hm => ?_)
    (fun _ _ => Shaped_nil) (fun _ _ => hnext) (fun _ _ _ _ cs p heq => ?_)
    (fun _ _ _ _ _ => tryRebroadcast_shaped s now) (fun _ _ _ _ _ => Shaped_nil)
  · obtain ⟨rfl, rfl, hv, sg, hsg, rfl⟩ := beginDecide_bc' _ _ _ _ _ _ _ hm
    have hv' : v = c := hv
    obtain ⟨h1, h2, h3, h4⟩ := findStrongQuorumFor_spec s.tbl _ c sg (getRound_ok h.core.rounds round).comm.wf
      (by simpa [State.getRound] using hsg)
    rw [hv']
    exact ⟨rfl, by simpa using hne, _, rfl,
      ⟨h1, h2, h3, fun i hi => by obtain ⟨x, hx, hvv⟩ := h4 i hi; exact ⟨x, hx, hvv.1⟩⟩, rfl, rfl⟩
  · -- the swayed proposal is a committed non-bottom value or the old proposal
    have hp : p ≠ [] := by
      have hpe : (s.commitSway (s.getRound round).committed).proposal = p := by rw [heq]
      rw [← hpe]
      rcases commitSway_cases s (s.getRound round).committed with ⟨_, heq'⟩ | ⟨v, hv, _, hprop⟩
      · rw [heq']; exact h.core.propNe
      · rcases hprop with hp | hp <;> rw [hp]
        · exact (firstNonZero_mem _ _ hv).1
        · exact h.core.propNe
    exact beginNextRound_shaped (W := W) (s := { s with candidates := cs, proposal := p }) now h.core.rounds hp

theorem tryDecide_shaped {t : Table} (s : State) (now : Int) : Shaped W t (s.tryDecide now).2 :=
  tryDecide_ind s now (fun _ _ => Shaped_single (by simp))
    (fun _ _ _ _ => Shaped_single (e := .progress _ .terminated) (by simp)) (fun _ => tryRebroadcast_shaped s now)

theorem tryCurrentPhase_shaped {s : State} (now : Int) (h : GInv W me s) :
    Shaped W s.tbl (s.tryCurrentPhase now).2 :=
  tryCurrentPhase_ind s now (fun _ => tryQuality_shaped now h)
    (fun _ => tryConverge_shaped now h) (fun _ => tryPrepare_shaped now h) (fun _ => tryCommit_shaped now s.round h)
    (fun _ => tryDecide_shaped s now) (fun _ => Shaped_nil) (fun _ => Shaped_single (by simp))

theorem skipToDecide_shaped {s : State} (m : Msg) (hm : MsgValid W s.tbl m) (hph : m.phase = .decide) :
    Shaped W s.tbl (s.skipToDecide m.value m.just).2 := by
  intro r ph v tk j hmem
  simp [State.skipToDecide, State.resetReb] at hmem
  obtain ⟨rfl, rfl, rfl, _, rfl⟩ := hmem
  have := shape_of_msgValid hm
  rw [hph] at this
  exact ⟨rfl, this.2⟩

theorem postReceive_shaped {s : State} (now : Int) (round : Nat) (h : GInv W me s) :
    Shaped W s.tbl (s.postReceive now round).2 := by
  rcases postReceive_eq s now round with heq | ⟨p, hp, hpne, hlt, hnd, heq⟩
  · rw [heq]; exact Shaped_nil
  · rw [heq]
    obtain ⟨ht, hi, hr, hd, hrd, hph⟩ := skipState_fields s round p
    obtain ⟨hmem, _⟩ := findBest_mem _ _ _ hp
    obtain ⟨_, hcj⟩ := (getRound_ok h.core.rounds round).conv p hmem
    obtain ⟨_, hqne⟩ := longest_prefix_facts s.quality s.input h.core.inputNe
    intro r ph v tk j hm
    obtain ⟨rfl, rfl, rfl, rfl⟩ := beginConverge_bc' _ _ _ _ _ _ _ _ hm
    rw [hrd]
    refine ⟨ConvJust.round_pos hcj, ?_, p.just, rfl, ?_⟩
    · rcases skipState_proposal s round p with ⟨_, hpr⟩ | ⟨_, hpr | hpr⟩
      · rw [hpr]; exact hpne
      · rw [hpr]; exact h.core.propNe
      · rw [hpr]; exact hqne
    · rcases skipState_proposal s round p with ⟨_, hpr⟩ | ⟨hnp, _⟩
      · rw [hpr]; exact hcj
      · obtain ⟨hok, hjr, hcase⟩ := hcj
        rcases hcase with ⟨hpp, _⟩ | hc'
        · exact absurd hpp hnp
        · exact ⟨hok, hjr, Or.inr hc'⟩

theorem receiveOne_cases' (s : State) (now : Int) (m : Msg) :
    (∃ k, (s.receiveOne now m).1 = (s, [.err k])) ∨ (s.receiveOne now m).1 = (s, []) ∨
    (m.phase = .quality ∧ (s.receiveOne now m).1 = s.recvQuality now m) ∨
    (∃ j, m.phase = .converge ∧ m.value ≠ [] ∧ m.just = some j ∧ (s.receiveOne now m).1 = s.recvConverge now m j) ∨
    (m.phase = .prepare ∧ (s.receiveOne now m).1 = s.recvPrepare now m) ∨
    (m.phase = .commit ∧ s.phase ≠ .terminated ∧ (s.receiveOne now m).1 = s.recvCommit now m) ∨
    (m.phase = .decide ∧ s.phase ≠ .terminated ∧ (s.receiveOne now m).1 = s.recvDecide now m) := by
  refine receiveOne_ind s now m (fun k _ => Or.inl ⟨k, rfl⟩) (fun _ => Or.inr (Or.inl rfl))
    (fun _ hph => Or.inr (Or.inr (Or.inl ⟨hph, rfl⟩)))
    (fun _ hph hne j hj => Or.inr (Or.inr (Or.inr (Or.inl ⟨j, hph, by simpa using hne, hj, rfl⟩))))
    (fun _ hph => Or.inr (Or.inr (Or.inr (Or.inr (Or.inl ⟨hph, rfl⟩)))))
    (fun hacc hph => Or.inr (Or.inr (Or.inr (Or.inr (Or.inr (Or.inl
      ⟨hph, recvPre_accept_not_terminated s m hacc, rfl⟩))))))
    (fun hacc hph => Or.inr (Or.inr (Or.inr (Or.inr (Or.inr (Or.inr
      ⟨hph, recvPre_accept_not_terminated s m hacc, rfl⟩))))))

theorem beginQuality_shaped {s : State} (now : Int) (h : GInv W me s) : Shaped W s.tbl (s.beginQuality now).2 := by
  intro r ph v tk j hm
  unfold State.beginQuality State.alarmAfter State.resetReb at hm
  dsimp only at hm
  split at hm
  · simp at hm
  · rename_i hph
    have hi : s.phase = .initial := by simpa using hph
    simp at hm
    obtain ⟨rfl, rfl, rfl, _, _⟩ := hm
    exact ⟨h.early (by simp [hi, Phase.toNat]), h.core.propNe⟩

/-- emitted messages have the shape validation demands, through one API call, on top of `gokRule` -/
theorem shapedRule : StepRule (GInv W me) (MsgValid W) fun s r =>
    GOK W me s r ∧ (OwnIn W me r.2 → Shaped W s.tbl r.2) where
  seq {s r f} h1 ht hin h2 := by
    refine ⟨gokRule.seq h1.1 ht hin fun hnf hi => (h2 hnf hi).1, fun hown => ?_⟩
    unfold andThen at hown ⊢
    split
    · rw [if_pos ‹_›] at hown; exact h1.2 hown
    · rename_i hnf
      rw [if_neg hnf] at hown
      obtain ⟨ho1, ho2⟩ := OwnIn_append hown
      have hi := ((h1.1.resolve_left hnf) ho1).1
      exact Shaped_append (h1.2 ho1) (ht ▸ (h2 (by simpa using hnf) hi).2 ho2)
  skip hi := ⟨GOK.nil hi, fun _ => Shaped_nil⟩
  malformed _ _ _ _ _ := ⟨GOK.fail (by simp), fun _ => Shaped_single (by simp)⟩
  panic _ _ _ _ _ := ⟨GOK.fail (by simp), fun _ => Shaped_single (by simp)⟩
  filed hi hv hacc hf := ⟨gokRule.filed hi hv hacc hf, fun _ => Shaped_nil⟩
  phase now hi := ⟨tryCurrentPhase_gok now hi, fun _ => tryCurrentPhase_shaped now hi⟩
  commit now round hi h5 := ⟨tryCommit_gok now round hi h5, fun _ => tryCommit_shaped now round hi⟩
  toDecide hi hv hph h5 := ⟨gokRule.toDecide hi hv hph h5, fun _ => skipToDecide_shaped _ hv hph⟩
  late hi hnq := ⟨gokRule.late hi hnq, fun _ => Shaped_nil⟩
  post now round hi hnt := ⟨postReceive_gok now round hi hnt, fun _ => postReceive_shaped now round hi⟩

theorem receiveOne_shaped {s : State} (now : Int) (m : Msg) (h : GInv W me s) (hm : MsgValid W s.tbl m)
    (hown : OwnIn W me (s.receiveOne now m).1.2) : Shaped W s.tbl (s.receiveOne now m).1.2 :=
  (shapedRule.receiveOne now m h hm fun _ _ => ⟨GOK.fail (by simp), fun _ => Shaped_single (by simp)⟩).2 hown

theorem step_shaped {s : State} (op : Op) (h : GInv W me s) (hq : DQ s) (hop : OpValidG W s.tbl op)
    (hown : OwnIn W me (step s op).2) : Shaped W s.tbl (step s op).2 :=
  (shapedRule.step op h hq (fun _ _ e => by subst e; exact ⟨hop, MsgValid.msgOk (W := W) hop⟩)
    (fun now _ => ⟨beginQuality_gok now h, fun _ => beginQuality_shaped now h⟩)
    fun _ _ _ _ _ => ⟨GOK.fail (by simp), fun _ => Shaped_single (by simp)⟩).2 hown

/-- **Run level, failure-free runs.** From any state satisfying the Layer-B invariant, over validated messages,
with the participant's broadcasts in `W`: every broadcast has the shape the validator demands. -/
theorem runFrom_shaped {s : State} (ops : List Op) (h : GInv W me s) (hq : DQ s)
    (hops : ∀ op ∈ ops, OpValidG W s.tbl op) (hown : OwnIn W me (runFrom s ops).2)
    (hnf : hasFailure (runFrom s ops).2 = false) : Shaped W s.tbl (runFrom s ops).2 := by
  induction ops generalizing s with
  | nil => simpa [runFrom] using (Shaped_nil (W := W) (t := s.tbl))
  | cons op ops ih =>
    rw [runFrom_cons] at hown hnf ⊢
    simp only [hasFailure_append, Bool.or_eq_false_iff] at hnf
    obtain ⟨ho1, ho2⟩ := OwnIn_append hown
    have hopv := hops op (by simp)
    have hs1 := step_shaped (me := me) op h hq hopv ho1
    rcases step_gok (me := me) op h hq hopv with hf | hk
    · exact absurd (hf.symm.trans hnf.1) (by decide)
    · obtain ⟨hi1, _⟩ := hk ho1
      have hq1 := step_dq hq hopv.opOk hnf.1
      have htb := step_tbl s op
      have := ih hi1 hq1 (fun o ho => by rw [htb]; exact hops o (by simp [ho])) ho2 hnf.2
      rw [htb] at this
      exact Shaped_append hs1 this

theorem shaped_filter_nonErr {t : Table} {es : List Eff} : Shaped W t (es.filter nonErr) ↔ Shaped W t es := by
  simp only [Shaped, bc_mem_filter_nonErr]

theorem run_shaped (cfg : Cfg) (t : Table) (input : Chain) (W : Votes) (p : Pid) (now0 : Int) (ops : List Op)
    (hin : input ≠ []) (hT : 0 < t.total)
    (hstart : ∀ op ∈ ops, op.isStart = false)
    (hvalid : ∀ op ∈ ops, foreignOp op = true ∨ OpValidG W t op)
    (hown : ∀ r ph v tk j, Eff.broadcast r ph v tk j ∈ (run (init cfg t input) (.start now0 :: ops)).2 → W p r ph v) :
    Shaped W t (run (init cfg t input) (.start now0 :: ops)).2 :=
  shaped_filter_nonErr.1 (run_transfer (Φ := fun _ es => OwnIn W p es → Shaped W t es) cfg t input W now0 ops hin hT hstart
    hvalid (fun ops' h1 h2 hown' => runFrom_shaped (me := p) ops' (GInv_init W p cfg t input hin hT) (DQ_init _ _ _) h1 hown' h2)
    (ownIn_filter_nonErr.2 hown))

/-- **`emitted_valid`, run level.** For every configuration, power table with positive total, non-empty input, every
set `W` of existing votes and every run of one `Start` followed by alarms and deliveries, each delivered message being
foreign (other instance / supplemental data: refused at the door) or validated w.r.t. `W`; if `W` contains the
participant's own broadcasts (one direction of unforgeability) and the participant has positive power: **every**
broadcast request of the run, as received by a peer, is accepted by the validator model — w.r.t. the *same* `W`. -/
theorem emitted_valid_run (cfg : Cfg) (t : Table) (input : Chain) (W : Votes) (p : Pid) (now0 : Int) (ops : List Op)
    (hin : input ≠ []) (hT : 0 < t.total) (hpos : 0 < t.power p)
    (hstart : ∀ op ∈ ops, op.isStart = false)
    (hvalid : ∀ op ∈ ops, foreignOp op = true ∨ OpValidG W t op)
    (hown : ∀ r ph v tk j, Eff.broadcast r ph v tk j ∈ (run (init cfg t input) (.start now0 :: ops)).2 → W p r ph v) :
    ∀ r ph v tk j, Eff.broadcast r ph v tk j ∈ (run (init cfg t input) (.start now0 :: ops)).2 →
      MsgValid W t (msgOf p r ph v j) := fun r ph v tk j hm =>
  msgValid_of_shape (hown r ph v tk j hm) hpos
    (run_shaped cfg t input W p now0 ops hin hT hstart hvalid hown r ph v tk j hm)

end F3.EmittedValid
