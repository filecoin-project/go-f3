import F3.Gen.Inputs
import F3.Proofs.GenTie
/-! The regenerated committee look-back expressions of `consensus_inputs.go` and `certchain/certchain.go`
(`F3.Gen.Inputs`, `uint64` arithmetic over `Int`) on natural-number arguments, where nothing wraps. -/
namespace F3.Proofs.InputsGen
open F3.GoInt F3.Proofs.GenTie F3.Gen.Inputs

theorem nodeBootstrapGuard_eq {initial lookback : Nat} (inst : Nat) (hm : initial + lookback < 2 ^ 64) :
    nodeBootstrapGuard lookback initial inst = decide (inst < initial + lookback) := by
  unfold nodeBootstrapGuard
  rw [u64_of_lt _ (by omega) (by omega), ← Int.natCast_add]
  exact cast_lt _ _

theorem nodeLookbackCertInstance_eq {lookback inst : Nat} (h : inst < 2 ^ 64) (hl : lookback ≤ inst) :
    nodeLookbackCertInstance lookback inst = ((inst - lookback : Nat) : Int) := by
  unfold nodeLookbackCertInstance
  rw [u64_of_lt _ (by omega) (by omega)]
  omega

/-- the index counts from the generator's first certificate, which is for instance `initial` -/
theorem certchainLookbackIndex_eq {initial lookback inst : Nat} (h : inst < 2 ^ 64) (hl : initial + lookback ≤ inst) :
    certchainLookbackIndex lookback initial inst = ((inst - lookback - initial : Nat) : Int) := by
  show u64 (u64 ((inst : Int) - lookback) - initial) = _
  rw [u64_of_lt (inst - lookback) (by omega) (by omega), u64_of_lt _ (by omega) (by omega)]
  omega

end F3.Proofs.InputsGen
