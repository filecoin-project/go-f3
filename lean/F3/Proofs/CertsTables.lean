import F3.Proofs.CertsDspec
/-! Assembly: `applyDiff`/`makeDiff` on whole tables. -/
namespace F3.Certs
open F3.SMap

theorem applyDiff_eq (a : Table) (d : Diff) :
    applyDiff a d = match applyLoop (toMap a) none d with
      | .error e => .error e
      | .ok m => .ok (canon m) := by
  unfold applyDiff applyDiffs applyDiffsMap
  cases applyLoop (toMap a) none d with
  | error e => rfl
  | ok m => rfl

theorem applyLoop_makeDiff {a b : Table} (ha : WF a) (hb : WF b) :
    applyLoop (toMap a) none (makeDiff a b) = .ok (toMap b) := by
  obtain ⟨hs, hl⟩ := makeDiff_spec ha.1 hb.1
  refine (applyLoop_toMap_iff ha).mpr ⟨hs, ssorted_toMap b, fun i => ?_⟩
  rw [show L (toMap b) i = L b i from lookup_toMap hb.1 i, hl]
  exact ⟨entOK_of_wf hb i, rfl⟩

theorem wf_of_sorted_entOK {m : Table} (hs : SSorted Entry.id m) (h : ∀ i, EntOK i (L m i)) : WF m := by
  refine ⟨nodup_of_ssorted Entry.id hs, ?_⟩
  intro e he
  have := h e.id e (lookup_of_mem Entry.id hs he)
  exact this.2

theorem applyLoop_sorted {m : Table} {prev : Option Nat} {d : Diff} {m' : Table}
    (hs : SSorted Entry.id m) (h : applyLoop m prev d = .ok m') : SSorted Entry.id m' :=
  ((applyLoop_iff hs).mp h).2.2.1

theorem applyDiffsMap_sorted {m : Table} {ds : List Diff} {m' : Table}
    (hs : SSorted Entry.id m) (h : applyDiffsMap m ds = .ok m') : SSorted Entry.id m' := by
  induction ds generalizing m with
  | nil => simp only [applyDiffsMap, Except.ok.injEq] at h; rw [← h]; exact hs
  | cons d ds ih =>
    unfold applyDiffsMap at h
    cases hl : applyLoop m none d with
    | error e => rw [hl] at h; cases h
    | ok m1 => rw [hl] at h; exact ih (applyLoop_sorted hs hl) h

theorem applyDiffsMap_append (m : Table) (ds₁ ds₂ : List Diff) :
    applyDiffsMap m (ds₁ ++ ds₂) = match applyDiffsMap m ds₁ with
      | .error e => .error e
      | .ok m' => applyDiffsMap m' ds₂ := by
  induction ds₁ generalizing m with
  | nil => rfl
  | cons d ds ih =>
    simp only [List.cons_append, applyDiffsMap]
    cases applyLoop m none d with
    | error e => rfl
    | ok m1 => exact ih m1

theorem toMap_canon {m : Table} (hs : SSorted Entry.id m) : toMap (canon m) = m := by
  have hnd := nodup_of_ssorted Entry.id hs
  have hp := canon_perm m
  have hnd' : ((canon m).map Entry.id).Nodup := (hp.map Entry.id).nodup_iff.mpr hnd
  apply ext Entry.id (ssorted_toMap _) hs
  intro i
  show L (toMap (canon m)) i = L m i
  rw [lookup_toMap hnd']
  exact lookup_perm Entry.id hp hnd' i

theorem applyDiffs_snoc {t lt : Table} {ds : List Diff} (d : Diff) (h : applyDiffs t ds = .ok lt) :
    applyDiffs t (ds ++ [d]) = applyDiff lt d := by
  unfold applyDiffs at h
  cases hm : applyDiffsMap (toMap t) ds with
  | error e => rw [hm] at h; cases h
  | ok m =>
    rw [hm] at h
    simp only [Except.ok.injEq] at h
    have hs : SSorted Entry.id m := applyDiffsMap_sorted (ssorted_toMap t) hm
    unfold applyDiff applyDiffs
    rw [applyDiffsMap_append, hm, ← h, toMap_canon hs]

theorem applyDiffs_fixed {t nt : Table} {ds : List Diff} (h : applyDiffs t ds = .ok nt) :
    applyDiff nt [] = .ok nt := by
  unfold applyDiffs at h
  cases hm : applyDiffsMap (toMap t) ds with
  | error e => rw [hm] at h; cases h
  | ok m =>
    rw [hm] at h
    cases h
    rw [applyDiff_eq, toMap_canon (applyDiffsMap_sorted (ssorted_toMap t) hm)]
    rfl

theorem applyDiff_fixed {t nt : Table} {d : Diff} (h : applyDiff t d = .ok nt) :
    applyDiff nt [] = .ok nt :=
  applyDiffs_fixed h

end F3.Certs
