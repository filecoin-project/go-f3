import F3.Proofs.InstanceGen
import F3.Gen.Gpbft2
/-!
# Tie theorems, second set: `gpbft/gpbft.go` sites of the instance model (`F3/Model/Instance.lean`)

`F3.Gen.Gpbft2` is regenerated on every run from `tools/go2lean/targets.d/Gpbft2.json`. Each theorem here
states that a hand-written piece of `F3.Instance` *is* the regenerated definition on the model's whole
domain (rounds are `Nat` in the model and `uint64` in Go; where the Go expression can wrap, the bound is a
hypothesis). Functions whose statements are calls on protocol state are regenerated as *action traces*
(`acts_ : List Int`, codes given in the targets file); the interpreters `prepAct`, `commitActs`,
`rebEffs`, `rebPlan` below say what each code is in the model. Core-only.
-/
namespace F3.Gen2Tie
open F3.Instance F3.GoInt F3.Proofs.GenTie

/-- a phase code is the model's `Phase.toNat` -/
theorem phase_code (p q : Phase) : decide ((p.toNat : Int) = (q.toNat : Int)) = (p == q) :=
  (F3.Proofs.InstanceGen.phase_beq_code p q).symm

/-- **`phaseTimeoutElapsed` is `atOrAfter(now, phaseTimeout)`**: the model's `now ≥ phaseTimeout` is the
regenerated `lhs.After(rhs) || lhs.Equal(rhs)` with `After` = `>` and `Equal` = `=` on nanosecond
instants. All `now`, all states. -/
theorem phaseTimeoutElapsed_is_atOrAfter (s : State) (now : Int) :
    s.phaseTimeoutElapsed now =
      F3.Gen.Gpbft2.atOrAfter (decide (now > s.phaseTimeout)) (decide (now = s.phaseTimeout)) := by
  unfold State.phaseTimeoutElapsed F3.Gen.Gpbft2.atOrAfter
  rw [← Bool.decide_or]
  exact decide_eq_decide.mpr (by omega)

/-- **`shouldRebroadcast` is the source's**, for every state (rounds of any size: no arithmetic). -/
theorem shouldRebroadcast_is_regenerated (s : State) (now : Int) :
    s.shouldRebroadcast now =
      F3.Gen.Gpbft2.shouldRebroadcast s.round s.cfg.rebImmediateAfter (s.phaseTimeoutElapsed now) := by
  unfold State.shouldRebroadcast F3.Gen.Gpbft2.shouldRebroadcast
  rw [cast_lt]

/-- the guard of the model's `postReceive` is the first `if` of `shouldSkipToRound` -/
theorem skip_guard_is_regenerated (s : State) (round : Nat) :
    (decide (round ≤ s.round) || s.phase == .decide) =
      F3.Gen.Gpbft2.skipToRoundRefused s.phase.toNat s.round round := by
  unfold F3.Gen.Gpbft2.skipToRoundRefused
  rw [cast_le]; exact congrArg _ (phase_code s.phase .decide).symm

/-- **No skip to a round that is not ahead, and none in DECIDE**: whenever the regenerated guard holds,
the model's `postReceive` does nothing. -/
theorem postReceive_refused (s : State) (now : Int) (round : Nat)
    (h : F3.Gen.Gpbft2.skipToRoundRefused s.phase.toNat s.round round = true) :
    s.postReceive now round = (s, []) := by
  rw [← skip_guard_is_regenerated] at h
  unfold State.postReceive
  exact if_pos h

/-- **First rebroadcast alarm: offset**. With no rebroadcast scheduled yet and the phase timeout elapsed,
the model schedules the first rebroadcast `rebroadcastAfter(0)` after *now* exactly when the regenerated
condition (`DECIDE` phase, or beyond `rebroadcastImmediatelyAfterRound`) holds, else after the phase
timeout. -/
theorem first_rebroadcast_offset_is_regenerated (s : State) (now : Int)
    (h0 : s.rebTimeout = none) (h1 : s.rebAttempts = 0) (he : s.phaseTimeoutElapsed now = true) :
    s.tryRebroadcast now =
      let off := if F3.Gen.Gpbft2.rebroadcastOffsetIsNow s.phase.toNat s.round s.cfg.rebImmediateAfter
        then now else s.phaseTimeout
      ({ s with rebTimeout := some (off + tableGet s.cfg.rebAfter 0) },
        [.setAlarm (off + tableGet s.cfg.rebAfter 0)]) := by
  have hg : F3.Gen.Gpbft2.rebroadcastOffsetIsNow s.phase.toNat s.round s.cfg.rebImmediateAfter =
      (s.phase == .decide || decide (s.round > s.cfg.rebImmediateAfter)) := by
    unfold F3.Gen.Gpbft2.rebroadcastOffsetIsNow
    rw [cast_lt]; exact congrArg (· || _) (phase_code s.phase .decide)
  unfold State.tryRebroadcast
  simp only [h0, h1, he, hg, if_true, BEq.rfl]

/-- what an action code of `rebroadcastNext` is in the model: 1 = `rebroadcast()`, 3 = alarm at the new
rebroadcast timeout, 4 = alarm at the phase timeout, 2 (the assignment of the timeout) emits nothing -/
def rebEffs (s : State) (rt : Int) (acts : List Int) : List Eff :=
  acts.flatMap (fun a =>
    if a = 1 then rebroadcastEffs s else if a = 3 then [.setAlarm rt]
    else if a = 4 then [.setAlarm s.phaseTimeout] else [])

/-- **Successive rebroadcasts**: once the rebroadcast timeout has elapsed, the model rebroadcasts,
counts the attempt, computes the next timeout from the *incremented* count, and sets the alarm the
regenerated `if / else if / else` of `tryRebroadcast` chooses (rebroadcast timeout when the phase timeout
elapsed or lies later, phase timeout otherwise), in that order. -/
theorem next_rebroadcast_is_regenerated (s : State) (now rt0 : Int)
    (h0 : s.rebTimeout = some rt0) (hn : now ≥ rt0) :
    let rt := now + tableGet s.cfg.rebAfter (s.rebAttempts + 1)
    let g := F3.Gen.Gpbft2.rebroadcastNext s.rebAttempts (s.phaseTimeoutElapsed now)
      (decide (rt < s.phaseTimeout))
    g.1 = ((s.rebAttempts + 1 : Nat) : Int) ∧
    s.tryRebroadcast now =
      ({ s with rebAttempts := s.rebAttempts + 1, rebTimeout := some rt }, rebEffs s rt g.2) := by
  intro rt g
  refine ⟨Int.natCast_succ _ |>.symm, ?_⟩
  unfold State.tryRebroadcast
  simp only [h0, hn, if_true]
  cases he : s.phaseTimeoutElapsed now
  · by_cases hb : now + tableGet s.cfg.rebAfter (s.rebAttempts + 1) < s.phaseTimeout
    · simp only [g, rt, he, decide_eq_true hb, if_pos hb]; rfl
    · simp only [g, rt, he, decide_eq_false hb, if_neg hb]; rfl
  · simp only [g, he]; rfl

/-- what a code of the regenerated `rebroadcast()` is: `10 * k + phase` with `k` = 0: round 0,
1: the current round, 2: the previous round (targets file) -/
def rebPlan (s : State) (acts : List Int) : List Eff :=
  acts.filterMap (fun a =>
    if a = 1 then some (.rebroadcast 0 .quality) else if a = 5 then some (.rebroadcast 0 .decide)
    else if a = 14 then some (.rebroadcast s.round .commit) else if a = 13 then some (.rebroadcast s.round .prepare)
    else if a = 12 then some (.rebroadcast s.round .converge)
    else if a = 24 then some (.rebroadcast (s.round - 1) .commit)
    else if a = 23 then some (.rebroadcast (s.round - 1) .prepare)
    else if a = 22 then some (.rebroadcast (s.round - 1) .converge) else none)

/-- **What is rebroadcast, and in which order**, is the source's `rebroadcast()`: QUALITY, then COMMIT /
PREPARE / CONVERGE of the current and (beyond round 0) of the previous round; in DECIDE only the DECIDE;
nothing in any other phase. Every state. -/
theorem rebroadcast_plan_is_regenerated (s : State) :
    rebroadcastEffs s = rebPlan s (F3.Gen.Gpbft2.rebroadcast s.phase.toNat s.round) := by
  unfold rebroadcastEffs F3.Gen.Gpbft2.rebroadcast
  simp only [decide_eq_true_eq, gt_iff_lt, Int.natCast_pos]
  -- the one test on the round first; then every phase evaluates
  by_cases h : 0 < s.round
  · simp only [if_pos h]; cases s.phase <;> rfl
  · simp only [if_neg h]; cases s.phase <;> rfl

/-- the argument texts of the eight `rebroadcastQuietly` calls, in source order (what the codes of
`targets.d/Gpbft2.json` stand for) -/
theorem rebroadcast_calls :
    F3.Gen.Gpbft2.callSites.map (·.2.2) =
      [["0", "QUALITY_PHASE"], ["i.current.Round", "COMMIT_PHASE"], ["i.current.Round", "PREPARE_PHASE"],
       ["i.current.Round", "CONVERGE_PHASE"], ["i.current.Round-1", "COMMIT_PHASE"],
       ["i.current.Round-1", "PREPARE_PHASE"], ["i.current.Round-1", "CONVERGE_PHASE"],
       ["0", "DECIDE_PHASE"]] := by decide +kernel

/-- the condition under which the model's `recvCommit` goes on to `tryCurrentPhase` after `tryCommit` is
`tryToCompleteCurrentPhase` of the source (with `err == nil`; an error ends the step in `andThen`) -/
theorem commit_retry_is_regenerated (st : State) (m : Msg) :
    (st.phase == .prepare && st.round == m.round && !m.value.isEmpty) =
      F3.Gen.Gpbft2.commitRetriesCurrentPhase false st.phase.toNat st.round m.round m.value.isEmpty := by
  unfold F3.Gen.Gpbft2.commitRetriesCurrentPhase
  have h : decide ((st.phase.toNat : Int) = 3) = (st.phase == .prepare) := phase_code st.phase .prepare
  simp only [h, cast_beq, Bool.not_false, Bool.true_and]

/-- … and with an error from `tryCommit` it never does -/
theorem commit_retry_not_on_error (ph r mr : Int) (z : Bool) :
    F3.Gen.Gpbft2.commitRetriesCurrentPhase true ph r mr z = false := by
  simp [F3.Gen.Gpbft2.commitRetriesCurrentPhase]

/-- **Domain**: the instance is past round 0 (`beginConverge` is only reached after a round increment or
a skip to a later round) and both rounds are `uint64` values. There the model's `j.round + 1 ≠ s.round`
is the source's `justification.Vote.Round != i.current.Round-1`, and the model panics exactly then. -/
theorem converge_round_guard_is_regenerated (s : State) (now : Int) (j : Just)
    (h1 : 1 ≤ s.round) (h2 : s.round < 2 ^ 64) (h3 : j.round < 2 ^ 64) :
    F3.Gen.Gpbft2.convergeJustWrongRound s.round j.round = (j.round + 1 != s.round) ∧
    (F3.Gen.Gpbft2.convergeJustWrongRound s.round j.round = true →
      s.beginConverge now j = (s, [.panic .convergeJustRound])) := by
  have e : F3.Gen.Gpbft2.convergeJustWrongRound s.round j.round = (j.round + 1 != s.round) := by
    unfold F3.Gen.Gpbft2.convergeJustWrongRound u64
    by_cases c : j.round + 1 = s.round
    · simp only [c, bne_self_eq_false, decide_eq_false_iff_not, Decidable.not_not]; omega
    · have : (j.round + 1 != s.round) = true := by simp [c]
      rw [this, decide_eq_true_eq]; omega
  refine ⟨e, fun h => ?_⟩
  rw [e] at h
  unfold State.beginConverge
  simp only [h, if_true]

/-- one action of the regenerated `tryPrepare`: 1 = `i.value = i.proposal`, 2 = `i.value = &ECChain{}`,
3 = `i.beginCommit()`, 4 = `i.tryRebroadcast()` -/
def prepAct (now : Int) (r : R) (a : Int) : R :=
  if a = 1 then ({ r.1 with value := r.1.proposal }, r.2)
  else if a = 2 then ({ r.1 with value := [] }, r.2)
  else if a = 3 then ((r.1.beginCommit now).1, r.2 ++ (r.1.beginCommit now).2)
  else if a = 4 then ((r.1.tryRebroadcast now).1, r.2 ++ (r.1.tryRebroadcast now).2)
  else r

theorem prepareValue_shouldRebroadcast (s : State) (now : Int) :
    (s.prepareValue now).shouldRebroadcast now = s.shouldRebroadcast now := by
  unfold State.prepareValue
  split
  · rfl
  · split <;> rfl

/-- **The end of PREPARE is the source's**: in the PREPARE phase, for every state, the model's
`tryPrepare` is the regenerated decision (value := proposal on a quorum or a justification, bottom when
no quorum is possible or the phase is complete; then COMMIT, else a rebroadcast when due) run through
`prepAct`. -/
theorem tryPrepare_is_regenerated (s : State) (now : Int) (hp : s.phase = .prepare) :
    s.tryPrepare now =
      (F3.Gen.Gpbft2.tryPrepare s.prepFoundJust s.prepFoundQuorum (s.prepComplete now) s.prepNotPossible
        (s.shouldRebroadcast now)).2.foldl (prepAct now) (s, []) := by
  unfold State.tryPrepare
  simp only [hp, prepareValue_shouldRebroadcast, bne_self_eq_false, Bool.false_eq_true, if_false]
  unfold State.prepareValue F3.Gen.Gpbft2.tryPrepare
  -- the source's tests in the source's order; each outcome evaluates
  cases (s.prepFoundQuorum || s.prepFoundJust)
  · simp only [Bool.false_or]
    cases (s.prepNotPossible || s.prepComplete now)
    · cases s.shouldRebroadcast now <;> rfl
    · rfl
  · rfl

/-- the regenerated action traces of `tryCommit` in the model: `[1, 2]` = adopt the quorum value and
`beginDecide(round)`, `[3]` = `beginNextRound()`, `[4, 3]` = sway to a committed value, then
`beginNextRound()`, `[5]` = `tryRebroadcast()`, `[]` = nothing -/
def commitActs (s : State) (now : Int) (round : Nat) (acts : List Int) : R :=
  let committed := (s.getRound round).committed
  if acts = [1, 2] then
    match committed.findStrongQuorumValue with
    | .one c => ({ s with value := c }).beginDecide round
    | _ => (s, [])
  else if acts = [3] then s.beginNextRound now
  else if acts = [4, 3] then (s.commitSway committed).beginNextRound now
  else if acts = [5] then s.tryRebroadcast now
  else (s, [])

/-- what `commitActs` does on each trace the regenerated `switch` can return -/
theorem commitActs_traces (s : State) (now : Int) (round : Nat) :
    commitActs s now round [1, 2] =
      (match (s.getRound round).committed.findStrongQuorumValue with
        | .one c => ({ s with value := c }).beginDecide round
        | _ => (s, [])) ∧
    commitActs s now round [3] = s.beginNextRound now ∧
    commitActs s now round [4, 3] = (s.commitSway (s.getRound round).committed).beginNextRound now ∧
    commitActs s now round [5] = s.tryRebroadcast now ∧
    commitActs s now round [] = (s, []) := ⟨rfl, rfl, rfl, rfl, rfl⟩

/-- `foundStrongQuorum`, `quorumValue.IsZero()` of the source as functions of the model's `SQV` -/
def sqvFound : SQV → Bool | .one _ => true | _ => false
def sqvZero : SQV → Bool | .one c => c.isEmpty | _ => true

/-- **The `switch` of `tryCommit` is the source's**: for every state, time and round for which
`FindStrongQuorumValue` does not panic (at most one strong quorum), the model's `tryCommit` performs
exactly the actions the regenerated `switch` lists, in order. -/
theorem tryCommit_is_regenerated (s : State) (now : Int) (round : Nat)
    (h : ((s.getRound round).committed.findStrongQuorumValue matches .multiple) = false) :
    s.tryCommit now round =
      commitActs s now round
        (F3.Gen.Gpbft2.tryCommit (s.foundJustBottom round)
          (sqvFound (s.getRound round).committed.findStrongQuorumValue) s.phase.toNat s.round
          (s.phaseTimeoutElapsed now && (s.getRound round).committed.fromStrong s.tbl)
          (sqvZero (s.getRound round).committed.findStrongQuorumValue) round (s.shouldRebroadcast now)).2 := by
  have hph : decide ((s.phase.toNat : Int) ≠ 4) = (s.phase != .commit) :=
    (F3.Proofs.InstanceGen.phase_bne_code s.phase .commit).symm
  have ⟨l12, l3, l43, l5, l0⟩ := commitActs_traces s now round
  unfold State.tryCommit F3.Gen.Gpbft2.tryCommit
  rw [hph, cast_bne]
  -- the interpreter goes to the leaves of the regenerated `switch`; what remains is the model's own `match`
  simp only [apply_ite (commitActs s now round), List.nil_append, List.cons_append, l12, l3, l43, l5, l0]
  cases hq : (s.getRound round).committed.findStrongQuorumValue with
  | multiple => rw [hq] at h; exact absurd h (by decide)
  | one c => rfl
  | none => rfl

end F3.Gen2Tie
