import F3.Proofs.NoFailureRun
/-!
# The host's single timer stays armed (`alarm_pending_inv`, `no_stuck_phase`) — C06, run level

`gpbft.go` drives all time-dependent progress through *one* host timer: `host.SetAlarm(t)` replaces the pending alarm,
the host calls `ReceiveAlarm` once when the clock reaches `t`, and after that nothing is pending until the instance
calls `SetAlarm` again (`host.go`: `alertTimer` is one-shot). The model emits `Eff.setAlarm t` for every `SetAlarm`
(`alarmAfterSynchrony*` in `beginQuality/Converge/Prepare/Commit`, and the three `SetAlarm` calls of
`tryRebroadcast`); the instance never emits the cancellation value (`time.Time{}` is only used by
`Participant.handleDecision` after termination).

`Host` adds to an instance state the ghost `timer : Option Int` (the pending alarm; `none` = nothing armed) and the
time of the last call (`clock`). `hostStep` runs `Instance.step`; an `alarm` call consumes the pending alarm, and the
last `setAlarm` among the effects of a call (if any) replaces it. `hostOk` says that the environment behaves like the
host: time never runs backwards and `ReceiveAlarm` is called only when an alarm is pending and due.

The invariant `Armed` (kept by every call: `AlarmInvStep.lean`; along a run: `alarm_pending_inv`, `no_stuck_phase` in
`AlarmInvRun.lean`) speaks of QUALITY / CONVERGE / PREPARE / COMMIT of rounds `≤ rebroadcastImmediatelyAfterRound` only.
It is false in DECIDE and in later rounds: there `tryRebroadcast` runs *before* the phase timeout, "reverts to the
phase timeout" (`SetAlarm(i.phaseTimeout)`) when the next rebroadcast lies beyond it, and when that alarm fires the
rebroadcast is not due (`default:` branch), so nothing is armed (`C06.decide_alarm_gap`, `C06.late_round_alarm_gap`).
-/
namespace F3.Liveness
open F3.Instance

def alarmUpd (tm : Option Int) : Eff → Option Int
  | .setAlarm t => some t
  | _ => tm

/-- the pending alarm after the effects `es`, `tm` being pending before: the last `setAlarm` wins -/
def lastAlarm (tm : Option Int) (es : List Eff) : Option Int := es.foldl alarmUpd tm

@[simp] theorem lastAlarm_nil (tm : Option Int) : lastAlarm tm [] = tm := rfl
@[simp] theorem lastAlarm_cons (tm : Option Int) (e : Eff) (es : List Eff) :
    lastAlarm tm (e :: es) = lastAlarm (alarmUpd tm e) es := rfl
theorem lastAlarm_append (tm : Option Int) (a b : List Eff) :
    lastAlarm tm (a ++ b) = lastAlarm (lastAlarm tm a) b := by
  simp [lastAlarm, List.foldl_append]

def opNow : Op → Int
  | .start now => now
  | .recv now _ => now
  | .alarm now => now

structure Host where
  st : State
  /-- ghost: the pending alarm of the host's single timer -/
  timer : Option Int := none
  /-- ghost: timestamp of the last call -/
  clock : Int
  deriving Repr

/-- the timer an API call finds: `ReceiveAlarm` is the timer firing, which consumes it -/
def timerBefore (tm : Option Int) : Op → Option Int
  | .alarm _ => none
  | _ => tm

def hostStep (h : Host) (op : Op) : Host :=
  { st := (step h.st op).1, timer := lastAlarm (timerBefore h.timer op) (step h.st op).2, clock := opNow op }

/-- the environment behaves like the host: time does not run backwards, and the alarm fires only if one is pending
and due -/
def hostOpOk (h : Host) (op : Op) : Bool :=
  decide (h.clock ≤ opNow op) &&
  (match op with
   | .alarm now => (match h.timer with | some t => decide (t ≤ now) | none => false)
   | _ => true)

def hostOk : Host → List Op → Bool
  | _, [] => true
  | h, op :: ops => hostOpOk h op && hostOk (hostStep h op) ops

def hostRun (h : Host) (ops : List Op) : Host := ops.foldl hostStep h

theorem hostRun_cons (h : Host) (op : Op) (ops : List Op) : hostRun h (op :: ops) = hostRun (hostStep h op) ops := rfl

theorem hostRun_st (h : Host) (ops : List Op) : (hostRun h ops).st = (runFrom h.st ops).1 := by
  induction ops generalizing h with
  | nil => rfl
  | cons op ops ih => rw [hostRun_cons, ih, runFrom_cons]; rfl

/-- as long as no alarm fires, the pending alarm is the last alarm request among the effects so far -/
theorem hostRun_timer_noalarm (h : Host) (ops : List Op) (hna : ∀ op ∈ ops, ∀ now, op ≠ .alarm now) :
    (hostRun h ops).timer = lastAlarm h.timer (runFrom h.st ops).2 := by
  induction ops generalizing h with
  | nil => rfl
  | cons op ops ih =>
    rw [hostRun_cons, ih _ (fun o ho => hna o (List.mem_cons_of_mem _ ho)), runFrom_cons, lastAlarm_append]
    have : timerBefore h.timer op = h.timer := by
      cases op with
      | alarm now => exact absurd rfl (hna _ List.mem_cons_self now)
      | start _ => rfl
      | recv _ _ => rfl
    simp only [hostStep, this]

/-- in general: the last alarm request emitted since (and including) the last firing of the timer -/
theorem hostRun_timer_split (h : Host) (pre post : List Op) (now : Int)
    (hna : ∀ op ∈ post, ∀ now', op ≠ .alarm now') :
    (hostRun h (pre ++ .alarm now :: post)).timer =
      lastAlarm none (runFrom (hostRun h pre).st (.alarm now :: post)).2 := by
  have h1 : hostRun h (pre ++ .alarm now :: post) = hostRun (hostStep (hostRun h pre) (.alarm now)) post := by
    simp [hostRun, List.foldl_append]
  rw [h1, hostRun_timer_noalarm _ _ hna, runFrom_cons, lastAlarm_append]
  rfl

/-- the fields the timer bookkeeping reads -/
structure SameT (s s' : State) : Prop where
  imm : s'.cfg.rebImmediateAfter = s.cfg.rebImmediateAfter
  round : s'.round = s.round
  phase : s'.phase = s.phase
  pt : s'.phaseTimeout = s.phaseTimeout
  rt : s'.rebTimeout = s.rebTimeout
  att : s'.rebAttempts = s.rebAttempts

theorem SameT.refl (s : State) : SameT s s := ⟨rfl, rfl, rfl, rfl, rfl, rfl⟩
theorem SameT.trans {a b c : State} (h1 : SameT a b) (h2 : SameT b c) : SameT a c :=
  ⟨h2.imm.trans h1.imm, h2.round.trans h1.round, h2.phase.trans h1.phase, h2.pt.trans h1.pt, h2.rt.trans h1.rt,
   h2.att.trans h1.att⟩

/-- QUALITY / CONVERGE / PREPARE / COMMIT of a round in which rebroadcast waits for the phase timeout -/
def InScope (s : State) : Prop :=
  s.round ≤ s.cfg.rebImmediateAfter ∧
  (s.phase = .quality ∨ s.phase = .converge ∨ s.phase = .prepare ∨ s.phase = .commit)

theorem SameT.inScope {s s' : State} (h : SameT s s') : InScope s' ↔ InScope s := by
  unfold InScope; rw [h.imm, h.round, h.phase]

/-- **the timer is armed**: in scope, either no rebroadcast is scheduled and the phase timeout is pending, or the
scheduled rebroadcast time is pending and the phase timeout has passed -/
def Armed (s : State) (tm : Option Int) (clock : Int) : Prop :=
  InScope s →
    (s.rebTimeout = none ∧ s.rebAttempts = 0 ∧ tm = some s.phaseTimeout) ∨
    (∃ rt, s.rebTimeout = some rt ∧ tm = some rt ∧ s.phaseTimeout ≤ clock)

theorem Armed.some {s : State} {tm : Option Int} {c : Int} (h : Armed s tm c) (hs : InScope s) : ∃ t, tm = some t := by
  rcases h hs with ⟨_, _, h⟩ | ⟨rt, _, h, _⟩
  · exact ⟨_, h⟩
  · exact ⟨rt, h⟩

theorem Armed.same {s s' : State} {tm : Option Int} {c c' : Int} (h : Armed s tm c) (hT : SameT s s') (hc : c ≤ c') :
    Armed s' tm c' := by
  intro hs
  rcases h (hT.inScope.1 hs) with ⟨h1, h2, h3⟩ | ⟨rt, h1, h2, h3⟩
  · exact Or.inl ⟨by rw [hT.rt, h1], by rw [hT.att, h2], by rw [hT.pt, h3]⟩
  · exact Or.inr ⟨rt, by rw [hT.rt, h1], h2, by rw [hT.pt]; omega⟩

theorem Armed.of_out {s : State} (tm : Option Int) (c : Int) (h : ¬ InScope s) : Armed s tm c :=
  fun hs => absurd hs h

/-- a phase that has just begun: rebroadcast parameters reset, the phase timeout requested last -/
def FreshR (r : R) : Prop :=
  r.1.rebTimeout = none ∧ r.1.rebAttempts = 0 ∧ ∀ tm, lastAlarm tm r.2 = some r.1.phaseTimeout

def OutP (s : State) : Prop := s.phase = .decide ∨ s.phase = .terminated ∨ s.phase = .initial

theorem OutP.not_inScope {s : State} (h : OutP s) : ¬ InScope s := by
  intro hs
  rcases h with h | h | h <;> rcases hs.2 with h' | h' | h' | h' <;> rw [h] at h' <;> cases h'

theorem FreshR.armed {r : R} (h : FreshR r) (tm : Option Int) (c : Int) : Armed r.1 (lastAlarm tm r.2) c :=
  fun _ => Or.inl ⟨h.1, h.2.1, h.2.2 tm⟩

theorem lastAlarm_rebroadcastEffs (s : State) (tm : Option Int) : lastAlarm tm (rebroadcastEffs s) = tm := by
  unfold rebroadcastEffs
  split <;> (try split) <;> rfl

theorem tryRebroadcast_same (s : State) (now : Int) :
    (s.tryRebroadcast now).1.cfg = s.cfg ∧ (s.tryRebroadcast now).1.round = s.round ∧
    (s.tryRebroadcast now).1.phase = s.phase ∧ (s.tryRebroadcast now).1.phaseTimeout = s.phaseTimeout := by
  obtain ⟨rt, ra, h⟩ := tryRebroadcast_fst s now
  rw [h]
  exact ⟨rfl, rfl, rfl, rfl⟩

theorem tryRebroadcast_inScope (s : State) (now : Int) : InScope (s.tryRebroadcast now).1 ↔ InScope s := by
  obtain ⟨h1, h2, h3, _⟩ := tryRebroadcast_same s now
  unfold InScope; rw [h1, h2, h3]

theorem elapsed_of_should {s : State} {now : Int} (h : s.shouldRebroadcast now = true) (hs : InScope s) :
    s.phaseTimeoutElapsed now = true := by
  unfold State.shouldRebroadcast at h
  rw [Bool.or_eq_true] at h
  rcases h with h | h
  · exact h
  · have := hs.1
    simp only [decide_eq_true_eq] at h
    omega

theorem elapsed_iff (s : State) (now : Int) : s.phaseTimeoutElapsed now = true ↔ s.phaseTimeout ≤ now := by
  unfold State.phaseTimeoutElapsed; simp

/-- first call after the phase timeout: the first rebroadcast is scheduled and the timer set to it -/
theorem reb_first (s : State) (now : Int) (h1 : s.rebTimeout = none) (h2 : s.rebAttempts = 0)
    (hel : s.phaseTimeoutElapsed now = true) :
    ∃ rt, (s.tryRebroadcast now).1.rebTimeout = some rt ∧ (s.tryRebroadcast now).2 = [.setAlarm rt] := by
  unfold State.tryRebroadcast
  simp only [h1, h2, hel, if_true, BEq.rfl]
  exact ⟨_, rfl, rfl⟩

/-- the scheduled rebroadcast is due (phase timeout passed): rebroadcast requested, the next one scheduled and the
timer set to it -/
theorem reb_due (s : State) (now : Int) (rt0 : Int) (h1 : s.rebTimeout = some rt0) (hd : rt0 ≤ now)
    (hel : s.phaseTimeoutElapsed now = true) :
    ∃ rt, (s.tryRebroadcast now).1.rebTimeout = some rt ∧
      (s.tryRebroadcast now).2 = rebroadcastEffs s ++ [.setAlarm rt] ∧
      (s.tryRebroadcast now).1.rebAttempts = s.rebAttempts + 1 := by
  unfold State.tryRebroadcast
  have : now ≥ rt0 := hd
  simp only [h1, this, hel, if_true]
  exact ⟨_, rfl, rfl, trivial⟩

theorem reb_notdue (s : State) (now : Int) (rt0 : Int) (h1 : s.rebTimeout = some rt0) (hd : ¬ rt0 ≤ now) :
    s.tryRebroadcast now = (s, []) := by
  unfold State.tryRebroadcast
  have : ¬ now ≥ rt0 := hd
  simp only [h1, this, if_false]

/-- `tryRebroadcast` keeps the timer armed. On a delivery the pending alarm `tm` is still pending (`tm' = tm`); when the
alarm has just fired (`tm' = none`) it was due, so a scheduled rebroadcast is due as well and the timer is set again. -/
theorem armed_reb {s s' : State} {tm tm' : Option Int} {c now : Int} (hT : SameT s s')
    (hsr : s'.shouldRebroadcast now = true) (h : Armed s tm c) (htm : tm' = tm ∨ ∃ t, tm = some t ∧ t ≤ now) :
    Armed (s'.tryRebroadcast now).1 (lastAlarm tm' (s'.tryRebroadcast now).2) now := by
  intro hs
  have hs' : InScope s' := (tryRebroadcast_inScope s' now).1 hs
  have hel := elapsed_of_should hsr hs'
  have hpt : (s'.tryRebroadcast now).1.phaseTimeout ≤ now := by
    rw [(tryRebroadcast_same s' now).2.2.2]; exact (elapsed_iff s' now).1 hel
  rcases h (hT.inScope.1 hs') with ⟨h1, h2, _⟩ | ⟨rt0, h1, h2, _⟩
  · obtain ⟨rt, hr1, hr2⟩ := reb_first s' now (by rw [hT.rt, h1]) (by rw [hT.att, h2]) hel
    exact Or.inr ⟨rt, hr1, by rw [hr2]; rfl, hpt⟩
  · by_cases hd : rt0 ≤ now
    · obtain ⟨rt, hr1, hr2, _⟩ := reb_due s' now rt0 (by rw [hT.rt, h1]) hd hel
      refine Or.inr ⟨rt, hr1, ?_, hpt⟩
      rw [hr2, lastAlarm_append, lastAlarm_rebroadcastEffs]; rfl
    · rcases htm with rfl | ⟨t, ht, hdue⟩
      · have hr := reb_notdue s' now rt0 (by rw [hT.rt, h1]) hd
        rw [hr] at hpt ⊢
        exact Or.inr ⟨rt0, by rw [hT.rt, h1], h2, hpt⟩
      · rw [h2] at ht; injection ht with ht; omega

/-- `q` is an extra fact recorded for the "nothing happened" outcome -/
def Outcome (q : Prop) (s : State) (now : Int) (r : R) : Prop :=
  hasFailure r.2 = true ∨ OutP r.1 ∨ FreshR r ∨
  (SameT s r.1 ∧ (∀ tm, lastAlarm tm r.2 = tm) ∧ q) ∨
  (∃ s', SameT s s' ∧ s'.shouldRebroadcast now = true ∧ r = s'.tryRebroadcast now)

/-- the function keeps the timer armed when called on a delivery (or reports a failure) -/
def RecvOK (s : State) (now : Int) (r : R) : Prop :=
  hasFailure r.2 = true ∨ ∀ tm c, c ≤ now → Armed s tm c → Armed r.1 (lastAlarm tm r.2) now

/-- the function re-arms the timer when called on a due alarm (or reports a failure) -/
def AlarmOK (s : State) (now : Int) (r : R) : Prop :=
  hasFailure r.2 = true ∨ ∀ t c, c ≤ now → t ≤ now → Armed s (some t) c → Armed r.1 (lastAlarm none r.2) now

theorem Outcome.mono {q q' : Prop} {s : State} {now : Int} {r : R} (h : Outcome q s now r) (hq : q → q') :
    Outcome q' s now r := by
  rcases h with h | h | h | ⟨h1, h2, h3⟩ | h
  · exact Or.inl h
  · exact Or.inr (Or.inl h)
  · exact Or.inr (Or.inr (Or.inl h))
  · exact Or.inr (Or.inr (Or.inr (Or.inl ⟨h1, h2, hq h3⟩)))
  · exact Or.inr (Or.inr (Or.inr (Or.inr h)))

theorem Outcome.recvOK {q : Prop} {s : State} {now : Int} {r : R} (h : Outcome q s now r) : RecvOK s now r := by
  rcases h with h | h | h | ⟨h1, h2, _⟩ | ⟨s', h1, h2, rfl⟩
  · exact Or.inl h
  · exact Or.inr (fun tm c _ _ => Armed.of_out _ _ h.not_inScope)
  · exact Or.inr (fun tm c _ _ => h.armed tm now)
  · exact Or.inr (fun tm c hc ha => by rw [h2]; exact ha.same h1 hc)
  · exact Or.inr (fun tm c _ ha => armed_reb h1 h2 ha (.inl rfl))

/-- if "nothing happened" is possible only before the phase timeout, a due alarm re-arms the timer -/
theorem Outcome.alarmOK {s : State} {now : Int} {r : R}
    (h : Outcome (InScope s → s.phaseTimeoutElapsed now = false) s now r) : AlarmOK s now r := by
  rcases h with h | h | h | ⟨h1, _, h3⟩ | ⟨s', h1, h2, rfl⟩
  · exact Or.inl h
  · exact Or.inr (fun t c _ _ _ => Armed.of_out _ _ h.not_inScope)
  · exact Or.inr (fun t c _ _ _ => h.armed none now)
  · refine Or.inr (fun t c hc ht ha => ?_)
    apply Armed.of_out
    intro hs
    have hs0 := h1.inScope.1 hs
    have hne := h3 hs0
    have : s.phaseTimeout ≤ now := by
      rcases ha hs0 with ⟨_, _, h⟩ | ⟨rt, _, _, h⟩
      · injection h with h; omega
      · omega
    rw [(elapsed_iff s now).2 this] at hne
    cases hne
  · exact Or.inr (fun t c _ ht ha => armed_reb h1 h2 ha (.inr ⟨t, rfl, ht⟩))

theorem RecvOK.andThen {s : State} {now : Int} {r : R} {f : State → R} (h : RecvOK s now r)
    (hf : ∀ st, RecvOK st now (f st)) : RecvOK s now (andThen r f) := by
  unfold F3.Instance.andThen
  by_cases hfail : hasFailure r.2 = true
  · simp only [hfail, if_true]; exact Or.inl hfail
  · simp only [hfail]
    rcases h with h | h
    · exact absurd h hfail
    · rcases hf r.1 with h2 | h2
      · left; simp [h2]
      · right
        intro tm c hc ha
        show Armed (f r.1).1 (lastAlarm tm (r.2 ++ (f r.1).2)) now
        rw [lastAlarm_append]
        exact h2 _ now (Int.le_refl _) (h tm c hc ha)

end F3.Liveness
