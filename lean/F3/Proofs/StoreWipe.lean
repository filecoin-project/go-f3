import F3.Proofs.StoreObserve
/-! The resumable wipe (`DeleteAll` / `maybeContinueDelete`): write sequence, what every prefix
leaves behind, and what a restart makes of a half-wiped datastore. -/
namespace F3.Store

/-- The writes of `maybeContinueDelete` once the tombstone is found: every other key in query order,
the tombstone last. -/
def wipeWrites (sc : Scope) (order : List Key) : List W :=
  (order.filter (fun k => decide (k ≠ sc.tomb))).map W.del ++ [W.del sc.tomb]

theorem continueDelete_present (sc : Scope) {order : List Key} {ds : DS} (ht : dsGet ds sc.tomb ≠ none)
    (hp : order.Perm (scopeKeys sc ds)) : continueDelete sc order ds = some (wipeWrites sc order) := by
  unfold continueDelete wipeWrites
  have h1 : (dsGet ds sc.tomb).isNone = false := by
    cases h : dsGet ds sc.tomb with
    | none => exact absurd h ht
    | some v => rfl
  rw [h1]
  have h2 : order.isPerm (scopeKeys sc ds) = true := List.isPerm_iff.2 hp
  simp [h2]

theorem dsGet_applyWs_dels (ds : DS) (ks : List Key) (k : Key) :
    dsGet (applyWs ds (ks.map W.del)) k = if k ∈ ks then none else dsGet ds k := by
  induction ks generalizing ds with
  | nil => simp
  | cons x r ih =>
    simp only [List.map_cons, applyWs_cons, applyW, ih, List.mem_cons]
    by_cases h1 : k ∈ r
    · simp [h1]
    · by_cases h2 : k = x
      · subst h2; simp [h1, dsGet_dsDel_same]
      · simp [h1, h2, dsGet_dsDel_other ds h2]

theorem dsGet_wipe (ds : DS) (sc : Scope) (order : List Key) (k : Key) :
    dsGet (applyWs ds (wipeWrites sc order)) k = if k = sc.tomb ∨ k ∈ order then none else dsGet ds k := by
  unfold wipeWrites
  rw [applyWs_append]
  simp only [applyWs_cons, applyWs_nil, applyW, dsGet_dsDel, dsGet_applyWs_dels, List.mem_filter, decide_eq_true_eq]
  by_cases h1 : k = sc.tomb
  · simp [h1]
  · by_cases h2 : k ∈ order
    · simp [h1, h2]
    · simp [h1, h2]

theorem inner_of_perm {order : List Key} {ds : DS} (hp : order.Perm (scopeKeys .inner ds)) :
    ∀ k ∈ order, k.inner = true := by
  intro k hk
  have := hp.mem_iff.1 hk
  unfold scopeKeys at this
  exact (List.mem_filter.1 this).2

theorem mem_order_of_present {order : List Key} {ds : DS} (hp : order.Perm (scopeKeys .inner ds)) {k : Key}
    (hin : k.inner = true) (hs : dsGet ds k ≠ none) : k ∈ order := by
  refine hp.mem_iff.2 ?_
  unfold scopeKeys
  refine List.mem_filter.2 ⟨(mem_dsKeys_iff ds k).2 ?_, hin⟩
  cases h : dsGet ds k with
  | none => exact absurd h hs
  | some v => rfl

/-- A wipe pending: the namespaced tombstone is there, the outer one is not. -/
structure Wiping (ds : DS) : Prop where
  tomb : dsGet ds .tomb ≠ none
  noRootTomb : dsGet ds .rootTomb = none

theorem Wiping.applyW {ds : DS} (h : Wiping ds) {w : W} (hw : w.key ≠ .tomb ∧ w.key ≠ .rootTomb) : Wiping (applyW ds w) :=
  ⟨by rw [dsGet_applyW_other ds w (Ne.symm hw.1)]; exact h.tomb,
   by rw [dsGet_applyW_other ds w (Ne.symm hw.2)]; exact h.noRootTomb⟩

theorem notInit_wipe {order : List Key} {ds : DS} (hr : dsGet ds .rootTomb = none)
    (hp : order.Perm (scopeKeys .inner ds)) : NotInit (applyWs ds (wipeWrites .inner order)) := by
  have clear : ∀ k : Key, k.inner = true → dsGet (applyWs ds (wipeWrites .inner order)) k = none := by
    intro k hin
    rw [dsGet_wipe]
    by_cases h : k = Scope.tomb .inner ∨ k ∈ order
    · rw [if_pos h]
    · rw [if_neg h]
      apply Classical.byContradiction
      intro hs
      exact h (Or.inr (mem_order_of_present hp hin hs))
  refine ⟨clear _ rfl, ?_, clear _ rfl, clear _ rfl⟩
  rw [dsGet_wipe]
  have : ¬ (Key.rootTomb = Scope.tomb .inner ∨ Key.rootTomb ∈ order) := by
    intro h
    rcases h with h | h
    · cases h
    · have := inner_of_perm hp _ h; cases this
  rw [if_neg this]; exact hr

/-- The resumed wipe: pending at every crash point, no store at the end; the tombstone goes last. -/
theorem wipe_crash {ds : DS} {order : List Key} (hw : Wiping ds) (hp : order.Perm (scopeKeys .inner ds)) :
    Crash Wiping NotInit ds (wipeWrites .inner order) :=
  Crash.commit (fun x hx d hd => hd.applyW (by
      obtain ⟨k, hk, rfl⟩ := List.mem_map.1 hx
      obtain ⟨hk1, hk2⟩ := List.mem_filter.1 hk
      refine ⟨of_decide_eq_true hk2, fun e => ?_⟩
      have := inner_of_perm hp k hk1
      rw [show k = Key.rootTomb from e] at this; cases this))
    hw (notInit_wipe hw.noRootTomb hp)

theorem openCore_wiping (cfg : Cfg) (hres : cfg.resumeInner = true) {ds : DS} (o : Orders) (hw : Wiping ds)
    (hp : o.inner.Perm (scopeKeys .inner ds)) :
    openCore cfg ds o = ⟨wipeWrites .inner o.inner, .ok none⟩ := by
  have hni := notInit_wipe hw.noRootTomb hp
  unfold openCore
  rw [continueDelete_absent .raw o.raw ds hw.noRootTomb]
  simp only [applyWs_nil, hres, if_true]
  rw [continueDelete_present .inner hw.tomb hp]
  simp only [List.nil_append]
  unfold getNum
  rw [hni.latest]

/-- **A restart completes an interrupted wipe**: whatever subset of keys the crash left, the restart
observes exactly what it observes on a datastore in which no store was ever created. -/
theorem reobserve_wiping (cfg : Cfg) (hres : cfg.resumeInner = true) {ds : DS} (o : Orders) (hw : Wiping ds)
    (hp : o.inner.Perm (scopeKeys .inner ds)) (v : Variant) :
    reobserve cfg ds o v = specReobserve .notInit v :=
  reobserve_of_core (openCore_wiping cfg hres o hw hp) (notInit_wipe hw.noRootTomb hp) v

theorem deleteAll_eq {ds : DS} {order : List Key} (hp : order.Perm (scopeKeys .inner (dsPut ds .tomb .tomb))) :
    deleteAll ds order = ⟨W.put .tomb .tomb :: wipeWrites .inner order, .ok ()⟩ := by
  unfold deleteAll
  simp only [applyW]
  rw [continueDelete_present .inner (by simp [Scope.tomb, dsGet_dsPut_same]) hp]

theorem wiping_tombed {ds : DS} (hr : dsGet ds .rootTomb = none) : Wiping (dsPut ds .tomb .tomb) :=
  ⟨by simp [dsGet_dsPut_same], by rw [dsGet_dsPut_other _ _ (by decide)]; exact hr⟩

/-- `DeleteAll`: untouched before the tombstone is written, then a pending wipe. -/
theorem deleteAll_crash {ds : DS} {order : List Key} (hr : dsGet ds .rootTomb = none)
    (hp : order.Perm (scopeKeys .inner (dsPut ds .tomb .tomb))) :
    Crash (fun d => d = ds ∨ Wiping d) NotInit ds (W.put .tomb .tomb :: wipeWrites .inner order) :=
  Crash.cons (Or.inl rfl) ((wipe_crash (wiping_tombed hr) hp).mono (fun _ => Or.inr) (fun _ => id))

end F3.Store
