import F3.Proofs.InstanceWP
import F3.Proofs.InstanceStable
import F3.Proofs.LogFold
/-! Termination source, the quiet-decision invariant, and well-pairedness of whole runs. -/
namespace F3.Instance

theorem tryRebroadcast_phase (s : State) (now : Int) : (s.tryRebroadcast now).1.phase = s.phase := by
  obtain ⟨_, _, h⟩ := tryRebroadcast_fst s now; rw [h]

theorem tryRebroadcast_nt (s : State) (now : Int) (h : s.phase ≠ .terminated) :
    (s.tryRebroadcast now).1.phase ≠ .terminated := by
  rw [tryRebroadcast_phase]; exact h
theorem beginCommit_nt (s : State) (now : Int) : (s.beginCommit now).1.phase ≠ .terminated := by
  rw [beginCommit_fst]; exact nofun
theorem beginConverge_nt (s : State) (now : Int) (j) (h : s.phase ≠ .terminated) :
    (s.beginConverge now j).1.phase ≠ .terminated := by
  unfold State.beginConverge
  split
  · exact h
  · exact nofun
theorem beginNextRound_nt (s : State) (now : Int) (h : s.phase ≠ .terminated) :
    (s.beginNextRound now).1.phase ≠ .terminated := by
  unfold State.beginNextRound
  dsimp only
  split
  · exact beginConverge_nt _ _ _ h
  · exact h
theorem beginDecide_nt (s : State) (r : Nat) : (s.beginDecide r).1.phase ≠ .terminated := by
  rw [beginDecide_fst]; exact nofun
theorem skipToDecide_phase (s : State) (v j) : (s.skipToDecide v j).1.phase = .decide := rfl

theorem tryQuality_nt (s : State) (now : Int) (h : s.phase ≠ .terminated) : (s.tryQuality now).1.phase ≠ .terminated :=
  tryQuality_ind s now (fun _ => h) (fun _ _ => h) fun _ _ _ _ => nofun

theorem tryConverge_nt (s : State) (now : Int) (h : s.phase ≠ .terminated) : (s.tryConverge now).1.phase ≠ .terminated :=
  tryConverge_ind s now (fun _ => h) (fun _ _ _ => tryRebroadcast_nt s now h)
    (fun _ _ _ => h) (fun _ _ _ => h) fun _ _ _ _ _ _ _ => nofun

theorem tryPrepare_nt (s : State) (now : Int) (h : s.phase ≠ .terminated) : (s.tryPrepare now).1.phase ≠ .terminated :=
  tryPrepare_ind s now (fun _ => h) (fun _ _ _ _ => beginCommit_nt _ now)
    (fun _ _ v _ _ => tryRebroadcast_nt { s with value := v } now h) fun _ _ _ _ _ => h

theorem tryCommit_nt (s : State) (now : Int) (r : Nat) (h : s.phase ≠ .terminated) :
    (s.tryCommit now r).1.phase ≠ .terminated :=
  tryCommit_ind s now r (fun _ => h) (fun _ _ _ => beginDecide_nt _ r)
    (fun _ _ => h) (fun _ _ => beginNextRound_nt s now h) (fun _ _ _ _ _ _ _ => beginNextRound_nt _ now h)
    (fun _ _ _ _ _ => tryRebroadcast_nt s now h) fun _ _ _ _ _ => h

theorem postReceive_nt (s : State) (now : Int) (r : Nat) (h : s.phase ≠ .terminated) :
    (s.postReceive now r).1.phase ≠ .terminated :=
  postReceive_ind s now r h fun _ _ _ _ _ => beginConverge_nt _ _ _ h

theorem tryDecide_cases (s : State) (now : Int) :
    hasFailure (s.tryDecide now).2 = true ∨
    ((s.tryDecide now).1.phase = .terminated ∧ s.decision.findStrongQuorumValue ≠ .none ∧
      (s.tryDecide now).1.decision = s.decision) ∨
    ((s.tryDecide now).1.phase = s.phase ∧ s.decision.findStrongQuorumValue = .none ∧
      (s.tryDecide now).1.decision = s.decision) :=
  tryDecide_ind s now
    (fun _ _ => .inl rfl) (fun _ _ hv _ => .inr (.inl ⟨rfl, by rw [hv]; nofun, rfl⟩))
    fun hv => .inr (.inr ⟨tryRebroadcast_phase s now, hv, tryRebroadcast_decision s now⟩)

theorem tryCurrentPhase_term (s : State) (now : Int) (hnf : hasFailure (s.tryCurrentPhase now).2 = false)
    (ht : (s.tryCurrentPhase now).1.phase = .terminated) :
    s.phase = .terminated ∨ (s.phase = .decide ∧ s.decision.findStrongQuorumValue ≠ .none) := by
  revert hnf ht
  refine tryCurrentPhase_ind s now
    (fun h _ ht => absurd ht (tryQuality_nt s now (by simp [h])))
    (fun h _ ht => absurd ht (tryConverge_nt s now (by simp [h])))
    (fun h _ ht => absurd ht (tryPrepare_nt s now (by simp [h])))
    (fun h _ ht => absurd ht (tryCommit_nt s now _ (by simp [h]))) (fun h hnf ht => ?_) (fun h _ _ => .inl h)
    (fun _ hnf _ => nomatch hnf)
  rcases tryDecide_cases s now with hf | ⟨_, hq, _⟩ | ⟨hp, _, _⟩
  · simp [hnf] at hf
  · exact .inr ⟨h, hq⟩
  · rw [hp, h] at ht; cases ht

theorem tryCurrentPhase_decision (s : State) (now : Int) : (s.tryCurrentPhase now).1.decision = s.decision :=
  tryCurrentPhase_stable (decision_stable _) s now rfl

/-- before DECIDE no DECIDE vote has been tallied; in DECIDE the tally holds no strong quorum (else the
instance would have terminated) -/
def DQ (s : State) : Prop :=
  (s.phase.toNat < 5 → s.decision = {}) ∧ (s.phase = .decide → s.decision.findStrongQuorumValue = .none)

/-- `DECIDE` votes are for round 0 (message validation) -/
def MsgOk (m : Msg) : Prop := m.phase = .decide → m.round = 0

theorem phase_toNat_eq_5 (p : Phase) : p.toNat = 5 ↔ p = .decide := by cases p <;> simp [Phase.toNat]
theorem phase_toNat_le_6 (p : Phase) : p.toNat ≤ 6 := by cases p <;> simp [Phase.toNat]

theorem DQ_frame {s s' : State} (h : DQ s) (hle : ptLe s.pt s'.pt) (hd : s'.decision = s.decision) : DQ s' := by
  have key : s'.phase.toNat ≤ 5 → s.phase.toNat ≤ s'.phase.toNat ∨ s.phase.toNat < 5 := by
    intro h5
    rcases hle with heq | ⟨hlt, hfz⟩
    · left; have := congrArg Prod.snd heq; simp [State.pt] at this; omega
    · simp only [State.pt] at hlt hfz
      by_cases h6 : 5 ≤ s.phase.toNat
      · have := hfz h6; left; omega
      · right; omega
  constructor
  · intro h5
    rw [hd]
    apply h.1
    rcases key (by omega) with h1 | h1 <;> omega
  · intro hdec
    rw [hd]
    have h5 : s'.phase.toNat = 5 := (phase_toNat_eq_5 _).2 hdec
    rcases key (by omega) with h1 | h1
    · by_cases h4 : s.phase.toNat < 5
      · rw [h.1 h4]; rfl
      · exact h.2 ((phase_toNat_eq_5 _).1 (by omega))
    · rw [h.1 h1]; rfl

theorem DQ_of_okwp {s : State} {r : R} (h : DQ s) (hw : OKWP s.pt r) (hnf : hasFailure r.2 = false)
    (hd : r.1.decision = s.decision) : DQ r.1 := by
  rcases hw with hf | hw
  · simp [hnf] at hf
  · exact DQ_frame h hw.le hd

theorem andThen_nofail {r : R} {f : State → R} (h : hasFailure (andThen r f).2 = false) :
    hasFailure r.2 = false ∧ hasFailure (f r.1).2 = false := by
  unfold andThen at h
  split at h
  · rename_i hh; simp [hh] at h
  · rename_i hh
    simp at h
    exact ⟨by simpa using hh, h.2⟩

theorem andThen_fst {r : R} {f : State → R} (h : hasFailure r.2 = false) : (andThen r f).1 = (f r.1).1 := by
  unfold andThen; simp [h]

theorem receiveOne_decision (s : State) (now : Int) (m : Msg) (hd : m.phase ≠ .decide) :
    (s.receiveOne now m).1.1.decision = s.decision :=
  (DecideStable.rule (decision_stable s.decision)).receiveOne now m rfl hd fun _ _ => rfl

theorem tryCurrentPhase_term' (s : State) (now : Int) :
    hasFailure (s.tryCurrentPhase now).2 = true ∨
    ((s.tryCurrentPhase now).1.phase = .terminated →
      s.phase = .terminated ∨ (s.phase = .decide ∧ s.decision.findStrongQuorumValue ≠ .none)) := by
  cases hf : hasFailure (s.tryCurrentPhase now).2
  · exact Or.inr (tryCurrentPhase_term s now hf)
  · exact Or.inl rfl

theorem tryCurrentPhase_nt (s : State) (now : Int) (hq : DQ s) (ht : s.phase ≠ .terminated) :
    hasFailure (s.tryCurrentPhase now).2 = true ∨ (s.tryCurrentPhase now).1.phase ≠ .terminated := by
  rcases tryCurrentPhase_term' s now with h | h
  · exact Or.inl h
  · refine Or.inr fun hterm => ?_
    rcases h hterm with h | ⟨h1, h2⟩
    · exact ht h
    · exact h2 (hq.2 h1)

theorem andThen_or {r : R} {f : State → R} {P : State → Prop}
    (h : hasFailure (f r.1).2 = true ∨ P (f r.1).1) :
    hasFailure (andThen r f).2 = true ∨ P (andThen r f).1 := by
  unfold andThen
  split
  · exact Or.inl (by assumption)
  · rcases h with h | h
    · exact Or.inl (by simp [h])
    · exact Or.inr h

theorem recvQuality_nt (s : State) (now : Int) (m : Msg) (hq : DQ s) (ht : s.phase ≠ .terminated) :
    hasFailure (s.recvQuality now m).2 = true ∨ (s.recvQuality now m).1.phase ≠ .terminated := by
  refine recvQuality_ind s now m (fun _ => Or.inr ?_) fun _ => tryCurrentPhase_nt _ now hq ht
  unfold State.updateCandidatesFromQuality; simpa using ht

theorem recvConverge_nt (s : State) (now : Int) (m : Msg) (j) (hq : DQ s) (ht : s.phase ≠ .terminated) :
    hasFailure (s.recvConverge now m j).2 = true ∨ (s.recvConverge now m j).1.phase ≠ .terminated := by
  unfold State.recvConverge
  exact tryCurrentPhase_nt _ now hq ht

theorem recvPrepare_nt (s : State) (now : Int) (m : Msg) (hq : DQ s) (ht : s.phase ≠ .terminated) :
    hasFailure (s.recvPrepare now m).2 = true ∨ (s.recvPrepare now m).1.phase ≠ .terminated := by
  exact recvPrepare_ind s now m (fun _ => Or.inr ht) fun _ _ => tryCurrentPhase_nt _ now hq ht

theorem recvCommit_nt (s : State) (now : Int) (m : Msg) (hq : DQ s) (ht : s.phase ≠ .terminated) :
    hasFailure (s.recvCommit now m).2 = true ∨ (s.recvCommit now m).1.phase ≠ .terminated := by
  refine recvCommit_ind s now m (fun _ _ => .inl rfl)
    (fun _ _ _ _ hp _ _ => ?_) (fun _ _ _ _ => .inr (tryCommit_nt _ now m.round ht))
    (fun _ _ _ _ => tryCurrentPhase_nt _ now hq ht)
  -- the retry runs in PREPARE, which is neither TERMINATED nor DECIDE
  refine andThen_or (P := fun st => st.phase ≠ .terminated)
    ((tryCurrentPhase_term' _ now).imp_right fun h hterm => ?_)
  rcases h hterm with h | ⟨h, _⟩ <;> rw [hp] at h <;> cases h

theorem DQ_of_term {s : State} (h : s.phase = .terminated) : DQ s :=
  ⟨fun h5 => by simp [h, Phase.toNat] at h5, fun hd => by rw [h] at hd; cases hd⟩

theorem tryDecide_dq (s : State) (now : Int) (h : s.phase = .decide) :
    hasFailure (s.tryDecide now).2 = true ∨ DQ (s.tryDecide now).1 := by
  rcases tryDecide_cases s now with hf | ⟨ht, _, _⟩ | ⟨hp, hn, hd⟩
  · exact Or.inl hf
  · exact Or.inr (DQ_of_term ht)
  · refine Or.inr ⟨fun h5 => ?_, fun _ => by rw [hd]; exact hn⟩
    rw [hp, h] at h5; simp [Phase.toNat] at h5

theorem recvDecide_dq (s : State) (now : Int) (m : Msg) :
    hasFailure (s.recvDecide now m).2 = true ∨ DQ (s.recvDecide now m).1 := by
  have key : ∀ st : State, st.phase = .decide →
      hasFailure (st.tryCurrentPhase now).2 = true ∨ DQ (st.tryCurrentPhase now).1 := fun st h => by
    rw [tryCurrentPhase_decide st now h]; exact tryDecide_dq st now h
  exact recvDecide_ind s now m (fun _ => .inl rfl)
    (fun _ _ _ => andThen_or (P := DQ) (key _ (skipToDecide_phase _ _ _))) fun hd _ _ => key _ hd

theorem postReceive_noop (s : State) (now : Int) (round : Nat) (h : round ≤ s.round) :
    s.postReceive now round = (s, []) := by
  unfold State.postReceive; simp [h]

theorem receiveOne_cases (s : State) (now : Int) (m : Msg) :
    (∃ es, (s.receiveOne now m).1 = (s, es) ∧ (es = [] ∨ hasFailure es = true)) ∨
    (m.phase = .quality ∧ (s.receiveOne now m).1 = s.recvQuality now m) ∨
    (∃ j, m.phase = .converge ∧ (s.receiveOne now m).1 = s.recvConverge now m j) ∨
    (m.phase = .prepare ∧ (s.receiveOne now m).1 = s.recvPrepare now m) ∨
    (m.phase = .commit ∧ (s.receiveOne now m).1 = s.recvCommit now m) ∨
    (m.phase = .decide ∧ (s.receiveOne now m).1 = s.recvDecide now m) :=
  receiveOne_ind s now m
    (fun _ _ => Or.inl ⟨_, rfl, Or.inr (by simp)⟩) (fun _ => Or.inl ⟨_, rfl, Or.inl rfl⟩)
    (fun _ hph => Or.inr (Or.inl ⟨hph, rfl⟩)) (fun _ hph _ j _ => Or.inr (Or.inr (Or.inl ⟨j, hph, rfl⟩)))
    (fun _ hph => Or.inr (Or.inr (Or.inr (Or.inl ⟨hph, rfl⟩))))
    (fun _ hph => Or.inr (Or.inr (Or.inr (Or.inr (Or.inl ⟨hph, rfl⟩)))))
    fun _ hph => Or.inr (Or.inr (Or.inr (Or.inr (Or.inr ⟨hph, rfl⟩))))

/-- termination inside `receiveOne` only happens on DECIDE messages (quiet-decision invariant) -/
theorem receiveOne_term {s : State} (now : Int) (m : Msg) (hq : DQ s)
    (hnf : hasFailure (s.receiveOne now m).1.2 = false) (hterm : (s.receiveOne now m).1.1.phase = .terminated) :
    s.phase = .terminated ∨ m.phase = .decide := by
  by_cases ht : s.phase = .terminated
  · exact Or.inl ht
  · right
    have key : ∀ r : R, (s.receiveOne now m).1 = r → (hasFailure r.2 = true ∨ r.1.phase ≠ .terminated) → False := by
      intro r heq h'
      rw [heq] at hterm hnf
      rcases h' with h' | h'
      · exact absurd (h'.symm.trans hnf) (by decide)
      · exact h' hterm
    rcases receiveOne_cases s now m with ⟨es, heq, _⟩ | ⟨_, heq⟩ | ⟨j, _, heq⟩ | ⟨_, heq⟩ | ⟨_, heq⟩ | ⟨hph, _⟩
    · rw [heq] at hterm; exact absurd hterm ht
    · exact (key _ heq (recvQuality_nt s now m hq ht)).elim
    · exact (key _ heq (recvConverge_nt s now m j hq ht)).elim
    · exact (key _ heq (recvPrepare_nt s now m hq ht)).elim
    · exact (key _ heq (recvCommit_nt s now m hq ht)).elim
    · exact hph

/-- with the quiet-decision invariant: a message that terminates the instance is a DECIDE, so for round 0, and
`postReceive` does nothing -/
theorem StepRule.step {I : State → Prop} {V : Table → Msg → Prop} {T : State → R → Prop} (h : StepRule I V T)
    {s : State} (op : Op) (hi : I s) (hq : DQ s)
    (hv : ∀ now m, op = .recv now m → V s.tbl m ∧ MsgOk m)
    (hstart : ∀ now, op = .start now → T s (s.beginQuality now))
    (hdoor : ∀ now m k, op = .recv now m → s.phase = .terminated ∨ s.recvPre m = .reject k → T s (s, [.err k])) :
    T s (step s op) :=
  h.step₀ op hi (fun now m e => (hv now m e).1) hstart hdoor fun now m e hnt hnf hi1 ht1 => by
    have h0 : m.round = 0 := (hv now m e).2 ((receiveOne_term now m hq hnf ht1).resolve_left hnt)
    rw [postReceive_noop _ _ _ (by omega)]
    exact h.skip hi1

def StepOK (s : State) (r : R) : Prop :=
  hasFailure r.2 = true ∨ (WP s.pt (evs r.2) r.1.pt ∧ DQ r.1)

theorem stepOK_of {s : State} {r : R} (hq : DQ s) (hw : OKWP s.pt r) (hd : r.1.decision = s.decision) : StepOK s r := by
  rcases hw with hf | hw
  · exact Or.inl hf
  · exact Or.inr ⟨hw, DQ_frame hq hw.le hd⟩

theorem receiveOne_ok (s : State) (now : Int) (m : Msg) (hq : DQ s) (ht : s.phase ≠ .terminated)
    (hnf : hasFailure (s.receiveOne now m).1.2 = false) :
    DQ (s.receiveOne now m).1.1 ∧ ((s.receiveOne now m).1.1.phase = .terminated → m.phase = .decide) := by
  refine ⟨?_, fun h => (receiveOne_term now m hq hnf h).resolve_left ht⟩
  by_cases hd : m.phase = .decide
  · revert hnf
    exact receiveOne_ind (P := fun x => hasFailure x.1.2 = false → DQ x.1.1) s now m (fun _ _ h => nomatch h) (fun _ _ => hq)
      (fun _ h => nomatch hd.symm.trans h) (fun _ h _ _ _ => nomatch hd.symm.trans h) (fun _ h => nomatch hd.symm.trans h)
      (fun _ h => nomatch hd.symm.trans h) fun _ _ hnf => (recvDecide_dq s now m).resolve_left (by simp [hnf])
  · -- no DECIDE vote is filed: the tally is as before and the progress point has not gone back
    exact DQ_of_okwp hq (receiveOne_wp s now m) hnf (receiveOne_decision s now m hd)

def OpOk : Op → Prop
  | .recv _ m => MsgOk m
  | _ => True

theorem step_ok (s : State) (op : Op) (hq : DQ s) (hop : OpOk op) : StepOK s (step s op) := by
  by_cases hnf : hasFailure (step s op).2 = true
  · exact .inl hnf
  have hnf : hasFailure (step s op).2 = false := by simpa using hnf
  have hw := (wpRule.step op trivial hq (fun _ _ e => ⟨trivial, by subst e; exact hop⟩) (fun now _ => beginQuality_okwp s now)
    fun _ _ _ _ _ => OKWP.fail rfl).resolve_left (by simp [hnf])
  refine .inr ⟨hw, ?_⟩
  by_cases hd : ∃ now m, op = .recv now m ∧ m.phase = .decide
  · -- a DECIDE vote is for round 0: `postReceive` does nothing, and `receiveOne` re-establishes `DQ`
    obtain ⟨now, m, rfl, hd⟩ := hd
    revert hnf
    refine step_recv_ind s now m (fun _ h => nomatch h) (fun ht hnf => (receiveOne_ok s now m hq ht hnf).1)
      fun ht hnf1 _ => ?_
    rw [andThen_fst hnf1, postReceive_noop _ _ _ (by rw [hop hd]; exact Nat.zero_le _)]
    exact (receiveOne_ok s now m hq ht hnf1).1
  · -- otherwise the DECIDE tally is untouched and the progress point has not gone back
    exact DQ_frame hq hw.le
      (step_stable (decision_stable s.decision) s op rfl fun now m e hph => absurd ⟨now, m, e, hph⟩ hd)

theorem DQ_init (cfg : Cfg) (tbl : Table) (input : Chain) : DQ (init cfg tbl input) :=
  ⟨fun _ => rfl, fun h => by simp [init] at h⟩

/-- the effects of a run, folded like `run` but from an arbitrary state -/
def runFrom (s : State) (ops : List Op) : State × List Eff :=
  ops.foldl (fun (acc : State × List Eff) op => let r := step acc.1 op; (r.1, acc.2 ++ r.2)) (s, [])

theorem run_eq_runFrom (s : State) (ops : List Op) : run s ops = runFrom s ops := rfl

theorem runFrom_cons (s : State) (op : Op) (ops : List Op) :
    runFrom s (op :: ops) = ((runFrom (step s op).1 ops).1, (step s op).2 ++ (runFrom (step s op).1 ops).2) :=
  logFold_cons step s op ops

/-- **Run skeleton.** For every sequence of API calls (with DECIDE votes for round 0, as validation
guarantees) that reports no internal error or panic, the (progress, broadcast) skeleton of everything the
instance did is well paired from its starting point. -/
theorem runFrom_wp (s : State) (ops : List Op) (hq : DQ s) (hops : ∀ op ∈ ops, OpOk op)
    (hnf : hasFailure (runFrom s ops).2 = false) :
    WP s.pt (evs (runFrom s ops).2) (runFrom s ops).1.pt ∧ DQ (runFrom s ops).1 := by
  induction ops generalizing s with
  | nil => exact ⟨by simpa [runFrom] using WP.nil s.pt, by simpa [runFrom] using hq⟩
  | cons op ops ih =>
    rw [runFrom_cons] at hnf ⊢
    simp only [hasFailure_append, Bool.or_eq_false_iff] at hnf
    rcases step_ok s op hq (hops op (by simp)) with hf | ⟨hw, hq'⟩
    · exact absurd (hf.symm.trans hnf.1) (by decide)
    · have := ih (step s op).1 hq' (fun o ho => hops o (by simp [ho])) hnf.2
      exact ⟨by simpa using hw.append this.1, this.2⟩

def Ev.isBc : Ev → Bool | .bc _ _ => true | _ => false

theorem WP.bc_gt {c d : Pt} {l : List Ev} (h : WP c l d) :
    ∀ r' ph, Ev.bc r' ph ∈ l → ∃ r, ptLt c (r, ph.toNat) ∧ (r' = r ∨ (ph = .decide ∧ r' = 0)) := by
  induction h with
  | nil _ => intro _ _ hm; simp at hm
  | enter c r ph rest d hlt _ ih =>
    intro r' ph' hm
    simp only [List.mem_cons, reduceCtorEq, false_or] at hm
    obtain ⟨r2, h2, h3⟩ := ih r' ph' hm
    exact ⟨r2, ptLt_trans hlt h2, h3⟩
  | enterB c r ph r0 rest d hlt hr _ ih =>
    intro r' ph' hm
    simp only [List.mem_cons, reduceCtorEq, false_or, Ev.bc.injEq] at hm
    rcases hm with ⟨rfl, rfl⟩ | hm
    · exact ⟨r, hlt, hr⟩
    · obtain ⟨r2, h2, h3⟩ := ih r' ph' hm
      exact ⟨r2, ptLt_trans hlt h2, h3⟩

/-- no slot is broadcast twice -/
theorem WP.bc_nodup {c d : Pt} {l : List Ev} (h : WP c l d) : (l.filter Ev.isBc).Nodup := by
  induction h with
  | nil _ => simp
  | enter c r ph rest d _ _ ih => simpa [Ev.isBc] using ih
  | enterB c r ph r0 rest d hlt hr hrest ih =>
    simp only [List.filter_cons, Ev.isBc, Bool.false_eq_true, if_false, if_true, List.nodup_cons]
    refine ⟨?_, ih⟩
    intro hm
    have hm' : Ev.bc r0 ph ∈ rest := (List.mem_filter.1 hm).1
    obtain ⟨r2, ⟨h2, hfz⟩, h3⟩ := hrest.bc_gt r0 ph hm'
    -- (r, ph) < (r2, ph): so r < r2 and ph is before DECIDE, hence r0 = r and r0 = r2
    have hlt2 : r < r2 := by
      rcases h2 with h | ⟨_, h⟩
      · exact h
      · exact absurd h (Nat.lt_irrefl _)
    by_cases h5 : 5 ≤ ph.toNat
    · have := hfz h5; simp at this; omega
    · have hnd : ph ≠ .decide := by intro hd; rw [hd] at h5; simp [Phase.toNat] at h5
      rcases hr with hr | ⟨hd, _⟩
      · rcases h3 with h3 | ⟨hd, _⟩
        · omega
        · exact hnd hd
      · exact hnd hd

def Ev.isProg : Ev → Bool | .prog _ _ => true | _ => false
def Ev.pt : Ev → Pt | .prog r ph => (r, ph.toNat) | .bc r ph => (r, ph.toNat)

/-- progress notifications are strictly increasing (and above the start point) -/
theorem WP.prog_sorted {c d : Pt} {l : List Ev} (h : WP c l d) :
    ((l.filter Ev.isProg).map Ev.pt).Pairwise ptLt ∧ ∀ p ∈ (l.filter Ev.isProg).map Ev.pt, ptLt c p := by
  induction h with
  | nil _ => simp
  | enter c r ph rest d hlt _ ih =>
    simp only [List.filter_cons, Ev.isProg, if_true, List.map_cons, Ev.pt, List.pairwise_cons, List.mem_cons,
      forall_eq_or_imp]
    exact ⟨⟨ih.2, ih.1⟩, hlt, fun p hp => ptLt_trans hlt (ih.2 p hp)⟩
  | enterB c r ph r0 rest d hlt _ _ ih =>
    simp only [List.filter_cons, Ev.isProg, if_true, Bool.false_eq_true, if_false, List.map_cons, Ev.pt,
      List.pairwise_cons, List.mem_cons, forall_eq_or_imp]
    exact ⟨⟨ih.2, ih.1⟩, hlt, fun p hp => ptLt_trans hlt (ih.2 p hp)⟩

end F3.Instance
