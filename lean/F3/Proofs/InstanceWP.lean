import F3.Proofs.InstanceStep
/-! Every function of the instance model enters strictly increasing progress points and broadcasts only
for the point it enters (`WP`), provided it reports no internal error / panic. -/
namespace F3.Instance

@[simp] theorem hasFailure_nil : hasFailure [] = false := rfl
@[simp] theorem hasFailure_append (a b : List Eff) : hasFailure (a ++ b) = (hasFailure a || hasFailure b) := by
  simp [hasFailure, List.any_append]
theorem hasFailure_cons (e : Eff) (es : List Eff) : hasFailure (e :: es) = (hasFailure [e] || hasFailure es) := by
  simp [hasFailure]
@[simp] theorem hasFailure_progress (r ph) (es : List Eff) : hasFailure (Eff.progress r ph :: es) = hasFailure es := by
  simp [hasFailure]
@[simp] theorem hasFailure_broadcast (r ph v t j) (es : List Eff) : hasFailure (Eff.broadcast r ph v t j :: es) = hasFailure es := by
  simp [hasFailure]
@[simp] theorem hasFailure_rebroadcast (r ph) (es : List Eff) : hasFailure (Eff.rebroadcast r ph :: es) = hasFailure es := by
  simp [hasFailure]
@[simp] theorem hasFailure_setAlarm (t) (es : List Eff) : hasFailure (Eff.setAlarm t :: es) = hasFailure es := by
  simp [hasFailure]
@[simp] theorem hasFailure_err (k) (es : List Eff) : hasFailure (Eff.err k :: es) = true := by
  simp [hasFailure]
@[simp] theorem hasFailure_panic (k) (es : List Eff) : hasFailure (Eff.panic k :: es) = true := by
  simp [hasFailure]

@[simp] theorem evs_progress (r ph) (es : List Eff) : evs (Eff.progress r ph :: es) = .prog r ph :: evs es := rfl
@[simp] theorem evs_broadcast (r ph v t j) (es : List Eff) : evs (Eff.broadcast r ph v t j :: es) = .bc r ph :: evs es := rfl
@[simp] theorem evs_rebroadcast (r ph) (es : List Eff) : evs (Eff.rebroadcast r ph :: es) = evs es := rfl
@[simp] theorem evs_setAlarm (t) (es : List Eff) : evs (Eff.setAlarm t :: es) = evs es := rfl
@[simp] theorem evs_err (k) (es : List Eff) : evs (Eff.err k :: es) = evs es := rfl
@[simp] theorem evs_panic (k) (es : List Eff) : evs (Eff.panic k :: es) = evs es := rfl

@[simp] theorem evs_rebroadcastEffs (s : State) : evs (rebroadcastEffs s) = [] := by
  unfold rebroadcastEffs
  split <;> simp
  all_goals (split <;> simp)

@[simp] theorem hasFailure_rebroadcastEffs (s : State) : hasFailure (rebroadcastEffs s) = false := by
  unfold rebroadcastEffs
  split <;> simp
  all_goals (split <;> simp)

@[simp] theorem tryRebroadcast_evs (s : State) (now : Int) : evs (s.tryRebroadcast now).2 = [] :=
  tryRebroadcast_ind s now (fun _ _ => rfl) (fun _ _ _ => rfl) (fun _ _ _ => by simp)

@[simp] theorem tryRebroadcast_pt (s : State) (now : Int) : (s.tryRebroadcast now).1.pt = s.pt := by
  obtain ⟨_, _, h⟩ := tryRebroadcast_fst s now; rw [h]; rfl

@[simp] theorem tryRebroadcast_nofail (s : State) (now : Int) : hasFailure (s.tryRebroadcast now).2 = false :=
  tryRebroadcast_ind s now (fun _ _ => rfl) (fun _ _ _ => rfl)
    (fun _ _ _ => by simp)

theorem beginQuality_wp (s : State) (now : Int) (h : s.phase = .initial) :
    WP s.pt (evs (s.beginQuality now).2) (s.beginQuality now).1.pt := by
  rw [beginQuality_eq s now h]
  exact WP.enterB _ _ _ _ _ _ ⟨Or.inr ⟨rfl, by simp [State.pt, h, Phase.toNat]⟩, by simp [State.pt, h, Phase.toNat]⟩
    (Or.inl rfl) (WP.nil _)

theorem beginPrepare_wp (s : State) (now : Int) (j : Option Just) (c : Pt)
    (hc : ptLt c (s.round, Phase.prepare.toNat)) :
    WP c (evs (s.beginPrepare now j).2) (s.beginPrepare now j).1.pt := by
  unfold State.beginPrepare State.alarmAfter State.resetReb State.pt
  simp
  exact WP.enterB _ _ _ _ _ _ hc (Or.inl rfl) (WP.nil _)

theorem beginCommit_wp (s : State) (now : Int) (c : Pt) (hc : ptLt c (s.round, Phase.commit.toNat))
    (hnf : hasFailure (s.beginCommit now).2 = false) :
    WP c (evs (s.beginCommit now).2) (s.beginCommit now).1.pt := by
  unfold State.beginCommit State.alarmAfter State.resetReb State.pt at *
  dsimp only at *
  split
  · simp; exact WP.enterB _ _ _ _ _ _ hc (Or.inl rfl) (WP.nil _)
  · rename_i hv
    simp only [hv] at hnf
    split
    · simp; exact WP.enterB _ _ _ _ _ _ hc (Or.inl rfl) (WP.nil _)
    · rename_i hj
      simp [hj] at hnf

theorem beginConverge_wp (s : State) (now : Int) (j : Just) (c : Pt)
    (hc : ptLt c (s.round, Phase.converge.toNat))
    (hnf : hasFailure (s.beginConverge now j).2 = false) :
    WP c (evs (s.beginConverge now j).2) (s.beginConverge now j).1.pt := by
  unfold State.beginConverge State.alarmAfter State.resetReb State.setRound State.pt at *
  dsimp only at *
  split
  · rename_i h; simp [h] at hnf
  · simp; exact WP.enterB _ _ _ _ _ _ hc (Or.inl rfl) (WP.nil _)

theorem beginDecide_wp (s : State) (r : Nat) (c : Pt) (hc : ptLt c (s.round, Phase.decide.toNat))
    (hnf : hasFailure (s.beginDecide r).2 = false) :
    WP c (evs (s.beginDecide r).2) (s.beginDecide r).1.pt := by
  unfold State.beginDecide State.resetReb State.pt at *
  dsimp only at *
  split
  · simp; exact WP.enterB _ _ _ _ _ _ hc (Or.inr ⟨rfl, rfl⟩) (WP.nil _)
  · rename_i h; simp [h] at hnf
  · rename_i h; simp [h] at hnf

theorem skipToDecide_wp (s : State) (v : Chain) (j : Option Just) (c : Pt)
    (hc : ptLt c (s.round, Phase.decide.toNat)) :
    WP c (evs (s.skipToDecide v j).2) (s.skipToDecide v j).1.pt := by
  unfold State.skipToDecide State.resetReb State.pt
  simp
  exact WP.enterB _ _ _ _ _ _ hc (Or.inr ⟨rfl, rfl⟩) (WP.nil _)

theorem terminate_wp (s : State) (d : Just) (c : Pt) (hc : ptLt c (s.round, Phase.terminated.toNat)) :
    WP c (evs (s.terminate d).2) (s.terminate d).1.pt := by
  unfold State.terminate State.resetReb State.pt
  simp
  exact WP.enter _ _ _ _ _ hc (WP.nil _)

theorem beginNextRound_wp (s : State) (now : Int) (hph : s.phase.toNat < 5)
    (hnf : hasFailure (s.beginNextRound now).2 = false) :
    WP s.pt (evs (s.beginNextRound now).2) (s.beginNextRound now).1.pt := by
  unfold State.beginNextRound at *
  dsimp only at *
  split
  · rename_i j hj
    simp only [hj] at hnf
    apply beginConverge_wp _ _ _ _ _ hnf
    exact ⟨Or.inl (Nat.lt_succ_self _), fun h => by simp only [State.pt] at h; omega⟩
  · rename_i p hp
    simp [hp] at hnf

@[simp] theorem tryRebroadcast_round (s : State) (now : Int) : (s.tryRebroadcast now).1.round = s.round :=
  congrArg Prod.fst (tryRebroadcast_pt s now)
theorem tryRebroadcast_phase_toNat (s : State) (now : Int) : (s.tryRebroadcast now).1.phase.toNat = s.phase.toNat :=
  congrArg Prod.snd (tryRebroadcast_pt s now)

theorem tryRebroadcast_wp (s : State) (now : Int) :
    WP s.pt (evs (s.tryRebroadcast now).2) (s.tryRebroadcast now).1.pt := by
  rw [tryRebroadcast_evs, tryRebroadcast_pt]; exact WP.nil _

def OKWP (c : Pt) (r : R) : Prop := hasFailure r.2 = true ∨ WP c (evs r.2) r.1.pt

theorem OKWP.of {c : Pt} {r : R} (h : hasFailure r.2 = false → WP c (evs r.2) r.1.pt) : OKWP c r := by
  unfold OKWP
  cases hf : hasFailure r.2
  · exact Or.inr (h hf)
  · exact Or.inl rfl

theorem OKWP.fail {c : Pt} {s : State} {es : List Eff} (h : hasFailure es = true) : OKWP c (s, es) := Or.inl h
theorem OKWP.nil {s : State} : OKWP s.pt (s, []) := Or.inr (WP.nil _)

theorem ptLt_same_round (s : State) (s1 : State) (h1 : s1.round = s.round) (n : Nat) (hn : s.phase.toNat < n)
    (h5 : s.phase.toNat < 5) : ptLt s.pt (s1.round, n) := by
  rw [h1]; exact ⟨Or.inr ⟨rfl, hn⟩, fun h => by simp only [State.pt] at h; omega⟩

theorem tryQuality_wp (s : State) (now : Int) : OKWP s.pt (s.tryQuality now) :=
  tryQuality_ind s now (fun _ => OKWP.fail rfl) (fun _ _ => OKWP.nil) fun hq _ _ _ => OKWP.of fun _ =>
    beginPrepare_wp _ _ _ _ (ptLt_same_round s _ rfl _ (by rw [hq]; decide) (by rw [hq]; decide))

theorem tryConverge_wp (s : State) (now : Int) : OKWP s.pt (s.tryConverge now) :=
  tryConverge_ind s now (fun _ => OKWP.fail rfl) (fun _ _ _ => Or.inr (tryRebroadcast_wp s now)) (fun _ _ _ => OKWP.nil)
    (fun _ _ _ => OKWP.fail rfl) fun hq _ _ _ _ _ _ => OKWP.of fun _ =>
      beginPrepare_wp _ _ _ _ (ptLt_same_round s _ rfl _ (by rw [hq]; decide) (by rw [hq]; decide))

theorem tryPrepare_wp (s : State) (now : Int) : OKWP s.pt (s.tryPrepare now) :=
  tryPrepare_ind s now (fun _ => OKWP.fail rfl)
    (fun hq _ v _ => OKWP.of fun hnf => beginCommit_wp { s with value := v } _ _
      (ptLt_same_round s _ rfl _ (by rw [hq]; decide) (by rw [hq]; decide)) hnf)
    (fun _ _ v _ _ => Or.inr (tryRebroadcast_wp { s with value := v } now))
    fun _ _ v _ _ => OKWP.nil (s := { s with value := v })

theorem tryCommit_wp (s : State) (now : Int) (round : Nat) (h5 : s.phase.toNat < 5) :
    OKWP s.pt (s.tryCommit now round) :=
  tryCommit_ind s now round (fun _ => OKWP.fail rfl)
    (fun c _ _ => OKWP.of fun hnf => beginDecide_wp { s with value := c } _ _ (ptLt_same_round s _ rfl _ h5 h5) hnf)
    (fun _ _ => OKWP.nil) (fun _ _ => OKWP.of fun hnf => beginNextRound_wp s now h5 hnf)
    (fun _ _ _ _ cs p _ => OKWP.of fun hnf =>
      beginNextRound_wp { s with candidates := cs, proposal := p } now h5 hnf)
    (fun _ _ _ _ _ => Or.inr (tryRebroadcast_wp s now)) fun _ _ _ _ _ => OKWP.nil

theorem tryDecide_wp (s : State) (now : Int) (hd : s.phase = .decide) : OKWP s.pt (s.tryDecide now) :=
  tryDecide_ind s now (fun _ _ => OKWP.fail rfl)
    (fun _ _ _ _ => OKWP.of fun _ => terminate_wp _ _ _
      ⟨Or.inr ⟨rfl, by simp [State.pt, hd, Phase.toNat]⟩, fun _ => rfl⟩)
    fun _ => Or.inr (tryRebroadcast_wp s now)

theorem tryCurrentPhase_wp (s : State) (now : Int) : OKWP s.pt (s.tryCurrentPhase now) :=
  tryCurrentPhase_ind s now (fun _ => tryQuality_wp s now) (fun _ => tryConverge_wp s now) (fun _ => tryPrepare_wp s now)
    (fun h => tryCommit_wp s now s.round (by rw [h]; decide)) (tryDecide_wp s now) (fun _ => OKWP.nil)
    fun _ => OKWP.fail rfl

theorem andThen_wp {c : Pt} {r : R} {f : State → R} (h1 : OKWP c r) (h2 : OKWP r.1.pt (f r.1)) :
    OKWP c (andThen r f) := by
  unfold andThen
  split
  · exact Or.inl (by assumption)
  · rename_i hnf
    rcases h1 with h1 | h1
    · exact absurd h1 hnf
    · rcases h2 with h2 | h2
      · exact Or.inl (by simp [h2])
      · exact Or.inr (by simpa using h1.append h2)

@[simp] theorem setRound_pt (s : State) (r : Nat) (rs : RoundState) : (s.setRound r rs).pt = s.pt := rfl
@[simp] theorem setRound_phase (s : State) (r : Nat) (rs : RoundState) : (s.setRound r rs).phase = s.phase := rfl
@[simp] theorem setRound_round (s : State) (r : Nat) (rs : RoundState) : (s.setRound r rs).round = s.round := rfl

theorem postReceive_wp (s : State) (now : Int) (round : Nat) (ht : s.phase ≠ .terminated) :
    OKWP s.pt (s.postReceive now round) :=
  postReceive_ind s now round OKWP.nil fun hr hd _ _ _ => OKWP.of fun hnf =>
    beginConverge_wp _ _ _ _ ⟨Or.inl hr, fun h5 => absurd (phase_toNat_lt_5 hd ht) (Nat.not_lt.2 h5)⟩ hnf

theorem beginQuality_okwp (s : State) (now : Int) : OKWP s.pt (s.beginQuality now) := by
  by_cases hi : s.phase = .initial
  · exact .inr (beginQuality_wp s now hi)
  · exact .inl (by simp [State.beginQuality, hi])

theorem Filed.pt {s s1 : State} {m : Msg} (h : Filed s m s1) : s1.pt = s.pt := by
  obtain ⟨_, _, _, hr, hp, _⟩ := h.same
  simp only [State.pt, hr, hp]

/-- filing a message and the late QUALITY update do not move the progress point -/
theorem wpRule : StepRule (fun _ => True) (fun _ _ => True) fun s r => OKWP s.pt r where
  seq {s r f} h1 _ _ h2 := by
    cases hf : hasFailure r.2
    · exact andThen_wp h1 (h2 hf trivial)
    · exact .inl (by simp [andThen, hf])
  skip _ := OKWP.nil
  malformed _ _ _ _ _ := OKWP.fail rfl
  panic _ _ _ _ _ := OKWP.fail rfl
  filed _ _ _ hf := hf.pt ▸ OKWP.nil
  phase now _ := tryCurrentPhase_wp _ now
  commit now round _ h5 := tryCommit_wp _ now round h5
  toDecide {s} _ _ _ _ h5 := OKWP.of fun _ => skipToDecide_wp s _ _ _ ⟨.inr ⟨rfl, h5⟩, fun h => absurd h5 (Nat.not_lt.2 h)⟩
  late {s} _ _ := by
    have : s.updateCandidatesFromQuality.pt = s.pt := by unfold State.updateCandidatesFromQuality; simp [State.pt]
    exact this ▸ OKWP.nil
  post now round _ ht := postReceive_wp _ now round ht

theorem receiveOne_wp (s : State) (now : Int) (m : Msg) : OKWP s.pt (s.receiveOne now m).1 :=
  wpRule.receiveOne now m trivial trivial fun _ _ => OKWP.fail rfl

end F3.Instance
