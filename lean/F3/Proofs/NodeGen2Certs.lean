import F3.Model.Certs
import F3.Gen.Certs2
import F3.Proofs.GenTie
/-! The order of the checks in `ValidateFinalityCertificates` (`certs/certs.go`) against `F3.Gen.Certs2`, regenerated
on every run from `tools/go2lean/targets.d/Certs2.json`. Core-only. -/
namespace F3.Gen2Tie
open F3.Certs F3.Proofs.GenTie

/-- **The checks of one loop iteration of `ValidateFinalityCertificates`, in the source's order.** For
every network, loop state and certificate, the outcome class of the model's `stepCert` is the code of
the regenerated `if` sequence: 1 wrong instance, 2 invalid chain, 3 empty chain, 4 base mismatch,
5 signature check failed, 6 power-table delta does not apply, 8 power-table CID mismatch, 0 accepted
(7, a failing `MakePowerTableCID`, has no counterpart: CIDs are tokens in the model). -/
theorem stepCert_checks_are_regenerated (net : Nat) (s : VState) (c : Cert) :
    let code := F3.Gen.Certs2.validateCertChecks s.base.isSome
      (match s.base with
        | some b => (match c.chain.head? with | some h => Tip.eq b h | none => false)
        | none => true)
      c.inst (!chainValid c.chain) c.chain.isEmpty
      (match applyDiff s.table c.delta with | .ok nt => c.pt != .table nt | .error _ => false)
      false
      (match applyDiff s.table c.delta with | .ok _ => false | .error _ => true)
      s.next
      (match verifySig net s.table c with | .ok _ => false | .error _ => true)
    (code = 1 → stepCert net s c = .error .instance) ∧
    (code = 2 → stepCert net s c = .error .badChain) ∧
    (code = 3 → stepCert net s c = .error .emptyChain) ∧
    (code = 4 → stepCert net s c = .error .baseMismatch) ∧
    (code = 5 → ∃ e, verifySig net s.table c = .error e ∧ stepCert net s c = .error e) ∧
    (code = 6 → ∃ e, stepCert net s c = .error (.diff e)) ∧
    (code = 8 → stepCert net s c = .error .cidMismatch) ∧
    (code = 0 → ∃ s', stepCert net s c = .ok s') ∧
    code ≠ 7 := by
  -- the regenerated base test is the model's `baseMismatch`; then both sides are the same chain of tests
  have hb : (s.base.isSome && !(match s.base with
      | some b => (match c.chain.head? with | some h => Tip.eq b h | none => false)
      | none => true)) = baseMismatch s.base c.chain := by cases s.base <;> rfl
  unfold stepCert F3.Gen.Certs2.validateCertChecks
  rw [cast_ne, hb]
  by_cases h1 : c.inst ≠ s.next
  · simp [h1]
  by_cases h2 : chainValid c.chain = false
  · simp [h1, h2]
  by_cases h3 : c.chain.isEmpty = true
  · simp [h1, h2, h3]
  by_cases h4 : baseMismatch s.base c.chain = true
  · simp [h1, h2, h3, h4]
  cases verifySig net s.table c with
  | error e => simp [h1, h2, h3, h4]
  | ok u =>
    cases applyDiff s.table c.delta with
    | error e => simp [h1, h2, h3, h4]
    | ok nt => cases h8 : (c.pt != CidTok.table nt) <;> simp [h1, h2, h3, h4, h8]

end F3.Gen2Tie
