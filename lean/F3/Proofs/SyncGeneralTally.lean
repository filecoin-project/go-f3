import F3.Proofs.InstanceDecision
import F3.Proofs.LongestPrefix
/-!
# Arbitrary inputs sharing the base: quorum-supported prefixes

One input chain `inp p` per participant. `SQ k`: the participants whose input has prefix `k` hold a strong quorum (the
model's `strongQ`); `propOf h = lpOf SQ (inp h)` (`lpOf`: the model's `longestPrefixWithQuorum` over a predicate) is what
`h` PREPAREs; `longestQuorumPrefix` is the longest of these. Quorum-supported prefixes are totally ordered
(`sq_comparable`), `longestQuorumPrefix` is the greatest (`sq_le_longest`) and exactly its supporters propose it.
-/
namespace F3.SyncGeneral
open F3.Instance

theorem sumP_filter_add (t : Table) (l : List Pid) (p : Pid → Bool) :
    sumP t (l.filter p) + sumP t (l.filter (fun x => !p x)) = sumP t l := by
  induction l with
  | nil => rfl
  | cons a as ih =>
    by_cases h : p a = true
    · rw [List.filter_cons_of_pos h, List.filter_cons_of_neg (by simp [h]), sumP_cons, sumP_cons]; omega
    · rw [List.filter_cons_of_neg h, List.filter_cons_of_pos (by simp [h]), sumP_cons, sumP_cons]; omega

/-- inclusion–exclusion, the half that is needed -/
theorem sumP_filter_inter (t : Table) (l : List Pid) (p q : Pid → Bool) :
    sumP t (l.filter p) + sumP t (l.filter q) ≤ sumP t l + sumP t (l.filter (fun x => p x && q x)) := by
  induction l with
  | nil => simp [sumP_nil]
  | cons a as ih =>
    by_cases hp : p a = true <;> by_cases hq : q a = true
    · rw [List.filter_cons_of_pos hp, List.filter_cons_of_pos hq, List.filter_cons_of_pos (by simp [hp, hq])]
      simp only [sumP_cons]; omega
    · rw [List.filter_cons_of_pos hp, List.filter_cons_of_neg hq, List.filter_cons_of_neg (by simp [hq])]
      simp only [sumP_cons]; omega
    · rw [List.filter_cons_of_neg hp, List.filter_cons_of_pos hq, List.filter_cons_of_neg (by simp [hp])]
      simp only [sumP_cons]; omega
    · rw [List.filter_cons_of_neg hp, List.filter_cons_of_neg hq, List.filter_cons_of_neg (by simp [hp])]
      simp only [sumP_cons]; omega

theorem sumP_pos_ne_nil (t : Table) (l : List Pid) (h : 0 < sumP t l) : l ≠ [] := by
  intro he; rw [he, sumP_nil] at h; exact Nat.lt_irrefl _ h

theorem sumP_filter_mono (t : Table) (a b : List Pid) (p q : Pid → Bool) (ha : a.Nodup)
    (hsub : ∀ x ∈ a, p x = true → x ∈ b ∧ q x = true) : sumP t (a.filter p) ≤ sumP t (b.filter q) := by
  apply sumP_le_of_subset t _ _ (ha.filter _)
  intro x hx
  rw [List.mem_filter] at hx ⊢
  exact hsub x hx.1 hx.2

theorem sumP_eq_of_same (t : Table) (a b : List Pid) (ha : a.Nodup) (hb : b.Nodup)
    (h1 : ∀ x ∈ a, x ∈ b) (h2 : ∀ x ∈ b, x ∈ a) : sumP t a = sumP t b :=
  Nat.le_antisymm (sumP_le_of_subset t a b ha h1) (sumP_le_of_subset t b a hb h2)

theorem strongQ_iff (t : Table) (p : Nat) : strongQ t p = true ↔ 2 * t.total ≤ 3 * p := by
  unfold strongQ Spec.Quorum.strong
  simp only [decide_eq_true_eq]
  omega

theorem strongQ_total (t : Table) : strongQ t t.total = true := by
  rw [strongQ_iff]; omega

theorem strongQ_false_of (t : Table) (p : Nat) (h : 3 * p < 2 * t.total) : strongQ t p = false := by
  cases hs : strongQ t p
  · rfl
  · rw [strongQ_iff] at hs; omega

section Global
variable (t : Table) (H : List Pid) (inp : Pid → Chain)

/-- the power of the participants whose input has prefix `k` -/
def supp (k : Chain) : Nat := sumP t (H.filter (fun h => k.isPrefixOf (inp h)))

/-- `k` is supported by a strong quorum (the model's `strongQ`) -/
def SQ (k : Chain) : Bool := strongQ t (supp t H inp k)

/-- the longest quorum-supported prefix of `h`'s own input (the base if none): what `h` PREPAREs -/
def propOf (h : Pid) : Chain := lpOf (SQ t H inp) (inp h)

def longer (a b : Chain) : Chain := if a.length < b.length then b else a

/-- the longest prefix supported by a strong quorum of input power -/
def longestQuorumPrefix : Chain := (H.map (propOf t H inp)).foldl longer []

/-- what `h` COMMITs: the longest quorum prefix if it proposed it, bottom otherwise -/
def cvOf (h : Pid) : Chain :=
  if propOf t H inp h = longestQuorumPrefix t H inp then longestQuorumPrefix t H inp else []

end Global

theorem foldl_longer_spec (l : List Chain) (a : Chain) :
    (l.foldl longer a = a ∨ l.foldl longer a ∈ l) ∧ a.length ≤ (l.foldl longer a).length ∧
    ∀ x ∈ l, x.length ≤ (l.foldl longer a).length := by
  induction l generalizing a with
  | nil => exact ⟨Or.inl rfl, Nat.le_refl _, fun x hx => by cases hx⟩
  | cons b bs ih =>
    simp only [List.foldl_cons]
    obtain ⟨h1, h2, h3⟩ := ih (longer a b)
    have hl : a.length ≤ (longer a b).length ∧ b.length ≤ (longer a b).length ∧ (longer a b = a ∨ longer a b = b) := by
      unfold longer
      split
      · exact ⟨by omega, Nat.le_refl _, Or.inr rfl⟩
      · exact ⟨Nat.le_refl _, by omega, Or.inl rfl⟩
    refine ⟨?_, by omega, ?_⟩
    · rcases h1 with h1 | h1
      · rcases hl.2.2 with h | h
        · exact Or.inl (h1.trans h)
        · exact Or.inr (by rw [h1, h]; exact List.mem_cons_self)
      · exact Or.inr (List.mem_cons_of_mem _ h1)
    · intro x hx
      rcases List.mem_cons.1 hx with rfl | hx
      · omega
      · exact h3 x hx

/-- standing hypotheses of the general run: the participants `H` are exactly the (distinct) members of the
table, the table has positive total power, all inputs start at the base `b` -/
structure GCtx (t : Table) (H : List Pid) (inp : Pid → Chain) (b : Nat) : Prop where
  nodup : H.Nodup
  inTbl : ∀ x ∈ H, ∃ i, t.index? x = some i
  full : sumP t H = t.total
  pos : 0 < t.total
  base : ∀ h ∈ H, (inp h).head? = some b

section Facts
variable {t : Table} {H : List Pid} {inp : Pid → Chain} {b : Nat}

theorem GCtx.inp_ne (g : GCtx t H inp b) {h : Pid} (hh : h ∈ H) : inp h ≠ [] := by
  intro he
  have := g.base h hh
  rw [he] at this; cases this

theorem GCtx.H_ne (g : GCtx t H inp b) : H ≠ [] := by
  intro he
  have h1 := g.full
  have h2 := g.pos
  rw [he, sumP_nil] at h1
  omega

theorem GCtx.sq_base (g : GCtx t H inp b) : SQ t H inp [b] = true := by
  unfold SQ supp
  have : H.filter (fun h => [b].isPrefixOf (inp h)) = H := by
    rw [List.filter_eq_self]
    intro h hh
    have := g.base h hh
    rw [List.isPrefixOf_iff_prefix]
    cases hi : inp h with
    | nil => rw [hi] at this; cases this
    | cons a as =>
      rw [hi] at this
      simp only [List.head?_cons, Option.some.injEq] at this
      rw [this]
      exact ⟨as, rfl⟩
  rw [this, g.full]
  exact strongQ_total t

theorem GCtx.baseChain_inp (g : GCtx t H inp b) {h : Pid} (hh : h ∈ H) : baseChain (inp h) = [b] := by
  have := g.base h hh
  cases hi : inp h with
  | nil => rw [hi] at this; cases this
  | cons a as =>
    rw [hi] at this
    simp only [List.head?_cons, Option.some.injEq] at this
    simp [baseChain, this]

theorem GCtx.propOf_prefix (g : GCtx t H inp b) {h : Pid} (hh : h ∈ H) : propOf t H inp h <+: inp h :=
  lpOf_prefix _ _ (g.inp_ne hh)

theorem GCtx.propOf_ne (g : GCtx t H inp b) {h : Pid} (hh : h ∈ H) : propOf t H inp h ≠ [] :=
  lpOf_ne_nil _ _ (g.inp_ne hh)

theorem GCtx.propOf_head (g : GCtx t H inp b) {h : Pid} (hh : h ∈ H) : (propOf t H inp h).head? = some b := by
  unfold propOf
  rw [lpOf_head _ _ (g.inp_ne hh)]
  exact g.base h hh

theorem GCtx.propOf_sq (g : GCtx t H inp b) {h : Pid} (hh : h ∈ H) : SQ t H inp (propOf t H inp h) = true := by
  rcases lpOf_sat (SQ t H inp) (inp h) with hs | hb
  · exact hs
  · unfold propOf
    rw [hb, g.baseChain_inp hh]
    exact g.sq_base

theorem GCtx.sq_common (g : GCtx t H inp b) {k1 k2 : Chain} (h1 : SQ t H inp k1 = true) (h2 : SQ t H inp k2 = true) :
    ∃ h ∈ H, k1 <+: inp h ∧ k2 <+: inp h := by
  unfold SQ supp at h1 h2
  rw [strongQ_iff] at h1 h2
  have hi := sumP_filter_inter t H (fun h => k1.isPrefixOf (inp h)) (fun h => k2.isPrefixOf (inp h))
  have hpos := g.pos
  rw [g.full] at hi
  have : 0 < sumP t (H.filter (fun x => k1.isPrefixOf (inp x) && k2.isPrefixOf (inp x))) := by omega
  have hne := sumP_pos_ne_nil t _ this
  obtain ⟨x, hx⟩ := List.exists_mem_of_ne_nil _ hne
  rw [List.mem_filter] at hx
  simp only [Bool.and_eq_true, List.isPrefixOf_iff_prefix] at hx
  exact ⟨x, hx.1, hx.2.1, hx.2.2⟩

/-- **quorum-supported prefixes are totally ordered** -/
theorem GCtx.sq_comparable (g : GCtx t H inp b) {k1 k2 : Chain} (h1 : SQ t H inp k1 = true) (h2 : SQ t H inp k2 = true) :
    k1 <+: k2 ∨ k2 <+: k1 := by
  obtain ⟨h, _, p1, p2⟩ := g.sq_common h1 h2
  by_cases hl : k1.length ≤ k2.length
  · exact Or.inl (List.prefix_of_prefix_length_le p1 p2 hl)
  · exact Or.inr (List.prefix_of_prefix_length_le p2 p1 (by omega))

theorem GCtx.longestQuorumPrefix_mem (g : GCtx t H inp b) : ∃ h0 ∈ H, longestQuorumPrefix t H inp = propOf t H inp h0 := by
  obtain ⟨h1, h2, h3⟩ := foldl_longer_spec (H.map (propOf t H inp)) []
  obtain ⟨x, hx⟩ := List.exists_mem_of_ne_nil _ g.H_ne
  rcases h1 with h1 | h1
  · exfalso
    have hle := h3 (propOf t H inp x) (List.mem_map.2 ⟨x, hx, rfl⟩)
    rw [h1] at hle
    have hpos : 0 < (propOf t H inp x).length := List.length_pos_iff.2 (g.propOf_ne hx)
    have h0 : ([] : Chain).length = 0 := rfl
    omega
  · obtain ⟨h0, hh0, he⟩ := List.mem_map.1 h1
    exact ⟨h0, hh0, he.symm⟩

theorem GCtx.longestQuorumPrefix_sq (g : GCtx t H inp b) : SQ t H inp (longestQuorumPrefix t H inp) = true := by
  obtain ⟨h0, hh0, he⟩ := g.longestQuorumPrefix_mem
  rw [he]; exact g.propOf_sq hh0

theorem GCtx.longestQuorumPrefix_ne (g : GCtx t H inp b) : longestQuorumPrefix t H inp ≠ [] := by
  obtain ⟨h0, hh0, he⟩ := g.longestQuorumPrefix_mem
  rw [he]; exact g.propOf_ne hh0

theorem GCtx.longestQuorumPrefix_head (g : GCtx t H inp b) : (longestQuorumPrefix t H inp).head? = some b := by
  obtain ⟨h0, hh0, he⟩ := g.longestQuorumPrefix_mem
  rw [he]; exact g.propOf_head hh0

theorem GCtx.propOf_le_longest (g : GCtx t H inp b) {h : Pid} (hh : h ∈ H) :
    propOf t H inp h <+: longestQuorumPrefix t H inp := by
  have hlen : (propOf t H inp h).length ≤ (longestQuorumPrefix t H inp).length :=
    (foldl_longer_spec (H.map (propOf t H inp)) []).2.2 _ (List.mem_map.2 ⟨h, hh, rfl⟩)
  rcases g.sq_comparable (g.propOf_sq hh) g.longestQuorumPrefix_sq with h1 | h1
  · exact h1
  · have := h1.eq_of_length (Nat.le_antisymm h1.length_le hlen)
    rw [this]; exact List.prefix_rfl

/-- **the longest quorum prefix is the greatest quorum-supported chain** -/
theorem GCtx.sq_le_longest (g : GCtx t H inp b) {k : Chain} (hne : k ≠ []) (hk : SQ t H inp k = true) :
    k <+: longestQuorumPrefix t H inp := by
  obtain ⟨h, hh, p1, _⟩ := g.sq_common hk hk
  exact (lpOf_max (SQ t H inp) (inp h) k p1 hne hk).trans (g.propOf_le_longest hh)

theorem GCtx.propOf_eq_longest (g : GCtx t H inp b) {h : Pid} (hh : h ∈ H)
    (hp : longestQuorumPrefix t H inp <+: inp h) : propOf t H inp h = longestQuorumPrefix t H inp :=
  prefix_antisymm (g.propOf_le_longest hh) (lpOf_max _ _ _ hp g.longestQuorumPrefix_ne g.longestQuorumPrefix_sq)

theorem GCtx.propOf_eq_longest_iff (g : GCtx t H inp b) {h : Pid} (hh : h ∈ H) :
    propOf t H inp h = longestQuorumPrefix t H inp ↔ longestQuorumPrefix t H inp <+: inp h :=
  ⟨fun he => he ▸ g.propOf_prefix hh, g.propOf_eq_longest hh⟩

/-- the proposers of the longest quorum prefix -/
def majority (t : Table) (H : List Pid) (inp : Pid → Chain) : List Pid :=
  H.filter (fun h => propOf t H inp h == longestQuorumPrefix t H inp)

/-- **the proposers of the longest quorum prefix hold a strong quorum** -/
theorem GCtx.majority_strong (g : GCtx t H inp b) : strongQ t (sumP t (majority t H inp)) = true := by
  have h1 := g.longestQuorumPrefix_sq
  unfold SQ supp at h1
  refine strongQ_of_le t ?_ h1
  unfold majority
  apply sumP_filter_mono t H H _ _ g.nodup
  intro x hx hp
  rw [List.isPrefixOf_iff_prefix] at hp
  exact ⟨hx, by rw [g.propOf_eq_longest hx hp]; simp⟩

theorem GCtx.minority_weak (g : GCtx t H inp b) (S : List Pid) (hnd : S.Nodup) (hsub : ∀ x ∈ S, x ∈ H)
    (hmin : ∀ x ∈ S, propOf t H inp x ≠ longestQuorumPrefix t H inp) : 3 * sumP t S + 2 * t.total ≤ 3 * t.total := by
  have hm := g.majority_strong
  rw [strongQ_iff] at hm
  have hpart := sumP_filter_add t H (fun h => propOf t H inp h == longestQuorumPrefix t H inp)
  rw [g.full] at hpart
  have hle : sumP t S ≤ sumP t (H.filter (fun x => !(propOf t H inp x == longestQuorumPrefix t H inp))) := by
    apply sumP_le_of_subset t _ _ hnd
    intro x hx
    rw [List.mem_filter]
    exact ⟨hsub x hx, by simpa using hmin x hx⟩
  unfold majority at hm
  omega

theorem GCtx.minority_not_strong (g : GCtx t H inp b) (S : List Pid) (hnd : S.Nodup) (hsub : ∀ x ∈ S, x ∈ H)
    (hmin : ∀ x ∈ S, propOf t H inp x ≠ longestQuorumPrefix t H inp) : strongQ t (sumP t S) = false := by
  have := g.minority_weak S hnd hsub hmin
  have hp := g.pos
  exact strongQ_false_of t _ (by omega)

theorem cvOf_cases (h : Pid) :
    (propOf t H inp h = longestQuorumPrefix t H inp ∧ cvOf t H inp h = longestQuorumPrefix t H inp) ∨
    (propOf t H inp h ≠ longestQuorumPrefix t H inp ∧ cvOf t H inp h = []) := by
  unfold cvOf
  by_cases he : propOf t H inp h = longestQuorumPrefix t H inp
  · exact Or.inl ⟨he, by rw [if_pos he]⟩
  · exact Or.inr ⟨he, by rw [if_neg he]⟩

end Facts

end F3.SyncGeneral
