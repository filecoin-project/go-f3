import F3.Proofs.ValidBridge
import F3.Proofs.NetworkQuiet
/-!
# From signed wire messages and key usage to the network of model runs

`F3.Bridge.Network*` take `W` (the validly signed votes in existence) and a table as *parameters* and assume, per
honest member, `valid` (every delivered message is `MsgValid W t`) and `own` (`W p` is exactly what `p` broadcast).
`F3.ValidBridge.validMsg_MsgValid` shows that what C05's validator accepts (`validMsg`) is `MsgValid` for
`W := Wsig Signed …`, `t := tableOf c`. Here `W` and `t` are *instantiated* from a
committee `c` and a relation `Signed pub bytes` ("the holder of key `pub` produced a signature over `bytes`"), the
deliveries are concrete wire messages accepted by `validMsg`, and `valid` / `own` / `nonMembers` are **derived** from
assumptions about key usage only (`KeyUsage`).
-/
namespace F3.Audit2
open F3 F3.Msg F3.Spec.ValidMsg F3.ValidBridge

/-- what is handed to the instance for an accepted wire message `m`: its abstraction, with whatever ticket rank the
host computed (the model's `suppOk` / `instOk` flags are `true`: `m` is of this instance) -/
def handed (m : Msg.Msg) (rk : Nat) : Instance.Msg := { absMsg m with rank := rk }

/-- a call on the instance: `Start`, an alarm, or the delivery of a wire message of this instance
(`inst`, `supp`) that exists on the wire (`Wire`) and that the validator accepts (`validMsg`, C05) -/
def DeliveredOp (Wire : Msg.Msg → Prop) (net inst supp : Nat) (c : Committee) : Instance.Op → Prop
  | .recv _ m' => ∃ m rk, m' = handed m rk ∧ Wire m ∧ validMsg net c m ∧ m.vote.inst = inst ∧ m.vote.supp = supp
  | _ => True

/-- one honest member's execution: it never began the instance, or `Start` once and then alarms and deliveries of
validated wire messages (or of messages of other instances / supplemental data, refused at the door) -/
structure SignedRun (Wire : Msg.Msg → Prop) (net inst supp : Nat) (c : Committee) (p : Instance.Pid) where
  cfg : Instance.Cfg
  input : Instance.Chain
  ops : List Instance.Op
  inputNe : input ≠ []
  shape : StartedOnce ops
  delivered : ∀ op ∈ ops, Bridge.foreign op = true ∨ DeliveredOp Wire net inst supp c op

/-- the effects (broadcast requests among them) of the member's model run -/
def SignedRun.effs {Wire : Msg.Msg → Prop} {net inst supp : Nat} {c : Committee} {p : Instance.Pid}
    (r : SignedRun Wire net inst supp c p) : List Instance.Eff :=
  (Instance.run (Instance.init r.cfg (tableOf c) r.input) r.ops).2

/-- the honest members of committee `c` outside `F`, each with its run -/
abbrev SignedRuns (Wire : Msg.Msg → Prop) (net inst supp : Nat) (c : Committee) (F : Finset Instance.Pid) :=
  ∀ p, p ∈ (Bridge.ids (tableOf c)).toFinset → p ∉ F → SignedRun Wire net inst supp c p

/-- **The assumptions about key usage** (and nothing else about the adversary):
* `tokens` — symbolic unforgeability: a signature token, or a constituent of an aggregate token, that occurs in a
  message on the wire was produced by the key it names;
* `honestOnly` — the key registered for an honest member signs a vote payload of this instance only if that
  member's model run broadcast that vote: *Byzantine participants sign with their own keys only*, and an honest
  participant signs nothing but what `Instance.step` asks it to broadcast;
* `honestAll` — every broadcast an honest member's model run requests is signed with its registered key (needed
  for rule `commit_bottom` only).
Nothing is assumed about what the keys of members in `F` sign. -/
structure KeyUsage (Signed : Nat → SigMsg → Prop) (Wire : Msg.Msg → Prop) (net inst supp : Nat) (c : Committee)
    (F : Finset Instance.Pid) (runs : SignedRuns Wire net inst supp c F) : Prop where
  tokens : ∀ m, Wire m → (∀ pub x, m.sig = Sig.tok pub x → Signed pub x) ∧
    ∀ j, m.just = some j → ∀ sg x, j.agg = Agg.tok sg x → ∀ q ∈ sg, Signed q.2 x
  honestOnly : ∀ p hp hF, ∀ e ∈ c.entries, e.id = p → ∀ r phn v',
    Signed e.pub (SigMsg.vote net inst r phn supp (keyOf v')) →
      ∃ tk j, Instance.Eff.broadcast r (absPhase phn) (absChain v') tk j ∈ (runs p hp hF).effs
  honestAll : ∀ p hp hF r ph v tk j, Instance.Eff.broadcast r ph v tk j ∈ (runs p hp hF).effs →
    ∃ e ∈ c.entries, e.id = p ∧ ∃ phn v', absPhase phn = ph ∧ absChain v' = v ∧
      Signed e.pub (SigMsg.vote net inst r phn supp (keyOf v'))

variable {Signed : Nat → SigMsg → Prop} {Wire : Msg.Msg → Prop} {net inst supp : Nat} {c : Committee}
  {F : Finset Instance.Pid} {runs : SignedRuns Wire net inst supp c F}

/-- `MsgValid` does not look at the ticket rank -/
theorem msgValid_handed {W : Instance.Votes} {t : Instance.Table} {m : Msg.Msg} (rk : Nat)
    (h : Instance.MsgValid W t (absMsg m)) : Instance.MsgValid W t (handed m rk) := h

/-- `valid` derived: what `validMsg` accepts, with tokens produced by the keys they name, is `MsgValid` -/
theorem KeyUsage.valid (K : KeyUsage Signed Wire net inst supp c F runs) (hu : (c.entries.map (·.id)).Nodup)
    (p : Instance.Pid) (hp : p ∈ (Bridge.ids (tableOf c)).toFinset) (hF : p ∉ F) :
    ∀ op ∈ (runs p hp hF).ops, Bridge.foreign op = true ∨
      Instance.OpValidG (Wsig Signed net inst supp c) (tableOf c) op := by
  intro op hop
  rcases (runs p hp hF).delivered op hop with h | h
  · exact Or.inl h
  · right
    cases op with
    | recv now m' =>
      obtain ⟨m, rk, rfl, hw, hv, hi, hs⟩ := h
      obtain ⟨ht1, ht2⟩ := K.tokens m hw
      have := validMsg_MsgValid Signed net c hu m hv ht1 ht2
      rw [hi, hs] at this
      exact msgValid_handed rk this
    | start _ => trivial
    | alarm _ => trivial

/-- `own` derived: the votes of an honest member in existence are exactly its model run's broadcasts -/
theorem KeyUsage.own (K : KeyUsage Signed Wire net inst supp c F runs)
    (p : Instance.Pid) (hp : p ∈ (Bridge.ids (tableOf c)).toFinset) (hF : p ∉ F) (r : Nat) (ph : Instance.Phase)
    (v : Instance.Chain) :
    Wsig Signed net inst supp c p r ph v ↔
      ∃ tk j, Instance.Eff.broadcast r ph v tk j ∈ (runs p hp hF).effs := by
  constructor
  · rintro ⟨e, he, hid, phn, v', rfl, rfl, hs⟩
    exact K.honestOnly p hp hF e he hid r phn v' hs
  · exact fun ⟨tk, j, hb⟩ => K.honestAll p hp hF r ph v tk j hb

/-- `nonMembers` derived: only keys registered in the committee count -/
theorem wsig_nonMembers (Signed : Nat → SigMsg → Prop) (net inst supp : Nat) (c : Committee) (p : Instance.Pid)
    (hp : p ∉ (Bridge.ids (tableOf c)).toFinset) (r : Nat) (ph : Instance.Phase) (v : Instance.Chain) :
    ¬ Wsig Signed net inst supp c p r ph v := by
  rintro ⟨e, he, hid, _⟩
  apply hp
  rw [List.mem_toFinset, ids_tableOf]
  exact List.mem_map.2 ⟨e, he, hid⟩

/-- the run of an honest member as a `ValidRun'` w.r.t. the instantiated `W` and table -/
def KeyUsage.validRun (K : KeyUsage Signed Wire net inst supp c F runs) (hu : (c.entries.map (·.id)).Nodup)
    (p : Instance.Pid) (hp : p ∈ (Bridge.ids (tableOf c)).toFinset) (hF : p ∉ F) :
    ValidRun' (Wsig Signed net inst supp c) (tableOf c) p where
  cfg := (runs p hp hF).cfg
  input := (runs p hp hF).input
  ops := (runs p hp hF).ops
  inputNe := (runs p hp hF).inputNe
  shape := (runs p hp hF).shape
  valid := K.valid hu p hp hF
  own := K.own p hp hF

/-- **The network of model runs, from a committee, signed wire messages and key usage.** -/
def KeyUsage.network (K : KeyUsage Signed Wire net inst supp c F runs) (hu : (c.entries.map (·.id)).Nodup)
    (hT : 0 < c.total) (hF : 3 * (∑ p ∈ F, (tableOf c).power p) < c.total) :
    NetworkV' (tableOf c) F (Wsig Signed net inst supp c) where
  idsNodup := by rw [ids_tableOf]; exact hu
  totalPos := by rw [total_tableOf]; exact hT
  faultBound := Bridge.faultBound_of_sum (by rw [ids_tableOf]; exact hu) (by rw [total_tableOf]; exact hF)
  nonMembers := wsig_nonMembers Signed net inst supp c
  runs := fun p hp hpF => K.validRun hu p hp hpF

/-- **Validity from key usage**: not bottom, on the decider's own base, a prefix of the input of an honest member that
began the instance. -/
theorem validity_signed (K : KeyUsage Signed Wire net inst supp c F runs) (hu : (c.entries.map (·.id)).Nodup)
    (hT : 0 < c.total) (hF : 3 * (∑ p ∈ F, (tableOf c).power p) < c.total)
    (p : Instance.Pid) (hp : p ∈ (Bridge.ids (tableOf c)).toFinset) (hpF : p ∉ F) (d : Instance.Just)
    (hd : (Instance.run (Instance.init (runs p hp hpF).cfg (tableOf c) (runs p hp hpF).input)
      (runs p hp hpF).ops).1.termination = some d) :
    d.value ≠ [] ∧ d.value.head? = (runs p hp hpF).input.head? ∧
    ∃ h, ∃ hh : h ∈ (Bridge.ids (tableOf c)).toFinset, ∃ hhF : h ∉ F,
      (runs h hh hhF).ops ≠ [] ∧ d.value <+: (runs h hh hhF).input :=
  model_validity_quiet (K.network hu hT hF) p hp hpF d hd

/-- the tokens of `m` are in the list `S` of (key, bytes) pairs that were signed -/
def tokOkB (S : List (Nat × SigMsg)) (m : Msg.Msg) : Bool :=
  (match m.sig with | .tok pub x => S.contains (pub, x) | _ => true) &&
  (match m.just with
   | some j => (match j.agg with | .tok sg x => sg.all (fun q => S.contains (q.2, x)) | _ => true)
   | none => true)

theorem tokOkB_sound (S : List (Nat × SigMsg)) (m : Msg.Msg) (h : tokOkB S m = true) :
    (∀ pub x, m.sig = Sig.tok pub x → (pub, x) ∈ S) ∧
    ∀ j, m.just = some j → ∀ sg x, j.agg = Agg.tok sg x → ∀ q ∈ sg, (q.2, x) ∈ S := by
  unfold tokOkB at h
  rw [Bool.and_eq_true] at h
  obtain ⟨h1, h2⟩ := h
  constructor
  · intro pub x hs
    rw [hs] at h1
    simpa using h1
  · intro j hj sg x ha q hq
    rw [hj] at h2
    simp only [ha] at h2
    have := List.all_eq_true.1 h2 q hq
    simpa using this

/-- everything key `pub` signed for this instance is among the broadcasts `bcs` -/
def honestOnlyB (S : List (Nat × SigMsg)) (net inst supp pub : Nat)
    (bcs : List (Nat × Instance.Phase × Instance.Chain)) : Bool :=
  S.all (fun s => s.1 != pub || match s.2 with
    | .vote n i r phn sp (.ofChain v') =>
      !(n == net && i == inst && sp == supp) || bcs.contains (r, absPhase phn, absChain v')
    | _ => true)

theorem honestOnlyB_sound (S : List (Nat × SigMsg)) (net inst supp pub : Nat)
    (bcs : List (Nat × Instance.Phase × Instance.Chain)) (h : honestOnlyB S net inst supp pub bcs = true)
    (r phn : Nat) (v' : Msg.Chain) (hs : (pub, SigMsg.vote net inst r phn supp (keyOf v')) ∈ S) :
    (r, absPhase phn, absChain v') ∈ bcs := by
  have := List.all_eq_true.1 h _ hs
  simpa [keyOf] using this

/-- every broadcast in `bcs` is signed by key `pub` -/
def honestAllB (S : List (Nat × SigMsg)) (net inst supp pub : Nat)
    (bcs : List (Nat × Instance.Phase × Instance.Chain)) : Bool :=
  bcs.all (fun b => S.any (fun s => s.1 == pub && match s.2 with
    | .vote n i r phn sp (.ofChain v') =>
      n == net && i == inst && sp == supp && r == b.1 && absPhase phn == b.2.1 && absChain v' == b.2.2
    | _ => false))

theorem honestAllB_sound (S : List (Nat × SigMsg)) (net inst supp pub : Nat)
    (bcs : List (Nat × Instance.Phase × Instance.Chain)) (h : honestAllB S net inst supp pub bcs = true)
    (r : Nat) (ph : Instance.Phase) (v : Instance.Chain) (hb : (r, ph, v) ∈ bcs) :
    ∃ phn v', absPhase phn = ph ∧ absChain v' = v ∧ (pub, SigMsg.vote net inst r phn supp (keyOf v')) ∈ S := by
  have := List.all_eq_true.1 h _ hb
  obtain ⟨s, hs, hc⟩ := List.any_eq_true.1 this
  obtain ⟨p1, x⟩ := s
  simp only [Bool.and_eq_true, beq_iff_eq] at hc
  obtain ⟨rfl, hx⟩ := hc
  cases x with
  | vote n i r' phn sp k =>
    cases k with
    | ofChain v' =>
      simp only [Bool.and_eq_true, beq_iff_eq] at hx
      obtain ⟨⟨⟨⟨⟨rfl, rfl⟩, rfl⟩, rfl⟩, h1⟩, h2⟩ := hx
      exact ⟨phn, v', h1, h2, hs⟩
    | junk _ => cases hx
  | vrf _ _ _ _ => cases hx
  | other _ => cases hx

/-- `KeyUsage` for a finite list `S` of signatures in existence and a finite list `wire` of wire messages, from the
three checkers -/
theorem KeyUsage.ofLists (S : List (Nat × SigMsg)) (wire : List Msg.Msg) (net inst supp : Nat) (c : Committee)
    (F : Finset Instance.Pid) (runs : SignedRuns (fun m => m ∈ wire) net inst supp c F)
    (htok : wire.all (tokOkB S) = true)
    (hhon : ∀ p hp hF, ∀ e ∈ c.entries, e.id = p →
      honestOnlyB S net inst supp e.pub ((runs p hp hF).effs.filterMap Bridge.bcTriple) = true ∧
      honestAllB S net inst supp e.pub ((runs p hp hF).effs.filterMap Bridge.bcTriple) = true) :
    KeyUsage (fun pub x => (pub, x) ∈ S) (fun m => m ∈ wire) net inst supp c F runs where
  tokens := fun m hm => tokOkB_sound S m (List.all_eq_true.1 htok m hm)
  honestOnly := by
    intro p hp hF e he hid r phn v' hs
    rw [Bridge.bc_iff_triple]
    exact honestOnlyB_sound S net inst supp e.pub _ (hhon p hp hF e he hid).1 r phn v' hs
  honestAll := by
    intro p hp hF r ph v tk j hb
    have hp' := hp
    rw [List.mem_toFinset, ids_tableOf] at hp'
    obtain ⟨e, he, hid⟩ := List.mem_map.1 hp'
    have hb' := (Bridge.bc_iff_triple _ r ph v).1 ⟨tk, j, hb⟩
    obtain ⟨phn, v', h1, h2, hs⟩ := honestAllB_sound S net inst supp e.pub _ (hhon p hp hF e he hid).2 r ph v hb'
    exact ⟨e, he, hid, phn, v', h1, h2, hs⟩

/-! ### a concrete committee, signatures, wire messages and runs

Three members (scaled powers 12, 12, 6) with keys 101, 102, 103; instance 5 of network 1, supplemental data 9. Members 1 and 2
are honest and run the model on the chain `[7, 8]`; member 3 is Byzantine: its QUALITY for `[7, 9]` is delivered, and
it has signed two different PREPAREs (never delivered). -/
namespace SignedEx

def tip (n : Nat) : Tip := ⟨n, n, 8, 38⟩
def cv : Msg.Chain := [tip 7, tip 8]
def cb : Msg.Chain := [tip 7, tip 9]
def com : Committee := { entries := [⟨1, 12, 101⟩, ⟨2, 12, 102⟩, ⟨3, 6, 103⟩], beacon := 0 }
def pl (ph : Nat) (v : Msg.Chain) : Payload := ⟨5, 0, ph, 9, v⟩
def sm (ph : Nat) (v : Msg.Chain) : SigMsg := .vote 1 5 0 ph 9 (keyOf v)
def jOf (ph : Nat) : Msg.Just :=
  { vote := pl ph cv, signers := [0, 1], agg := .tok [(0, 101), (1, 102)] (sm ph cv), enc := true }
def mk (sender pub ph : Nat) (v : Msg.Chain) (j : Option Msg.Just) : Msg.Msg :=
  { sender := sender, vote := pl ph v, sig := .tok pub (sm ph v), ticket := .garbage 0, just := j, enc := true }

/-- the signatures in existence -/
def S : List (Nat × SigMsg) :=
  [(101, sm QUALITY cv), (101, sm PREPARE cv), (101, sm COMMIT cv), (101, sm DECIDE cv),
   (102, sm QUALITY cv), (102, sm PREPARE cv), (102, sm COMMIT cv), (102, sm DECIDE cv),
   (103, sm QUALITY cb), (103, sm PREPARE cb), (103, sm PREPARE cv)]

/-- the deliveries (time, wire message), the same at members 1 and 2 -/
def deliveries : List (Int × Msg.Msg) :=
  [(1, mk 1 101 QUALITY cv none), (2, mk 3 103 QUALITY cb none), (3, mk 2 102 QUALITY cv none),
   (4, mk 1 101 PREPARE cv none), (5, mk 2 102 PREPARE cv none),
   (6, mk 1 101 COMMIT cv (some (jOf PREPARE))), (7, mk 2 102 COMMIT cv (some (jOf PREPARE))),
   (8, mk 1 101 DECIDE cv (some (jOf COMMIT))), (9, mk 2 102 DECIDE cv (some (jOf COMMIT)))]

def wire : List Msg.Msg := deliveries.map (·.2)

def sOps : List Instance.Op := .start 0 :: deliveries.map (fun d => .recv d.1 (handed d.2 0))

def sRun (p : Instance.Pid) : SignedRun (fun m => m ∈ wire) 1 5 9 com p where
  cfg := Bridge.exCfg
  input := [7, 8]
  ops := sOps
  inputNe := by decide
  shape := Or.inr ⟨0, _, rfl, by
    intro op hop
    obtain ⟨d, _, rfl⟩ := List.mem_map.1 hop
    rfl⟩
  delivered := by
    intro op hop
    right
    rcases List.mem_cons.1 hop with rfl | hop
    · trivial
    · obtain ⟨d, hd, rfl⟩ := List.mem_map.1 hop
      have hall : ∀ d ∈ deliveries, validMsg 1 com d.2 ∧ d.2.vote.inst = 5 ∧ d.2.vote.supp = 9 := by decide
      exact ⟨d.2, 0, rfl, List.mem_map.2 ⟨d, hd, rfl⟩, hall d hd⟩

def sF : Finset Instance.Pid := {3}

def sRuns : SignedRuns (fun m => m ∈ wire) 1 5 9 com sF := fun p _ _ => sRun p

theorem s_ids : (Bridge.ids (tableOf com)).toFinset = {1, 2, 3} := by decide

theorem sOps_run :
    (Instance.run (Instance.init Bridge.exCfg (tableOf com) [7, 8]) sOps).1.termination =
      some { round := 0, phase := .decide, value := [7, 8], signers := [0, 1] } ∧
    (Instance.run (Instance.init Bridge.exCfg (tableOf com) [7, 8]) sOps).2.filterMap Bridge.bcTriple =
      [(0, .quality, [7, 8]), (0, .prepare, [7, 8]), (0, .commit, [7, 8]), (0, .decide, [7, 8])] := by
  decide +kernel

theorem sKey : KeyUsage (fun pub x => (pub, x) ∈ S) (fun m => m ∈ wire) 1 5 9 com sF sRuns := by
  apply KeyUsage.ofLists S wire 1 5 9 com sF sRuns (by decide)
  intro p hp hF e he hid
  rw [s_ids] at hp
  simp only [Finset.mem_insert, Finset.mem_singleton, sF] at hp hF
  have he' : e = ⟨1, 12, 101⟩ ∨ e = ⟨2, 12, 102⟩ ∨ e = ⟨3, 6, 103⟩ := by
    simpa [com] using he
  show honestOnlyB S 1 5 9 e.pub ((sRun p).effs.filterMap Bridge.bcTriple) = true ∧
    honestAllB S 1 5 9 e.pub ((sRun p).effs.filterMap Bridge.bcTriple) = true
  have heff : (sRun p).effs.filterMap Bridge.bcTriple = _ := sOps_run.2
  rw [heff]
  rcases he' with rfl | rfl | rfl
  · decide
  · decide
  · exfalso
    rcases hp with h | h | h
    · exact absurd (hid.trans h) (by decide)
    · exact absurd (hid.trans h) (by decide)
    · exact hF h

/-- Non-vacuity of `F3.Props.C01.agreement_from_key_usage` / `validity_signed`: every hypothesis holds of the concrete data, the Byzantine
key has equivocated, and honest member 1 decides `[7, 8]`. -/
theorem signed_example :
    (com.entries.map (·.id)).Nodup ∧ 0 < com.total ∧ 3 * (∑ p ∈ sF, (tableOf com).power p) < com.total ∧
    (103, sm PREPARE cb) ∈ S ∧ (103, sm PREPARE cv) ∈ S ∧
    ∃ d, (Instance.run (Instance.init (sRuns 1 (by decide) (by decide)).cfg (tableOf com)
        (sRuns 1 (by decide) (by decide)).input) (sRuns 1 (by decide) (by decide)).ops).1.termination = some d ∧
      d.value = [7, 8] := by
  refine ⟨by decide, by decide, ?_, by decide, by decide, ?_⟩
  · show 3 * (∑ p ∈ ({3} : Finset Instance.Pid), (tableOf com).power p) < com.total
    rw [Finset.sum_singleton]
    decide
  · refine ⟨{ round := 0, phase := .decide, value := [7, 8], signers := [0, 1] }, ?_, rfl⟩
    -- name the run's fields before comparing with `sOps_run`: unifying through `sRuns` would execute the run
    have hc : ∀ h1 h2, (sRuns 1 h1 h2).cfg = Bridge.exCfg := fun _ _ => rfl
    have hi : ∀ h1 h2, (sRuns 1 h1 h2).input = [7, 8] := fun _ _ => rfl
    rw [hc, hi]
    exact sOps_run.1

end SignedEx

end F3.Audit2
