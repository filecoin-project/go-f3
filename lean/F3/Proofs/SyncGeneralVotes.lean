import F3.Proofs.SyncGeneralTally
import F3.Proofs.SyncTally
/-!
# Multi-valued tallies of a run with arbitrary inputs

`GT t f H T`: the exact content of a single-vote tally (`prepared`, `committed`, `decision`) in which every sender
`x` heard so far voted `f x`. `QG`: the QUALITY tally when sender `x` voted its input `inp x`.
-/
namespace F3.SyncGeneral
open F3.Instance F3.Sync

/-- the senders in `S` that voted `k` -/
def vfilter (f : Pid → Chain) (S : List Pid) (k : Chain) : List Pid := S.filter (fun x => f x == k)

def gEntry (t : Table) (f : Pid → Chain) (S : List Pid) (k : Chain) : Support :=
  { chain := k, power := sumP t (vfilter f S k), signers := vfilter f S k, strong := strongQ t (sumP t (vfilter f S k)) }

structure GT (t : Table) (f : Pid → Chain) (H : List Pid) (T : Tally) : Prop where
  nodup : T.senders.Nodup
  sub : ∀ x ∈ T.senders, x ∈ H
  pow : T.sendersPower = sumP t T.senders
  keys : (T.support.map (·.chain)).Nodup
  find : ∀ k, T.findSupport k = if vfilter f T.senders k = [] then none else some (gEntry t f T.senders k)

variable {t : Table} {f : Pid → Chain} {H : List Pid}

theorem GT_empty : GT t f H {} := ⟨by simp, by simp, rfl, by simp, by intro k; simp [Tally.findSupport, vfilter]⟩

theorem vfilter_snoc_same (f : Pid → Chain) (S : List Pid) (x : Pid) : vfilter f (S ++ [x]) (f x) = vfilter f S (f x) ++ [x] := by
  unfold vfilter
  rw [List.filter_append]
  simp

theorem vfilter_snoc_other (f : Pid → Chain) (S : List Pid) (x : Pid) (k : Chain) (hk : k ≠ f x) :
    vfilter f (S ++ [x]) k = vfilter f S k := by
  unfold vfilter
  rw [List.filter_append]
  have : (f x == k) = false := by simpa using fun h => hk h.symm
  simp [this]

theorem vfilter_sub (f : Pid → Chain) (S : List Pid) (k : Chain) : ∀ x ∈ vfilter f S k, x ∈ S ∧ f x = k := by
  intro x hx
  unfold vfilter at hx
  rw [List.mem_filter] at hx
  exact ⟨hx.1, by simpa using hx.2⟩

/-- the entry `receiveInner` writes for a signed vote of `x` -/
def votedEntry (t : Table) (cand : Support) (c : Chain) (x : Pid) (pw : Nat) : Support :=
  { chain := c, power := cand.power + pw, signers := cand.signers ++ [x], strong := strongQ t (cand.power + pw) }

theorem receiveInner_true_eq (t : Table) (Q : Tally) (x : Pid) (c : Chain) (pw : Nat) (cand : Support)
    (hc : (Q.findSupport c).getD { chain := c, power := 0, signers := [], strong := false } = cand)
    (hn : cand.signers.contains x = false) :
    Q.receiveInner t x c pw true = some { Q with support := upsertSupport Q.support (votedEntry t cand c x pw) } := by
  unfold Tally.receiveInner votedEntry
  dsimp only
  rw [hc, hn]
  simp

theorem GT.receive_new {T : Tally} (h : GT t f H T) (x : Pid) (hx : x ∈ H) (hn : x ∉ T.senders) :
    ∃ T', T.receive t x (f x) = some T' ∧ GT t f H T' ∧ T'.senders = T.senders ++ [x] ∧ T'.justs = T.justs := by
  have hc : T.senders.contains x = false := by simpa using hn
  unfold Tally.receive
  simp only [hc, Bool.false_eq_true, if_false]
  have hcand : ∃ cand, (T.findSupport (f x)).getD { chain := f x, power := 0, signers := [], strong := false } = cand ∧
      cand.power = sumP t (vfilter f T.senders (f x)) ∧ cand.signers = vfilter f T.senders (f x) := by
    rw [h.find]
    by_cases he : vfilter f T.senders (f x) = []
    · rw [if_pos he, he]; exact ⟨_, rfl, rfl, rfl⟩
    · rw [if_neg he]; exact ⟨_, rfl, rfl, rfl⟩
  obtain ⟨cand, hc1, hc2, hc3⟩ := hcand
  have hnc : cand.signers.contains x = false := by
    rw [hc3]
    simp only [List.contains_eq_mem, decide_eq_false_iff_not]
    intro hm
    exact hn (vfilter_sub f _ _ x hm).1
  have hfs : Tally.findSupport ({ T with senders := T.senders ++ [x], sendersPower := T.sendersPower + t.power x } : Tally) (f x)
      = T.findSupport (f x) := rfl
  rw [receiveInner_true_eq t _ x (f x) (t.power x) cand (by rw [hfs]; exact hc1) hnc]
  have hent : votedEntry t cand (f x) x (t.power x) = gEntry t f (T.senders ++ [x]) (f x) := by
    unfold gEntry votedEntry
    rw [vfilter_snoc_same, sumP_append, sumP_single, hc2, hc3]
  rw [hent]
  refine ⟨_, rfl, ⟨?_, ?_, ?_, ?_, ?_⟩, rfl, rfl⟩
  · show (T.senders ++ [x]).Nodup
    rw [List.nodup_append]
    exact ⟨h.nodup, by simp, fun a ha b hb => by simp at hb; subst hb; intro e; subst e; exact hn ha⟩
  · intro y hy
    have hy' : y ∈ T.senders ++ [x] := hy
    simp only [List.mem_append, List.mem_singleton] at hy'
    rcases hy' with hy' | rfl
    · exact h.sub y hy'
    · exact hx
  · show T.sendersPower + t.power x = sumP t (T.senders ++ [x])
    rw [h.pow, sumP_append, sumP_single]
  · exact upsert_chains_nodup _ h.keys _
  · intro k
    show (upsertSupport T.support (gEntry t f (T.senders ++ [x]) (f x))).find? (fun e => e.chain == k) =
      if vfilter f (T.senders ++ [x]) k = [] then none else some (gEntry t f (T.senders ++ [x]) k)
    by_cases hk : k = f x
    · subst hk
      have := upsert_find_same T.support (gEntry t f (T.senders ++ [x]) (f x))
      rw [show (gEntry t f (T.senders ++ [x]) (f x)).chain = f x from rfl] at this
      rw [this, if_neg (by rw [vfilter_snoc_same]; simp)]
    · rw [upsert_find_other _ _ k hk, vfilter_snoc_other f _ x k hk]
      have := h.find k
      unfold Tally.findSupport at this
      rw [this]
      unfold gEntry
      rw [vfilter_snoc_other f _ x k hk]

theorem GT.receive_old {T : Tally} (x : Pid) (c : Chain) (hn : x ∈ T.senders) : T.receive t x c = some T := by
  have hc : T.senders.contains x = true := by simpa using hn
  unfold Tally.receive
  rw [if_pos hc]

theorem GT.receive {T : Tally} (h : GT t f H T) (x : Pid) (hx : x ∈ H) :
    ∃ T', T.receive t x (f x) = some T' ∧ GT t f H T' ∧ x ∈ T'.senders ∧ (∀ y ∈ T.senders, y ∈ T'.senders) ∧
      (∀ y ∈ T'.senders, y ∈ T.senders ∨ y = x) ∧ T'.justs = T.justs := by
  by_cases hn : x ∈ T.senders
  · exact ⟨T, GT.receive_old x _ hn, h, hn, fun _ hy => hy, fun _ hy => Or.inl hy, rfl⟩
  · obtain ⟨T', h1, h2, h3, h4⟩ := h.receive_new x hx hn
    refine ⟨T', h1, h2, by simp [h3], fun y hy => by simp [h3, hy], fun y hy => ?_, h4⟩
    rw [h3] at hy
    simpa using hy

theorem GT.receiveJust {T : Tally} (h : GT t f H T) (k : Chain) (j : Just) : GT t f H (T.receiveJust k j) := by
  unfold Tally.receiveJust
  split
  · exact h
  · exact ⟨h.nodup, h.sub, h.pow, h.keys, h.find⟩

theorem GT.hasStrongFor {T : Tally} (h : GT t f H T) (k : Chain) :
    T.hasStrongFor k = (decide (vfilter f T.senders k ≠ []) && strongQ t (sumP t (vfilter f T.senders k))) := by
  unfold Tally.hasStrongFor
  rw [h.find]
  by_cases he : vfilter f T.senders k = []
  · simp [he]
  · simp [he, gEntry]

theorem GT.mem {T : Tally} (h : GT t f H T) (e : Support) (he : e ∈ T.support) :
    e = gEntry t f T.senders e.chain ∧ vfilter f T.senders e.chain ≠ [] := by
  have h1 := find_of_mem_nodup T.support h.keys e he
  have h2 := h.find e.chain
  unfold Tally.findSupport at h2
  rw [h1] at h2
  by_cases hv : vfilter f T.senders e.chain = []
  · rw [if_pos hv] at h2; cases h2
  · rw [if_neg hv] at h2
    exact ⟨Option.some.inj h2, hv⟩

theorem GT.fsqv {T : Tally} (h : GT t f H T) (k : Chain) (ho : ∀ k', k' ≠ k → T.hasStrongFor k' = false) :
    T.findStrongQuorumValue = if T.hasStrongFor k = true then .one k else .none := by
  have ho' : ∀ e ∈ T.support, e.strong = true → e.chain = k := by
    intro e he hs
    by_cases hk : e.chain = k
    · exact hk
    · exfalso
      have := ho e.chain hk
      unfold Tally.hasStrongFor Tally.findSupport at this
      rw [find_of_mem_nodup T.support h.keys e he] at this
      dsimp only at this
      rw [hs] at this; cases this
  unfold Tally.findStrongQuorumValue
  rw [filter_strong_one T.support k h.keys ho']
  unfold Tally.hasStrongFor Tally.findSupport
  cases hf : T.support.find? (fun e => e.chain == k) with
  | none => simp
  | some e =>
    dsimp only
    have hek : e.chain = k := by simpa using List.find?_some hf
    by_cases hs : e.strong = true
    · rw [if_pos hs, if_pos hs]
      show SQV.one e.chain = _
      rw [hek]
    · rw [if_neg hs, if_neg hs]

theorem GT.fsqf {T : Tally} (h : GT t f H T) (hin : ∀ x ∈ H, ∃ i, t.index? x = some i) (k : Chain)
    (hs : T.hasStrongFor k = true) : ∃ sg, T.findStrongQuorumFor t k = .found sg := by
  rw [h.hasStrongFor] at hs
  simp only [Bool.and_eq_true, decide_eq_true_eq] at hs
  obtain ⟨hne, hst⟩ := hs
  exact fsqf_found t T k (gEntry t f T.senders k) (by rw [h.find, if_neg hne]) hst
    (fun x hx => hin x (h.sub x (vfilter_sub f _ _ x hx).1)) hne hst

section Maj
variable {inp : Pid → Chain} {b : Nat}

/-- in this phase every proposer of the longest quorum prefix votes for it -/
def Maj (t : Table) (H : List Pid) (inp : Pid → Chain) (f : Pid → Chain) : Prop :=
  ∀ x ∈ H, propOf t H inp x = longestQuorumPrefix t H inp → f x = longestQuorumPrefix t H inp

theorem maj_propOf : Maj t H inp (propOf t H inp) := fun _ _ h => h

theorem maj_cvOf : Maj t H inp (cvOf t H inp) := by
  intro x _ h
  unfold cvOf
  rw [if_pos h]

theorem maj_const : Maj t H inp (fun _ => longestQuorumPrefix t H inp) := fun _ _ _ => rfl

theorem GT.other_weak {T : Tally} (h : GT t f H T) (g : GCtx t H inp b) (hm : Maj t H inp f) (k : Chain)
    (hk : k ≠ longestQuorumPrefix t H inp) : 3 * sumP t (vfilter f T.senders k) + 2 * t.total ≤ 3 * t.total := by
  apply g.minority_weak _ (h.nodup.filter _)
  · intro x hx; exact h.sub x (vfilter_sub f _ _ x hx).1
  · intro x hx hp
    have hx' := vfilter_sub f _ _ x hx
    exact hk (by rw [← hx'.2]; exact hm x (h.sub x hx'.1) hp)

theorem GT.other_not_strong {T : Tally} (h : GT t f H T) (g : GCtx t H inp b) (hm : Maj t H inp f) (k : Chain)
    (hk : k ≠ longestQuorumPrefix t H inp) : T.hasStrongFor k = false := by
  rw [h.hasStrongFor]
  have := h.other_weak g hm k hk
  have hp := g.pos
  rw [strongQ_false_of t _ (by omega)]
  simp

theorem GT.strong_of_all {T : Tally} (h : GT t f H T) (g : GCtx t H inp b) (hm : Maj t H inp f)
    (hall : ∀ x ∈ H, x ∈ T.senders) : T.hasStrongFor (longestQuorumPrefix t H inp) = true := by
  rw [h.hasStrongFor]
  have hle : sumP t (majority t H inp) ≤ sumP t (vfilter f T.senders (longestQuorumPrefix t H inp)) := by
    unfold majority vfilter
    apply sumP_filter_mono t H _ _ _ g.nodup
    intro x hx hp
    exact ⟨hall x hx, by rw [hm x hx (by simpa using hp)]; simp⟩
  have hs := strongQ_of_le t hle g.majority_strong
  have hne : vfilter f T.senders (longestQuorumPrefix t H inp) ≠ [] := by
    apply sumP_pos_ne_nil t
    rw [strongQ_iff] at hs
    have := g.pos
    omega
  simp [hne, hs]

theorem GT.senders_le_total {T : Tally} (h : GT t f H T) (g : GCtx t H inp b) : sumP t T.senders ≤ t.total := by
  rw [← g.full]
  exact sumP_le_of_subset t _ _ h.nodup h.sub

theorem GT.senders_all {T : Tally} (h : GT t f H T) (g : GCtx t H inp b) (hall : ∀ x ∈ H, x ∈ T.senders) :
    sumP t T.senders = t.total := by
  rw [← g.full]
  exact sumP_eq_of_same t _ _ h.nodup g.nodup h.sub hall

theorem GT.couldReach_eq {T : Tally} (h : GT t f H T) (k : Chain) (adv : Bool) :
    T.couldReach t k adv = Spec.Quorum.couldReach adv (t.total : Int) (sumP t T.senders : Nat)
      (sumP t (vfilter f T.senders k) : Nat) := by
  unfold Tally.couldReach
  rw [h.find, h.pow]
  by_cases he : vfilter f T.senders k = []
  · rw [if_pos he, he]; rfl
  · rw [if_neg he]; rfl

theorem GT.couldReach_major {T : Tally} (h : GT t f H T) (g : GCtx t H inp b) (hm : Maj t H inp f) :
    T.couldReach t (longestQuorumPrefix t H inp) false = true := by
  rw [h.couldReach_eq]
  have hpart := sumP_filter_add t T.senders (fun x => f x == longestQuorumPrefix t H inp)
  have hmin : 3 * sumP t (T.senders.filter (fun x => !(f x == longestQuorumPrefix t H inp))) + 2 * t.total ≤ 3 * t.total := by
    apply g.minority_weak _ (h.nodup.filter _)
    · intro x hx; exact h.sub x (List.mem_filter.1 hx).1
    · intro x hx hp
      have hx' := List.mem_filter.1 hx
      have := hm x (h.sub x hx'.1) hp
      simp [this] at hx'
  have htot := h.senders_le_total g
  unfold vfilter
  unfold Spec.Quorum.couldReach Spec.Quorum.strong
  simp only [Bool.false_eq_true, if_false, decide_eq_true_eq]
  omega

theorem GT.couldReach_minor_all {T : Tally} (h : GT t f H T) (g : GCtx t H inp b) (hm : Maj t H inp f) (k : Chain)
    (hk : k ≠ longestQuorumPrefix t H inp) (hall : ∀ x ∈ H, x ∈ T.senders) : T.couldReach t k false = false := by
  rw [h.couldReach_eq, h.senders_all g hall]
  have := h.other_weak g hm k hk
  have hp := g.pos
  unfold Spec.Quorum.couldReach Spec.Quorum.strong
  simp only [Bool.false_eq_true, if_false, decide_eq_false_iff_not]
  omega

theorem GT.fromStrong_all {T : Tally} (h : GT t f H T) (g : GCtx t H inp b) (hall : ∀ x ∈ H, x ∈ T.senders) :
    T.fromStrong t = true := by
  unfold Tally.fromStrong
  rw [h.pow, h.senders_all g hall]
  exact strongQ_total t

end Maj

/-- the senders in `S` whose input has prefix `k` -/
def qfilter (inp : Pid → Chain) (S : List Pid) (k : Chain) : List Pid := S.filter (fun x => k.isPrefixOf (inp x))

structure QG (t : Table) (inp : Pid → Chain) (H : List Pid) (Q : Tally) : Prop where
  nodup : Q.senders.Nodup
  sub : ∀ x ∈ Q.senders, x ∈ H
  cand : ∀ k, 2 ≤ k.length → candPower Q k = sumP t (qfilter inp Q.senders k)
  strongOk : ∀ k e, Q.findSupport k = some e → e.strong = strongQ t e.power

variable {inp : Pid → Chain}

theorem QG_empty : QG t inp H {} :=
  ⟨by simp, by simp, fun _ _ => rfl, by intro k e h; simp [Tally.findSupport] at h⟩

theorem fold_bumps (t : Table) (x : Pid) (pw : Nat) (l : List Chain) (hnd : l.Nodup) (Q : Tally)
    (hs : ∀ k e, Q.findSupport k = some e → e.strong = strongQ t e.power) :
    (∀ k, candPower (l.foldl (fun acc p => (acc.receiveInner t x p pw false).getD acc) Q) k =
        candPower Q k + if k ∈ l then pw else 0) ∧
    (l.foldl (fun acc p => (acc.receiveInner t x p pw false).getD acc) Q).senders = Q.senders ∧
    (∀ k e, (l.foldl (fun acc p => (acc.receiveInner t x p pw false).getD acc) Q).findSupport k = some e →
        e.strong = strongQ t e.power) := by
  have B := fold_prefixes t x pw l hnd Q _ rfl
  exact ⟨B.cand, B.senders, fun k => B.strongOk k (hs k)⟩

theorem qfilter_snoc (inp : Pid → Chain) (S : List Pid) (x : Pid) (k : Chain) :
    qfilter inp (S ++ [x]) k = qfilter inp S k ++ (if k.isPrefixOf (inp x) then [x] else []) := by
  unfold qfilter
  rw [List.filter_append]
  by_cases h : k.isPrefixOf (inp x) = true
  · simp [h]
  · simp [h]

theorem QG.receive {Q : Tally} (h : QG t inp H Q) (x : Pid) (hx : x ∈ H) :
    QG t inp H (Q.receiveEachPrefix t x (inp x)) ∧ x ∈ (Q.receiveEachPrefix t x (inp x)).senders ∧
    (∀ y ∈ Q.senders, y ∈ (Q.receiveEachPrefix t x (inp x)).senders) := by
  unfold Tally.receiveEachPrefix
  by_cases hin : x ∈ Q.senders
  · have : Q.senders.contains x = true := by simpa using hin
    simp only [this, if_true]
    exact ⟨h, hin, fun _ hy => hy⟩
  · have hcf : Q.senders.contains x = false := by simpa using hin
    simp only [hcf, Bool.false_eq_true, if_false]
    obtain ⟨f1, f2, f3⟩ := fold_bumps t x (t.power x) (qualityPrefixes (inp x)) (qualityPrefixes_nodup _)
      ({ Q with senders := Q.senders ++ [x], sendersPower := Q.sendersPower + t.power x } : Tally) h.strongOk
    generalize ((qualityPrefixes (inp x)).foldl (fun (acc : Tally) p => (acc.receiveInner t x p (t.power x) false).getD acc)
        ({ Q with senders := Q.senders ++ [x], sendersPower := Q.sendersPower + t.power x } : Tally)) = Q1 at f1 f2 f3
    have f2' : Q1.senders = Q.senders ++ [x] := f2
    refine ⟨⟨?_, ?_, ?_, f3⟩, by rw [f2']; simp, fun y hy => by rw [f2']; simp [hy]⟩
    · rw [f2', List.nodup_append]
      exact ⟨h.nodup, by simp, fun a ha b hb => by simp at hb; subst hb; intro e; subst e; exact hin ha⟩
    · intro y hy
      rw [f2'] at hy
      simp only [List.mem_append, List.mem_singleton] at hy
      rcases hy with hy | rfl
      · exact h.sub y hy
      · exact hx
    · intro k hk
      rw [f1 k, f2', qfilter_snoc, sumP_append]
      have hc : candPower ({ Q with senders := Q.senders ++ [x], sendersPower := Q.sendersPower + t.power x } : Tally) k
          = candPower Q k := rfl
      rw [hc, h.cand k hk]
      by_cases hp : k.isPrefixOf (inp x) = true
      · rw [if_pos hp, if_pos ((mem_qualityPrefixes _ _).2 ⟨List.isPrefixOf_iff_prefix.1 hp, hk⟩), sumP_single]
      · rw [if_neg hp, if_neg (fun hm => hp (List.isPrefixOf_iff_prefix.2 ((mem_qualityPrefixes _ _).1 hm).1)), sumP_nil]

section QGlobal
variable {b : Nat}

theorem QG.hasStrongFor {Q : Tally} (h : QG t inp H Q) (g : GCtx t H inp b) (k : Chain) (hk : 2 ≤ k.length) :
    Q.hasStrongFor k = strongQ t (sumP t (qfilter inp Q.senders k)) := by
  have hc := h.cand k hk
  unfold candPower at hc
  unfold Tally.hasStrongFor
  cases hf : Q.findSupport k with
  | none =>
    rw [hf] at hc
    simp only [Option.getD_none] at hc
    rw [← hc]
    have := g.pos
    exact (strongQ_false_of t 0 (by omega)).symm
  | some e =>
    rw [hf] at hc
    simp only [Option.getD_some] at hc
    show e.strong = _
    rw [h.strongOk k e hf, hc]

theorem QG.strong_imp_sq {Q : Tally} (h : QG t inp H Q) (g : GCtx t H inp b) (k : Chain) (hk : 2 ≤ k.length)
    (hs : Q.hasStrongFor k = true) : SQ t H inp k = true := by
  rw [h.hasStrongFor g k hk] at hs
  unfold SQ supp
  refine strongQ_of_le t ?_ hs
  unfold qfilter
  exact sumP_filter_mono t _ _ _ _ h.nodup (fun x hx hp => ⟨h.sub x hx, hp⟩)

theorem QG.all {Q : Tally} (h : QG t inp H Q) (g : GCtx t H inp b) (hall : ∀ x ∈ H, x ∈ Q.senders) (k : Chain)
    (hk : 2 ≤ k.length) : Q.hasStrongFor k = SQ t H inp k := by
  rw [h.hasStrongFor g k hk]
  unfold SQ supp qfilter
  congr 1
  apply sumP_eq_of_same t _ _ (h.nodup.filter _) (g.nodup.filter _)
  · intro x hx
    rw [List.mem_filter] at hx ⊢
    exact ⟨h.sub x hx.1, hx.2⟩
  · intro x hx
    rw [List.mem_filter] at hx ⊢
    exact ⟨hall x hx.1, hx.2⟩

/-- QUALITY ended by a quorum for the own input: the proposal is the input, which is `propOf` -/
theorem QG.lpq_found {Q : Tally} (h : QG t inp H Q) (g : GCtx t H inp b) {p : Pid} (hp : p ∈ H)
    (hs : Q.hasStrongFor (inp p) = true) : Q.longestPrefixWithQuorum (inp p) = propOf t H inp p := by
  rw [lpq_eq_lpOf, lpOf_self _ _ hs]
  unfold propOf
  by_cases hl : 2 ≤ (inp p).length
  · rw [lpOf_self _ _ (h.strong_imp_sq g _ hl hs)]
  · obtain ⟨j, hj, he⟩ := lpOf_take (SQ t H inp) (inp p) (g.inp_ne hp)
    rw [he, List.take_of_length_le (by omega)]

/-- QUALITY ended by the timer with every vote in: the proposal is `propOf` -/
theorem QG.lpq_all {Q : Tally} (h : QG t inp H Q) (g : GCtx t H inp b) {p : Pid} (hp : p ∈ H)
    (hall : ∀ x ∈ H, x ∈ Q.senders) : Q.longestPrefixWithQuorum (inp p) = propOf t H inp p := by
  rw [lpq_eq_lpOf]
  unfold propOf
  exact lpOf_congr _ _ _ (g.inp_ne hp) (fun k _ hk => h.all g hall k hk)

end QGlobal

end F3.SyncGeneral
