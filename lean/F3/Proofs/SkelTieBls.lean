import F3.Gen.SkelBls
/-!
The real BLS signing / aggregation code (`blssig/`) is in the trusted base: the models use ideal signature tokens and
the harnesses an ideal backend. Its statement structure is recorded here so that a structural change of the verifier
(e.g. sharing the BDN mask between concurrent `VerifyAggregate` calls instead of cloning it, seeded c05-a) is at least a
broken obligation of the properties that rest on signature verification (C03, C05).
-/
namespace F3.SkelTie.SkelBls
open F3.Gen.SkelBls

/-- the structure of `BlsAggregate` when it entered the trusted base -/
def skelBlsAggregateExpected : List String :=
  ["0:defer", "0:if", "1:return2", "0:assign:=", "0:range", "1:if", "2:return2", "0:assign:=", "0:if",
   "1:return2", "0:assign:=", "0:if", "1:return2", "0:return2"]

theorem skelBlsAggregate_expected : skelBlsAggregate = skelBlsAggregateExpected := rfl

/-- the structure of `BlsVerifyAggregate` when it entered the trusted base -/
def skelBlsVerifyAggregateExpected : List String :=
  ["0:defer", "0:assign:=", "0:range", "1:if", "2:return1", "0:assign:=", "0:if", "1:return1", "0:return1"]

theorem skelBlsVerifyAggregate_expected : skelBlsVerifyAggregate = skelBlsVerifyAggregateExpected := rfl

/-- the structure of `BlsNewAggregate` when it entered the trusted base -/
def skelBlsNewAggregateExpected : List String :=
  ["0:defer", "0:assign:=", "0:range", "1:assign:=", "1:if", "2:return2", "1:assign=", "0:assign:=", "0:if",
   "1:return2", "0:return2"]

theorem skelBlsNewAggregate_expected : skelBlsNewAggregate = skelBlsNewAggregateExpected := rfl

/-- the structure of `BlsVerify` when it entered the trusted base -/
def skelBlsVerifyExpected : List String :=
  ["0:defer", "0:assign:=", "0:if", "1:return1", "0:return1"]

theorem skelBlsVerify_expected : skelBlsVerify = skelBlsVerifyExpected := rfl

/-- the structure of `BlsPubkeyToPoint` when it entered the trusted base -/
def skelBlsPubkeyToPointExpected : List String :=
  ["0:if", "1:return2", "0:decl", "0:assign:=", "0:defer", "0:call:v.mu.RLock", "0:assign=",
   "0:call:v.mu.RUnlock", "0:if", "1:return2", "0:assign=", "0:assign:=", "0:if", "1:return2", "0:if",
   "1:return2", "0:call:v.mu.Lock", "0:if", "1:assign=", "0:assign=", "0:if", "1:assign=",
   "0:call:v.mu.Unlock", "0:return2"]

theorem skelBlsPubkeyToPoint_expected : skelBlsPubkeyToPoint = skelBlsPubkeyToPointExpected := rfl

end F3.SkelTie.SkelBls
