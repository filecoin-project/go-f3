import F3.Proofs.Inputs
/-! For the completeness of `collectChain` on well-formed EC trees (`C15.collect_complete`): along a parent path
epochs strictly increase, so the path visits distinct blocks and fits the fuel of the walk (a duplicate-free list of
block indices is no longer than the block list). -/
namespace F3.Proofs.InputsComplete
open F3 F3.Inputs F3.Spec.Inputs F3.Proofs.Inputs


theorem nodup_bounded_length (l : List Nat) (N : Nat) (hn : l.Nodup) (hb : ∀ x ∈ l, x < N) : l.length ≤ N := by
  simpa using hn.length_le_of_subset (l₂ := List.range N) fun x hx => List.mem_range.mpr (hb x hx)

/-- EC is well formed: every parent exists and has a strictly smaller epoch -/
def wfEC (ec : EC) : Prop :=
  ∀ k b, ec.get k = some b → ∀ p, b.parent = some p → ∃ pb, ec.get p = some pb ∧ pb.epoch < b.epoch

theorem isPath_snoc (ec : EC) : ∀ (l : List Nat) (a x : Nat),
    isPath ec a (l ++ [x]) ↔ isPath ec a l ∧ ∃ blk, ec.get x = some blk ∧ blk.parent = some ((a :: l).getLast (by simp)) := by
  intro l
  induction l with
  | nil => intro a x; simp [isPath]
  | cons b rest ih =>
    intro a x
    have h := ih b x
    simp only [List.cons_append, isPath]
    constructor
    · rintro ⟨h1, h2⟩
      obtain ⟨h3, h4⟩ := h.1 h2
      exact ⟨⟨h1, h3⟩, by simpa [List.getLast_cons] using h4⟩
    · rintro ⟨⟨h1, h2⟩, h3⟩
      exact ⟨h1, h.2 ⟨h2, by simpa [List.getLast_cons] using h3⟩⟩

theorem isPath_epochs (ec : EC) (hwf : wfEC ec) : ∀ (l : List Nat) (a : Nat) (ab : Block), ec.get a = some ab →
    isPath ec a l → ∀ x ∈ l, ∃ bx, ec.get x = some bx ∧ ab.epoch < bx.epoch := by
  intro l
  induction l with
  | nil => intro a ab _ _ x hx; simp at hx
  | cons b rest ih =>
    intro a ab ha hp x hx
    obtain ⟨⟨blk, hb, hpar⟩, hrest⟩ := hp
    obtain ⟨pb, hpb, hlt⟩ := hwf b blk hb a hpar
    obtain rfl : ab = pb := Option.some.inj (ha.symm.trans hpb)
    simp only [List.mem_cons] at hx
    rcases hx with hx | hx
    · subst hx; exact ⟨blk, hb, hlt⟩
    · obtain ⟨bx, hbx, hlt2⟩ := ih b blk hb hrest x hx
      exact ⟨bx, hbx, by omega⟩

theorem isPath_nodup (ec : EC) (hwf : wfEC ec) : ∀ (l : List Nat) (a : Nat) (ab : Block), ec.get a = some ab →
    isPath ec a l → l.Nodup := by
  intro l
  induction l with
  | nil => intro _ _ _ _; exact List.nodup_nil
  | cons b rest ih =>
    intro a ab ha hp
    obtain ⟨⟨blk, hb, hpar⟩, hrest⟩ := hp
    refine List.nodup_cons.mpr ⟨?_, ih b blk hb hrest⟩
    intro hmem
    obtain ⟨bx, hbx, hlt⟩ := isPath_epochs ec hwf rest b blk hb hrest b hmem
    obtain rfl : blk = bx := Option.some.inj (hb.symm.trans hbx)
    omega

/-- a parent path is no longer than the block list: it visits distinct blocks -/
theorem isPath_length_le (ec : EC) (hwf : wfEC ec) {l : List Nat} {a : Nat} {ab : Block} (ha : ec.get a = some ab)
    (hp : isPath ec a l) : l.length ≤ ec.blocks.length := by
  refine nodup_bounded_length l _ (isPath_nodup ec hwf l a ab ha hp) fun x hx => ?_
  obtain ⟨bx, hbx, _⟩ := isPath_epochs ec hwf l a ab ha hp x hx
  unfold EC.get at hbx
  rcases Nat.lt_or_ge x ec.blocks.length with h | h
  · exact h
  · rw [List.getElem?_eq_none h] at hbx; cases hbx

/-- the end of a parent path from `a` is not behind `a` -/
theorem isPath_last_epoch (ec : EC) (hwf : wfEC ec) {l : List Nat} {a z : Nat} {ab zb : Block} (ha : ec.get a = some ab)
    (hz : ec.get z = some zb) (hp : isPath ec a l) (hl : (a :: l).getLast (by simp) = z) : ab.epoch ≤ zb.epoch := by
  cases l with
  | nil =>
    obtain rfl : a = z := by simpa using hl
    obtain rfl : ab = zb := Option.some.inj (ha.symm.trans hz)
    exact Int.le_refl _
  | cons y ys =>
    have hmem : z ∈ (y :: ys) := by
      rw [← hl, List.getLast_cons (by simp)]
      exact List.getLast_mem _
    obtain ⟨bx, hbx, hlt⟩ := isPath_epochs ec hwf (y :: ys) a ab ha hp z hmem
    obtain rfl : zb = bx := Option.some.inj (hz.symm.trans hbx)
    omega

theorem collectFrom_complete (ec : EC) (hwf : wfEC ec) (baseKey : Nat) (base : Block) (hb : ec.get baseKey = some base) :
    ∀ (n : Nat) (l : List Nat), l.length = n → ∀ (acc : List Nat) (fuel : Nat), isPath ec baseKey l → l.length < fuel →
      collectFrom ec baseKey base.epoch fuel ((baseKey :: l).getLast (by simp)) acc = .ok (some (l ++ acc)) := by
  intro n
  induction n with
  | zero =>
    intro l hl acc fuel _ hf
    have : l = [] := List.length_eq_zero_iff.mp hl
    subst this
    cases fuel with
    | zero => simp at hf
    | succ n => simp [collectFrom]
  | succ k ih =>
    intro l hl acc fuel hp hf
    rcases List.eq_nil_or_concat l with h | ⟨l', x, h⟩
    · subst h; simp at hl
    · have hl2 : l = l' ++ [x] := by simpa using h
      subst hl2
      obtain ⟨hp', blk, hx, hpar⟩ := (isPath_snoc ec l' baseKey x).1 hp
      cases fuel with
      | zero => simp at hf
      | succ m =>
        have hlast : (baseKey :: (l' ++ [x])).getLast (by simp) = x := by simp [List.getLast_cons]
        rw [hlast]
        obtain ⟨bx, hbx, hlt⟩ := isPath_epochs ec hwf (l' ++ [x]) baseKey base hb hp x (by simp)
        obtain rfl : blk = bx := Option.some.inj (hx.symm.trans hbx)
        have hne : x ≠ baseKey := by
          intro he
          rw [he, hb] at hx
          simp only [Option.some.injEq] at hx
          subst hx
          omega
        obtain ⟨pb, hpb, _⟩ := hwf x blk hx _ hpar
        have hnl : ¬ blk.epoch < base.epoch := by omega
        simp only [collectFrom, hne, ite_false, hx, hnl, hpar, hpb]
        have hk : l'.length = k := by simp at hl; omega
        have hlen : l'.length < m := by simp at hf; omega
        have := ih l' hk (x :: acc) m hp' hlen
        rw [this]
        simp

end F3.Proofs.InputsComplete
