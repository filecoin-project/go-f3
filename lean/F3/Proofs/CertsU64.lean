import F3.Model.Certs
/-! `F3.Certs.u64`, the `uint64` of `nextInstance++`, and the instance numbers of a run of certificates. -/
namespace F3.Certs

theorem u64_of_lt {n : Nat} (h : n < 2 ^ 64) : u64 n = n := Nat.mod_eq_of_lt h

theorem u64_lt (n : Nat) : u64 n < 2 ^ 64 := Nat.mod_lt _ (Nat.two_pow_pos 64)

theorem u64_add_u64 (a b : Nat) : u64 (u64 a + b) = u64 (a + b) := Nat.mod_add_mod a _ b

/-- a certificate for `n` in front of certificates numbered from `u64 (n + 1)`, as `nextInstance++` numbers them,
gives certificates numbered from `n`; `last` is the instance after the last one -/
theorem consecutive_cons {n last : Nat} {c : Cert} {cs : List Cert} (hc : c.inst = n) (hn : n < 2 ^ 64)
    (ih : ∀ i (hi : i < cs.length), cs[i].inst = u64 (u64 (n + 1) + i)) (hlast : last = u64 (u64 (n + 1) + cs.length)) :
    (∀ i (hi : i < (c :: cs).length), (c :: cs)[i].inst = u64 (n + i)) ∧ last = u64 (n + (c :: cs).length) := by
  refine ⟨fun i hi => ?_, ?_⟩
  · cases i with
    | zero => exact hc.trans (u64_of_lt hn).symm
    | succ j =>
      rw [List.getElem_cons_succ, ih j (Nat.lt_of_succ_lt_succ hi), u64_add_u64]
      congr 1; omega
  · rw [hlast, u64_add_u64, List.length_cons]
    congr 1; omega

end F3.Certs
