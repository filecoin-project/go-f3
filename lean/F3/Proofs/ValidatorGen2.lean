import F3.Proofs.ValidatorBasic
import F3.Gen.Validate2
import F3.Proofs.GenTie
/-!
# Ties of the validator model (`F3/Model/Validator.lean`) to `gpbft/validator.go`: the tables

`F3.Gen.Validate2` is regenerated on every run from `tools/go2lean/targets.d/Validate2.json`. Here: the two
expectation tables (the `map[Phase]map[Phase]…` literals, as rows `([message phase, justification phase], cells)`)
with their look-up, and the zero-key rules of `FullyValidateMessage`; the ties of the `voteForBottom` expression, the
phase-rule `switch`, `needsJustification` and the round comparison are proved where they are stated (C05, C13).
Phases are arbitrary `Nat`s in the model (a `uint8` on the wire): every theorem is for all of them.
Core-only.
-/
namespace F3.Gen2Tie
open F3.Msg F3.Validator F3.GoInt F3.Proofs.GenTie

/-- row look-up in a regenerated table keyed by (message phase, justification phase) -/
def lookup2 : List (List Int × List Int) → Nat → Nat → Option (List Int)
  | [], _, _ => none
  | ([x, y], cells) :: t, a, b => if (a : Int) = x ∧ (b : Int) = y then some cells else lookup2 t a b
  | _ :: t, a, b => lookup2 t a b

/-- a row of `validateJustification`'s table: (expected round, 1 = the message's key / 0 = the zero key) -/
def justRow : List Int → Option (Nat × Bool)
  | [r, k] => some (r.toNat, k == 1)
  | _ => none

/-- `Round - 1` in `uint64` is the model's `round + maxU64` wrapped: at round 0 the source wraps to `MaxUint64` -/
theorem goU64_pred (round : Nat) :
    (u64 ((round : Int) - 1)).toNat = F3.Validator.u64 (round + maxU64) := by
  cases round with
  | zero => rw [Int.natCast_zero, Int.zero_sub, u64_sub_wrap _ (by omega) (by omega)]; rfl
  | succ n =>
    rw [Int.natCast_succ, Int.add_sub_cancel, u64_natCast, Int.toNat_natCast]
    unfold F3.Validator.u64 maxU64
    rw [Nat.add_assoc, show 1 + 18446744073709551615 = 18446744073709551616 from rfl, Nat.add_mod_right]

/-- **The expectation table of `validateJustification` is the source's map literal.** For every message
phase, justification phase and message round, the model's `expectation` is the row of the
regenerated table: CONVERGE / PREPARE ← COMMIT of the previous round for the zero key or PREPARE of the
previous round for the message's key (`Round - 1` wraps at round 0 in both), COMMIT ← PREPARE of the same
round, DECIDE ← COMMIT with `math.MaxUint64`; nothing else. -/
theorem expectation_is_regenerated (ph round jph : Nat) :
    expectation ph round jph = (lookup2 (F3.Gen.Validate2.justExpectations round) ph jph).bind justRow := by
  have e := goU64_pred round
  have em : ((18446744073709551615 : Int)).toNat = maxU64 := rfl
  have k0 : ((0 : Int) == 1) = false := rfl
  have k1 : ((1 : Int) == 1) = true := rfl
  unfold expectation F3.Gen.Validate2.justExpectations
  -- the row list read by `justRow`, as an if-chain over comparisons in `Nat`
  simp only [lookup2, ite_bind, Option.bind_some, Option.bind_none, justRow, e, em, k0, k1, Int.toNat_natCast]
  simp only [← Int.cast_ofNat_Int, Int.natCast_inj, CONVERGE, PREPARE, COMMIT, DECIDE]
  -- for each message phase the rows of that phase are the model's branch and no other row matches
  match ph with
  | 0 | 1 | 2 | 3 | 4 | 5 | n + 6 =>
    simp only [Nat.reduceEqDiff, true_and, false_and, true_or, or_true, or_self, if_true, if_false]

/-- The regenerated abbreviated table is the regenerated main table without its round column. -/
theorem fullExpectations_eq_justExpectations (ph jph round : Nat) :
    (lookup2 F3.Gen.Validate2.fullExpectations ph jph).bind
        (fun cells => match cells with | [k] => some (k == 1) | _ => none) =
      ((lookup2 (F3.Gen.Validate2.justExpectations round) ph jph).bind justRow).map (·.2) := by
  unfold F3.Gen.Validate2.justExpectations F3.Gen.Validate2.fullExpectations
  simp only [lookup2, ite_bind, ite_map, Option.bind_some, Option.bind_none, Option.map_some, Option.map_none, justRow]

/-- **The zero-key rules are the source's**: the first test of the model's `fullyRules` (a zero key with
a non-zero vote value, or with a non-zero justification value) fails exactly when the regenerated block
returns one of its two errors. All partially validated messages. -/
theorem fullZeroKey_is_regenerated (pm : PMsg) :
    (pm.key.isZero && (!pm.msg.vote.value.isEmpty ||
      (match pm.msg.just with | some j => !j.vote.value.isEmpty | none => false))) =
    decide (F3.Gen.Validate2.fullZeroKeyRules
      (match pm.msg.just with | some j => j.vote.value.isEmpty | none => true) pm.key.isZero
      pm.msg.just.isSome pm.msg.vote.value.isEmpty ≠ 0) := by
  unfold F3.Gen.Validate2.fullZeroKeyRules
  cases pm.key.isZero <;> cases pm.msg.vote.value.isEmpty <;> cases pm.msg.just <;> simp
  all_goals (rename_i j; cases hj : j.vote.value.isEmpty <;> simp_all)

end F3.Gen2Tie
