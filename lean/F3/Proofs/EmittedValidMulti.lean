import F3.Proofs.EmittedValidParticipant
/-!
# Per instance of a multi-instance participant run (`mprun`): the transfer theorem, and the shapes

`instance_projection` (`F3.Proofs.MultiParticipantProj`): in a `forwardOnly` run of the multi-instance participant, the
effects tagged `k` are those of the single-instance participant run
`prun order_k (pinit cfg tbl_k input_k) (opsOf cfg c0 k ops)` — power table, proposal and drain order being what the host
supplied to the alarm that began instance `k`. Every instance has its own table, proposal and evidence set: the
hypothesis on deliveries is per instance (`MPOpK k`: the messages *addressed to instance `k`* are `PMsgOK W_k tbl_k`),
and says nothing about messages of other instances. `mprun_transfer` carries any property of failure-free micro-runs
to the effects tagged `k`; the per-instance theorems themselves are `F3.Props.C07.*_multi`.
-/
namespace F3.EmittedValid
open F3.Instance

/-- **Every instance of a validated multi-instance run is, reported refusals aside, a failure-free micro-run over
validated messages**: `prun_transfer` through `instance_projection`, for the effects tagged `k` -/
theorem mprun_transfer {Φ : State → List Eff → Prop} (cfg : Cfg) (c0 : Nat) (ops : List MPOp) (k : Nat) (tbl : Table)
    (input : Chain) (order : List Pid) (W : Votes) (hfw : forwardOnly (minit cfg c0) ops = true)
    (hbeg : begunWith cfg c0 k ops = some (tbl, input, order)) (hin : input ≠ []) (hT : 0 < tbl.total)
    (hvalid : ∀ op ∈ ops, MPOpK k (PMsgOK W tbl) op)
    (hΦ : ∀ mops, MOK (MsgValid W tbl) (init cfg tbl input) mops →
      hasFailure (mrun (init cfg tbl input) mops).2 = false →
      Φ (mrun (init cfg tbl input) mops).1 (mrun (init cfg tbl input) mops).2) :
    Φ (prun order (pinit cfg tbl input) (opsOf cfg c0 k ops)).1.inst
      ((effsOf k (mprun (minit cfg c0) ops).2).filter nonErr) := by
  rw [(instance_projection cfg c0 ops k tbl input order hfw hbeg).1]
  exact prun_transfer cfg tbl input W order _ hin hT (opsOf_PK _ cfg c0 k ops hvalid) hΦ

theorem mprun_shaped (cfg : Cfg) (c0 : Nat) (ops : List MPOp) (k : Nat) (tbl : Table) (input : Chain)
    (order : List Pid) (W : Votes) (p : Pid) (hfw : forwardOnly (minit cfg c0) ops = true)
    (hbeg : begunWith cfg c0 k ops = some (tbl, input, order)) (hin : input ≠ []) (hT : 0 < tbl.total)
    (hvalid : ∀ op ∈ ops, MPOpK k (PMsgOK W tbl) op)
    (hown : ∀ r ph v tk j, (k, Eff.broadcast r ph v tk j) ∈ (mprun (minit cfg c0) ops).2 → W p r ph v) :
    Shaped W tbl (effsOf k (mprun (minit cfg c0) ops).2) :=
  shaped_filter_nonErr.1 (mprun_transfer (Φ := fun _ es => OwnIn W p es → Shaped W tbl es) cfg c0 ops k tbl input order W
    hfw hbeg hin hT hvalid (mrun_init_shaped cfg tbl input W p hin hT)
    (ownIn_filter_nonErr.2 fun r ph v tk j hm => hown r ph v tk j ((mem_effsOf k _ _).1 hm)))

end F3.EmittedValid
