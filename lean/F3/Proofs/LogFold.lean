/-!
A run threads a state through a list of calls and appends what each call logs. `logFold` is that fold for an arbitrary step
function; the runs of the development (`run`, `mrun`, `prun`, `mprun`) are instances, by unfolding.
-/
namespace F3

variable {σ α ε : Type}

def logFold (f : σ → α → σ × List ε) (s : σ) (ops : List α) : σ × List ε :=
  ops.foldl (fun acc op => ((f acc.1 op).1, acc.2 ++ (f acc.1 op).2)) (s, [])

theorem logFold_acc (f : σ → α → σ × List ε) (ops : List α) (s : σ) (pre : List ε) :
    ops.foldl (fun acc op => ((f acc.1 op).1, acc.2 ++ (f acc.1 op).2)) (s, pre) =
      ((logFold f s ops).1, pre ++ (logFold f s ops).2) := by
  induction ops generalizing s pre with
  | nil => simp [logFold]
  | cons op ops ih =>
    simp only [logFold, List.foldl_cons, List.nil_append]
    rw [ih, ih (f s op).1 (f s op).2, List.append_assoc]

theorem logFold_cons (f : σ → α → σ × List ε) (s : σ) (op : α) (ops : List α) :
    logFold f s (op :: ops) = ((logFold f (f s op).1 ops).1, (f s op).2 ++ (logFold f (f s op).1 ops).2) := by
  simp only [logFold, List.foldl_cons, List.nil_append]
  exact logFold_acc f ops _ _

theorem logFold_append (f : σ → α → σ × List ε) (s : σ) (a b : List α) :
    logFold f s (a ++ b) =
      ((logFold f (logFold f s a).1 b).1, (logFold f s a).2 ++ (logFold f (logFold f s a).1 b).2) := by
  induction a generalizing s with
  | nil => simp [logFold]
  | cons op a ih => simp only [List.cons_append, logFold_cons, ih, List.append_assoc]

theorem logFold_snoc (f : σ → α → σ × List ε) (s : σ) (a : List α) (op : α) :
    logFold f s (a ++ [op]) = ((f (logFold f s a).1 op).1, (logFold f s a).2 ++ (f (logFold f s a).1 op).2) := by
  rw [logFold_append, logFold_cons]; simp [logFold]

end F3
