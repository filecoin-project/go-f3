import F3.Proofs.ValidatorSound
/-!
C13: the two-stage path (`PartiallyValidateMessage`, completion, `FullyValidateMessage`) against
one-shot validation of the completed message; strip/complete.
-/
namespace F3.Validator
open F3.Msg F3.Spec.ValidMsg

/-! What completion does to each field. -/

theorem complete_key (pm : PMsg) (x : Chain) : (complete pm x).key = pm.key := rfl
theorem complete_vote (pm : PMsg) (x : Chain) : (complete pm x).msg.vote = { pm.msg.vote with value := x } := rfl
theorem complete_just (pm : PMsg) (x : Chain) :
    (complete pm x).msg.just = pm.msg.just.map (inferJust pm.msg.vote.phase x) := rfl

/-- whether `inferJustificationVoteValue` overwrites the justification value: exactly where the abbreviated table
prescribes the vote value -/
def inferred (ph jph : Nat) : Bool := fullTable ph jph == some true

theorem inferJust_eq (ph : Nat) (x : Chain) (j : Just) :
    inferJust ph x j = { j with vote := { j.vote with value := if inferred ph j.vote.phase then x else j.vote.value } } := by
  obtain ⟨⟨i, r, p, su, v⟩, sg, ag, en⟩ := j
  unfold inferJust inferred fullTable
  simp only [CONVERGE, PREPARE, COMMIT, DECIDE]
  rcases phase_cases ph with h | h | h | h | h | h <;>
    rcases phase_cases p with hj | hj | hj | hj | hj | hj <;> simp [h, hj]

/-- Where the table admits a justification phase, inference overwrites exactly the rows whose expected
value is the vote value. -/
theorem inferred_of_expectation {ph round jph er : Nat} {b : Bool}
    (h : expectation ph round jph = some (er, b)) : inferred ph jph = b := by
  unfold inferred
  rw [fullTable_eq_expectation ph round jph, h]
  cases b <;> rfl

/-- `validateJustificationSignature` does not look at the justification's value field. -/
theorem sigJust_value_irrelevant (cfg : Cfg) (c : Committee) (j : Just) (v : Chain) (ek : VKey) :
    sigJust cfg c { j with vote := { j.vote with value := v } } ek = sigJust cfg c j ek := by
  unfold sigJust votePayload
  rfl

theorem preMsg_completed (cfg : Cfg) (c : Committee) (pm : PMsg) (x : Chain) (hK : pm.key = keyOf x)
    (hv0 : chainValid pm.msg.vote.value = true) (hx : chainValid x = true) :
    preMsg cfg c none (complete pm x).msg = preMsg cfg c (some pm.key) pm.msg := by
  -- sender, signature, ticket and the vote's scalars are untouched by completion; under `hK` both paths sign the payload
  -- with key `keyOf x`, and the partial path's bottom test `pm.key.isZero` is the full path's `x.isEmpty` (`isZero_keyOf`)
  unfold preMsg
  simp only [complete, voteForBottom, hv0, hx, hK, isZero_keyOf, votePayload, Option.getD_none,
    Option.getD_some, phaseRules, needsJust]

/-- the justification of a completed message, where the table's row for it is `(er, b)`: the chain is filled in
exactly when the row expects the vote value -/
theorem completed_just {pm : PMsg} {x : Chain} {j0 : Just} {er : Nat} {b : Bool} (hj : pm.msg.just = some j0)
    (hex : expectation pm.msg.vote.phase pm.msg.vote.round j0.vote.phase = some (er, b)) :
    (complete pm x).msg.just = some { j0 with vote := { j0.vote with value := if b then x else j0.vote.value } } := by
  rw [complete_just, hj, Option.map_some, inferJust_eq, inferred_of_expectation hex]

/-- stage two's value rules on a completed message whose justification has the table row `(er, b)`: only a row that
expects bottom constrains anything, namely that the placeholder that travelled is bottom -/
theorem fullyRules_completed {pm : PMsg} {x : Chain} {j0 : Just} {er : Nat} {b : Bool} (hK : pm.key = keyOf x)
    (hj : pm.msg.just = some j0)
    (hex : expectation pm.msg.vote.phase pm.msg.vote.round j0.vote.phase = some (er, b)) :
    fullyRules (complete pm x) = true ↔ (b = false → j0.vote.value = []) := by
  unfold fullyRules
  simp only [completed_just hj hex]
  rw [fullTable_eq_expectation _ pm.msg.vote.round]
  simp only [complete_key, complete_vote, hex, Option.map_some, hK, isZero_keyOf]
  cases b <;> cases x <;> simp

theorem fullyRules_completed_none {pm : PMsg} {x : Chain} (hK : pm.key = keyOf x) (hj : pm.msg.just = none) :
    fullyRules (complete pm x) = true := by
  unfold fullyRules
  simp only [complete_key, complete_vote, complete_just, hj, Option.map_none, hK, isZero_keyOf]
  cases x <;> simp

theorem checkJust_completed (cfg : Cfg) (c : Committee) (pm : PMsg) (x : Chain) (hK : pm.key = keyOf x)
    (hx : chainValid x = true) (j0 : Just) (hj : pm.msg.just = some j0)
    (hj0 : chainValid j0.vote.value = true) :
    (checkJust cfg c (some pm.key) pm.msg = true ∧ fullyRules (complete pm x) = true) ↔
      checkJust cfg c none (complete pm x).msg = true := by
  -- stage one checks the justification under the expected key without looking at its value; stage two's value rule (the
  -- completed justification carries `x` where the table's row says "vote value", bottom elsewhere) is the key
  -- comparison that full mode makes
  rw [checkJust_iff, checkJust_iff]
  constructor
  · rintro ⟨⟨j, ek, hpre, hsig⟩, hfull⟩
    obtain ⟨hjj, h1, h2, h3, er, b, hex, hround, hek, _⟩ := (preJust_iff _ _ _ _).mp hpre
    rw [hj] at hjj; cases hjj
    have hval := (fullyRules_completed hK hj hex).mp hfull
    refine ⟨_, (if b = true then keyOf x else VKey.zero), (preJust_iff _ _ _ _).mpr
      ⟨completed_just hj hex, h1, h2, ?_, er, b, hex, hround, rfl, fun _ => ?_⟩, ?_⟩
    · cases b <;> simp [hx, hj0]
    · cases b <;> simp [hval, keyOf_zero]
    · rw [sigJust_value_irrelevant]; rw [hek, hK] at hsig; simpa using hsig
  · rintro ⟨j', ek', hpre, hsig⟩
    obtain ⟨hjj, h1, h2, h3, er, b, hex, hround, hek, hkv⟩ := (preJust_iff _ _ _ _).mp hpre
    rw [complete_just, hj] at hjj; cases hjj
    simp only [inferJust_eq, complete_vote] at hex hround h1 h2 hkv hsig hek
    simp only [inferred_of_expectation hex] at hkv hsig
    refine ⟨⟨j0, (if b = true then pm.key else VKey.zero), (preJust_iff _ _ _ _).mpr
      ⟨hj, h1, h2, hj0, er, b, hex, hround, by simp, nofun⟩, ?_⟩, (fullyRules_completed hK hj hex).mpr fun hb => ?_⟩
    · rw [sigJust_value_irrelevant] at hsig; rw [hek, ← hK] at hsig; simpa using hsig
    · have := hkv trivial
      rw [hek] at this; subst hb
      simpa [keyOf_zero] using this

/-- The placeholder values a partial message carries in place of the stripped chains are well-formed
(the stripped form has bottom there; partial validation runs `ECChain.Validate` on whatever arrives). -/
def placeholdersOK (pm : PMsg) : Prop :=
  chainValid pm.msg.vote.value = true ∧ ∀ j, pm.msg.just = some j → chainValid j.vote.value = true

/-- every check validates the chains it is handed: the vote's value and the justification's -/
theorem chainValid_of_checkBody {cfg : Cfg} {c : Committee} {vk : Option VKey} {m : Msg}
    (h : checkBody cfg c vk m = true) :
    chainValid m.vote.value = true ∧ ∀ j, m.just = some j → chainValid j.vote.value = true := by
  obtain ⟨b, hp, hb⟩ := (checkBody_iff ..).mp h
  refine ⟨((preMsg_eq_some_iff ..).mp hp).2.1, fun j hj => ?_⟩
  cases b with
  | false => rw [if_neg Bool.false_ne_true] at hb; rw [hb] at hj; cases hj
  | true =>
    obtain ⟨j', ek, hpre, -⟩ := (checkJust_iff ..).mp (by simpa using hb)
    obtain ⟨hj', -, -, hv, -⟩ := (preJust_iff ..).mp hpre
    rw [hj] at hj'; cases hj'; exact hv

/-- **Two stages against one shot, on the body check.** With well-formed placeholders and a matching key, the one-shot
body check of the completed message is the conjunction of the three checks of the two-stage path. -/
theorem checkBody_completed (cfg : Cfg) (c : Committee) (pm : PMsg) (x : Chain) (hK : pm.key = keyOf x)
    (hph : placeholdersOK pm) :
    checkBody cfg c none (complete pm x).msg =
      (checkBody cfg c (some pm.key) pm.msg && (chainValid x && fullyRules (complete pm x))) := by
  cases hx : chainValid x with
  | false =>
    -- one-shot validation runs `ECChain.Validate` on the completed vote value, which is `x`
    rw [Bool.false_and, Bool.and_false, Bool.eq_false_iff]
    exact fun h => by simpa [complete_vote, hx] using (chainValid_of_checkBody h).1
  | true =>
    unfold checkBody
    rw [preMsg_completed cfg c pm x hK hph.1 hx, Bool.true_and]
    cases preMsg cfg c (some pm.key) pm.msg with
    | none => rfl
    | some b =>
      cases hj : pm.msg.just with
      | none =>
        have hn : ∀ vk m, m.just = none → checkJust cfg c vk m = false := fun vk m h => by
          unfold checkJust preJust; rw [h]
        cases b <;> simp [hn, hj, complete_just, fullyRules_completed_none hK hj]
      | some j0 =>
        cases b with
        | false => simp [hj, complete_just]
        | true =>
          simp only
          rw [Bool.eq_iff_iff, Bool.and_eq_true]
          exact (checkJust_completed cfg c pm x hK hx j0 hj (hph.2 j0 hj)).symm

theorem byProgress_completed (cfg : Cfg) (p : Progress) (pm : PMsg) (x : Chain) :
    byProgress cfg p (complete pm x).msg.vote = byProgress cfg p pm.msg.vote := rfl

theorem fully_accept_iff (cfg : Cfg) (p : Progress) (pm : PMsg) :
    fully cfg p pm = .accept ↔
      (chainValid pm.msg.vote.value = true ∧ pm.key = keyOf pm.msg.vote.value ∧
        byProgress cfg p pm.msg.vote = none ∧ fullyRules pm = true) := by
  unfold fully
  simp only [F3.Proofs.ite_eq_iff_of_ne (nofun : Verdict.invalid ≠ .accept), Bool.not_eq_true', Bool.not_eq_false,
    ne_eq, Decidable.not_not]
  refine and_congr_right fun _ => and_congr_right fun _ => ?_
  cases hb : byProgress cfg p pm.msg.vote with
  | none => simp
  | some e =>
    simp only [reduceCtorEq, false_and, iff_false]
    rintro rfl
    exact byProgress_ne_accept cfg p pm.msg.vote hb

theorem twoStage_accept_iff (cfg : Cfg) (comt : Nat → Option Committee) (p1 p2 : Progress) (cache : VCache)
    (pm : PMsg) (x : Chain) :
    twoStage cfg comt p1 p2 cache pm x = .accept ↔
      ((partially cfg comt p1 cache pm).1 = .accept ∧ fully cfg p2 (complete pm x) = .accept) := by
  unfold twoStage
  cases (partially cfg comt p1 cache pm).1 <;> simp

/-- Past the progress check and the key comparison, stage two is chain validity and the value rules. -/
theorem fully_of_relevant {cfg : Cfg} {p : Progress} {pm : PMsg} (hb : byProgress cfg p pm.msg.vote = none)
    (hK : pm.key = keyOf pm.msg.vote.value) :
    fully cfg p pm = if chainValid pm.msg.vote.value && fullyRules pm then .accept else .invalid := by
  unfold fully
  simp only [hb, hK, ne_eq, not_true_eq_false, if_false]
  cases chainValid pm.msg.vote.value <;> rfl

theorem strip_key (m : Msg) : (strip m).key = keyOf m.vote.value := by
  unfold strip
  cases h : m.vote.value <;> simp [keyOf, VKey.zero]

/-- Completing the stripped form: the value is put back, each justification has its value inferred from bottom. -/
theorem complete_strip_msg (m : Msg) (x : Chain) :
    (complete (strip m) x).msg =
      { m with
        vote := { m.vote with value := x }
        just := m.just.map fun j => inferJust m.vote.phase x { j with vote := { j.vote with value := [] } } } := by
  unfold complete strip
  simp only [Option.map_map]
  rfl

/-- Inferring bottom into a stripped justification changes nothing. -/
theorem inferJust_nil (ph : Nat) (j : Just) :
    inferJust ph [] { j with vote := { j.vote with value := [] } } = { j with vote := { j.vote with value := [] } } := by
  rw [inferJust_eq]
  simp

/-- The stripped form carries bottom in place of every chain. -/
theorem placeholdersOK_strip (m : Msg) : placeholdersOK (strip m) := by
  refine ⟨chainValid_nil, fun j hj => ?_⟩
  obtain ⟨j0, -, rfl⟩ := Option.map_eq_some_iff.mp hj
  exact chainValid_nil

/-- For a valid message, inference restores exactly the justification value that stripping removed. -/
theorem infer_restores {net : Nat} {c : Committee} {m : Msg} (hv : validMsg net c m) (j : Just)
    (hj : m.just = some j) :
    inferJust m.vote.phase m.vote.value { j with vote := { j.vote with value := [] } } = j := by
  obtain ⟨_, _, _, hjn, hjnn⟩ := hv
  by_cases hn : needsJustification m.vote
  · obtain ⟨j', hj', _, _, _, hjust, _⟩ := hjn hn
    rw [hj] at hj'; cases hj'
    rw [inferJust_eq]
    obtain ⟨⟨i, r, p, su, v⟩, sg, ag, en⟩ := j
    unfold justifies at hjust
    unfold inferred fullTable
    simp only [CONVERGE, PREPARE, COMMIT, DECIDE] at hjust ⊢
    rcases hjust with ⟨hph, _, hcase | hcase⟩ | ⟨hph, hjp, _, hvv⟩ | ⟨hph, hjp, hvv⟩
    · obtain ⟨hjp, hvv⟩ := hcase
      subst hjp; subst hvv
      rcases hph with hph | hph <;> simp [hph]
    · obtain ⟨hjp, hvv⟩ := hcase
      subst hjp; subst hvv
      rcases hph with hph | hph <;> simp [hph]
    · subst hjp; subst hvv
      simp [hph]
    · subst hjp; subst hvv
      simp [hph]
  · rw [hjnn hn] at hj; cases hj

end F3.Validator
