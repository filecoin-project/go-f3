import F3.Model.WalCbor
import F3.Proofs.WalCborTorn
import F3.Proofs.WalCodec
/-! cbor-gen records satisfy the codec facts the WAL relies on (C11 × C14): `cborCodec sch` is `Codec.Ok` for
every well-formed schema of a Go type, and on every file content the WAL can produce (complete records,
possibly followed by a prefix of one more) the reader with and without the re-check of `cborCodec.dec1`
return the same values. -/
namespace F3.Wal
open F3.Cbor F3.Codec

theorem Rec.enc_spec {sch : Schema} (r : Rec sch) : encode sch r.1 = some ((cborCodec sch).enc r) := by
  obtain ⟨v, h⟩ := r
  simp only [cborCodec]
  cases he : encode sch v with
  | none => simp [he] at h
  | some b => rfl

/-- the decoder reads a record's bytes as that record, whatever follows; cut short it runs out of input -/
theorem Rec.reads {sch : Schema} (hwf : sch.wf = true) (r : Rec sch) :
    Cbor.Reads (decode sch) ((cborCodec sch).enc r) (fun rest => (r.1, rest)) :=
  (encode_wire sch hwf r.1 _ r.enc_spec).reads

/-- what the encoder accepts is within the limits the decoder enforces -/
theorem Rec.within {sch : Schema} (hwf : sch.wf = true) (r : Rec sch) : Value.within sch r.1 = true :=
  (encode_wire sch hwf r.1 _ r.enc_spec).within

/-- **cbor-gen records are a WAL codec.** For every well-formed schema of a Go type (in particular
every entry of the regenerated table): encodings are non-empty, `decode (encode v ++ rest) = (v, rest)`,
and the decoder fails on every strict prefix of an encoding. -/
theorem cborCodec_ok (sch : Schema) (hwf : sch.wf = true) (hr : sch.isRecord = true) : (cborCodec sch).Ok where
  nonempty := fun r => encode_ne_nil sch hwf hr r.1 _ r.enc_spec
  roundtrip := fun r rest => by
    have hd := (Rec.reads hwf r).ok rest
    simp only [cborCodec] at hd ⊢
    rw [hd]
    simp [r.2]
  torn := fun r n hn => by
    have hd := (Rec.reads hwf r).torn _ (sprefix_take _ n hn)
    simp only [cborCodec] at hd ⊢
    rw [hd]

/-- plain `UnmarshalCBOR` reads what the codec of records writes, as bare values -/
theorem rawCodec_reads {sch : Schema} (hwf : sch.wf = true) (hr : sch.isRecord = true) :
    (cborCodec sch).Reads (rawCodec sch) (·.1) where
  nil := by simp only [rawCodec, decode_nil sch hr]
  roundtrip := fun r rest => by
    have hd := (Rec.reads hwf r).ok rest
    simp only [rawCodec]
    rw [hd]
  torn := fun r n hn => by
    have hd := (Rec.reads hwf r).torn _ (sprefix_take _ n hn)
    simp only [rawCodec]
    rw [hd]

/-- **The re-check of `cborCodec.dec1` is never exercised**: on complete records followed by any prefix
(`take k`, torn or complete) of one more record, plain `UnmarshalCBOR`-until-error returns exactly the
values the codec reader returns. -/
theorem readFile_raw_eq {sch : Schema} (hwf : sch.wf = true) (hr : sch.isRecord = true)
    (es : List (Rec sch)) (e : Rec sch) (k : Nat) :
    readFile (rawCodec sch) (encAll (cborCodec sch) es ++ ((cborCodec sch).enc e).take k) =
      (readFile (cborCodec sch) (encAll (cborCodec sch) es ++ ((cborCodec sch).enc e).take k)).map (·.1) := by
  have hok := cborCodec_ok sch hwf hr
  rw [readFile_encAll_take hok, readFile_reads_take (rawCodec_reads hwf hr) hok.nonempty]
  split <;> rfl

/-- the same for a file of complete records only -/
theorem readFile_raw_eq_complete {sch : Schema} (hwf : sch.wf = true) (hr : sch.isRecord = true)
    (es : List (Rec sch)) :
    readFile (rawCodec sch) (encAll (cborCodec sch) es) =
      (readFile (cborCodec sch) (encAll (cborCodec sch) es)).map (·.1) := by
  have hok := cborCodec_ok sch hwf hr
  rw [readFile_encAll hok, readFile_reads (rawCodec_reads hwf hr) hok.nonempty]

end F3.Wal
