import F3.Proofs.RoundNetMain
/-!
# Concrete executions of the ranked network (`F3/Model/NetRanked.lean`)

The scripts behind C06's two-round scenario and known finding S13, and what evaluating them shows. The kernel
evaluates a run once per declaration that mentions it, so everything `F3/Props/C06.lean` states about one execution is
collected here into one statement (`rk_runs`, `s13_lose_runs`, `s13_win2_runs`) and projected there. A script run is the
run of its first stages followed by the run of the rest (`runScript_split`): the statements speak of a round as an
execution from its start, and what C06 says of the whole run follows by `rk_whole`, `s13_whole`.
-/
namespace F3.NetRanked
open F3.Instance F3.Net

theorem runNetR_append (rk : Pid → Nat → Nat) (n : Net) (a b : List NetOp) :
    runNetR rk n (a ++ b) = runNetR rk (runNetR rk n a) b := List.foldl_append

theorem execOkR_append (rk : Pid → Nat → Nat) (n : Net) (a b : List NetOp) :
    execOkR rk n (a ++ b) = (execOkR rk n a && execOkR rk (runNetR rk n a) b) := by
  induction a generalizing n with
  | nil => rfl
  | cons op a ih => simp only [List.cons_append, execOkR, ih, Bool.and_assoc, runNetR, List.foldl_cons]

/-- the event list a script accumulates is only appended to -/
theorem runScript_acc (rk : Pid → Nat → Nat) (script : List (Net → List NetOp)) (n : Net) (l : List NetOp) :
    script.foldl (fun (acc : Net × List NetOp) f => let ops := f acc.1; (runNetR rk acc.1 ops, acc.2 ++ ops)) (n, l) =
      ((runScript rk n script).1, l ++ (runScript rk n script).2) := by
  induction script generalizing n l with
  | nil => simp [runScript]
  | cons f fs ih =>
    simp only [runScript, List.foldl_cons, List.nil_append]
    rw [ih, ih (l := f n), List.append_assoc]

theorem runScript_append (rk : Pid → Nat → Nat) (n : Net) (s₁ s₂ : List (Net → List NetOp)) :
    runScript rk n (s₁ ++ s₂) =
      ((runScript rk (runScript rk n s₁).1 s₂).1, (runScript rk n s₁).2 ++ (runScript rk (runScript rk n s₁).1 s₂).2) := by
  show List.foldl _ _ (s₁ ++ s₂) = _
  rw [List.foldl_append]
  exact runScript_acc rk s₂ _ _

/-- the network a script reaches is the run of the events it reports -/
theorem runScript_run (rk : Pid → Nat → Nat) (n : Net) (script : List (Net → List NetOp)) :
    (runScript rk n script).1 = runNetR rk n (runScript rk n script).2 := by
  induction script generalizing n with
  | nil => rfl
  | cons f fs ih =>
    have h := runScript_append rk n [f] fs
    simp only [List.singleton_append] at h
    rw [h]
    simp only [runScript, List.foldl_cons, List.foldl_nil, List.nil_append]
    rw [runNetR_append]
    exact ih _

/-- a script run is the run of its first `k` stages followed, from the network they reach, by the events of the rest -/
theorem runScript_split (rk : Pid → Nat → Nat) (n : Net) (script : List (Net → List NetOp)) (k : Nat) :
    (runScript rk n script).1 =
        runNetR rk (runScript rk n (script.take k)).1 (runScript rk (runScript rk n (script.take k)).1 (script.drop k)).2 ∧
    (runScript rk n script).2 =
        (runScript rk n (script.take k)).2 ++ (runScript rk (runScript rk n (script.take k)).1 (script.drop k)).2 := by
  have h := runScript_append rk n (script.take k) (script.drop k)
  rw [List.take_append_drop] at h
  rw [h]
  exact ⟨runScript_run rk _ _, rfl⟩

/-- ... and its events are admissible iff those of the first `k` stages and those of the rest are -/
theorem execOkR_runScript_split (rk : Pid → Nat → Nat) (n : Net) (script : List (Net → List NetOp)) (k : Nat) :
    execOkR rk n (runScript rk n script).2 =
      (execOkR rk n (runScript rk n (script.take k)).2 &&
       execOkR rk (runScript rk n (script.take k)).1
         (runScript rk (runScript rk n (script.take k)).1 (script.drop k)).2) := by
  rw [(runScript_split rk n script k).2, execOkR_append, ← runScript_run]

end F3.NetRanked

namespace F3.Liveness
open F3.Instance F3.Net F3.NetRanked

/-- `round_r_decides` read at the value `v` the best ticket holder is known to hold -/
theorem round_r_decides_value {rankOf : Pid → Nat → Nat} {t : Table} {H : List Pid} {r b : Nat} {val : Pid → Chain}
    {jst : Pid → Just} {w : Pid} {n : Net} {ops : List NetOp} {v : Chain}
    (hstart : RoundStart rankOf t H r b val jst n) (hbest : bestTicket rankOf H r w = true)
    (hadm : admAllB H w val jst n = true)
    (hexec : execOkR rankOf n ops = true) (hsync : SyncOrderedR rankOf r H n ops)
    (hcomplete : completeR r H (runNetR rankOf n ops) = true)
    (hconv : noneInConverge H (runNetR rankOf n ops) = true) (hv : val w = v) :
    ∀ p ∈ H, ∃ x d, (runNetR rankOf n ops).node? p = some x ∧ x.phase = .terminated ∧ x.round = r ∧
      x.termination = some d ∧ d.value = v := by
  intro p hp
  obtain ⟨x, d, a1, a2, a3, a4, a5, _⟩ :=
    round_r_decides rankOf t H r b val jst w n ops hstart hbest hadm hexec hsync hcomplete hconv p hp
  exact ⟨x, d, a1, a2, a3, a4, hv ▸ a5⟩

/-- `completeR` on a pool and a list of deliveries, the deliveries sorted by receiver first: each member's relevant
messages are looked up among its own deliveries only -/
def completeIn (r : Nat) (H : List Pid) (pool : List Msg) (dl : List (Pid × Msg)) : Bool :=
  H.all (fun q => (pool.filter (relevant r)).all ((dl.filter (·.1 == q)).map (·.2)).contains)

theorem completeIn_iff (r : Nat) (H : List Pid) (pool : List Msg) (dl : List (Pid × Msg)) :
    completeIn r H pool dl = true ↔ ∀ m ∈ pool, relevant r m = true → ∀ q ∈ H, (q, m) ∈ dl := by
  simp only [completeIn, List.all_eq_true, List.mem_filter, List.contains_iff_mem, List.mem_map, beq_iff_eq, and_imp]
  constructor
  · intro h m hm hrel q hq
    obtain ⟨⟨q', m'⟩, ⟨hd, rfl⟩, rfl⟩ := h q hq m hm hrel
    exact hd
  · exact fun h q hq m hm hrel => ⟨(q, m), ⟨h m hm hrel q hq, rfl⟩, rfl⟩

theorem completeR_eq (r : Nat) (H : List Pid) (n : Net) : completeR r H n = completeIn r H n.pool n.delivered := by
  rw [Bool.eq_iff_iff, completeIn_iff]
  simp only [completeR, List.all_eq_true, Bool.or_eq_true, Bool.not_eq_true', List.contains_iff_mem]
  constructor
  · intro h m hm hrel
    rcases h m hm with h | h
    · rw [hrel] at h; cases h
    · exact h
  · intro h m hm
    cases hrel : relevant r m
    · exact Or.inl rfl
    · exact Or.inr (h m hm hrel)

/-- the deliveries an execution records -/
def handed (rankOf : Pid → Nat → Nat) (n : Net) : List NetOp → List (Pid × Msg)
  | [] => []
  | op :: ops =>
    (match op with
     | .deliver p _ m => if (n.node? p).isSome then [(p, m)] else []
     | _ => []) ++ handed rankOf (netStepR rankOf n op) ops

theorem runNetR_delivered (rankOf : Pid → Nat → Nat) (n : Net) (ops : List NetOp) :
    (runNetR rankOf n ops).delivered = n.delivered ++ handed rankOf n ops := by
  induction ops generalizing n with
  | nil => simp [runNetR, handed]
  | cons op ops ih =>
    have hstep : (netStepR rankOf n op).delivered = n.delivered ++
        (match op with
         | .deliver p _ m => if (n.node? p).isSome then [(p, m)] else []
         | _ => []) := by
      cases op with
      | start p now => cases h : n.node? p <;> simp [netStepR, applyR, h]
      | alarm p now => cases h : n.node? p <;> simp [netStepR, applyR, h] <;> split <;> rfl
      | deliver p now m => cases h : n.node? p <;> simp [netStepR, applyR, h] <;> split <;> rfl
    show (runNetR rankOf (netStepR rankOf n op) ops).delivered = _
    rw [ih, hstep, List.append_assoc]
    rfl

/-- completeness after an execution: looking among the deliveries of the execution itself first spares the kernel the
deliveries recorded before it (`Net.delivered` grows at its end, so reading it is quadratic) -/
theorem completeR_run (rankOf : Pid → Nat → Nat) (r : Nat) (H : List Pid) (n : Net) (ops : List NetOp) :
    completeR r H (runNetR rankOf n ops) =
      (completeIn r H (runNetR rankOf n ops).pool (handed rankOf n ops) ||
       completeIn r H (runNetR rankOf n ops).pool (runNetR rankOf n ops).delivered) := by
  rw [completeR_eq]
  cases h : completeIn r H (runNetR rankOf n ops).pool (handed rankOf n ops)
  · rfl
  · rw [completeIn_iff] at h
    rw [Bool.true_or, completeIn_iff, runNetR_delivered]
    exact fun m hm hrel q hq => List.mem_append_right _ (h m hm hrel q hq)

end F3.Liveness

namespace F3.Props.C06
open F3.Instance F3.Net F3.NetRanked F3.Liveness

/-- A conjunction from one Boolean. Each conjunct finds its `Decidable` instance separately
(`and_of_bool of_decide_eq_true …`; the instance of a long conjunction exceeds the synthesis size bound), while the
kernel reduces a single term and so evaluates what the conjuncts share once. -/
theorem and_of_bool {p q : Prop} {a b : Bool} (hp : a = true → p) (hq : b = true → q) (h : (a && b) = true) : p ∧ q :=
  ⟨hp (Bool.and_eq_true_iff.1 h).1, hq (Bool.and_eq_true_iff.1 h).2⟩

/-! ### two rounds: four equal members, inputs `7.8` (members 1–3) and `7.9` (member 4) -/

def rkTbl : Table := { entries := [(1, 10), (2, 10), (3, 10), (4, 10)] }
def rkCfg : Cfg := { maxLookahead := 2, rebImmediateAfter := 3, timeout2 := [100, 130], qualityTimeout2 := 100, rebAfter := [50] }
def rkInp (p : Pid) : Chain := if p == 4 then [7, 9] else [7, 8]
def rkNet : Net := initNet rkTbl [1, 2, 3, 4] (fun _ => rkCfg) rkInp
/-- tickets: member 3 holds the best (lowest) ticket of every round, all tickets distinct -/
def rkRank : Pid → Nat → Nat := fun p _ => if p == 3 then 1 else 5 + p
def rkAll : List Pid := [1, 2, 3, 4]
/-- every stage hands the pool messages of one (round, phase) to the listed members, unmodified -/
def rkScript : List (Net → List NetOp) :=
  [fun _ => [.start 1 0, .start 2 0, .start 3 0, .start 4 0],
   fun n => floodOps n 1 [1, 2] 0 .quality,
   fun _ => [.alarm 3 100, .alarm 4 100],
   fun n => floodOps n 101 [3, 4] 0 .quality,
   fun n => floodOps n 102 rkAll 0 .prepare,
   fun n => floodOps n 103 rkAll 0 .commit,
   fun n => floodOps n 104 rkAll 1 .converge,
   fun _ => [.alarm 1 400, .alarm 2 400, .alarm 3 400, .alarm 4 400],
   fun n => floodOps n 401 rkAll 1 .prepare,
   fun n => floodOps n 402 rkAll 1 .commit,
   fun n => floodOps n 403 rkAll 0 .decide]

/-- the network after the first six stages of `rkScript` (round 0 has ended in COMMIT ⊥ for everybody) ... -/
def rkStart : Net := (runScript rkRank rkNet (rkScript.take 6)).1
/-- ... and the events of the remaining five stages (CONVERGE flood, timers, PREPARE, COMMIT, DECIDE floods) -/
def rkRoundOps : List NetOp := (runScript rkRank rkStart (rkScript.drop 6)).2

/-- from `rkStart`: members 1–3 run round 1 among themselves; member 4 is handed their DECIDEs at its time 200, before
its CONVERGE timer (233) fires -/
def rkSkipScript : List (Net → List NetOp) :=
  [fun n => floodOps n 104 [1, 2, 3] 1 .converge,
   fun _ => [.alarm 1 233, .alarm 2 233, .alarm 3 233],
   fun n => floodOps n 234 [1, 2, 3] 1 .prepare,
   fun n => floodOps n 235 [1, 2, 3] 1 .commit,
   fun n => floodOps n 236 [1, 2, 3] 0 .decide,
   fun n => floodOps n 200 [4] 0 .decide,
   fun n => floodOps n 237 rkAll 0 .decide,
   fun n => floodOps n 238 [4] 1 .converge,
   fun n => floodOps n 238 [4] 1 .prepare,
   fun n => floodOps n 238 [4] 1 .commit]
def rkSkipOps : List NetOp := (runScript rkRank rkStart rkSkipScript).2

def rkOwnConv (n : Net) (now : Int) (p : Pid) : List NetOp :=
  (n.pool.filter (fun m => m.round == 1 && m.phase == .converge && m.sender == p)).map (fun m => NetOp.deliver p now m)
/-- from `rkStart`: members 1 and 2 are handed their own CONVERGE after their CONVERGE timeout (233), members 3 and 4 all
four CONVERGEs before their alarm -/
def rkLateScript : List (Net → List NetOp) :=
  [fun n => rkOwnConv n 300 1 ++ rkOwnConv n 300 2,
   fun n => floodOps n 104 [3, 4] 1 .converge,
   fun _ => [.alarm 3 400, .alarm 4 400],
   fun n => floodOps n 401 [1, 2] 1 .converge,
   fun n => floodOps n 402 rkAll 1 .prepare,
   fun _ => [.alarm 1 600, .alarm 2 600, .alarm 3 600, .alarm 4 600],
   fun n => floodOps n 601 rkAll 1 .commit]
def rkLateOps : List NetOp := (runScript rkRank rkStart rkLateScript).2

/-- the whole run is round 1 run from `rkStart` -/
theorem rk_whole : (runScript rkRank rkNet rkScript).1 = runNetR rkRank rkStart rkRoundOps :=
  (runScript_split rkRank rkNet rkScript 6).1

/-- In order: the outcome of round 1 run from `rkStart` (by `rk_whole` that of the whole run from `rkNet`), admissibility
of the stages before it, the hypotheses of the round theorem, and the two other continuations of `rkStart` (`rkSkipOps`,
`rkLateOps`). -/
theorem rk_runs :
    (bestTicket rkRank rkAll 1 3 = true ∧
    (runNetR rkRank rkStart rkRoundOps).fails = [] ∧
    (runNetR rkRank rkStart rkRoundOps).nodes.map (fun e => (e.1, e.2.round, e.2.phase, e.2.termination.map (·.value))) =
      [(1, 1, .terminated, some [7]), (2, 1, .terminated, some [7]), (3, 1, .terminated, some [7]),
       (4, 1, .terminated, some [7])] ∧
    ((runNetR rkRank rkStart rkRoundOps).pool.filter (fun m => m.round == 1)).map
        (fun m => (m.sender, m.phase, m.value, m.rank)) =
      [(1, .converge, [7, 8], 6), (2, .converge, [7, 8], 7), (3, .converge, [7], 1), (4, .converge, [7], 9),
       (1, .prepare, [7], 0), (2, .prepare, [7], 0), (3, .prepare, [7], 0), (4, .prepare, [7], 0),
       (1, .commit, [7], 0), (2, .commit, [7], 0), (3, .commit, [7], 0), (4, .commit, [7], 0)]) ∧
    (execOkR rkRank rkNet (runScript rkRank rkNet (rkScript.take 6)).2 = true) ∧
    (RoundStart rkRank rkTbl rkAll 1 7 (valOf rkStart 1) (jstOf rkStart 1) rkStart ∧
    bestTicket rkRank rkAll 1 3 = true ∧
    admAllB rkAll 3 (valOf rkStart 1) (jstOf rkStart 1) rkStart = true ∧
    execOkR rkRank rkStart rkRoundOps = true ∧
    SyncOrderedR rkRank 1 rkAll rkStart rkRoundOps ∧
    completeR 1 rkAll (runNetR rkRank rkStart rkRoundOps) = true ∧
    noneInConverge rkAll (runNetR rkRank rkStart rkRoundOps) = true ∧
    valOf rkStart 1 3 = [7] ∧ rkAll = rkTbl.entries.map (·.1)) ∧
    (execOkR rkRank rkStart rkSkipOps = true ∧ SyncOrderedR rkRank 1 rkAll rkStart rkSkipOps ∧
    completeR 1 rkAll (runNetR rkRank rkStart rkSkipOps) = true ∧
    noneInConverge rkAll (runNetR rkRank rkStart rkSkipOps) = true ∧
    decidedB rkAll 1 [7] (runNetR rkRank rkStart rkSkipOps) = true ∧
    ((runNetR rkRank rkStart rkSkipOps).pool.filter (fun m => m.sender == 4 && m.round == 1)).map (·.phase) = [.converge]) ∧
    (execOkR rkRank rkStart rkLateOps = true ∧ completeR 1 rkAll (runNetR rkRank rkStart rkLateOps) = true ∧
    (runNetR rkRank rkStart rkLateOps).fails = [] ∧
    ¬ SyncOrderedR rkRank 1 rkAll rkStart (rkLateOps.take 1) ∧
    ((runNetR rkRank rkStart rkLateOps).pool.filter (fun m => m.round == 1 && m.phase != .converge)).map
        (fun m => (m.sender, m.phase, m.value)) =
      [(1, .prepare, [7, 8]), (2, .prepare, [7, 8]), (3, .prepare, [7]), (4, .prepare, [7]),
       (1, .commit, []), (2, .commit, []), (3, .commit, []), (4, .commit, [])] ∧
    (runNetR rkRank rkStart rkLateOps).nodes.map (fun e => (e.1, e.2.round, e.2.phase)) =
      [(1, 2, .converge), (2, 2, .converge), (3, 2, .converge), (4, 2, .converge)]) := by
  unfold RoundStart SyncOrderedR
  simp only [completeR_run]
  refine and_of_bool of_decide_eq_true (and_of_bool of_decide_eq_true (and_of_bool of_decide_eq_true
    (and_of_bool of_decide_eq_true of_decide_eq_true))) ?_
  decide +kernel

/-! ### S13: members 1, 2 stand on `7.8`, member 3 = `M` knows only the base, member 4 is silent -/

def s13Cfg : Cfg := { maxLookahead := 2, rebImmediateAfter := 3, timeout2 := [100], qualityTimeout2 := 100, rebAfter := [50] }
def s13Inp (p : Pid) : Chain := if p == 3 then [7, 9] else [7, 8]
def s13Net : Net := initNet rkTbl [1, 2, 3, 4] (fun _ => s13Cfg) s13Inp
def s13Live : List Pid := [1, 2, 3]
def s13Alarms (now : Int) : List NetOp := s13Live.map (fun p => NetOp.alarm p now)
/-- one synchronous round starting at time `t`: CONVERGE handed to all, CONVERGE timers, PREPARE handed to all, PREPARE
timers, COMMIT handed to all -/
def s13Round (r : Nat) (t : Int) : List (Net → List NetOp) :=
  [fun n => floodOps n (t + 1) s13Live r .converge,
   fun _ => s13Alarms (t + 150),
   fun n => floodOps n (t + 151) s13Live r .prepare,
   fun _ => s13Alarms (t + 300),
   fun n => floodOps n (t + 301) s13Live r .commit]
def s13Script (rounds : List Nat) : List (Net → List NetOp) :=
  [fun _ => [.start 1 0, .start 2 0, .start 3 0, .start 4 0],
   fun n => floodOps n 1 [1, 2] 0 .quality,
   fun n => (floodOps n 2 [3] 0 .quality).filter (fun o => match o with | .deliver _ _ m => m.sender != 4 | _ => true),
   fun _ => [.alarm 3 100],
   fun n => floodOps n 201 s13Live 0 .prepare,
   fun _ => s13Alarms 400,
   fun n => floodOps n 401 s13Live 0 .commit] ++
  rounds.flatMap (fun r => s13Round r (401 + 350 * ((r : Int) - 1))) ++
  [fun n => floodOps n 100000 s13Live 0 .decide]
/-- member 1 holds the best ticket of every round -/
def s13Lose : Pid → Nat → Nat := fun p _ => p
/-- ... except that `M` = member 3 wins the lottery of round 2 -/
def s13Win2 : Pid → Nat → Nat := fun p r => if r == 2 && p == 3 then 0 else p
def s13Start (rk : Pid → Nat → Nat) (k : Nat) : Net := (runScript rk s13Net ((s13Script [1, 2, 3]).take k)).1
def s13RoundOps (rk : Pid → Nat → Nat) (k : Nat) : List NetOp :=
  (runScript rk (s13Start rk k) ((s13Script [1, 2, 3]).drop k)).2

/-- the whole run is the run of its last `length - k` stages from the network the first `k` reach -/
theorem s13_whole (rk : Pid → Nat → Nat) (k : Nat) :
    (runScript rk s13Net (s13Script [1, 2, 3])).1 = runNetR rk (s13Start rk k) (s13RoundOps rk k) :=
  (runScript_split rk s13Net (s13Script [1, 2, 3]) k).1

/-- `M` never holds the best ticket: admissibility of the stages before round 3, the outcome of the remaining ones run from
the start of round 3 (by `s13_whole` that of the whole run), and rounds 1–3 as executions from their starts -/
theorem s13_lose_runs :
    (execOkR s13Lose s13Net (runScript s13Lose s13Net ((s13Script [1, 2, 3]).take 17)).2 = true ∧
    (runNetR s13Lose (s13Start s13Lose 17) (s13RoundOps s13Lose 17)).fails = [] ∧
    (runNetR s13Lose (s13Start s13Lose 17) (s13RoundOps s13Lose 17)).nodes.map
        (fun e => (e.1, e.2.round, e.2.phase, e.2.termination.map (·.value))) =
      [(1, 4, .converge, none), (2, 4, .converge, none), (3, 4, .converge, none), (4, 0, .quality, none)] ∧
    (runNetR s13Lose (s13Start s13Lose 17) (s13RoundOps s13Lose 17)).nodes.map (fun e => (e.2.proposal, e.2.candidates)) =
      [([7, 8], [[7], [7, 8]]), ([7, 8], [[7], [7, 8]]), ([7], [[7]]), ([7, 8], [[7]])] ∧
    ((runNetR s13Lose (s13Start s13Lose 17) (s13RoundOps s13Lose 17)).pool.filter (fun m => m.phase == .commit)).all
        (fun m => m.value == []) = true ∧
    ((runNetR s13Lose (s13Start s13Lose 17) (s13RoundOps s13Lose 17)).pool.filter (fun m => m.phase == .prepare)).map
        (fun m => (m.sender, m.round, m.value)) =
      [(1, 0, [7, 8]), (2, 0, [7, 8]), (3, 0, [7]), (1, 1, [7, 8]), (2, 1, [7, 8]), (3, 1, [7]),
       (1, 2, [7, 8]), (2, 2, [7, 8]), (3, 2, [7]), (1, 3, [7, 8]), (2, 3, [7, 8]), (3, 3, [7])] ∧
    ((runNetR s13Lose (s13Start s13Lose 17) (s13RoundOps s13Lose 17)).pool.filter
        (fun m => m.phase == .converge && m.sender == 1)).all
        (fun m => m.value == [7, 8] && (m.just.map (fun j => (j.phase, j.value))) == some (.commit, [])) = true) ∧
    ((RoundStart s13Lose rkTbl s13Live 1 7 (valOf (s13Start s13Lose 7) 1) (jstOf (s13Start s13Lose 7) 1) (s13Start s13Lose 7) ∧
     RoundStart s13Lose rkTbl s13Live 2 7 (valOf (s13Start s13Lose 12) 2) (jstOf (s13Start s13Lose 12) 2) (s13Start s13Lose 12) ∧
     RoundStart s13Lose rkTbl s13Live 3 7 (valOf (s13Start s13Lose 17) 3) (jstOf (s13Start s13Lose 17) 3) (s13Start s13Lose 17)) ∧
    (bestTicket s13Lose s13Live 1 1 = true ∧ bestTicket s13Lose s13Live 2 1 = true ∧ bestTicket s13Lose s13Live 3 1 = true) ∧
    (admAllB s13Live 1 (valOf (s13Start s13Lose 7) 1) (jstOf (s13Start s13Lose 7) 1) (s13Start s13Lose 7) = false ∧
     admAllB s13Live 1 (valOf (s13Start s13Lose 12) 2) (jstOf (s13Start s13Lose 12) 2) (s13Start s13Lose 12) = false ∧
     admAllB s13Live 1 (valOf (s13Start s13Lose 17) 3) (jstOf (s13Start s13Lose 17) 3) (s13Start s13Lose 17) = false) ∧
    (valOf (s13Start s13Lose 17) 3 1 = [7, 8] ∧ (jstOf (s13Start s13Lose 17) 3 1).phase = .commit ∧
     ((s13Start s13Lose 17).node? 3).map (·.candidates) = some [[7]]) ∧
    (execOkR s13Lose (s13Start s13Lose 17) (s13RoundOps s13Lose 17) = true ∧
     SyncOrderedR s13Lose 3 s13Live (s13Start s13Lose 17) (s13RoundOps s13Lose 17) ∧
     completeR 3 s13Live (runNetR s13Lose (s13Start s13Lose 17) (s13RoundOps s13Lose 17)) = true ∧
     (runNetR s13Lose (s13Start s13Lose 17) (s13RoundOps s13Lose 17)).nodes.map (fun e => (e.1, e.2.round, e.2.phase)) =
       [(1, 4, .converge), (2, 4, .converge), (3, 4, .converge), (4, 0, .quality)])) := by
  unfold RoundStart SyncOrderedR
  simp only [completeR_run]
  refine and_of_bool of_decide_eq_true of_decide_eq_true ?_
  decide +kernel

/-- `M` holds the best ticket of round 2: the outcome of the stages from round 2 on, run from the start of round 2 (by
`s13_whole` that of the whole run), the hypotheses of the round theorem there, and round 1 -/
theorem s13_win2_runs :
    ((runNetR s13Win2 (s13Start s13Win2 12) (s13RoundOps s13Win2 12)).fails = [] ∧
    (runNetR s13Win2 (s13Start s13Win2 12) (s13RoundOps s13Win2 12)).nodes.map
        (fun e => (e.1, e.2.round, e.2.phase, e.2.termination.map (·.value))) =
      [(1, 2, .terminated, some [7]), (2, 2, .terminated, some [7]), (3, 2, .terminated, some [7]),
       (4, 0, .quality, none)]) ∧
    (RoundStart s13Win2 rkTbl s13Live 2 7 (valOf (s13Start s13Win2 12) 2) (jstOf (s13Start s13Win2 12) 2) (s13Start s13Win2 12) ∧
    bestTicket s13Win2 s13Live 2 3 = true ∧
    admAllB s13Live 3 (valOf (s13Start s13Win2 12) 2) (jstOf (s13Start s13Win2 12) 2) (s13Start s13Win2 12) = true ∧
    execOkR s13Win2 (s13Start s13Win2 12) (s13RoundOps s13Win2 12) = true ∧
    SyncOrderedR s13Win2 2 s13Live (s13Start s13Win2 12) (s13RoundOps s13Win2 12) ∧
    completeR 2 s13Live (runNetR s13Win2 (s13Start s13Win2 12) (s13RoundOps s13Win2 12)) = true ∧
    noneInConverge s13Live (runNetR s13Win2 (s13Start s13Win2 12) (s13RoundOps s13Win2 12)) = true ∧
    valOf (s13Start s13Win2 12) 2 3 = [7]) ∧
    (bestTicket s13Win2 s13Live 1 1 = true ∧
     admAllB s13Live 1 (valOf (s13Start s13Win2 7) 1) (jstOf (s13Start s13Win2 7) 1) (s13Start s13Win2 7) = false) := by
  unfold RoundStart SyncOrderedR
  simp only [completeR_run]
  decide +kernel

end F3.Props.C06
