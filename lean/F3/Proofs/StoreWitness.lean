import F3.Proofs.StoreCrash
/-! Concrete stores used by non-vacuity examples and counterexample witnesses. -/
namespace F3.Store.Witness

def e1 : Entry := ⟨1, 10, 1⟩
def e2 : Entry := ⟨2, 7, 2⟩
/-- initial table: participant 1 (power 10), participant 2 (power 7) -/
def T0 : Table := [e1, e2]
/-- after the first certificate: participant 2 has gained 5 and overtaken participant 1 -/
def T1 : Table := [⟨2, 12, 2⟩, e1]
def d0 : Diff := [⟨2, 5, 0⟩]
/-- certificate of instance 3 with a real delta, committing to `T1` -/
def c3 : Cert := ⟨3, 1, d0, .known T1, .ok⟩
/-- certificate of instance 4 with an empty delta (table unchanged) -/
def c4 : Cert := ⟨4, 2, [], .known T1, .ok⟩

/-- production-like configuration with period 2, `open` as it stands in go-f3 -/
def cfgPinned : Cfg := ⟨2, 2, false, true⟩
/-- the same with the repaired `open` -/
def cfgFixed : Cfg := ⟨2, 2, true, false⟩

def sp0 : Spec := ⟨3, T0, []⟩
def sp1 : Spec := sp0.push c3
def sp2 : Spec := sp1.push c4

def ds0 : DS := applyWs [] (createWrites 3 T0)
def ds1 : DS := applyWs ds0 (putWrites 2 c3 T1)
def ds2 : DS := applyWs ds1 (putWrites 2 c4 T1)

theorem canon_T0 : Canon T0 := ⟨[e1, e2], by simp [IdSorted, e1, e2], by decide⟩

theorem notInit_nil : NotInit ([] : DS) := ⟨rfl, rfl, rfl, rfl⟩

theorem repr0 (freq : Nat) : Repr freq ds0 sp0 := repr_create freq notInit_nil 3 (by decide) canon_T0

theorem adm3 : sp0.admits c3 = true := by decide
theorem adm4 : sp1.admits c4 = true := by decide

theorem repr1 : Repr 2 ds1 sp1 := repr_put (repr0 2) adm3 (t' := T1) (by decide) (by decide)
theorem repr2 : Repr 2 ds2 sp2 := repr_put repr1 adm4 (t' := T1) (by decide) (by decide)

/-- handle of the two-certificate store -/
def m2 : Mem := memOf sp2 T1
theorem memOk2 : MemOk m2 sp2 := memOk_memOf (by decide)
theorem subsOk2 : SubsOk m2 := subsOk_memOf sp2 T1

/-- a query order of the wipe in which the latest pointer goes first -/
def wipeOrder : List Key := [.latest, .tomb, .cert 3, .cert 4, .first, .power 3, .power 4]

theorem wipeOrder_perm : wipeOrder.Perm (scopeKeys .inner (dsPut ds2 .tomb .tomb)) := by decide

namespace S9
/-- true history: three certificates with empty deltas over `T0` (instances 3, 4, 5) -/
def g3 : Cert := ⟨3, 1, [], .known T0, .ok⟩
def g4 : Cert := ⟨4, 2, [], .known T0, .ok⟩
def g5 : Cert := ⟨5, 3, [], .known T0, .ok⟩
/-- corrupted pair: +1 for participant 1 in instance 3, −1 in instance 4, commitments untouched -/
def b3 : Cert := ⟨3, 4, [⟨1, 1, 0⟩], .known T0, .ok⟩
def b4 : Cert := ⟨4, 5, [⟨1, -1, 0⟩], .known T0, .ok⟩
def hdr : Header := ⟨1, 3, 5, T0⟩
def snap : Stream := ⟨frame hdr (1, 50) [b3, b4, g5] [(2, 200), (2, 200), (2, 200)], .clean⟩
def cfg : Cfg := ⟨1440, 1440, true, false⟩
end S9

end F3.Store.Witness
