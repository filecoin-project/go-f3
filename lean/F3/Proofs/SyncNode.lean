import F3.Proofs.SyncTally
import F3.Proofs.InstanceEquations
import F3.Proofs.LedRound
import F3.Model.Net
/-!
# One honest node in a unanimous, failure-free run (helper lemmas for `C02.unanimous_sync_*`)

`SInv`: the phase-independent shape of a node's state when every message it has ever been handed is a round-0
message for the common chain `c` from a member of `H`. `PI`: the phase-dependent part ("had the node held a
strong quorum it would have moved on"). `Good`: what every API call of the model then guarantees; that the calls do
is proved function by function in `SyncTimedNode.lean`, from the case lemmas about the model functions given here.
-/
namespace F3.Sync
open F3.Instance F3.Net

def JustFor (c : Chain) (ph : Phase) (j : Just) : Prop := j.round = 0 ∧ j.phase = ph ∧ j.value = c

/-- QUALITY(0,c), PREPARE(0,c), COMMIT(0,c) justified by PREPAREs for `c`, DECIDE(0,c) justified by COMMITs for `c` -/
def Shape (c : Chain) (m : Msg) : Prop :=
  m.round = 0 ∧ m.value = c ∧ m.suppOk = true ∧ m.instOk = true ∧
  match m.phase with
  | .quality => m.just = none
  | .prepare => m.just = none
  | .commit => ∃ j, m.just = some j ∧ JustFor c .prepare j
  | .decide => ∃ j, m.just = some j ∧ JustFor c .commit j
  | _ => False

def mkMsg (p : Pid) (ph : Phase) (c : Chain) (j : Option Just) : Msg :=
  { sender := p, round := 0, phase := ph, value := c, rank := 0, just := j }

/-- what a single API call does to the phase, and what it puts on the wire -/
inductive Trans (p : Pid) (c : Chain) : Phase → Phase → List Msg → Prop
  | same (a : Phase) : Trans p c a a []
  | start : Trans p c .initial .quality [mkMsg p .quality c none]
  | q2p : Trans p c .quality .prepare [mkMsg p .prepare c none]
  | p2c (j : Just) (hj : JustFor c .prepare j) : Trans p c .prepare .commit [mkMsg p .commit c (some j)]
  | x2d (a b : Phase) (ha : a = .quality ∨ a = .prepare ∨ a = .commit) (hb : b = .decide ∨ b = .terminated)
      (j : Just) (hj : JustFor c .commit j) : Trans p c a b [mkMsg p .decide c (some j)]
  | d2t : Trans p c .decide .terminated []

theorem Trans.from_commit {p : Pid} {c : Chain} {b : Phase} {ms : List Msg} (h : Trans p c .commit b ms) :
    b = .commit ∨ b = .decide ∨ b = .terminated := by
  cases h with
  | same => exact Or.inl rfl
  | x2d _ _ _ hb _ _ => exact Or.inr hb

theorem Trans.from_decide {p : Pid} {c : Chain} {b : Phase} {ms : List Msg} (h : Trans p c .decide b ms) :
    (b = .decide ∨ b = .terminated) ∧ ms = [] := by
  cases h with
  | same => exact ⟨Or.inl rfl, rfl⟩
  | x2d _ _ ha _ _ _ => rcases ha with ha | ha | ha <;> cases ha
  | d2t => exact ⟨Or.inr rfl, rfl⟩

theorem sent_append (p : Pid) (a b : List Eff) : sent p (a ++ b) = sent p a ++ sent p b := by
  unfold sent; simp

theorem sent_of_evs_nil (p : Pid) (es : List Eff) (h : evs es = []) : sent p es = [] := by
  rw [evs, List.filterMap_eq_nil_iff] at h
  rw [sent, List.filterMap_eq_nil_iff]
  intro e he
  have := h e he
  cases e <;> first | rfl | cases this

def coreOf (s : State) :=
  (s.tbl, s.input, s.round, s.rounds, s.quality, s.decision, s.termination)

def Core (s s' : State) : Prop := coreOf s' = coreOf s

theorem Core.refl (s : State) : Core s s := Eq.refl _
theorem Core.trans {a b d : State} (h1 : Core a b) (h2 : Core b d) : Core a d := Eq.trans (b := coreOf b) h2 h1

macro "core_rfl" : tactic => `(tactic| (show coreOf _ = coreOf _; rfl))

theorem Core.fields {s s' : State} (h : Core s s') :
    s'.tbl = s.tbl ∧ s'.input = s.input ∧ s'.round = s.round ∧ s'.rounds = s.rounds ∧
    s'.quality = s.quality ∧ s'.decision = s.decision ∧ s'.termination = s.termination := by
  unfold Core coreOf at h
  simp only [Prod.mk.injEq] at h
  exact h

theorem Core.getRound {s s' : State} (h : Core s s') (r : Nat) : s'.getRound r = s.getRound r := by
  unfold State.getRound
  rw [h.fields.2.2.2.1]

theorem tryRebroadcast_core (s : State) (now : Int) : Core s (s.tryRebroadcast now).1 := by
  show coreOf _ = coreOf _
  simp only [coreOf, tryRebroadcast_tbl, tryRebroadcast_input, tryRebroadcast_round, tryRebroadcast_rounds,
    tryRebroadcast_quality, tryRebroadcast_decision, tryRebroadcast_termination]

def sendersOf (s : State) : Phase → List Pid
  | .quality => s.quality.senders
  | .prepare => (s.getRound 0).prepared.senders
  | .commit => (s.getRound 0).committed.senders
  | .decide => s.decision.senders
  | _ => []

theorem sendersOf_core {s s' : State} (h : Core s s') (ph : Phase) : sendersOf s' ph = sendersOf s ph := by
  obtain ⟨_, _, _, _, hq, hd, _⟩ := h.fields
  cases ph <;> simp only [sendersOf, h.getRound, hq, hd]

section
variable (t : Table) (c : Chain) (H : List Pid)

/-- phase-independent shape of the state -/
structure SInv (s : State) : Prop where
  tbl : s.tbl = t
  input : s.input = c
  round : s.round = 0
  proposal : s.proposal = c
  rounds : s.rounds = [(0, s.getRound 0)]
  qt : QT t c s.quality
  prep : UT t c H .initial (s.getRound 0).prepared
  comm : UT t c H .prepare (s.getRound 0).committed
  dec : UT t c H .commit s.decision
  term : ∀ d, s.termination = some d → d.value = c

variable {t c H}

theorem SInv.core {s s' : State} (h : SInv t c H s) (hc : Core s s') (hp : s'.proposal = c) : SInv t c H s' := by
  obtain ⟨h1, h2, h3, h4, h5, h6, h7⟩ := hc.fields
  have hg := hc.getRound 0
  exact ⟨h1 ▸ h.tbl, h2 ▸ h.input, h3 ▸ h.round, hp, by rw [h4, hg]; exact h.rounds, h5 ▸ h.qt, hg ▸ h.prep,
    hg ▸ h.comm, h6 ▸ h.dec, h7 ▸ h.term⟩

theorem SInv.getRound1 {s : State} (h : SInv t c H s) : s.getRound 1 = {} := by
  unfold State.getRound
  rw [h.rounds]
  rfl

end

/-! the phase-dependent facts: a node that holds a strong quorum has moved on -/
def A1 (c : Chain) (s : State) : Prop := s.quality.hasStrongFor c = false
def A2 (p : Pid) (s : State) : Prop := p ∉ (s.getRound 0).prepared.senders
def A2' (c : Chain) (p : Pid) (s : State) : Prop :=
  p ∈ (s.getRound 0).prepared.senders → (s.getRound 0).prepared.hasStrongFor c = false
def A3 (c : Chain) (s : State) : Prop := (s.getRound 0).committed.hasStrongFor c = false
def A4 (s : State) : Prop := s.decision.senders = []
def A5 (c : Chain) (s : State) : Prop := s.decision.hasStrongFor c = false

def PI (c : Chain) (p : Pid) (s : State) : Phase → Prop
  | .initial => A1 c s ∧ A2 p s ∧ A3 c s ∧ A4 s
  | .quality => A1 c s ∧ A2 p s ∧ A3 c s ∧ A4 s
  | .prepare => A2' c p s ∧ A3 c s ∧ A4 s
  | .commit => A3 c s ∧ A4 s
  | .decide => A5 c s
  | .terminated => ∃ d, s.termination = some d
  | .converge => False

theorem phase_working {ph : Phase} (hi : ph ≠ .initial) (hc : ph ≠ .converge) (hd : ph ≠ .decide)
    (ht : ph ≠ .terminated) : ph = .quality ∨ ph = .prepare ∨ ph = .commit := by
  cases ph
  · exact absurd rfl hi
  · exact Or.inl rfl
  · exact absurd rfl hc
  · exact Or.inr (Or.inl rfl)
  · exact Or.inr (Or.inr rfl)
  · exact absurd rfl hd
  · exact absurd rfl ht

theorem PI.not_converge {c : Chain} {p : Pid} {s : State} (h : PI c p s s.phase) : s.phase ≠ .converge := by
  intro hc
  rw [hc] at h
  exact h

theorem PI.core {c : Chain} {p : Pid} {s s' : State} {ph : Phase} (h : PI c p s ph) (hc : Core s s') : PI c p s' ph := by
  obtain ⟨_, _, _, _, hq, hd, ht⟩ := hc.fields
  have hg := hc.getRound 0
  cases ph <;> simp only [PI, A1, A2, A2', A3, A4, A5, hg, hq, hd, ht] at h ⊢ <;> exact h

section
variable {t : Table} {c : Chain} {H : List Pid}

/-- what one call of a model function guarantees -/
structure Good (t : Table) (c : Chain) (H : List Pid) (p : Pid) (s : State) (r : R) : Prop where
  nofail : hasFailure r.2 = false
  sinv : SInv t c H r.1
  pi : PI c p r.1 r.1.phase
  mono : ∀ ph x, x ∈ sendersOf s ph → x ∈ sendersOf r.1 ph
  trans : Trans p c s.phase r.1.phase (sent p r.2)

theorem Good.of_core {p : Pid} {s s' : State} {es : List Eff} (hs : SInv t c H s) (hc : Core s s')
    (hp : s'.proposal = c) (hpi : PI c p s s'.phase) (hnf : hasFailure es = false)
    (htr : Trans p c s.phase s'.phase (sent p es)) : Good t c H p s (s', es) :=
  ⟨hnf, hs.core hc hp, hpi.core hc, fun ph x hx => by rw [sendersOf_core hc]; exact hx, htr⟩

theorem Good.pre {p : Pid} {s s1 : State} {r : R} (hph : s.phase = s1.phase)
    (hm : ∀ ph x, x ∈ sendersOf s ph → x ∈ sendersOf s1 ph) (g : Good t c H p s1 r) : Good t c H p s r :=
  ⟨g.nofail, g.sinv, g.pi, fun ph x hx => g.mono ph x (hm ph x hx), hph ▸ g.trans⟩

theorem Good.stay {p : Pid} {s : State} (hs : SInv t c H s) (hpi : PI c p s s.phase) : Good t c H p s (s, []) :=
  Good.of_core hs (Core.refl s) hs.proposal hpi rfl (Trans.same _)

theorem Good.reb {p : Pid} {s : State} (now : Int) (hs : SInv t c H s) (hpi : PI c p s s.phase) :
    Good t c H p s (s.tryRebroadcast now) := by
  have hph := tryRebroadcast_phase s now
  refine Good.of_core (s' := (s.tryRebroadcast now).1) (es := (s.tryRebroadcast now).2) hs
    (tryRebroadcast_core s now) ((tryRebroadcast_proposal s now).trans hs.proposal) (by rw [hph]; exact hpi)
    (tryRebroadcast_nofail s now) ?_
  rw [sent_of_evs_nil p _ (tryRebroadcast_evs s now), hph]
  exact Trans.same _

theorem _root_.F3.Liveness.UTally.led {T : Tally} (h : F3.Liveness.UTally t c H T) (hctx : Ctx t c H) : LedTally t c T :=
  ⟨h.fsqv, h.fsqf hctx⟩

theorem SInv.led {s : State} (hs : SInv t c H s) (hctx : Ctx t c H) : Led c 0 s :=
  ⟨hctx.cne, hs.round, hs.getRound1, by rw [hs.tbl]; exact hs.comm.toUTally.led hctx,
    by rw [hs.tbl]; exact hs.dec.toUTally.led hctx⟩

theorem commitJust_ok (hctx : Ctx t c H) {s : State} (hs : SInv t c H s) (hv : s.value = c)
    (h : (s.prepFoundQuorum || s.prepFoundJust) = true) :
    ∃ j, s.commitJust = .ok j ∧ JustFor c .prepare j := by
  obtain ⟨j, hj, hk⟩ := commitJust_led hs.round hs.getRound1 hs.proposal hv
    (fun hq => by rw [hs.tbl]; exact hs.prep.fsqf hctx hq) h
  refine ⟨j, hj, ?_⟩
  rcases hk with ⟨sg, rfl⟩ | hk
  · exact ⟨rfl, rfl, rfl⟩
  · exact hs.comm.getJustOf hctx.cne _ _ hk

theorem A5_of_A4 {s : State} (hs : SInv t c H s) (h4 : A4 s) : A5 c s := by
  unfold A5
  rw [hs.dec.hasStrongFor]
  unfold A4 at h4
  simp [h4]

/-- what `tryCurrentPhase` needs of the phase invariant (the rest it re-establishes itself) -/
def WPI (c : Chain) (p : Pid) (s : State) : Phase → Prop
  | .quality => A2 p s ∧ A3 c s ∧ A4 s
  | .prepare => A3 c s ∧ A4 s
  | .commit => A4 s
  | .decide => True
  | .terminated => ∃ d, s.termination = some d
  | _ => False

theorem PI.weak {c : Chain} {p : Pid} {s : State} {ph : Phase} (h : PI c p s ph) (hi : ph ≠ .initial) : WPI c p s ph := by
  cases ph
  · exact absurd rfl hi
  · exact h.2
  · exact h
  · exact h.2
  · exact h.2
  · trivial
  · exact h

def Synced (H : List Pid) (s : State) (now : Int) : Prop :=
  timedPhase s.phase = true → s.phaseTimeoutElapsed now = true → ∀ h ∈ H, h ∈ sendersOf s s.phase

theorem SInv.setRound {s : State} (hs : SInv t c H s) (rs' : RoundState) (hp : UT t c H .initial rs'.prepared)
    (hc : UT t c H .prepare rs'.committed) :
    SInv t c H (s.setRound 0 rs') ∧ (s.setRound 0 rs').getRound 0 = rs' := by
  have hr : (s.setRound 0 rs').rounds = [(0, rs')] := by
    unfold State.setRound
    dsimp only
    rw [hs.rounds]
    rfl
  have hg : (s.setRound 0 rs').getRound 0 = rs' := by
    unfold State.getRound
    rw [hr]
    rfl
  refine ⟨⟨hs.tbl, hs.input, hs.round, hs.proposal, by rw [hr, hg], hs.qt, ?_, ?_, hs.dec, hs.term⟩, hg⟩
  · rw [hg]; exact hp
  · rw [hg]; exact hc

/-- the message-dependent part of the synchrony hypothesis, before the message is tallied -/
def SyncedM (H : List Pid) (s : State) (now : Int) (m : Msg) : Prop :=
  timedPhase s.phase = true → s.phaseTimeoutElapsed now = true →
    ∀ h ∈ H, h ∈ sendersOf s s.phase ∨ (m.phase = s.phase ∧ m.sender = h)

theorem shape_just {c : Chain} {m : Msg} (hm : Shape c m) :
    (m.phase = .quality → m.just = none) ∧ (m.phase = .prepare → m.just = none) ∧
    (m.phase = .commit → ∃ j, m.just = some j ∧ JustFor c .prepare j) ∧
    (m.phase = .decide → ∃ j, m.just = some j ∧ JustFor c .commit j) := by
  have h := hm.2.2.2.2
  refine ⟨?_, ?_, ?_, ?_⟩ <;> intro hp <;> rw [hp] at h <;> exact h

theorem Shape.phases {c : Chain} {m : Msg} (hm : Shape c m) :
    m.phase = .quality ∨ m.phase = .prepare ∨ m.phase = .commit ∨ m.phase = .decide := by
  have h := hm.2.2.2.2
  cases hp : m.phase <;> rw [hp] at h <;> simp_all

/-- the state after `skipToDecide` -/
abbrev afterSkip (s : State) (D' : Tally) (c : Chain) : State :=
  { s with decision := D', phase := .decide, proposal := c, value := c, rebAttempts := 0, rebTimeout := none }

theorem recvPre_accept {s : State} (hs : SInv t c H s) (hc : c ≠ []) (hnt : s.phase ≠ .terminated) {m : Msg}
    (hm : Shape c m) : s.recvPre m = .accept := by
  unfold State.recvPre
  have hb : hasBase c c.head? = true := by
    cases c with
    | nil => exact absurd rfl hc
    | cons a as => simp [hasBase]
  rw [if_neg (by simp [hm.2.2.2.1]), if_neg (by simp [hm.2.2.1]),
    if_neg (by rw [hm.2.1, hs.input, hb]; simp), if_neg (by simp [hnt]), if_neg (by simp [hm.1, hs.round]),
    if_neg (by simp [hm.1])]

theorem Good.round {p : Pid} {s : State} {r : R} (g : Good t c H p s r) : r.1.round = 0 := g.sinv.round

theorem step_alarm_fired (s : State) (now : Int) (hph : s.phase = .quality) (hel : s.phaseTimeoutElapsed now = true) :
    (step s (.alarm now)).1.phase = .prepare := by
  show (s.tryCurrentPhase now).1.phase = .prepare
  unfold State.tryCurrentPhase
  rw [hph]
  exact tryQuality_ind s now (fun h => absurd hph h)
    (fun _ hc => by rw [hel, Bool.or_true] at hc; cases hc) (fun _ _ _ _ => rfl)

theorem init_inv (cfg : Cfg) (t : Table) (c : Chain) (H : List Pid) (p : Pid) :
    SInv t c H (init cfg t c) ∧ PI c p (init cfg t c) (init cfg t c).phase := by
  refine ⟨⟨rfl, rfl, rfl, rfl, rfl, QT_empty, UT_empty, UT_empty, UT_empty, ?_⟩, ?_⟩
  · intro d hd; cases hd
  · exact ⟨rfl, by simp [A2, State.getRound, init], rfl, rfl⟩

end

end F3.Sync

