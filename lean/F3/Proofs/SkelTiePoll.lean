import F3.Gen.SkelPoll
/-!
Hand-written expectations for the REGENERATED skeletons of `F3.Gen.SkelPoll` (tools/go2lean/skel.go): the pre-order
list of the statements of a Go function as `<depth>:<kind>`. The expression-level tie theorems pin what single
conditions say; these pin that nothing was added around them (an extra early return, a cap, a dropped branch). A
structural change of the function — harmful or not — breaks the `rfl` below and with it the obligation of every
property importing this file; the check then searches for a failing input as for any broken obligation.
-/
namespace F3.SkelTie.SkelPoll
open F3.Gen.SkelPoll

/-- the structure the model of `SubscriberPoll` was written against -/
def skelSubscriberPollExpected : List String :=
  ["0:decl", "0:defer", "0:assign:=", "0:call:log.Debugf", "0:assign:=", "0:assign:=", "0:decl", "0:range",
   "1:assign:=", "1:if", "2:return3", "1:call:log.Debugf", "1:if", "2:assign=", "2:assign=", "1:switch",
   "2:case1", "3:assign=", "3:call:s.peerTracker.updateLatency", "2:case1", "3:assign=",
   "3:call:s.peerTracker.updateLatency", "2:case1", "3:call:s.peerTracker.recordFailure", "2:case1",
   "3:call:s.peerTracker.recordInvalid", "2:default", "3:call:panic", "1:if", "2:incdec++", "1:else",
   "2:assign=", "1:assign+=", "1:assign+=", "0:if", "1:range", "2:call:s.peerTracker.recordMiss", "1:range",
   "2:call:s.peerTracker.recordHit", "0:call:metrics.peersPolled.Record", "0:if", "1:assign:=",
   "1:call:metrics.peersRequiredPerPoll.Record", "1:assign:=", "1:call:metrics.pollEfficiency.Record",
   "0:return3"]

theorem skelSubscriberPoll_expected : skelSubscriberPoll = skelSubscriberPollExpected := rfl

/-- the structure the model of `CatchUp` was written against -/
def skelCatchUpExpected : List String :=
  ["0:assign:=", "0:if", "1:return2", "0:assign:=", "0:assign:=", "0:if", "1:return2", "0:assign:=", "0:if",
   "1:return2", "0:assign=", "0:assign=", "0:return2"]

theorem skelCatchUp_expected : skelCatchUp = skelCatchUpExpected := rfl

/-- the structure of `predictor.update`; there is no hand model of it (the model calls the regenerated
`F3.Gen.predictorUpdate`), the skeleton guards the statements around the regenerated expressions -/
def skelPredictorUpdateExpected : List String :=
  ["0:if", "1:if", "2:assign=", "0:elseif", "1:if", "2:assign/=", "1:elseif", "2:assign*=", "1:else",
   "2:assign/=", "2:assign=", "1:if", "2:assign=", "1:elseif", "2:assign=", "1:if", "2:assign=", "2:assign+=",
   "2:assign=", "1:else", "2:assign-=", "2:assign=", "1:if", "2:assign=", "1:elseif", "2:assign=",
   "0:assign:=", "0:if", "1:assign=", "1:assign=", "0:return1"]

theorem skelPredictorUpdate_expected : skelPredictorUpdate = skelPredictorUpdateExpected := rfl

end F3.SkelTie.SkelPoll
