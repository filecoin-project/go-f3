import F3.Proofs.SyncGeneralNode
import F3.Proofs.SyncNet
/-!
# The network invariant of a synchronous, failure-free run with arbitrary inputs

The instance `GNInv` of `Sync.NetInv`; `general_invariant_core` (safety) and `general_decides_core` (every complete
execution has decided the longest quorum-supported prefix).
-/
namespace F3.SyncGeneral
open F3.Instance F3.Net F3.Sync

section
variable {t : Table} {H : List Pid} {inp : Pid → Chain} {b : Nat}

local notation "PS" => longestQuorumPrefix t H inp

theorem GTrans.facts {p : Pid} {a bb : Phase} {ms : List Msg} (h : GTrans t H inp p a bb ms) :
    (∀ m ∈ ms, m.sender = p ∧ GShape t H inp m) ∧ Wire p a bb ms := by
  cases h with
  | same a => exact ⟨(fun _ h => nomatch h), Wire.same p a⟩
  | start => exact ⟨by simp [mkMsg, GShape], Wire.start rfl rfl⟩
  | q2p => exact ⟨by simp [mkMsg, GShape], Wire.q2p rfl rfl⟩
  | p2c j hj =>
    refine ⟨?_, Wire.p2c rfl rfl⟩
    intro m hm
    rw [List.mem_singleton.1 hm]
    exact ⟨rfl, rfl, rfl, rfl, rfl, hj⟩
  | x2d a bb ha hb j hj => exact ⟨by simp [mkMsg, GShape, hj], Wire.x2d ha hb rfl rfl⟩
  | d2t => exact ⟨(fun _ h => nomatch h), Wire.d2t p⟩

abbrev GNInv (t : Table) (H : List Pid) (inp : Pid → Chain) :=
  NetInv (GInv t H inp) (GPI t H inp) (GShape t H inp) H

theorem GGood.stepOK {p : Pid} {s : State} {r : R} (g : GGood t H inp p s r) :
    StepOK (GInv t H inp) (GPI t H inp) (GShape t H inp) p s r :=
  ⟨g.nofail, g.inv, g.pi, g.mono, g.trans.facts.1, g.trans.facts.2⟩

theorem gsteps (g : GCtx t H inp b) : Steps (GInv t H inp) (GPI t H inp) (GShape t H inp) H where
  nodup := g.nodup
  round := fun h => h.round
  start := fun now hs hpi hph => (step_start_ggood now hs hpi hph).stepOK
  recv := fun now m hpH hs hpi hni hnt hm hmH hself hsync =>
    (step_recv_ggood g hpH now m hs hpi hni hnt hm hmH hself hsync).imp GGood.stepOK id
  alarm := fun now hpH hs hpi hni hsync => (step_alarm_ggood g hpH now hs hpi hni hsync).stepOK

theorem g_complete_not_quality (g : GCtx t H inp b) {n : Net} (hn : GNInv t H inp n) (hc : complete n = true)
    {q : Pid} {x : State} (hq : (q, x) ∈ n.nodes)
    (h : q ∈ n.fired ∨ (2 ≤ (inp q).length ∧ SQ t H inp (inp q) = true)) : x.phase ≠ .quality := by
  intro hph
  have hno := hn.node q x hq
  rcases h with hf | ⟨hl, hs⟩
  · exact (hno.fired hf).1 hph
  · have := hno.inv.qt.all g (hn.quality_tallied hc hq (by rw [hph]; nofun)) (inp q) hl
    have h1 := hno.pi
    rw [hph] at h1
    rw [show x.quality.hasStrongFor (inp q) = false from h1.1, hs] at this
    cases this

theorem g_complete_terminated (g : GCtx t H inp b) {n : Net} (hn : GNInv t H inp n) (hc : complete n = true)
    (hnq : ∀ q x, (q, x) ∈ n.nodes → x.phase ≠ .quality) :
    ∀ q x, (q, x) ∈ n.nodes → x.phase = .terminated := by
  refine NetInv.terminated hn hc hnq (fun _ _ h => h) ?_ ?_ ?_ ?_
  · intro q x hqH hs hpi hall
    obtain ⟨hns, hcr⟩ := hpi.1 (hall q hqH)
    by_cases hv : propOf t H inp q = PS
    · have := hs.prep.strong_of_all g maj_propOf hall
      rw [← hv, hns] at this
      cases this
    · have := hs.prep.couldReach_minor_all g maj_propOf _ hv hall
      rw [hcr] at this
      cases this
  · intro q x _ hs hpi hall
    have := hs.comm.strong_of_all g maj_cvOf hall
    rw [show (x.getRound 0).committed.hasStrongFor PS = false from hpi.1] at this
    cases this
  · intro q x _ hs hpi hall
    have := hs.dec.strong_of_all g maj_const hall
    rw [show x.decision.hasStrongFor PS = false from hpi] at this
    cases this
  · rintro q x (hpi | hpi)
    · exact hpi.2.2
    · exact hpi.2

theorem g_terminated_value {n : Net} (hn : GNInv t H inp n) {q : Pid} {x : State} (hq : (q, x) ∈ n.nodes)
    (hp : x.phase = .terminated) : ∃ d, x.termination = some d ∧ d.value = PS := by
  have hno := hn.node q x hq
  have h1 := hno.pi
  rw [hp] at h1
  obtain ⟨d, hd⟩ := h1
  exact ⟨d, hd, hno.inv.term d hd⟩

theorem total_eq_sumP (E : List (Pid × Nat)) (hnd : (E.map (·.1)).Nodup) :
    sumP ⟨E⟩ (E.map (·.1)) = Table.total ⟨E⟩ := by
  suffices h : ∀ (E0 : List (Pid × Nat)) (E : List (Pid × Nat)), (∀ e ∈ E, Table.power ⟨E0⟩ e.1 = e.2) →
      sumP ⟨E0⟩ (E.map (·.1)) = (E.map (·.2)).sum by
    have := h E E ?_
    · rw [this]
      unfold Table.total
      exact List.sum_eq_foldl_nat
    · intro e he
      unfold Table.power
      have : E.find? (fun x => x.1 == e.1) = some e := by
        clear h
        induction E with
        | nil => cases he
        | cons a as ih =>
          simp only [List.map_cons, List.nodup_cons] at hnd
          rcases List.mem_cons.1 he with rfl | he
          · simp
          · have hne : a.1 ≠ e.1 := by
              intro heq
              exact hnd.1 (heq ▸ List.mem_map.2 ⟨e, he, rfl⟩)
            rw [List.find?_cons]
            simp only [show (a.1 == e.1) = false by simpa using hne]
            exact ih hnd.2 he
      rw [this]
  intro E0 E hE
  induction E with
  | nil => rfl
  | cons a as ih =>
    simp only [List.map_cons, List.sum_cons]
    rw [sumP_cons, hE a List.mem_cons_self, ih (fun e he => hE e (List.mem_cons_of_mem _ he))]

theorem gctx_of (t : Table) (H : List Pid) (inp : Pid → Chain) (b : Nat) (hH : t.entries.map (·.1) = H) (hnd : H.Nodup)
    (hpos : 0 < t.total) (hbase : ∀ p ∈ H, (inp p).head? = some b) : GCtx t H inp b := by
  refine ⟨hnd, ?_, ?_, hpos, hbase⟩
  · intro x hx
    exact index_of_mem t x (by rw [hH]; exact hx)
  · rw [← hH]
    cases t with
    | mk E => exact total_eq_sumP E (by rw [← hH] at hnd; exact hnd)

theorem sq_unanimous {c : Chain} (g : GCtx t H (fun _ => c) b) : SQ t H (fun _ => c) c = true := by
  unfold SQ supp
  have : H.filter (fun _ => c.isPrefixOf c) = H := by
    rw [List.filter_eq_self]
    intro _ _
    rw [List.isPrefixOf_iff_prefix]
    exact List.prefix_rfl
  rw [this, g.full]
  exact strongQ_total t

theorem longestQuorumPrefix_const {c : Chain} (g : GCtx t H (fun _ => c) b) : longestQuorumPrefix t H (fun _ => c) = c := by
  obtain ⟨h0, _, he⟩ := g.longestQuorumPrefix_mem
  rw [he]
  unfold propOf
  exact lpOf_self _ _ (sq_unanimous g)

/-- with unanimous inputs over the whole table the longest quorum-supported prefix is the common input chain -/
theorem longestQuorumPrefix_of_const (t : Table) (H : List Pid) (c : Chain)
    (hH : t.entries.map (·.1) = H) (hnd : H.Nodup) (hpos : 0 < t.total) (hc : c ≠ []) :
    longestQuorumPrefix t H (fun _ => c) = c := by
  cases c with
  | nil => exact absurd rfl hc
  | cons a as => exact longestQuorumPrefix_const (gctx_of t H (fun _ => a :: as) a hH hnd hpos (fun _ _ => rfl))

/-- safety: the invariant holds after every admissible, synchrony-ordered execution -/
theorem general_invariant_core (g : GCtx t H inp b) (cfg : Pid → Cfg) (ops : List NetOp)
    (hexec : execOk (initNet t H cfg inp) ops = true) (hsync : SyncOrdered (initNet t H cfg inp) ops) :
    GNInv t H inp (runNet (initNet t H cfg inp) ops) :=
  NetInv.run (gsteps g) ops (NetInv.of_init t cfg inp (fun p => init_ginv (cfg p) t H inp p)) hexec hsync

/-- liveness: a complete execution in which no node is left waiting for its QUALITY timer has decided `PS` -/
theorem general_decides_core (g : GCtx t H inp b) (cfg : Pid → Cfg) (ops : List NetOp)
    (hexec : execOk (initNet t H cfg inp) ops = true) (hsync : SyncOrdered (initNet t H cfg inp) ops)
    (hcomplete : complete (runNet (initNet t H cfg inp) ops) = true)
    (hnq : ∀ p s, (p, s) ∈ (runNet (initNet t H cfg inp) ops).nodes → s.phase ≠ .quality) :
    (∀ p ∈ H, ∃ s, (p, s) ∈ (runNet (initNet t H cfg inp) ops).nodes) ∧
    ∀ p s, (p, s) ∈ (runNet (initNet t H cfg inp) ops).nodes →
      s.phase = .terminated ∧ ∃ d, s.termination = some d ∧ d.value = PS := by
  have hn := general_invariant_core g cfg ops hexec hsync
  refine ⟨?_, ?_⟩
  · exact fun p hp => hn.node_of_H hp
  · intro p s hp
    have ht := g_complete_terminated g hn hcomplete hnq p s hp
    exact ⟨ht, g_terminated_value hn hp ht⟩

theorem gshape_cases {m : Msg} (hm : GShape t H inp m) :
    m.round = 0 ∧
    ((m.phase = .quality ∧ m.value = inp m.sender ∧ m.just = none) ∨
     (m.phase = .prepare ∧ m.value = propOf t H inp m.sender ∧ m.just = none) ∨
     (m.phase = .commit ∧ m.value = cvOf t H inp m.sender ∧
        (m.value ≠ [] → ∃ j, m.just = some j ∧ j.round = 0 ∧ j.phase = .prepare ∧ j.value = PS)) ∨
     (m.phase = .decide ∧ m.value = PS ∧ ∃ j, m.just = some j ∧ j.round = 0 ∧ j.phase = .commit ∧ j.value = PS)) := by
  obtain ⟨h1, h2, h3, h4⟩ := gshape_just hm
  refine ⟨hm.1, ?_⟩
  rcases hm.phases with hp | hp | hp | hp
  · exact Or.inl ⟨hp, h1 hp⟩
  · exact Or.inr (Or.inl ⟨hp, h2 hp⟩)
  · exact Or.inr (Or.inr (Or.inl ⟨hp, h3 hp⟩))
  · exact Or.inr (Or.inr (Or.inr ⟨hp, h4 hp⟩))

end

end F3.SyncGeneral
