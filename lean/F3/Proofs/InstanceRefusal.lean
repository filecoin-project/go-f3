import F3.Proofs.InstanceRun
/-!
# Refusals at the door

`Receive` refuses a message of another instance, with other supplemental data or on another base, and any message after
termination: it returns an error and leaves the instance untouched. These are the only errors an honest execution may
report. `refusedOp` / `foreignOp` say so of a call, `okRunI` of a run (every call is a refusal or reports no failure), and
`clean_runI` drops the refused calls: what is left is a failure-free run with the same final state and, the refusals'
errors aside (`nonErr`), the same effects. Core-only; `F3.Bridge.refused` / `foreign` / `okRun` are the same functions
(`F3.Bridge.refused_eq`, …) and the participant API has `prefused` / `okRunP` (`F3.Proofs.ParticipantRun`).
-/
namespace F3.Instance

/-- a message of another instance or with other supplemental data -/
def foreignM (m : Msg) : Bool := !m.instOk || !m.suppOk

theorem receiveOne_foreign (s : State) (now : Int) (m : Msg) (h : foreignM m = true) :
    hasFailure (s.receiveOne now m).1.2 = true := by
  unfold State.receiveOne State.recvPre
  simp only [foreignM, Bool.or_eq_true, Bool.not_eq_true'] at h
  rcases h with h | h
  · simp [h]
  · cases hi : m.instOk <;> simp [h]

def nonErr : Eff → Bool
  | .err _ => false
  | _ => true

theorem filter_nonErr_of_nofail (es : List Eff) (h : hasFailure es = false) : es.filter nonErr = es := by
  rw [List.filter_eq_self]
  intro e he
  cases e <;> try rfl
  exfalso
  have : hasFailure es = true := by
    unfold hasFailure; rw [List.any_eq_true]; exact ⟨_, he, rfl⟩
  rw [h] at this; cases this

theorem bc_mem_filter_nonErr {es : List Eff} {r : Nat} {ph : Phase} {v : Chain} {tk : Bool} {j : Option Just} :
    Eff.broadcast r ph v tk j ∈ es.filter nonErr ↔ Eff.broadcast r ph v tk j ∈ es := by
  simp [List.mem_filter, nonErr]

/-- `Receive` refuses the message at the door: after termination, or for another instance / supplemental data /
base (the instance-level notion is `F3.Bridge.refused`) -/
def refusedM (s : State) (m : Msg) : Bool :=
  s.phase == .terminated || (match s.recvPre m with | .reject _ => true | _ => false)

/-- the delivery is refused at the door (the twin of `F3.Bridge.refused` below Mathlib) -/
def refusedOp (s : State) : Op → Bool
  | .recv _ m => refusedM s m
  | _ => false

/-- a message of another instance or with other supplemental data (`F3.Bridge.foreign`) -/
def foreignOp : Op → Bool
  | .recv _ m => foreignM m
  | _ => false

/-- every call either is a refusal or reports no error (`F3.Bridge.okRun`) -/
def okRunI : State → List Op → Bool
  | _, [] => true
  | s, op :: ops => (refusedOp s op || !hasFailure (step s op).2) && okRunI (step s op).1 ops

theorem foreignM_refusedM (s : State) (m : Msg) (h : foreignM m = true) : refusedM s m = true := by
  simp only [foreignM, Bool.or_eq_true, Bool.not_eq_true'] at h
  simp only [refusedM, Bool.or_eq_true]
  right
  unfold State.recvPre
  rcases h with h | h
  · simp [h]
  · cases hi : m.instOk <;> simp [h]

theorem of_not_refused {P : Op → Prop} {s : State} {op : Op} (h : foreignOp op = true ∨ P op)
    (hr : ¬ refusedOp s op = true) : P op := by
  rcases h with hf | hp
  · cases op with
    | recv now m => exact absurd (foreignM_refusedM s m hf) hr
    | start _ => cases hf
    | alarm _ => cases hf
  · exact hp

theorem recvPre_reject_kind (s : State) (m : Msg) (k : ErrKind) (h : s.recvPre m = .reject k) :
    (k = .wrongInstance ∧ m.instOk = false) ∨ k = .wrongSupp ∨ k = .wrongBase := by
  unfold State.recvPre at h
  split at h
  · rename_i hi
    cases h; exact Or.inl ⟨rfl, by simpa using hi⟩
  split at h
  · cases h; exact Or.inr (Or.inl rfl)
  split at h
  · cases h; exact Or.inr (Or.inr rfl)
  -- the remaining checks drop or accept
  split at h
  · cases h
  split at h
  · cases h
  split at h <;> cases h

theorem step_refusedOp {s : State} {op : Op} (h : refusedOp s op = true) :
    ∃ k, step s op = (s, [.err k]) ∧
      (k = .afterTermination ∨ k = .wrongInstance ∨ k = .wrongSupp ∨ k = .wrongBase) := by
  cases op with
  | recv now m =>
    simp only [refusedOp, refusedM, Bool.or_eq_true] at h
    unfold step
    by_cases ht : (s.phase == .terminated) = true
    · exact ⟨.afterTermination, by simp [ht], Or.inl rfl⟩
    · simp only [ht, Bool.false_eq_true, if_false]
      rcases h with h | h
      · exact absurd h ht
      · unfold State.receiveOne
        cases hp : s.recvPre m with
        | reject k => exact ⟨k, by simp, Or.inr ((recvPre_reject_kind s m k hp).imp And.left id)⟩
        | drop => rw [hp] at h; cases h
        | accept => rw [hp] at h; cases h
  | start _ => cases h
  | alarm _ => cases h

theorem step_refusedM {s : State} {now : Int} {m : Msg} (h : refusedM s m = true) :
    ∃ k, step s (.recv now m) = (s, [.err k]) :=
  (step_refusedOp (op := .recv now m) h).imp fun _ hk => hk.1

theorem evs_filter_nonErr (es : List Eff) : evs (es.filter nonErr) = evs es := by
  -- a reported error is no event of the skeleton
  have h : (fun e => if nonErr e = true then Eff.ev? e else none) = Eff.ev? := by
    funext e; cases e <;> rfl
  rw [evs, List.filterMap_filter, h]; rfl

theorem mem_nofail {es : List Eff} (h : hasFailure es = false) {e : Eff} (he : e ∈ es) :
    (∀ p, e ≠ .panic p) ∧ (∀ k, e ≠ .err k) := by
  unfold hasFailure at h
  rw [List.any_eq_false] at h
  have := h e he
  constructor
  · intro p hp; subst hp; simp at this
  · intro k hk; subst hk; simp at this

theorem okRunI_effects (s : State) (ops : List Op) (h : okRunI s ops = true) :
    ∀ e ∈ (runFrom s ops).2, (∀ p, e ≠ .panic p) ∧
      (∀ k, e = .err k → k = .afterTermination ∨ k = .wrongInstance ∨ k = .wrongSupp ∨ k = .wrongBase) := by
  induction ops generalizing s with
  | nil => intro e he; simp [runFrom] at he
  | cons op ops ih =>
    simp only [okRunI, Bool.and_eq_true, Bool.or_eq_true, Bool.not_eq_true'] at h
    intro e he
    rw [runFrom_cons] at he
    rcases List.mem_append.1 he with he | he
    · rcases h.1 with hr | hnf
      · obtain ⟨k, hk, hkind⟩ := step_refusedOp hr
        rw [hk] at he
        simp only [List.mem_singleton] at he
        subst he
        exact ⟨fun p hp => (by cases hp), fun k' hk' => (by injection hk' with hk'; subst hk'; exact hkind)⟩
      · obtain ⟨hp, hk⟩ := mem_nofail hnf he
        exact ⟨hp, fun k hk' => absurd hk' (hk k)⟩
    · exact ih _ h.2 e he

theorem okRunI_of_nofail (s : State) (ops : List Op) (h : hasFailure (runFrom s ops).2 = false) : okRunI s ops = true := by
  induction ops generalizing s with
  | nil => rfl
  | cons op ops ih =>
    rw [runFrom_cons] at h
    simp only [hasFailure_append, Bool.or_eq_false_iff] at h
    simp only [okRunI, Bool.and_eq_true, Bool.or_eq_true, Bool.not_eq_true']
    exact ⟨Or.inr h.1, ih _ h.2⟩

/-- dropping the refused calls of an `okRunI` run leaves a failure-free run with the same final state and the same
effects other than the refusals' errors (`F3.Bridge.clean_run`, with the effect lists related by `filter`) -/
theorem clean_runI (P : Op → Prop) (s : State) (ops : List Op) (h : okRunI s ops = true)
    (hP : ∀ op ∈ ops, foreignOp op = true ∨ P op) :
    ∃ ops', (∀ op ∈ ops', P op) ∧ hasFailure (runFrom s ops').2 = false ∧
      (runFrom s ops').1 = (runFrom s ops).1 ∧ (runFrom s ops').2 = (runFrom s ops).2.filter nonErr := by
  induction ops generalizing s with
  | nil => exact ⟨[], by simp, by simp [runFrom], rfl, by simp [runFrom]⟩
  | cons op ops ih =>
    simp only [okRunI, Bool.and_eq_true, Bool.or_eq_true, Bool.not_eq_true'] at h
    obtain ⟨hop, hrest⟩ := h
    have hP' : ∀ o ∈ ops, foreignOp o = true ∨ P o := fun o ho => hP o (List.mem_cons_of_mem _ ho)
    by_cases hr : refusedOp s op = true
    · obtain ⟨k, hk, _⟩ := step_refusedOp hr
      rw [hk] at hrest
      obtain ⟨ops', h1, h2, h3, h4⟩ := ih s hrest hP'
      refine ⟨ops', h1, h2, ?_, ?_⟩
      · rw [runFrom_cons, hk]; exact h3
      · rw [runFrom_cons, hk, h4]; simp [nonErr]
    · have hnf : hasFailure (step s op).2 = false := by
        rcases hop with h' | h'
        · exact absurd h' hr
        · exact h'
      obtain ⟨ops', h1, h2, h3, h4⟩ := ih _ hrest hP'
      refine ⟨op :: ops', ?_, ?_, ?_, ?_⟩
      · intro o ho
        rcases List.mem_cons.1 ho with rfl | ho
        · exact of_not_refused (hP o List.mem_cons_self) hr
        · exact h1 o ho
      · rw [runFrom_cons]; simp only [hasFailure_append, hnf, h2, Bool.or_self]
      · rw [runFrom_cons, runFrom_cons]; exact h3
      · rw [runFrom_cons, runFrom_cons]
        simp only [List.filter_append, h4, filter_nonErr_of_nofail _ hnf]

theorem filterMap_filter_nonErr {β : Type} (f : Eff → Option β) (hf : ∀ k, f (.err k) = none) (es : List Eff) :
    (es.filter nonErr).filterMap f = es.filterMap f := by
  induction es with
  | nil => rfl
  | cons e es ih =>
    cases e <;> simp only [List.filter_cons, nonErr, if_true, List.filterMap_cons, ih, Bool.false_eq_true, if_false]
    rw [hf]

end F3.Instance
