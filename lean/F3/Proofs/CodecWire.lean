import F3.Proofs.CodecCbor
/-! What the generated decoders accept (C14c, C11 × C14). `Wire s w v` lists, per schema constructor, the byte
strings `w` that the decoder of `s` reads as the value `v`; `decode_ok_iff` says these are exactly the accepting
runs, `Wire.reads` that such a `w` is read back whatever follows it and runs out of input when it is cut short,
`encode_wire` that the encoder writes nothing else. Round trip, prefix-freeness, the limits and the detection of
torn records are read off these three; the allocation bound (`F3.Proofs.CodecAlloc`) is an induction over `Wire`. -/
namespace F3.Cbor
open F3.Codec

/-- `p` is a strict prefix of `b`: something non-empty is missing. -/
def SPrefix (p b : Bytes) : Prop := ∃ t, t ≠ [] ∧ b = p ++ t

theorem SPrefix.not_nil {p : Bytes} : ¬ SPrefix p [] := by
  rintro ⟨t, ht, h⟩
  cases t with
  | nil => exact ht rfl
  | cons x t => cases p <;> cases h

theorem SPrefix.length_lt {p b : Bytes} (h : SPrefix p b) : p.length < b.length := by
  obtain ⟨t, ht, rfl⟩ := h
  have := List.length_pos_iff.mpr ht
  rw [List.length_append]; omega

theorem sprefix_take (b : Bytes) (n : Nat) (h : n < b.length) : SPrefix (b.take n) b :=
  ⟨b.drop n, by intro h0; have := congrArg List.length h0; simp at this; omega, (List.take_append_drop n b).symm⟩

theorem sprefix_iff_take {p b : Bytes} : SPrefix p b ↔ ∃ n, n < b.length ∧ p = b.take n := by
  constructor
  · rintro ⟨t, ht, rfl⟩
    refine ⟨p.length, ?_, by simp⟩
    have := List.length_pos_iff.mpr ht
    rw [List.length_append]; omega
  · rintro ⟨n, hn, rfl⟩; exact sprefix_take b n hn

/-- A strict prefix of `a ++ b` ends inside `a`, or is `a` followed by a strict prefix of `b`. -/
theorem sprefix_append {p a b : Bytes} (h : SPrefix p (a ++ b)) :
    SPrefix p a ∨ ∃ p', p = a ++ p' ∧ SPrefix p' b := by
  obtain ⟨t, ht, h⟩ := h
  rcases List.append_eq_append_iff.mp h with ⟨a', hp, hb⟩ | ⟨c', ha, ht'⟩
  · exact Or.inr ⟨a', hp, t, ht, hb⟩
  · by_cases hc : c' = []
    · subst hc
      refine Or.inr ⟨[], by simpa using ha.symm, t, ht, by simpa using ht'.symm⟩
    · exact Or.inl ⟨c', hc, ha⟩

theorem sprefix_cons {p : Bytes} {x : Nat} {b : Bytes} (h : SPrefix p (x :: b)) :
    p = [] ∨ ∃ p', p = x :: p' ∧ SPrefix p' b := by
  obtain ⟨t, ht, h⟩ := h
  cases p with
  | nil => exact Or.inl rfl
  | cons y p' =>
    simp only [List.cons_append, List.cons.injEq] at h
    obtain ⟨rfl, hb⟩ := h
    exact Or.inr ⟨p', rfl, t, ht, hb⟩

/-- `dec` reads `out` off exactly the bytes `w`: followed by any `r` it returns `out r`; cut short it runs
out of input. -/
structure Reads {β : Type} (dec : Bytes → Except Err β) (w : Bytes) (out : Bytes → β) : Prop where
  ok : ∀ r, dec (w ++ r) = .ok (out r)
  torn : ∀ q, SPrefix q w → dec q = .error .eof

section
variable {β γ : Type} {p : Bytes → Except Err β} {f : Bytes → Except Err γ}
  {w w1 w2 : Bytes} {o1 : Bytes → β} {o2 : Bytes → γ}

/-- `f` runs `p` first and fails where `p` runs out of input. -/
theorem Reads.seq (h1 : Reads p w1 o1) (herr : ∀ q, p q = .error .eof → f q = .error .eof)
    (hok : ∀ r, p (w1 ++ (w2 ++ r)) = .ok (o1 (w2 ++ r)) → f (w1 ++ (w2 ++ r)) = .ok (o2 r))
    (htorn : ∀ q, SPrefix q w2 → p (w1 ++ q) = .ok (o1 q) → f (w1 ++ q) = .error .eof) :
    Reads f (w1 ++ w2) o2 where
  ok r := by rw [List.append_assoc]; exact hok r (h1.ok _)
  torn q hq := by
    rcases sprefix_append hq with h | ⟨q', rfl, h⟩
    · exact herr q (h1.torn q h)
    · exact htorn q' h (h1.ok q')

theorem Reads.map (h1 : Reads p w o1) (herr : ∀ q, p q = .error .eof → f q = .error .eof)
    (hok : ∀ r, p (w ++ r) = .ok (o1 r) → f (w ++ r) = .ok (o2 r)) : Reads f w o2 :=
  ⟨fun r => hok r (h1.ok r), fun q hq => herr q (h1.torn q hq)⟩

theorem Reads.ne_nil (h : Reads p w o1) (h0 : ∃ e, p [] = .error e) : w ≠ [] := by
  rintro rfl
  obtain ⟨e, he⟩ := h0
  have := h.ok []
  rw [List.append_nil, he] at this
  cases this

end

/-- An accepted head is determined by the bytes it occupies. -/
theorem readHdr_reads {b r : Bytes} {maj n : Nat} (h : readHdr b = .ok (maj, n, r)) :
    ∃ w, b = w ++ r ∧ Reads readHdr w (fun r => (maj, n, r)) := by
  cases b with
  | nil => cases h
  | cons x rest =>
    unfold readHdr at h
    dsimp only at h
    by_cases h1 : x % 32 < 24
    · rw [if_pos h1] at h; cases h
      refine ⟨[x], rfl, fun r => by simp [readHdr, h1], fun q hq => ?_⟩
      rcases sprefix_cons hq with rfl | ⟨_, _, h'⟩
      · rfl
      · exact absurd h' SPrefix.not_nil
    rw [if_neg h1] at h
    by_cases h2 : x % 32 = 24
    · rw [if_pos h2] at h
      cases rest with
      | nil => cases h
      | cons y r' =>
        dsimp only at h
        split at h
        · cases h
        · next hy =>
          cases h
          refine ⟨[x, n], rfl, fun r => by simp [readHdr, h2, hy], fun q hq => ?_⟩
          rcases sprefix_cons hq with rfl | ⟨q', rfl, h'⟩
          · rfl
          · rcases sprefix_cons h' with rfl | ⟨_, _, h''⟩
            · simp [readHdr, h2]
            · exact absurd h'' SPrefix.not_nil
    rw [if_neg h2] at h
    iterate 3
      split at h
      · next hl =>
        split at h
        · cases h
        · next v r' hk =>
          split at h
          · cases h
          · next hv =>
            cases h
            obtain ⟨rfl, hlen⟩ := takeN_some hk
            refine ⟨x :: v, rfl, fun r => ?_, fun q hq => ?_⟩
            · simp [readHdr, hl, takeN_append v r hlen, hv]
            · rcases sprefix_cons hq with rfl | ⟨q', rfl, h'⟩
              · rfl
              · simp [readHdr, hl, takeN_none (hlen ▸ h'.length_lt)]
    cases h


theorem readHdr_len {b r : Bytes} {maj n : Nat} (h : readHdr b = .ok (maj, n, r)) : r.length < b.length := by
  obtain ⟨w, rfl, hw⟩ := readHdr_reads h
  have := List.length_pos_iff.mpr (hw.ne_nil ⟨_, rfl⟩)
  rw [List.length_append]; omega

/-- `n` fields of schema `e`: the element loop of a slice is the field sequence of a struct -/
def Schema.rep (e : Schema) : Nat → Schema
  | 0 => .tnil
  | n + 1 => .tcons e (rep e n)

theorem decodeN_eq_rep (e : Schema) : ∀ n b, decodeN (decode e) n b = decode (e.rep n) b := by
  intro n
  induction n with
  | zero => intro b; rfl
  | succ n ih => intro b; simp only [decodeN, Schema.rep, decode, ih]

/-- a slice is its head and then a struct of `n` fields of the element type -/
theorem decode_array (l : Lim) (e : Schema) (b : Bytes) :
    decode (.array l e) b = match readHdr b with
      | .error err => .error err
      | .ok (maj, n, r) =>
        if n > l.dec then .error .overlimit else if maj ≠ 4 then .error .wrongType else decode (e.rep n) r := by
  simp only [decode, decodeN_eq_rep]; rfl

/-- a head of major type `maj` and argument `n`, as the bytes `w` -/
abbrev Hdr (w : Bytes) (maj n : Nat) : Prop := Reads readHdr w (fun r => (maj, n, r))

theorem Hdr.ne_nil {w : Bytes} {maj n : Nat} (h : Hdr w maj n) : w ≠ [] := Reads.ne_nil h ⟨_, rfl⟩

theorem Hdr.pos {w : Bytes} {maj n : Nat} (h : Hdr w maj n) : 0 < w.length :=
  List.length_pos_iff.mpr h.ne_nil

/-- the head `WriteMajorTypeHeader` writes -/
theorem hdr_wire (maj n : Nat) (hm : maj < 8) (hn : n < 2 ^ 64) : Hdr (hdr maj n) maj n := by
  obtain ⟨w, hb, hw⟩ := readHdr_reads (readHdr_hdr maj n hm hn [])
  rw [List.append_nil, List.append_nil] at hb
  exact hb ▸ hw

/-- **The wire forms the decoder accepts.** `Wire s w v`: the decoder of `s` reads the value `v` off exactly
the bytes `w`. -/
inductive Wire : Schema → Bytes → Value → Prop
  | uint {max w n} : Hdr w 0 n → n ≤ max → Wire (.uint max) w (.uint n)
  | intPos {w n} : Hdr w 0 n → n < 2 ^ 63 → Wire .int64 w (.int n)
  | intNeg {w n} : Hdr w 1 n → n < 2 ^ 63 → Wire .int64 w (.int (-1 - (n : Int)))
  | ff {w} : Hdr w 7 20 → Wire .bool w (.bool false)
  | tt {w} : Hdr w 7 21 → Wire .bool w (.bool true)
  | bytes {l w x} : Hdr w 2 x.length → x.length ≤ l.dec → Wire (.bytes l) (w ++ x) (.bytes x)
  | fixed {encN l w x} : Hdr w 2 x.length → x.length ≤ l.dec → Wire (.fixed encN x.length l) (w ++ x) (.bytes x)
  | cid {w w1 c} : Hdr w 6 42 → Hdr w1 2 (c.length + 1) → c.length + 1 ≤ 512 → cidValid c = true →
      Wire .cid (w ++ (w1 ++ 0 :: c)) (.bytes c)
  | bigZero {w} : Hdr w 2 0 → Wire .bigint w (.big 0)
  | bigPos {w m} : Hdr w 2 (m.length + 1) → m.length + 1 ≤ 128 → Wire .bigint (w ++ 0 :: m) (.big (fromBE m))
  | bigNeg {w m} : Hdr w 2 (m.length + 1) → m.length + 1 ≤ 128 → Wire .bigint (w ++ 1 :: m) (.big (-(fromBE m : Int)))
  | bitfield {w x} : Hdr w 2 x.length → x.length ≤ 32768 → (x = [] ∨ x.headD 0 % 4 = 0) → Wire .bitfield (w ++ x) (.bytes x)
  | array {l a d fs w n w' v} : Hdr w 4 n → n ≤ l.dec → Wire ((Schema.tuple a d fs).rep n) w' v →
      Wire (.array l (.tuple a d fs)) (w ++ w') v
  | tuple {encN decN fs w w' v} : Hdr w 4 decN → Wire fs w' v → Wire (.tuple encN decN fs) (w ++ w') v
  | tnil : Wire .tnil [] .nil
  | tcons {s t w1 w2 v1 v2} : Wire s w1 v1 → Wire t w2 v2 → Wire (.tcons s t) (w1 ++ w2) (.cons v1 v2)
  | null {s} : Wire (.nullable s) [246] .null
  | ptr {s x w v} : x ≠ 246 → Wire s (x :: w) v → Wire (.nullable s) (x :: w) v
  | emptyNull {l e} : Wire (.nullAsEmpty (.array l e)) [246] .nil
  | chain {l e x w v} : x ≠ 246 → Wire (.array l e) (x :: w) v → Wire (.nullAsEmpty (.array l e)) (x :: w) v

theorem reads_sing {β : Type} {f : Bytes → Except Err β} {x : Nat} {o : Bytes → β} (h0 : f [] = .error .eof)
    (h : ∀ r, f (x :: r) = .ok (o r)) : Reads f [x] o :=
  ⟨h, fun q hq => by
    rcases sprefix_cons hq with rfl | ⟨_, _, h'⟩
    · exact h0
    · exact absurd h' SPrefix.not_nil⟩

/-- **What is on the wire is what the decoder reads**: followed by anything, the value and what follows;
cut short, end of input. -/
theorem Wire.reads {s : Schema} {w : Bytes} {v : Value} (h : Wire s w v) : Reads (decode s) w (fun r => (v, r)) := by
  induction h with
  | uint hw hn =>
    exact hw.map (fun q e => by simp only [decode, e])
      (fun t e => by simp only [decode, e, Nat.not_lt.mpr hn, ne_eq, not_true_eq_false, if_false])
  | intPos hw hn =>
    exact hw.map (fun q e => by simp only [decode, e])
      (fun t e => by simp only [decode, e, Nat.not_le.mpr hn, if_true, if_false])
  | intNeg hw hn =>
    exact hw.map (fun q e => by simp only [decode, e])
      (fun t e => by simp only [decode, e, Nat.not_le.mpr hn, Nat.one_ne_zero, if_true, if_false])
  | ff hw => exact hw.map (fun q e => by simp only [decode, e]) (fun t e => by simp [decode, e])
  | tt hw => exact hw.map (fun q e => by simp only [decode, e]) (fun t e => by simp [decode, e])
  | bytes hw hn =>
    exact hw.seq (fun q e => by simp only [decode, e])
      (fun t e => by simp only [decode, e, Nat.not_lt.mpr hn, ne_eq, not_true_eq_false, if_false, readBody,
        takeN_append _ t rfl])
      (fun q hq e => by simp only [decode, e, Nat.not_lt.mpr hn, ne_eq, not_true_eq_false, if_false, readBody,
        takeN_none hq.length_lt])
  | fixed hw hn =>
    exact hw.seq (fun q e => by simp only [decode, e])
      (fun t e => by simp only [decode, e, Nat.not_lt.mpr hn, ne_eq, not_true_eq_false, if_false, readBody,
        takeN_append _ t rfl])
      (fun q hq e => by simp only [decode, e, Nat.not_lt.mpr hn, ne_eq, not_true_eq_false, if_false, readBody,
        takeN_none hq.length_lt])
  | @cid w w1 c hw hw1 hn hv =>
    refine hw.seq (fun q e => by simp only [decode, e]) (fun t e => ?_) (fun q hq e => ?_)
    · have ht : takeN (c.length + 1) (0 :: (c ++ t)) = some (0 :: c, t) := takeN_append (0 :: c) t rfl
      simp only [List.append_assoc, List.cons_append] at e ⊢
      simp only [decode, e, hw1.ok, Nat.not_lt.mpr hn, ne_eq, not_true_eq_false, if_false, ht, hv, if_true]
    · rcases sprefix_append hq with h1 | ⟨q', rfl, h2⟩
      · simp only [decode, e, hw1.torn q h1, ne_eq, not_true_eq_false, if_false]
      · simp only [decode, e, hw1.ok, Nat.not_lt.mpr hn, ne_eq, not_true_eq_false, if_false,
          takeN_none (show q'.length < c.length + 1 from h2.length_lt)]
  | bigZero hw =>
    exact hw.map (fun q e => by simp only [decode, e])
      (fun t e => by simp only [decode, e, ne_eq, not_true_eq_false, if_false, if_true])
  | @bigPos w m hw hn =>
    have ht : ∀ t, takeN (m.length + 1) (0 :: m ++ t) = some (0 :: m, t) := fun t => takeN_append (0 :: m) t rfl
    exact hw.seq (fun q e => by simp only [decode, e])
      (fun t e => by simp only [decode, e, Nat.succ_ne_zero, Nat.not_lt.mpr hn, ne_eq, not_true_eq_false, if_false, ht])
      (fun q hq e => by simp only [decode, e, Nat.succ_ne_zero, Nat.not_lt.mpr hn, ne_eq, not_true_eq_false,
        if_false, takeN_none (show q.length < m.length + 1 from hq.length_lt)])
  | @bigNeg w m hw hn =>
    have ht : ∀ t, takeN (m.length + 1) (1 :: m ++ t) = some (1 :: m, t) := fun t => takeN_append (1 :: m) t rfl
    exact hw.seq (fun q e => by simp only [decode, e])
      (fun t e => by simp only [decode, e, Nat.succ_ne_zero, Nat.not_lt.mpr hn, ne_eq, not_true_eq_false, if_false, ht])
      (fun q hq e => by simp only [decode, e, Nat.succ_ne_zero, Nat.not_lt.mpr hn, ne_eq, not_true_eq_false,
        if_false, takeN_none (show q.length < m.length + 1 from hq.length_lt)])
  | bitfield hw hn hv =>
    exact hw.seq (fun q e => by simp only [decode, e])
      (fun t e => by simp only [decode, e, Nat.not_lt.mpr hn, ne_eq, not_true_eq_false, if_false,
        takeN_append _ t rfl, hv, if_true])
      (fun q hq e => by simp only [decode, e, Nat.not_lt.mpr hn, ne_eq, not_true_eq_false, if_false,
        takeN_none hq.length_lt])
  | array hw hn _ ih =>
    exact hw.seq (fun q e => by simp only [decode_array, e])
      (fun t e => by simp only [decode_array, e, Nat.not_lt.mpr hn, ne_eq, not_true_eq_false, if_false, ih.ok])
      (fun q hq e => by simp only [decode_array, e, Nat.not_lt.mpr hn, ne_eq, not_true_eq_false, if_false,
        ih.torn q hq])
  | tuple hw _ ih =>
    exact hw.seq (fun q e => by simp only [decode, e])
      (fun t e => by simp only [decode, e, ne_eq, not_true_eq_false, if_false, ih.ok])
      (fun q hq e => by simp only [decode, e, ne_eq, not_true_eq_false, if_false, ih.torn q hq])
  | tnil => exact ⟨fun _ => rfl, fun _ hq => absurd hq SPrefix.not_nil⟩
  | tcons _ _ ih1 ih2 =>
    exact ih1.seq (fun q e => by simp only [decode, e]) (fun t e => by simp only [decode, e, ih2.ok])
      (fun q hq e => by simp only [decode, e, ih2.torn q hq])
  | null => exact reads_sing rfl fun _ => rfl
  | ptr hx _ ih =>
    refine ⟨fun t => by rw [List.cons_append, decode_nullable_cons hx]; exact ih.ok t, fun q hq => ?_⟩
    rcases sprefix_cons hq with rfl | ⟨q', rfl, _⟩
    · rfl
    · rw [decode_nullable_cons hx]; exact ih.torn _ hq
  | emptyNull => exact reads_sing rfl fun _ => rfl
  | chain hx _ ih =>
    refine ⟨fun t => by rw [List.cons_append, decode_nullAsEmpty_cons hx]; exact ih.ok t, fun q hq => ?_⟩
    rcases sprefix_cons hq with rfl | ⟨q', rfl, _⟩
    · rfl
    · rw [decode_nullAsEmpty_cons hx]; exact ih.torn _ hq

/-! ### the decoder accepts exactly the wire forms -/

theorem wire_rep {e : Schema} (h : ∀ b v r, decode e b = .ok (v, r) → ∃ w, b = w ++ r ∧ Wire e w v) :
    ∀ n b v r, decode (e.rep n) b = .ok (v, r) → ∃ w, b = w ++ r ∧ Wire (e.rep n) w v := by
  intro n
  induction n with
  | zero => intro b v r hd; obtain ⟨rfl, rfl⟩ := decode_tnil_ok hd; exact ⟨[], rfl, .tnil⟩
  | succ n ih =>
    intro b v r hd
    obtain ⟨v1, r1, v2, h1, h2, rfl⟩ := decode_tcons_ok hd
    obtain ⟨w1, rfl, hw1⟩ := h b v1 r1 h1
    obtain ⟨w2, rfl, hw2⟩ := ih r1 v2 r h2
    exact ⟨w1 ++ w2, (List.append_assoc ..).symm, .tcons hw1 hw2⟩

theorem decode_wire : ∀ (s : Schema), s.wf = true → ∀ (b : Bytes) (v : Value) (r : Bytes),
    decode s b = .ok (v, r) → ∃ w, b = w ++ r ∧ Wire s w v := by
  intro s
  induction s with
  | uint max =>
    intro _ b v r h
    rw [decode] at h
    split at h
    · cases h
    · next maj n r0 hr =>
      obtain ⟨rfl, h1⟩ := ite_ne_error_ok h
      obtain ⟨hn, h2⟩ := ite_error_ok h1
      cases h2
      obtain ⟨w, rfl, hw⟩ := readHdr_reads hr
      exact ⟨w, rfl, .uint hw (Nat.not_lt.mp hn)⟩
  | int64 =>
    intro _ b v r h
    rw [decode] at h
    split at h
    · cases h
    · next maj n r0 hr =>
      obtain ⟨w, rfl, hw⟩ := readHdr_reads hr
      split at h
      · next h0 =>
        obtain ⟨hn, h1⟩ := ite_error_ok h
        cases h1; subst h0
        exact ⟨w, rfl, .intPos hw (Nat.not_le.mp hn)⟩
      · split at h
        · next hm =>
          obtain ⟨hn, h1⟩ := ite_error_ok h
          cases h1; subst hm
          exact ⟨w, rfl, .intNeg hw (Nat.not_le.mp hn)⟩
        · cases h
  | bool =>
    intro _ b v r h
    rw [decode] at h
    split at h
    · cases h
    · next maj n r0 hr =>
      obtain ⟨w, rfl, hw⟩ := readHdr_reads hr
      obtain ⟨rfl, h1⟩ := ite_ne_error_ok h
      split at h1
      · next h20 => cases h1; subst h20; exact ⟨w, rfl, .ff hw⟩
      · split at h1
        · next h21 => cases h1; subst h21; exact ⟨w, rfl, .tt hw⟩
        · cases h1
  | bytes l =>
    intro _ b v r h
    rw [decode] at h
    split at h
    · cases h
    · next maj n r0 hr =>
      obtain ⟨hn, h1⟩ := ite_error_ok h
      obtain ⟨rfl, h2⟩ := ite_ne_error_ok h1
      obtain ⟨x, hx, rfl⟩ := readBody_ok h2
      obtain ⟨w, rfl, hw⟩ := readHdr_reads hr
      obtain ⟨rfl, rfl⟩ := takeN_some hx
      exact ⟨w ++ x, (List.append_assoc ..).symm, .bytes hw (Nat.not_lt.mp hn)⟩
  | fixed encN decN l =>
    intro _ b v r h
    rw [decode] at h
    split at h
    · cases h
    · next maj n r0 hr =>
      obtain ⟨hn, h1⟩ := ite_error_ok h
      obtain ⟨rfl, h2⟩ := ite_ne_error_ok h1
      obtain ⟨rfl, h3⟩ := ite_ne_error_ok h2
      obtain ⟨x, hx, rfl⟩ := readBody_ok h3
      obtain ⟨w, rfl, hw⟩ := readHdr_reads hr
      obtain ⟨rfl, rfl⟩ := takeN_some hx
      exact ⟨w ++ x, (List.append_assoc ..).symm, .fixed hw (Nat.not_lt.mp hn)⟩
  | cid =>
    intro _ b v r h
    rw [decode] at h
    split at h
    · cases h
    · next maj n r0 hr =>
      obtain ⟨rfl, h1⟩ := ite_ne_error_ok h
      obtain ⟨rfl, h2⟩ := ite_ne_error_ok h1
      split at h2
      · cases h2
      · next maj2 n2 r1 hr2 =>
        obtain ⟨rfl, h3⟩ := ite_ne_error_ok h2
        obtain ⟨hn, h4⟩ := ite_error_ok h3
        split at h4
        · cases h4
        · next buf r3 ht =>
          split at h4
          · next c =>
            split at h4
            · next hv =>
              cases h4
              obtain ⟨w, rfl, hw⟩ := readHdr_reads hr
              obtain ⟨w1, rfl, hw1⟩ := readHdr_reads hr2
              obtain ⟨rfl, rfl⟩ := takeN_some ht
              exact ⟨w ++ (w1 ++ 0 :: c), by simp only [List.append_assoc], .cid hw hw1 (Nat.not_lt.mp hn) hv⟩
            · cases h4
          · cases h4
  | bigint =>
    intro _ b v r h
    rw [decode] at h
    split at h
    · cases h
    · next maj n r0 hr =>
      obtain ⟨w, rfl, hw⟩ := readHdr_reads hr
      obtain ⟨rfl, h1⟩ := ite_ne_error_ok h
      split at h1
      · next h0 => cases h1; subst h0; exact ⟨w, rfl, .bigZero hw⟩
      · obtain ⟨hn, h2⟩ := ite_error_ok h1
        split at h2
        · cases h2
        · next x r' hx =>
          split at h2
          · next m =>
            cases h2; obtain ⟨rfl, rfl⟩ := takeN_some hx
            exact ⟨w ++ 0 :: m, (List.append_assoc ..).symm, .bigPos hw (Nat.not_lt.mp hn)⟩
          · next m =>
            cases h2; obtain ⟨rfl, rfl⟩ := takeN_some hx
            exact ⟨w ++ 1 :: m, (List.append_assoc ..).symm, .bigNeg hw (Nat.not_lt.mp hn)⟩
          · cases h2
  | bitfield =>
    intro _ b v r h
    rw [decode] at h
    split at h
    · cases h
    · next maj n r0 hr =>
      obtain ⟨hn, h1⟩ := ite_error_ok h
      obtain ⟨rfl, h2⟩ := ite_ne_error_ok h1
      split at h2
      · cases h2
      · next x r' hx =>
        split at h2
        · next hv =>
          cases h2
          obtain ⟨w, rfl, hw⟩ := readHdr_reads hr
          obtain ⟨rfl, rfl⟩ := takeN_some hx
          exact ⟨w ++ x, (List.append_assoc ..).symm, .bitfield hw (Nat.not_lt.mp hn) hv⟩
        · cases h2
  | array l e ih =>
    intro hwf b v r h
    obtain ⟨_, hwe, a, d, fs, rfl⟩ := Schema.wf_array hwf
    rw [decode_array] at h
    split at h
    · cases h
    · next maj n r0 hr =>
      obtain ⟨hn, h1⟩ := ite_error_ok h
      obtain ⟨rfl, h2⟩ := ite_ne_error_ok h1
      obtain ⟨w, rfl, hw⟩ := readHdr_reads hr
      obtain ⟨w', rfl, hw'⟩ := wire_rep (ih hwe) n _ v r h2
      exact ⟨w ++ w', (List.append_assoc ..).symm, .array hw (Nat.not_lt.mp hn) hw'⟩
  | tuple encN decN fs ih =>
    intro hwf b v r h
    rw [decode] at h
    split at h
    · cases h
    · next maj n r0 hr =>
      obtain ⟨rfl, h1⟩ := ite_ne_error_ok h
      obtain ⟨rfl, h2⟩ := ite_ne_error_ok h1
      obtain ⟨w, rfl, hw⟩ := readHdr_reads hr
      obtain ⟨w', rfl, hw'⟩ := ih (Schema.wf_tuple hwf).2.2 _ v r h2
      exact ⟨w ++ w', (List.append_assoc ..).symm, .tuple hw hw'⟩
  | tnil =>
    intro _ b v r h
    cases h; exact ⟨[], rfl, .tnil⟩
  | tcons x y ihx ihy =>
    intro hwf b v r h
    obtain ⟨v1, r1, v2, h1, h2, rfl⟩ := decode_tcons_ok h
    obtain ⟨w1, rfl, hw1⟩ := ihx (Schema.wf_tcons hwf).1 b v1 r1 h1
    obtain ⟨w2, rfl, hw2⟩ := ihy (Schema.wf_tcons hwf).2 r1 v2 r h2
    exact ⟨w1 ++ w2, (List.append_assoc ..).symm, .tcons hw1 hw2⟩
  | nullable s ih =>
    intro hwf b v r h
    obtain ⟨hws, a, d, fs, rfl⟩ := Schema.wf_nullable hwf
    cases b with
    | nil => cases h
    | cons x r0 =>
      rw [decode] at h
      split at h
      · next hx => cases h; subst hx; exact ⟨[246], rfl, .null⟩
      · next hx =>
        obtain ⟨w, hb, hw⟩ := ih hws _ v r h
        cases w with
        | nil => exact absurd rfl (hw.reads.ne_nil ⟨.eof, by simp [decode, readHdr]⟩)
        | cons y w' => obtain ⟨rfl, _⟩ := List.cons.inj hb; exact ⟨x :: w', hb, .ptr hx hw⟩
  | nullAsEmpty s ih =>
    intro hwf b v r h
    obtain ⟨hws, l, e, rfl⟩ := Schema.wf_nullAsEmpty hwf
    cases b with
    | nil => cases h
    | cons x r0 =>
      rw [decode] at h
      split at h
      · next hx => cases h; subst hx; exact ⟨[246], rfl, .emptyNull⟩
      · next hx =>
        obtain ⟨w, hb, hw⟩ := ih hws _ v r h
        cases w with
        | nil => exact absurd rfl (hw.reads.ne_nil ⟨.eof, by simp [decode, readHdr]⟩)
        | cons y w' => obtain ⟨rfl, _⟩ := List.cons.inj hb; exact ⟨x :: w', hb, .chain hx hw⟩


/-- the one characterisation of the accepting runs -/
theorem decode_ok_iff (s : Schema) (hwf : s.wf = true) (b : Bytes) (v : Value) (r : Bytes) :
    decode s b = .ok (v, r) ↔ ∃ w, b = w ++ r ∧ Wire s w v :=
  ⟨decode_wire s hwf b v r, fun ⟨_, hb, hw⟩ => hb ▸ hw.reads.ok r⟩

/-! ### the encoder writes wire forms -/

theorem encode_wire : ∀ (s : Schema), s.wf = true → ∀ (v : Value) (b : Bytes), encode s v = some b → Wire s b v := by
  intro s
  induction s with
  | uint max =>
    intro hwf v b he
    have hmax : max < 2 ^ 64 := of_decide_eq_true hwf
    cases v with
    | uint n =>
      rw [encode] at he
      obtain ⟨hle, rfl⟩ := ite_none_some he
      exact .uint (hdr_wire 0 n (by omega) (by omega)) hle
    | _ => cases he
  | int64 =>
    intro _ v b he
    cases v with
    | int i =>
      rw [encode] at he
      split at he
      · next hi =>
        cases he
        have := Wire.intPos (hdr_wire 0 i.toNat (by omega) (by omega)) (by omega)
        rwa [Int.toNat_of_nonneg hi.1] at this
      · obtain ⟨hi, rfl⟩ := ite_none_some he
        have := Wire.intNeg (hdr_wire 1 (-i - 1).toNat (by omega) (by omega)) (by omega)
        rwa [show -1 - ((-i - 1).toNat : Int) = i by omega] at this
    | _ => cases he
  | bool =>
    intro _ v b he
    cases v with
    | bool x =>
      cases he
      cases x
      · exact .ff (hdr_wire 7 20 (by omega) (by omega))
      · exact .tt (hdr_wire 7 21 (by omega) (by omega))
    | _ => cases he
  | bytes l =>
    intro hwf v b he
    obtain ⟨_, hed, h64⟩ := (Lim.ok_iff l).mp hwf
    cases v with
    | bytes x =>
      rw [encode] at he
      obtain ⟨hle, rfl⟩ := ite_none_some he
      exact .bytes (hdr_wire 2 _ (by omega) (by omega)) (hed ▸ hle)
    | _ => cases he
  | fixed encN decN l =>
    intro hwf v b he
    obtain ⟨rfl, hl, hle⟩ := Schema.wf_fixed hwf
    obtain ⟨_, hed, h64⟩ := (Lim.ok_iff l).mp hl
    cases v with
    | bytes x =>
      rw [encode] at he
      obtain ⟨⟨rfl, _⟩, rfl⟩ := ite_none_some he
      exact .fixed (hdr_wire 2 _ (by omega) (by omega)) (hed ▸ hle)
    | _ => cases he
  | cid =>
    intro _ v b he
    cases v with
    | bytes c =>
      rw [encode] at he
      obtain ⟨⟨hv, hlen⟩, rfl⟩ := ite_none_some he
      exact .cid (hdr_wire 6 42 (by omega) (by omega)) (hdr_wire 2 _ (by omega) (by omega)) (by omega) hv
    | _ => cases he
  | bigint =>
    intro _ v b he
    cases v with
    | big i =>
      rw [encode] at he
      obtain ⟨hle, rfl⟩ := ite_none_some he
      by_cases h0 : i = 0
      · subst h0; exact .bigZero (hdr_wire 2 0 (by omega) (by omega))
      · -- a non-zero integer is written as its sign byte and its minimal big-endian magnitude
        have hb : bigBytes i = (if i < 0 then 1 else 0) :: magBytes i.natAbs := if_neg h0
        rw [hb] at hle ⊢
        have hle' : (magBytes i.natAbs).length + 1 ≤ 128 := hle
        by_cases hneg : i < 0
        · have := Wire.bigNeg (hdr_wire 2 _ (by omega) (by omega)) hle' (m := magBytes i.natAbs)
          rw [fromBE_magBytes, Int.ofNat_natAbs_of_nonpos (Int.le_of_lt hneg), Int.neg_neg] at this
          simpa only [hneg, if_true, List.length_cons] using this
        · have := Wire.bigPos (hdr_wire 2 _ (by omega) (by omega)) hle' (m := magBytes i.natAbs)
          rw [fromBE_magBytes, Int.natAbs_of_nonneg (Int.not_lt.mp hneg)] at this
          simpa only [hneg, if_false, List.length_cons] using this
    | _ => cases he
  | bitfield =>
    intro _ v b he
    cases v with
    | bytes x =>
      rw [encode] at he
      obtain ⟨⟨hle, hv⟩, rfl⟩ := ite_none_some he
      exact .bitfield (hdr_wire 2 _ (by omega) (by omega)) hle hv
    | _ => cases he
  | array l e ih =>
    intro hwf v b he
    obtain ⟨hok, hwe, a, d, fs, rfl⟩ := Schema.wf_array hwf
    obtain ⟨_, hed, h64⟩ := (Lim.ok_iff l).mp hok
    obtain ⟨n, bs, hl, hle, rfl⟩ := encode_array_some he
    exact .array (hdr_wire 4 n (by omega) (by omega)) (hed ▸ hle)
      (encodeList_induction (P := fun vs n bs => Wire ((Schema.tuple a d fs).rep n) bs vs) .tnil
        (fun v _ b _ _ hv _ ihs => .tcons (ih hwe v b hv) ihs) v n bs hl)
  | tuple encN decN fs ih =>
    intro hwf v b he
    obtain ⟨rfl, h64, hwfs⟩ := Schema.wf_tuple hwf
    obtain ⟨bs, hf, rfl⟩ := encode_tuple_some he
    exact .tuple (hdr_wire 4 encN (by omega) h64) (ih hwfs v bs hf)
  | tnil =>
    intro _ v b he
    cases v with
    | nil => cases he; exact .tnil
    | _ => cases he
  | tcons h t ihh iht =>
    intro hwf v b he
    cases v with
    | cons v1 v2 =>
      rw [encode] at he
      split at he
      · next a c h1 h2 =>
        cases he
        exact .tcons (ihh (Schema.wf_tcons hwf).1 v1 a h1) (iht (Schema.wf_tcons hwf).2 v2 c h2)
      · cases he
    | _ => cases he
  | nullable s ih =>
    intro hwf v b he
    obtain ⟨hws, encN, decN, fs, rfl⟩ := Schema.wf_nullable hwf
    have some : ∀ {v}, encode (.tuple encN decN fs) v = some b → Wire (.nullable (.tuple encN decN fs)) b v := fun he' => by
      obtain ⟨x, t, rfl, hx⟩ := encode_tuple_head he'
      exact .ptr hx (ih hws _ _ he')
    cases v with
    | null => cases he; exact .null
    | _ => exact some he
  | nullAsEmpty s ih =>
    intro hwf v b he
    obtain ⟨hws, l, e, rfl⟩ := Schema.wf_nullAsEmpty hwf
    rw [encode] at he
    obtain ⟨x, t, rfl, hx⟩ := encode_array_head he
    exact .chain hx (ih hws v _ he)

/-! ### round trip, prefix-freeness, limits -/

theorem decode_encode : ∀ (s : Schema), s.wf = true → ∀ (v : Value) (b rest : Bytes),
    encode s v = some b → decode s (b ++ rest) = .ok (v, rest) :=
  fun s hwf v b rest he => (encode_wire s hwf v b he).reads.ok rest

/-- Encodings are prefix-free: no encoding of one value is a proper prefix of an encoding of another. -/
theorem encode_prefix_free (s : Schema) (hwf : s.wf = true) (v1 v2 : Value) (b1 b2 t : Bytes)
    (h1 : encode s v1 = some b1) (h2 : encode s v2 = some b2) (hp : b2 = b1 ++ t) : v1 = v2 ∧ t = [] := by
  have d1 := decode_encode s hwf v1 b1 t h1
  have d2 := decode_encode s hwf v2 b2 [] h2
  rw [List.append_nil, hp, d1] at d2
  cases d2
  exact ⟨rfl, rfl⟩

theorem Zstd.decode_encode (z : Zstd) (hz : ∀ x, x.length ≤ z.cap → z.decompress (z.compress x) = some x)
    (s : Schema) (hwf : s.wf = true) (v : Value) (c : Bytes) (h : z.encode s v = some c) :
    z.decode s c = .ok (v, []) := by
  obtain ⟨b, he, hc, rfl⟩ := Zstd.encode_within_cap z s v _ h
  unfold Zstd.decode
  rw [hz b hc]
  simpa using F3.Cbor.decode_encode s hwf v b [] he

theorem within_nullable {s : Schema} {v : Value} (h : Value.within s v = true) :
    Value.within (.nullable s) v = true := by
  cases v <;> first | rfl | exact h

theorem within_rep (e : Schema) : ∀ (n : Nat) (vs : Value), Value.within (e.rep n) vs = true →
    vs.all (Value.within e) = true ∧ vs.len = n := by
  intro n
  induction n with
  | zero => intro vs h; cases vs <;> first | exact ⟨rfl, rfl⟩ | cases h
  | succ n ih =>
    intro vs h
    cases vs with
    | cons v vs =>
      simp only [Schema.rep, Value.within, Bool.and_eq_true] at h
      obtain ⟨h1, h2⟩ := ih vs h.2
      exact ⟨by rw [Value.all, h.1, h1]; rfl, by rw [Value.len, h2]⟩
    | _ => cases h

/-- every length of a wire form's value is within the limit the decoder enforces -/
theorem Wire.within {s : Schema} {w : Bytes} {v : Value} (h : Wire s w v) : Value.within s v = true := by
  induction h with
  | uint _ hn => exact decide_eq_true hn
  | intPos _ hn => exact decide_eq_true (by omega)
  | intNeg _ hn => exact decide_eq_true (by omega)
  | ff _ | tt _ | bigZero _ | bigPos _ _ | bigNeg _ _ | tnil | null | emptyNull => rfl
  | bytes _ hn => exact decide_eq_true hn
  | fixed _ hn => exact decide_eq_true ⟨rfl, hn⟩
  | cid _ _ hn hv => rw [Value.within, hv, Bool.and_true]; exact decide_eq_true (by omega)
  | bitfield _ hn _ => exact decide_eq_true hn
  | array _ hn _ ih =>
    obtain ⟨ha, hl⟩ := within_rep _ _ _ ih
    rw [Value.within, ha, Bool.and_true]; exact decide_eq_true (hl ▸ hn)
  | tuple _ _ ih => exact ih
  | tcons _ _ ih1 ih2 => rw [Value.within, ih1, ih2]; rfl
  | ptr _ _ ih => exact within_nullable ih
  | chain _ _ ih => exact ih

/-- The decoder only returns values whose every length is within the limit it enforces: an input with
an oversized length anywhere inside — however deeply nested — is never accepted. -/
theorem decode_ok_within (s : Schema) (hwf : s.wf = true) (b : Bytes) (v : Value) (rest : Bytes)
    (h : decode s b = .ok (v, rest)) : Value.within s v = true := by
  obtain ⟨w, _, hw⟩ := decode_wire s hwf b v rest h
  exact hw.within

end F3.Cbor
