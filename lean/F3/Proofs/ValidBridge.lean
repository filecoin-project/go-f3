import F3.Proofs.Bridge
import F3.Spec.ValidMsg
/-!
# What validation accepts is what the consensus proofs assume

`F3.Spec.ValidMsg.validMsg` (C05: the declarative validity predicate the validator model is proved sound and
complete for) implies `F3.Instance.MsgValid` (the hypothesis of Layer B about every delivered message), under
the symbolic-signature reading: the tokens occurring in a message were produced by the owners of the keys.
-/
namespace F3.ValidBridge
open F3.Msg F3.Spec.ValidMsg

/-- phases as the instance model names them -/
def absPhase : Nat → Instance.Phase
  | 0 => .initial | 1 => .quality | 2 => .converge | 3 => .prepare | 4 => .commit | 5 => .decide | _ => .terminated

/-- a chain is abstracted to the identities of its tipsets (`Tip.id` is the interned identity) -/
def absChain (c : Msg.Chain) : Instance.Chain := c.map (·.id)

def absJust (j : Msg.Just) : Instance.Just :=
  { round := j.vote.round, phase := absPhase j.vote.phase, value := absChain j.vote.value, signers := j.signers }

def absMsg (m : Msg.Msg) : Instance.Msg :=
  { sender := m.sender, round := m.vote.round, phase := absPhase m.vote.phase, value := absChain m.vote.value,
    just := m.just.map absJust }

def tableOf (c : Committee) : Instance.Table := { entries := c.entries.map (fun e => (e.id, e.power)) }

/-- the votes in existence for instance `inst` with supplemental data `supp` on network `net`, given which
keys signed which bytes -/
def Wsig (Signed : Nat → SigMsg → Prop) (net inst supp : Nat) (c : Committee) : Instance.Votes :=
  fun x r ph v => ∃ e ∈ c.entries, e.id = x ∧ ∃ (phn : Nat) (v' : Msg.Chain), absPhase phn = ph ∧ absChain v' = v ∧
    Signed e.pub (SigMsg.vote net inst r phn supp (keyOf v'))

theorem absChain_ne {c : Msg.Chain} (h : c ≠ []) : absChain c ≠ [] := by
  cases c with
  | nil => exact absurd rfl h
  | cons a l => simp [absChain]

theorem absChain_nil {c : Msg.Chain} (h : c = []) : absChain c = [] := by rw [h]; rfl

theorem ids_tableOf (c : Committee) : Bridge.ids (tableOf c) = c.entries.map (·.id) := by
  unfold Bridge.ids tableOf
  simp [List.map_map, Function.comp_def]

theorem powerAt_tableOf (c : Committee) (i : Nat) : (tableOf c).powerAt i = powerAt c i := by
  unfold Instance.Table.powerAt tableOf powerAt
  simp only [List.getElem?_map]
  cases c.entries[i]? <;> rfl

theorem sumNat_eq_foldl (l : List Nat) : sumNat l = l.foldl (· + ·) 0 := by
  induction l with
  | nil => rfl
  | cons x xs ih =>
    rw [List.foldl_cons, Instance.foldl_add_init, sumNat, ih]; omega

theorem total_tableOf (c : Committee) : (tableOf c).total = c.total := by
  unfold Instance.Table.total tableOf Committee.total
  rw [sumNat_eq_foldl]
  simp [List.map_map, Function.comp_def]

theorem sumPow_tableOf (c : Committee) (sg : List Nat) :
    Instance.sumPow (tableOf c) sg = sumNat (sg.map (powerAt c)) := by
  unfold Instance.sumPow
  rw [sumNat_eq_foldl]
  congr 1
  apply List.map_congr_left
  intro i _
  exact powerAt_tableOf c i

theorem power_tableOf {c : Committee} (hu : (c.entries.map (·.id)).Nodup) {e : Entry} (he : e ∈ c.entries) :
    (tableOf c).power e.id = e.power := by
  obtain ⟨i, hi, hget⟩ := List.getElem_of_mem he
  have hi' : i < (tableOf c).entries.length := by simpa [tableOf] using hi
  have hnd : (Bridge.ids (tableOf c)).Nodup := by rw [ids_tableOf]; exact hu
  have hid : Bridge.idAt (tableOf c) i = e.id := by
    unfold Bridge.idAt tableOf
    simp [List.getElem?_eq_getElem hi, hget]
  rw [← hid, Bridge.power_idAt _ hnd i hi', powerAt_tableOf]
  unfold powerAt
  simp [List.getElem?_eq_getElem hi, hget]

/-- a verifying strong-quorum certificate, read symbolically, is list-level quorum evidence -/
theorem quorumCert_justOk (Signed : Nat → SigMsg → Prop) (net inst supp : Nat) (c : Committee)
    (hu : (c.entries.map (·.id)).Nodup) (j : Msg.Just) (hq : quorumCert net c j)
    (hi : j.vote.inst = inst) (hs : j.vote.supp = supp)
    (hagg : ∀ sg x, j.agg = Agg.tok sg x → ∀ p ∈ sg, Signed p.2 x) :
    Instance.JustOk (Wsig Signed net inst supp c) (tableOf c) (absJust j) := by
  obtain ⟨⟨hinc, hmem, hstrong⟩, hag⟩ := hq
  have hnd : (Bridge.ids (tableOf c)).Nodup := by rw [ids_tableOf]; exact hu
  refine ⟨hinc, ?_, ?_, ?_⟩
  · intro i hi'
    have := hmem i hi'
    exact ⟨by simpa [tableOf] using this.1, by rw [powerAt_tableOf]; exact this.2⟩
  · show Instance.strongQ (tableOf c) (Instance.sumPow (tableOf c) j.signers) = true
    unfold Instance.strongQ
    rw [sumPow_tableOf, total_tableOf]
    exact hstrong
  · intro i hi'
    have hlt := (hmem i hi').1
    have hlt' : i < (tableOf c).entries.length := by simpa [tableOf] using hlt
    refine ⟨Bridge.idAt (tableOf c) i, Bridge.idAt_index _ hnd i hlt', ?_⟩
    refine ⟨c.entries[i], List.getElem_mem hlt, ?_, j.vote.phase, j.vote.value, rfl, rfl, ?_⟩
    · unfold Bridge.idAt tableOf
      simp [List.getElem?_eq_getElem hlt]
    · have := hagg _ _ hag (i, pubAt c i) (List.mem_map.2 ⟨i, hi', rfl⟩)
      have hpub : pubAt c i = c.entries[i].pub := by
        unfold pubAt; simp [List.getElem?_eq_getElem hlt]
      rw [hpub, hi, hs] at this
      exact this

/-- **Validation delivers the hypothesis of the consensus proofs.** -/
theorem validMsg_MsgValid (Signed : Nat → SigMsg → Prop) (net : Nat) (c : Committee)
    (hu : (c.entries.map (·.id)).Nodup) (m : Msg.Msg) (hv : validMsg net c m)
    (hsig : ∀ pub x, m.sig = Sig.tok pub x → Signed pub x)
    (hagg : ∀ j, m.just = some j → ∀ sg x, j.agg = Agg.tok sg x → ∀ p ∈ sg, Signed p.2 x) :
    Instance.MsgValid (Wsig Signed net m.vote.inst m.vote.supp c) (tableOf c) (absMsg m) := by
  obtain ⟨⟨e, he, hid, hpos, hsg, _⟩, _, hstep, hjn, hjnn⟩ := hv
  refine ⟨⟨e, he, hid, m.vote.phase, m.vote.value, rfl, rfl, hsig _ _ hsg⟩, ?_, ?_⟩
  · show 0 < (tableOf c).power m.sender
    rw [← hid, power_tableOf hu he]; exact hpos
  · -- a needed justification, read symbolically: it verifies, and stands in the relation `justifies` to the vote
    have hjust : needsJustification m.vote → ∃ j, (absMsg m).just = some (absJust j) ∧
        Instance.JustOk (Wsig Signed net m.vote.inst m.vote.supp c) (tableOf c) (absJust j) ∧ justifies m.vote j.vote := by
      intro hn
      obtain ⟨j, hmj, hi, hs, _, hjs, hq⟩ := hjn hn
      exact ⟨j, by show m.just.map absJust = _; rw [hmj]; rfl,
        quorumCert_justOk Signed net _ _ c hu j hq hi hs (hagg j hmj), hjs⟩
    have hconv : (m.vote.phase = CONVERGE ∨ m.vote.phase = PREPARE) → needsJustification m.vote →
        ∃ j', (absMsg m).just = some j' ∧
          Instance.ConvJust (Wsig Signed net m.vote.inst m.vote.supp c) (tableOf c) (absMsg m).round (absMsg m).value j' := by
      intro hph hn
      obtain ⟨j, hmj, hok, hjs⟩ := hjust hn
      refine ⟨absJust j, hmj, hok, ?_⟩
      rcases hjs with ⟨_, hr', hc⟩ | ⟨h', _⟩ | ⟨h', _⟩
      · exact ⟨hr', hc.imp
          (fun ⟨h1, h2⟩ => ⟨by show absPhase j.vote.phase = _; rw [h1]; rfl, by show absChain _ = absChain _; rw [h2]⟩)
          (fun ⟨h1, h2⟩ => ⟨by show absPhase j.vote.phase = _; rw [h1]; rfl, absChain_nil h2⟩)⟩
      · rcases hph with h | h <;> exact absurd (h.symm.trans h') (by decide)
      · rcases hph with h | h <;> exact absurd (h.symm.trans h') (by decide)
    show match (absMsg m).phase with
      | .quality => _ | .converge => _ | .prepare => _ | .commit => _ | .decide => _ | _ => False
    unfold stepOK at hstep
    unfold needsJustification at hjust hconv hjnn
    rcases hstep with ⟨hp, hr, hne⟩ | ⟨hp, hr, hne⟩ | hp | hp | ⟨hp, hr, hne⟩
    · have : (absMsg m).phase = .quality := by show absPhase m.vote.phase = _; rw [hp]; rfl
      rw [this]
      exact ⟨hr, absChain_ne hne⟩
    · have : (absMsg m).phase = .converge := by show absPhase m.vote.phase = _; rw [hp]; rfl
      rw [this]
      exact ⟨hr, absChain_ne hne, hconv (Or.inl hp) (by rw [hp]; simp [QUALITY, CONVERGE, PREPARE, COMMIT])⟩
    · have : (absMsg m).phase = .prepare := by show absPhase m.vote.phase = _; rw [hp]; rfl
      rw [this]
      constructor
      · intro hr0
        have hr0' : m.vote.round = 0 := hr0
        have := hjnn (by intro hn; exact hn (Or.inr (Or.inl ⟨hp, hr0'⟩)))
        show m.just.map absJust = none
        rw [this]; rfl
      · intro hrp
        have hrp' : 0 < m.vote.round := hrp
        exact hconv (Or.inr hp) (by rw [hp]; simp only [QUALITY, PREPARE, COMMIT]; omega)
    · have : (absMsg m).phase = .commit := by show absPhase m.vote.phase = _; rw [hp]; rfl
      rw [this]
      constructor
      · intro hv0
        have hv0' : m.vote.value = [] := by
          have : absChain m.vote.value = [] := hv0
          cases hc : m.vote.value with
          | nil => rfl
          | cons a l => rw [hc] at this; simp [absChain] at this
        have := hjnn (by intro hn; exact hn (Or.inr (Or.inr ⟨hp, hv0'⟩)))
        show m.just.map absJust = none
        rw [this]; rfl
      · intro hvne
        have hvne' : m.vote.value ≠ [] := fun h0 => hvne (absChain_nil h0)
        obtain ⟨j, hmj, hok, hjs⟩ := hjust (by
          rw [hp]; simp only [QUALITY, PREPARE, COMMIT]
          intro h; rcases h with h | h | h
          · omega
          · omega
          · exact hvne' h.2)
        refine ⟨absJust j, hmj, hok, ?_⟩
        rcases hjs with ⟨h', _⟩ | ⟨_, h1, h2, h3⟩ | ⟨h', _⟩
        · exact absurd h' (by rw [hp]; simp [CONVERGE, PREPARE, COMMIT])
        · exact ⟨h2, by show absPhase j.vote.phase = _; rw [h1]; rfl, by show absChain _ = absChain _; rw [h3]⟩
        · exact absurd (hp.symm.trans h') (by decide)
    · have : (absMsg m).phase = .decide := by show absPhase m.vote.phase = _; rw [hp]; rfl
      rw [this]
      obtain ⟨j, hmj, hok, hjs⟩ := hjust (by rw [hp]; simp [QUALITY, PREPARE, COMMIT, DECIDE])
      refine ⟨hr, absChain_ne hne, absJust j, hmj, hok, ?_⟩
      rcases hjs with ⟨h', _⟩ | ⟨h', _⟩ | ⟨_, h1, h2⟩
      · exact absurd h' (by rw [hp]; simp [CONVERGE, PREPARE, DECIDE])
      · exact absurd (hp.symm.trans h') (by decide)
      · exact ⟨by show absPhase j.vote.phase = _; rw [h1]; rfl, by show absChain _ = absChain _; rw [h2]⟩

end F3.ValidBridge
