import F3.Model.Merkle
import Mathlib.Tactic.Ring
import Mathlib.Tactic.NormNum
/-! Lemmas about the merkle model (C14b): `batch = tree of the prefix`, unreachability of the panic branch.
What the root determines is in `F3/Proofs/CodecCollision.lean`. -/
namespace F3.Merkle
open F3.Codec

/-- The *idealised* hash: globally injective, 32-byte output, never the all-zero digest. No function
with 32-byte output on byte strings is injective, so no real hash (and neither executable hash of
`F3.Model.CodecHash`) satisfies this; it is satisfiable in the model only because `Bytes = List Nat`.
Used by the idealised-hash corollaries only; the primary results are the reductions of
`F3/Proofs/CodecCollision.lean`, which assume nothing of the hash. -/
structure HashOK (H : Bytes → Bytes) : Prop where
  inj : ∀ a b, H a = H b → a = b
  len : ∀ a, (H a).length = 32
  nonzero : ∀ a, H a ≠ zeroDigest

variable (H : Bytes → Bytes)

theorem depth_bounds {k : Nat} (hk : 2 ≤ k) :
    2 ^ (depth k - 1) < k ∧ k ≤ 2 ^ depth k ∧ 1 ≤ depth k := by
  unfold depth
  have h0 : ¬ k = 0 := by omega
  have h1 : ¬ k = 1 := by omega
  simp only [h0, h1, if_false, Nat.add_sub_cancel]
  have hne : k - 1 ≠ 0 := by omega
  have h2 : 2 ^ Nat.log2 (k - 1) ≤ k - 1 := Nat.log2_self_le hne
  have h3 : k - 1 < 2 ^ (Nat.log2 (k - 1) + 1) := Nat.lt_log2_self
  omega

theorem depth_fits (k : Nat) : k ≤ 2 ^ depth k := by
  by_cases h : 2 ≤ k
  · exact (depth_bounds h).2.1
  · have h01 : k = 0 ∨ k = 1 := by omega
    rcases h01 with rfl | rfl <;> simp [depth]

theorem depth_pow (m : Nat) : depth (2 ^ m) = m := by
  unfold depth
  have hpos : 0 < 2 ^ m := Nat.two_pow_pos _
  have h0 : ¬ 2 ^ m = 0 := by omega
  cases m with
  | zero => simp
  | succ m =>
    have h2 : 2 ≤ 2 ^ (m + 1) := by
      calc 2 = 2 ^ 1 := by norm_num
        _ ≤ 2 ^ (m + 1) := Nat.pow_le_pow_right (by norm_num) (by omega)
    have h1 : ¬ 2 ^ (m + 1) = 1 := by omega
    simp only [h0, h1, if_false]
    have hne : 2 ^ (m + 1) - 1 ≠ 0 := by omega
    have hlt : Nat.log2 (2 ^ (m + 1) - 1) < m + 1 := by
      rw [Nat.log2_lt hne]
      omega
    have hge : m ≤ Nat.log2 (2 ^ (m + 1) - 1) := by
      by_contra hc
      have hc' : Nat.log2 (2 ^ (m + 1) - 1) < m := by omega
      rw [Nat.log2_lt hne] at hc'
      have : 2 ^ (m + 1) = 2 * 2 ^ m := by ring
      have : 0 < 2 ^ m := Nat.two_pow_pos _
      omega
    omega

theorem buildTree_nil (d : Nat) : buildTree H d [] = zeroDigest := by
  cases d <;> rfl

theorem tree_nil : tree H [] = zeroDigest := buildTree_nil H _

theorem buildTree_succ (d : Nat) (l : List Bytes) (hl : l ≠ []) :
    buildTree H (d + 1) l =
      nodeHash H (buildTree H d (l.take (min (2 ^ d) l.length)))
           (buildTree H d (l.drop (min (2 ^ d) l.length))) := by
  cases l with
  | nil => exact absurd rfl hl
  | cons a l => rw [buildTree]

/-- `BatchTree` computes, for every prefix length `k`, the `Tree` of that prefix. -/
theorem batch_eq_tree (vs : List Bytes) : ∀ k, 1 ≤ k → k ≤ vs.length →
    batch H vs k = tree H (vs.take k) := by
  intro k
  induction k using Nat.strong_induction_on with
  | _ k ih =>
    intro h1 hk
    match k, h1, hk, ih with
    | 1, _, hk, _ =>
      cases vs with
      | nil => simp at hk
      | cons v vs => simp [batch, tree, depth, buildTree]
    | k + 2, _, hk, ih =>
      obtain ⟨hlt, hle, hd⟩ := depth_bounds (k := k + 2) (by omega)
      have hs1 : 1 ≤ 2 ^ (depth (k + 2) - 1) := Nat.one_le_two_pow
      rw [batch]
      simp only [hlt, dif_pos]
      rw [ih _ hlt hs1 (by omega)]
      unfold tree
      have hlen : (vs.take (k + 2)).length = k + 2 := by simp; omega
      have hlen2 : (vs.take (2 ^ (depth (k + 2) - 1))).length = 2 ^ (depth (k + 2) - 1) := by
        simp; omega
      rw [hlen, hlen2, depth_pow]
      generalize hdd : depth (k + 2) = dd at *
      obtain ⟨d', rfl⟩ : ∃ d', dd = d' + 1 := ⟨dd - 1, by omega⟩
      simp only [Nat.add_sub_cancel] at *
      have hne : vs.take (k + 2) ≠ [] := by
        intro h; rw [h] at hlen; simp at hlen
      rw [buildTree_succ H d' _ hne, hlen]
      have hmin : min (2 ^ d') (k + 2) = 2 ^ d' := by omega
      rw [hmin, List.take_take, hmin]

theorem batchTree_length (vs : List Bytes) : (batchTree H vs).length = vs.length := by
  simp [batchTree]

/-- entry `i` of `BatchTree(values)` is `Tree(values[:i+1])` -/
theorem batchTree_get (vs : List Bytes) (i : Nat) (hi : i < vs.length) :
    (batchTree H vs)[i]? = some (tree H (vs.take (i + 1))) := by
  unfold batchTree
  rw [List.getElem?_map, List.getElem?_range hi]
  simp only [Option.map_some]
  rw [batch_eq_tree H vs (i + 1) (by omega) (by omega)]

/-- whether `buildTree` reaches the "expected one value at the leaf" panic -/
def panics : Nat → List Bytes → Bool
  | _, [] => false
  | 0, [_] => false
  | 0, _ :: _ :: _ => true
  | d + 1, v :: vs =>
      panics d ((v :: vs).take (min (2 ^ d) (v :: vs).length)) ||
      panics d ((v :: vs).drop (min (2 ^ d) (v :: vs).length))

theorem panics_false_of_fits : ∀ (d : Nat) (vs : List Bytes), vs.length ≤ 2 ^ d → panics d vs = false := by
  intro d
  induction d with
  | zero =>
    intro vs h
    match vs, h with
    | [], _ => rfl
    | [_], _ => rfl
    | _ :: _ :: _, h => simp at h
  | succ d ih =>
    intro vs h
    cases vs with
    | nil => rfl
    | cons v vs =>
      rw [panics]
      have h2 : 2 ^ (d + 1) = 2 * 2 ^ d := by ring
      rw [ih _ (by simp only [List.length_take]; omega), ih _ (by simp only [List.length_drop]; omega)]
      rfl

end F3.Merkle
