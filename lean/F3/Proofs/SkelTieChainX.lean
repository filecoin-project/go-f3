import F3.Gen.SkelChainX
/-!
Hand-written expectations for the REGENERATED skeletons of `F3.Gen.SkelChainX` (tools/go2lean/skel.go): the pre-order
list of the statements of a Go function as `<depth>:<kind>`. The expression-level tie theorems pin what single
conditions say; these pin that nothing was added around them (an extra early return, a cap, a dropped branch). A
structural change of the function — harmful or not — breaks the `rfl` below and with it the obligation of every
property importing this file; the check then searches for a failing input as for any broken obligation.
-/
namespace F3.SkelTie.SkelChainX
open F3.Gen.SkelChainX

/-- the structure the model of `GetChainByInstance` was written against -/
def skelGetChainByInstanceExpected : List String :=
  ["0:if", "1:return2", "0:assign:=", "0:if", "1:return2", "0:assign:=", "0:if", "1:call:wanted.Add",
   "1:call:metrics.chains.Add", "1:call:discovered.Remove", "1:assign:=", "1:if",
   "2:call:p.listener.NotifyChainDiscovered", "2:call:metrics.notifications.Add", "1:return2",
   "0:call:wanted.ContainsOrAdd", "0:call:metrics.chains.Add", "0:return2"]

theorem skelGetChainByInstance_expected : skelGetChainByInstance = skelGetChainByInstanceExpected := rfl

/-- the structure the model of `GetChainsWantedAt` was written against -/
def skelGetChainsWantedAtExpected : List String :=
  ["0:call:p.mu.Lock", "0:defer", "0:assign:=", "0:if", "1:assign=", "1:assign=",
   "1:call:metrics.instances.Add", "0:return1"]

theorem skelGetChainsWantedAt_expected : skelGetChainsWantedAt = skelGetChainsWantedAtExpected := rfl

/-- the structure the model of `CacheAsDiscovered` was written against -/
def skelCacheAsDiscoveredExpected : List String :=
  ["0:assign:=", "0:assign:=", "0:assign:=", "0:for", "1:assign:=", "1:assign:=", "1:if", "2:assign:=", "2:if",
   "3:call:metrics.chains.Add", "1:elseif", "2:call:wanted.Add", "2:call:metrics.chains.Add"]

theorem skelCacheAsDiscovered_expected : skelCacheAsDiscovered = skelCacheAsDiscoveredExpected := rfl

end F3.SkelTie.SkelChainX
