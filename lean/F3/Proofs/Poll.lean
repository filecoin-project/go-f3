import F3.Model.Poll
import F3.Spec.Poll
/-! For C20, the predictor alone. First part: the regenerated `predictor.update` is `F3.Spec.Poll.predictorSpec`,
and the pieces `predictorSpec` is made of (truncated division, the two clamps, `explore1`) as bounds and as
`max`/`min` terms that `omega` can work with. Second part: `update` branch by branch on states, the branches
collected in the case principle `update_cases`, and what follows for states satisfying `PInv`. -/
namespace F3.Proofs.Poll
open F3.Gen F3.GoInt F3.Poll F3.Spec.Poll

/-- `predictor.update`, as regenerated from source, is `predictorSpec`: the same tests in the same
order; the cases below are the tests whose branches return tuples in the generated text. -/
theorem gen_eq_spec (p b e i mx mn : Int) (w : Bool) :
    predictorUpdate p b e i mx mn w = predictorSpec p b e i mx mn w := by
  unfold predictorUpdate predictorSpec explore1 fin
  by_cases hb : b > 0
  · by_cases hp : p > 0 <;> simp [hb, hp]
  · by_cases h1 : p = 1
    · simp [hb, h1]
    · by_cases h0 : p = 0
      · cases w <;> simp [hb, h0, clampE, clampI, apply_ite Prod.fst, apply_ite Prod.snd]
      · cases (w == decide (p > 1)) <;> by_cases h2 : p ≤ 2 <;>
          simp [hb, h1, h0, h2, clampE, clampI]

theorem update_eq (s : PState) (p : Int) :
    update s p =
      ((predictorSpec p s.backoff s.explore s.interval s.maxI s.minI s.wasInc).1,
       { s with backoff := (predictorSpec p s.backoff s.explore s.interval s.maxI s.minI s.wasInc).2.1,
                explore := (predictorSpec p s.backoff s.explore s.interval s.maxI s.minI s.wasInc).2.2.1,
                interval := (predictorSpec p s.backoff s.explore s.interval s.maxI s.minI s.wasInc).2.2.2.1,
                wasInc := (predictorSpec p s.backoff s.explore s.interval s.maxI s.minI s.wasInc).2.2.2.2 }) := by
  unfold update
  rw [gen_eq_spec]

theorem tdiv_bounds (a d : Int) (ha : 0 ≤ a) : -a ≤ Int.tdiv a d ∧ Int.tdiv a d ≤ a := by
  rcases Int.lt_trichotomy d 0 with hd | hd | hd
  · have h : Int.tdiv a d = -(Int.tdiv a (-d)) := by rw [Int.tdiv_neg, Int.neg_neg]
    have hd' : 0 < -d := by omega
    rw [h, Int.tdiv_eq_ediv_of_nonneg ha]
    have h1 : 0 ≤ a / (-d) := Int.ediv_nonneg ha (by omega)
    have h2 : a / (-d) ≤ a := Int.ediv_le_self _ ha
    omega
  · subst hd; simp; omega
  · rw [Int.tdiv_eq_ediv_of_nonneg ha]
    have h1 : 0 ≤ a / d := Int.ediv_nonneg ha (by omega)
    have h2 : a / d ≤ a := Int.ediv_le_self _ ha
    omega

theorem tdiv_pos_div (a d : Int) (ha : 0 ≤ a) (hd : 0 < d) : 0 ≤ Int.tdiv a d ∧ Int.tdiv a d ≤ a := by
  rw [Int.tdiv_eq_ediv_of_nonneg ha]
  exact ⟨Int.ediv_nonneg ha (by omega), Int.ediv_le_self _ ha⟩

theorem tdiv_two_bounds (x B : Int) (h1 : -B ≤ x) (h2 : x ≤ B) : -B ≤ Int.tdiv x 2 ∧ Int.tdiv x 2 ≤ B := by
  rcases Int.le_total 0 x with hx | hx
  · rw [Int.tdiv_eq_ediv_of_nonneg hx]; omega
  · have : Int.tdiv x 2 = -(Int.tdiv (-x) 2) := by rw [Int.neg_tdiv, Int.neg_neg]
    rw [this, Int.tdiv_eq_ediv_of_nonneg (by omega)]; omega

theorem clampE_eq (mn mx x : Int) (h0 : 0 < mn) (hmm : mn ≤ mx) :
    clampE mn mx x = max (mn / 100) (min x (mx / 2)) := by
  unfold clampE
  rw [Int.tdiv_eq_ediv_of_nonneg (by omega : 0 ≤ mn), Int.tdiv_eq_ediv_of_nonneg (by omega : 0 ≤ mx)]
  split
  · omega
  · split <;> omega

theorem clampE_bounds (mn mx x : Int) (hmn : 0 < mn) (hmm : mn ≤ mx) :
    0 ≤ clampE mn mx x ∧ clampE mn mx x ≤ Int.tdiv mx 2 := by
  rw [clampE_eq _ _ _ hmn hmm, Int.tdiv_eq_ediv_of_nonneg (by omega : 0 ≤ mx)]
  omega

theorem clampI_bounds (mn mx y : Int) (hmm : mn ≤ mx) : mn ≤ clampI mn mx y ∧ clampI mn mx y ≤ mx := by
  unfold clampI
  split
  · omega
  · split <;> omega

theorem clampE_id (mn mx x : Int) (h1 : Int.tdiv mn 100 ≤ x) (h2 : x ≤ Int.tdiv mx 2) : clampE mn mx x = x := by
  unfold clampE; split
  · omega
  · split <;> omega

theorem clampI_id (mn mx y : Int) (h1 : mn ≤ y) (h2 : y ≤ mx) : clampI mn mx y = y := by
  unfold clampI; split
  · omega
  · split <;> omega

theorem clampI_eq (mn mx y : Int) (hmm : mn ≤ mx) : clampI mn mx y = max mn (min y mx) := by
  unfold clampI; split
  · omega
  · split <;> omega

/-- a step of `u` upwards from the interval `i`, seen from a period `P ≤ mx`: it reaches `P` iff it covers
the distance `P - i`, and if it falls short no clamp has acted -/
theorem clampI_up (mn mx i u P : Int) (hi : mn ≤ i) (hu : 0 ≤ u) (hP : P ≤ mx) :
    (P ≤ clampI mn mx (i + u) ↔ P - i ≤ u) ∧ (clampI mn mx (i + u) < P → clampI mn mx (i + u) = i + u) := by
  unfold clampI; split
  · omega
  · split <;> omega

/-- the same downwards, towards a period `P ≥ mn` -/
theorem clampI_dn (mn mx i u P : Int) (hi : i ≤ mx) (hu : 0 ≤ u) (hP : mn ≤ P) :
    (clampI mn mx (i - u) ≤ P ↔ i - P ≤ u) ∧ (P < clampI mn mx (i - u) → clampI mn mx (i - u) = i - u) := by
  unfold clampI; split
  · omega
  · split <;> omega

/-- the explore distance after a change of direction -/
theorem clampE_third (mn mx e : Int) (h0 : 0 < mn) (hmm : mn ≤ mx) (he0 : 0 ≤ e) (he : e ≤ Int.tdiv mx 2) :
    clampE mn mx (Int.tdiv e 3) = max (mn / 100) (e / 3) := by
  rw [Int.tdiv_eq_ediv_of_nonneg (by omega)] at he
  rw [clampE_eq _ _ _ h0 hmm, Int.tdiv_eq_ediv_of_nonneg he0]
  omega

/-- the explore distance when the direction is kept -/
theorem clampE_double (mn mx u : Int) (h0 : 0 < mn) (hmm : mn ≤ mx) (hu : mn / 100 ≤ u) :
    clampE mn mx (u * 2) = min (2 * u) (mx / 2) := by
  rw [clampE_eq _ _ _ h0 hmm]
  omega

theorem explore1_snd (w : Bool) (p e i : Int) (hi : 0 ≤ i) :
    -i ≤ (explore1 w p e i).2 ∧ (explore1 w p e i).2 ≤ i := by
  unfold explore1
  have := tdiv_bounds i (i64ofU64 p) hi
  split
  · simp; omega
  · split
    · simp; omega
    · simp; omega

theorem explore1_snd_small (w : Bool) (p e i : Int) (hp : p ≤ 2) : (explore1 w p e i).2 = i := by
  unfold explore1
  split
  · rfl
  · simp

theorem clampE_pos (mn mx x : Int) (hmn : 100 ≤ mn) (hmm : mn ≤ mx) : 1 ≤ clampE mn mx x := by
  rw [clampE_eq _ _ _ (by omega) hmm]
  omega

end F3.Proofs.Poll

/-! the seven conjuncts of `PInv` by name -/
namespace F3.Poll.PInv

theorem min_pos {s : PState} (h : PInv s) : 0 < s.minI := h.1
theorem min_le_max {s : PState} (h : PInv s) : s.minI ≤ s.maxI := h.2.1
theorem min_le {s : PState} (h : PInv s) : s.minI ≤ s.interval := h.2.2.1
theorem le_max {s : PState} (h : PInv s) : s.interval ≤ s.maxI := h.2.2.2.1
theorem explore_nonneg {s : PState} (h : PInv s) : 0 ≤ s.explore := h.2.2.2.2.1
theorem explore_le {s : PState} (h : PInv s) : s.explore ≤ Int.tdiv s.maxI 2 := h.2.2.2.2.2.1
theorem backoff_cases {s : PState} (h : PInv s) :
    s.backoff = 0 ∨ (s.minI ≤ s.backoff ∧ s.backoff ≤ 10 * s.maxI) := h.2.2.2.2.2.2


theorem interval_pos {s : PState} (h : PInv s) : 0 < s.interval := Int.lt_of_lt_of_le h.min_pos h.min_le
/-- back-off mode is `0 < backoff`; the invariant then bounds the back-off -/
theorem backoff_pos_cases {s : PState} (h : PInv s) :
    s.backoff = 0 ∨ (0 < s.backoff ∧ s.minI ≤ s.backoff ∧ s.backoff ≤ 10 * s.maxI) :=
  h.backoff_cases.imp_right fun hb => ⟨Int.lt_of_lt_of_le h.min_pos hb.1, hb⟩

end F3.Poll.PInv

/-! Second part. (Namespace `F3.Proofs.PollLoop`: that of `upE`, `dnE`, `zeroEvent`, which the closed-loop
statements mention.) -/
namespace F3.Proofs.PollLoop
open F3.Poll F3.Spec.Poll F3.Proofs.Poll

/-- an adjustment leaves the invariant alone, whatever is clamped: it only needs the ranges of the clamps -/
theorem pinv_adjust (s : PState) (h : PInv s) (x y : Int) (w : Bool) :
    PInv { s with explore := clampE s.minI s.maxI x, interval := clampI s.minI s.maxI y, wasInc := w } :=
  have hE := clampE_bounds s.minI s.maxI x h.min_pos h.min_le_max
  have hI := clampI_bounds s.minI s.maxI y h.min_le_max
  ⟨h.min_pos, h.min_le_max, hI.1, hI.2, hE.1, hE.2, h.backoff_cases⟩

theorem update_one (s : PState) (hb : s.backoff ≤ 0) : update s 1 = (s.interval, s) := by
  rw [update_eq]
  have : ¬ s.backoff > 0 := by omega
  simp [predictorSpec, fin, this]

theorem update_bo_pos (s : PState) (p : Int) (hb : 0 < s.backoff) (hp : 0 < p) :
    update s p = (s.interval, { s with backoff := 0 }) := by
  rw [update_eq]
  have h1 : s.backoff > 0 := hb
  have h2 : p > 0 := hp
  simp [predictorSpec, fin, h1, h2]

theorem update_bo_zero (s : PState) (p : Int) (hb : 0 < s.backoff) (hp : p ≤ 0) :
    update s p = (s.backoff, { s with backoff := min (2 * s.backoff) (10 * s.maxI) }) := by
  rw [update_eq]
  have h1 : s.backoff > 0 := hb
  have h2 : ¬ p > 0 := by omega
  simp [predictorSpec, fin, h1, h2]

/-- explore distance after a poll without progress (outside back-off) -/
def upE (s : PState) : Int :=
  clampE s.minI s.maxI (if s.wasInc then s.explore * 2 else Int.tdiv s.explore 3)

/-- explore distance after a poll with progress 2 (outside back-off) -/
def dnE (s : PState) : Int :=
  clampE s.minI s.maxI (if s.wasInc then Int.tdiv s.explore 3 else s.explore * 2)

/-- the predictor after a poll without progress followed by the poll that leaves back-off -/
def zeroEvent (s : PState) : PState :=
  { s with explore := upE s, interval := clampI s.minI s.maxI (s.interval + upE s), wasInc := true }

/-- the predictor after a poll with progress 2 (outside back-off): the mirror image of `zeroEvent` -/
def twoEvent (s : PState) : PState :=
  { s with explore := dnE s, interval := clampI s.minI s.maxI (s.interval - dnE s), wasInc := false }

theorem update_zero (s : PState) (hb : s.backoff = 0) (hi : 0 < s.interval) :
    update s 0 = (s.interval, { zeroEvent s with backoff := min (2 * s.interval) (10 * s.maxI) }) := by
  rw [update_eq]
  have h2 : s.interval > 0 := hi
  cases hw : s.wasInc <;> simp [predictorSpec, fin, explore1, zeroEvent, upE, hb, hw, h2]

theorem update_two (s : PState) (hb : s.backoff = 0) :
    update s 2 = ((twoEvent s).interval, twoEvent s) := by
  rw [update_eq]
  cases hw : s.wasInc <;> simp [predictorSpec, fin, explore1, twoEvent, dnE, hb, hw]

theorem upE_bounds (s : PState) (h : PInv s) : 0 ≤ upE s ∧ upE s ≤ Int.tdiv s.maxI 2 :=
  clampE_bounds _ _ _ h.min_pos h.min_le_max

theorem dnE_bounds (s : PState) (h : PInv s) : 0 ≤ dnE s ∧ dnE s ≤ Int.tdiv s.maxI 2 :=
  clampE_bounds _ _ _ h.min_pos h.min_le_max

theorem upE_pos (s : PState) (h : PInv s) (hmn : 100 ≤ s.minI) : 1 ≤ upE s :=
  clampE_pos _ _ _ hmn h.min_le_max

theorem dnE_pos (s : PState) (h : PInv s) (hmn : 100 ≤ s.minI) : 1 ≤ dnE s :=
  clampE_pos _ _ _ hmn h.min_le_max

/-- every progress other than 0 and 1 takes this branch, also one so large that `time.Duration(progress)`
is negative -/
theorem update_many (s : PState) (p : Int) (hb : s.backoff = 0) (h0 : p ≠ 0) (h1 : p ≠ 1) :
    update s p =
      (clampI s.minI s.maxI ((explore1 s.wasInc p s.explore s.interval).2 -
          clampE s.minI s.maxI (explore1 s.wasInc p s.explore s.interval).1),
       { s with explore := clampE s.minI s.maxI (explore1 s.wasInc p s.explore s.interval).1,
                interval := clampI s.minI s.maxI ((explore1 s.wasInc p s.explore s.interval).2 -
                  clampE s.minI s.maxI (explore1 s.wasInc p s.explore s.interval).1),
                wasInc := false }) := by
  rw [update_eq]
  simp [predictorSpec, fin, hb, h0, h1]

theorem update_minI (s : PState) (p : Int) : (update s p).2.minI = s.minI := rfl

theorem update_maxI (s : PState) (p : Int) : (update s p).2.maxI = s.maxI := rfl

/-- **The five things `update` does** to a state satisfying the invariant: outside back-off it holds (progress 1),
adjusts upwards and enters back-off (0) or adjusts downwards (anything else); in back-off it wakes up (progress) or
doubles the back-off (none). -/
theorem update_cases {motive : Int → Int × PState → Prop} (s : PState) (hI : PInv s)
    (hold : s.backoff = 0 → motive 1 (s.interval, s))
    (up : s.backoff = 0 →
      motive 0 (s.interval, { zeroEvent s with backoff := min (2 * s.interval) (10 * s.maxI) }))
    (down : ∀ p, s.backoff = 0 → p ≠ 0 → p ≠ 1 → motive p (update s p))
    (wake : ∀ p, 0 < s.backoff → 0 < p → motive p (s.interval, { s with backoff := 0 }))
    (sleep : ∀ p, 0 < s.backoff → p ≤ 0 →
      motive p (s.backoff, { s with backoff := min (2 * s.backoff) (10 * s.maxI) }))
    (p : Int) : motive p (update s p) := by
  rcases hI.backoff_pos_cases with hb | ⟨hb, _⟩
  · by_cases h1 : p = 1
    · rw [h1, update_one s (Int.le_of_eq hb)]; exact hold hb
    · by_cases h0 : p = 0
      · rw [h0, update_zero s hb hI.interval_pos]; exact up hb
      · exact down p hb h0 h1
  · by_cases hp : 0 < p
    · rw [update_bo_pos s p hb hp]; exact wake p hb hp
    · rw [update_bo_zero s p hb (Int.not_lt.mp hp)]; exact sleep p hb (Int.not_lt.mp hp)

/-- the two facts that the five branches of `update` give about every state satisfying the invariant -/
theorem update_pinv_wait (s : PState) (p : Int) (h : PInv s) :
    PInv (update s p).2 ∧ s.minI ≤ (update s p).1 ∧ (update s p).1 ≤ 10 * s.maxI := by
  have hmn := h.min_pos
  have hmm := h.min_le_max
  have hi1 := h.min_le
  have hi2 := h.le_max
  have keep (b : Int) (hb : b = 0 ∨ (s.minI ≤ b ∧ b ≤ 10 * s.maxI)) : PInv { s with backoff := b } :=
    ⟨hmn, hmm, hi1, hi2, h.explore_nonneg, h.explore_le, hb⟩
  refine update_cases (motive := fun _ r => PInv r.2 ∧ s.minI ≤ r.1 ∧ r.1 ≤ 10 * s.maxI) s h
    (fun _ => ⟨h, hi1, by omega⟩) (fun _ => ?_) (fun p hb h0 h1 => ?_)
    (fun _ _ _ => ⟨keep 0 (Or.inl rfl), hi1, by omega⟩) (fun _ _ _ => ?_) p
  · have hz : PInv (zeroEvent s) := pinv_adjust s h _ _ true
    exact ⟨⟨hmn, hmm, hz.min_le, hz.le_max, hz.explore_nonneg, hz.explore_le,
      Or.inr ⟨by show s.minI ≤ min _ _; omega, by show min _ _ ≤ 10 * s.maxI; omega⟩⟩, hi1, by omega⟩
  · have hd := pinv_adjust s h (explore1 s.wasInc p s.explore s.interval).1
      ((explore1 s.wasInc p s.explore s.interval).2 -
        clampE s.minI s.maxI (explore1 s.wasInc p s.explore s.interval).1) false
    rw [update_many s p hb h0 h1]
    exact ⟨hd, hd.min_le, by have := hd.le_max; simp only at this ⊢; omega⟩
  · have := h.backoff_cases
    exact ⟨keep _ (Or.inr ⟨by omega, by omega⟩), by omega, by omega⟩

theorem update_pinv (s : PState) (p : Int) (h : PInv s) : PInv (update s p).2 :=
  (update_pinv_wait s p h).1

theorem update_wait (s : PState) (p : Int) (h : PInv s) :
    s.minI ≤ (update s p).1 ∧ (update s p).1 ≤ 10 * s.maxI :=
  (update_pinv_wait s p h).2

/-- a poll that finds something ends back-off, and its wait is the new interval -/
theorem update_pos (s : PState) (p : Int) (hI : PInv s) (hp : 1 ≤ p) :
    (update s p).2.backoff = 0 ∧ (update s p).1 = (update s p).2.interval :=
  update_cases (motive := fun p r => 1 ≤ p → r.2.backoff = 0 ∧ r.1 = r.2.interval) s hI
    (fun hb _ => ⟨hb, rfl⟩) (fun _ h => absurd h (by decide))
    (fun p hb h0 h1 _ => by rw [update_many s p hb h0 h1]; exact ⟨hb, rfl⟩)
    (fun _ _ _ _ => ⟨rfl, rfl⟩) (fun _ _ h1 h2 => by omega) p hp

/-- progress ≥ 2 outside back-off does not lengthen the interval -/
theorem update_ge_two_le (s : PState) (p : Int) (h : PInv s) (hb : s.backoff = 0) (hp : 2 ≤ p) :
    (update s p).2.interval ≤ s.interval := by
  have hE := clampE_bounds s.minI s.maxI (explore1 s.wasInc p s.explore s.interval).1 h.min_pos h.min_le_max
  have hS := (explore1_snd s.wasInc p s.explore s.interval (by have := h.min_pos; have := h.min_le; omega)).2
  have hi1 := h.min_le
  rw [update_many s p hb (by omega) (by omega)]
  simp only
  rw [clampI_eq _ _ _ h.min_le_max]
  omega

/-- …and shortens it while above the minimum; `100 ≤ min` makes the smallest explore distance `min/100`
positive -/
theorem update_ge_two_lt (s : PState) (p : Int) (h : PInv s) (hb : s.backoff = 0) (hp : 2 ≤ p)
    (h100 : 100 ≤ s.minI) (hi : s.minI < s.interval) : (update s p).2.interval < s.interval := by
  have hE := clampE_pos s.minI s.maxI (explore1 s.wasInc p s.explore s.interval).1 h100 h.min_le_max
  have hS := (explore1_snd s.wasInc p s.explore s.interval (by omega)).2
  rw [update_many s p hb (by omega) (by omega)]
  simp only
  rw [clampI_eq _ _ _ h.min_le_max]
  omega

theorem start_pinv (mn ini mx : Int) (h0 : 0 < mn) (h1 : mn ≤ ini) (h2 : ini ≤ mx) :
    PInv (PState.init mn ini mx) := by
  have h3 : 0 ≤ ini := by omega
  have h4 : 0 ≤ mx := by omega
  simp only [PInv, PState.init, Int.tdiv_eq_ediv_of_nonneg h3, Int.tdiv_eq_ediv_of_nonneg h4]
  exact ⟨h0, by omega, h1, h2, by omega, by omega, Or.inl trivial⟩

/-- a poll without progress and the poll that leaves back-off, when no clamp acts, with the numbers
spelt out: `x` is the new explore distance, `i'` the new interval -/
theorem run_zero_one_mk (mn mx e i x i' : Int) (w : Bool) (rest : List Int)
    (hx : (if w then e * 2 else Int.tdiv e 3) = x)
    (h : Int.tdiv mn 100 ≤ x ∧ x ≤ Int.tdiv mx 2 ∧ i + x = i' ∧ mn ≤ i' ∧ i' ≤ mx ∧ 0 < i ∧ 0 < mx) :
    runPredictor ⟨mn, mx, 0, e, i, w⟩ (0 :: 1 :: rest) =
      (i :: i' :: (runPredictor ⟨mn, mx, 0, x, i', true⟩ rest).1, (runPredictor ⟨mn, mx, 0, x, i', true⟩ rest).2) := by
  obtain ⟨h1, h2, hi', h3, h4, hi, hmx⟩ := h
  have hz : zeroEvent ⟨mn, mx, 0, e, i, w⟩ = ⟨mn, mx, 0, x, i', true⟩ := by
    simp only [zeroEvent, upE, hx, clampE_id _ _ _ h1 h2, hi', clampI_id _ _ _ h3 h4]
  have hu : update ⟨mn, mx, 0, e, i, w⟩ 0 = (i, ⟨mn, mx, min (2 * i) (10 * mx), x, i', true⟩) := by
    rw [update_zero _ rfl hi, hz]
  have hv := update_bo_pos ⟨mn, mx, min (2 * i) (10 * mx), x, i', true⟩ 1 (by show 0 < min _ _; omega)
    (by omega)
  simp only [runPredictor, hu, hv]

/-- the same for a poll with progress 2 -/
theorem run_two_mk (mn mx e i x i' : Int) (w : Bool) (rest : List Int)
    (hx : (if w then Int.tdiv e 3 else e * 2) = x)
    (h : Int.tdiv mn 100 ≤ x ∧ x ≤ Int.tdiv mx 2 ∧ i - x = i' ∧ mn ≤ i' ∧ i' ≤ mx) :
    runPredictor ⟨mn, mx, 0, e, i, w⟩ (2 :: rest) =
      (i' :: (runPredictor ⟨mn, mx, 0, x, i', false⟩ rest).1, (runPredictor ⟨mn, mx, 0, x, i', false⟩ rest).2) := by
  obtain ⟨h1, h2, hi', h3, h4⟩ := h
  have hz : twoEvent ⟨mn, mx, 0, e, i, w⟩ = ⟨mn, mx, 0, x, i', false⟩ := by
    simp only [twoEvent, dnE, hx, clampE_id _ _ _ h1 h2, hi', clampI_id _ _ _ h3 h4]
  simp only [runPredictor, update_two _ (rfl : (⟨mn, mx, 0, e, i, w⟩ : PState).backoff = 0), hz]

theorem upE_eq (s : PState) (hI : PInv s) :
    upE s = max (s.minI / 100) (min (if s.wasInc then s.explore * 2 else s.explore / 3) (s.maxI / 2)) := by
  unfold upE
  rw [clampE_eq _ _ _ hI.min_pos hI.min_le_max]
  cases s.wasInc
  · simp only [Bool.false_eq_true, if_false]
    rw [Int.tdiv_eq_ediv_of_nonneg hI.explore_nonneg]
  · simp only [if_true]

/-- **The arithmetic of a turn**, on the distance `d < e` still to go, for old explore distance `e`: the
explore distance is `u = max (mn/100) (e/3)` after the turn and `min (2u) (mx/2)` after one more step in
the new direction; the two steps cover `d` unless `d = e - 1` and `e ≡ 2 (mod 3)` (then `3·(e/3) = d - 1`) -/
theorem turn_steps (mn mx e d : Int) (h0 : 0 < mn) (hmm : mn ≤ mx) (he0 : 0 ≤ e) (he : e ≤ Int.tdiv mx 2)
    (hov : d < e) (hne : ¬ (d = e - 1 ∧ e % 3 = 2)) :
    clampE mn mx (Int.tdiv e 3) = max (mn / 100) (e / 3) ∧
    clampE mn mx (clampE mn mx (Int.tdiv e 3) * 2) ≤ 2 * max (mn / 100) (e / 3) ∧
    d ≤ clampE mn mx (Int.tdiv e 3) + clampE mn mx (clampE mn mx (Int.tdiv e 3) * 2) := by
  have hu := clampE_third mn mx e h0 hmm he0 he
  rw [Int.tdiv_eq_ediv_of_nonneg (by omega)] at he
  rw [hu, clampE_double mn mx _ h0 hmm (by omega)]
  exact ⟨rfl, by omega, by omega⟩

/-- the explore distance `clampE x` of the next adjustment, at distance `d` from a period `P` that is near
(`d < e ≤ P/2` at a turn, where `x = e/3`; `d ≤ 2e ≤ P/2` when the direction is kept, where `x = 2e`): it
is at most `P/2`, and if it falls short of the period, what remains is at most twice as much, itself at
most `P/2` -/
theorem near_explore (mn mx e d P x : Int) (hmn : 0 < mn) (hmm : mn ≤ mx) (he1 : 0 ≤ e)
    (he2 : e ≤ Int.tdiv mx 2) (hmnP : 2 * mn ≤ P) (hmxP : 2 * P ≤ mx)
    (h : (x = Int.tdiv e 3 ∧ d < e ∧ 2 * e ≤ P ∧ ¬ (e % 3 = 2 ∧ d = e - 1)) ∨
      (x = e * 2 ∧ d ≤ 2 * e ∧ 4 * e ≤ P)) :
    0 ≤ clampE mn mx x ∧ 2 * clampE mn mx x ≤ P ∧
    (clampE mn mx x < d → d - clampE mn mx x ≤ 2 * clampE mn mx x ∧ 4 * clampE mn mx x ≤ P) := by
  rcases h with ⟨hx, hov, he, hne⟩ | ⟨hx, hov, he⟩
  · -- the step is `u = max (mn/100) (e/3)`, and `d ≤ 3·(e/3) ≤ 3u` unless `d = e - 1`, `e ≡ 2 (mod 3)`
    rw [hx, clampE_third _ _ _ hmn hmm he1 he2]
    omega
  · -- the step is at least `min (2e) (mx/2) ≥ d`
    rw [hx, clampE_eq _ _ _ hmn hmm]
    omega

end F3.Proofs.PollLoop
