import F3.Model.CertX
import F3.Gen.CertX
import F3.Proofs.GenTie
/-! Helper lemmas for `C16.serve_is_regenerated`: each regenerated piece of `handleRequest`
(`F3.Gen.CertX`, over `Int` with explicit wrap) equals the corresponding expression of the hand model. -/
namespace F3.Proofs.CertXGen
open F3.Certs F3.CertX F3.Proofs.GenTie

theorem serveLimit_eq (l : Nat) : F3.Gen.CertX.serveLimit (l : Int) = ((min l maxResponseLen : Nat) : Int) := by
  unfold F3.Gen.CertX.serveLimit maxResponseLen
  simp only [decide_eq_true_eq]
  split <;> omega

theorem servePending_eq (s : Store) :
    F3.Gen.CertX.servePending ((s.latest?.getD 0 : Nat) : Int) s.latest?.isSome 0 = (s.pending : Int) := by
  unfold F3.Gen.CertX.servePending Store.pending
  cases hl : s.latest? with
  | none => simp
  | some l =>
    simp only [Option.isSome_some, if_true, Option.getD_some]
    exact u64_natCast_pow (l + 1)

theorem servePowerTableGuard_eq (first pending : Nat) (b : Bool) :
    F3.Gen.CertX.servePowerTableGuard first b pending = (decide (first ≤ pending) && b) := by
  unfold F3.Gen.CertX.servePowerTableGuard
  rw [cast_le]

theorem serveCertsGuard_eq (first pending limit : Nat) :
    F3.Gen.CertX.serveCertsGuard limit first pending = (decide (first < pending) && decide (0 < limit)) := by
  unfold F3.Gen.CertX.serveCertsGuard
  rw [cast_lt, ← Int.natCast_zero, cast_lt]

theorem serveEnd_eq (first pending limit : Nat) (hf : first < 2 ^ 64) (hp : pending < 2 ^ 64) (hl : limit < 2 ^ 64)
    (h1 : first < pending) (h2 : 0 < limit) :
    F3.Gen.CertX.serveEnd limit first pending = ((serveEnd first limit pending : Nat) : Int) := by
  unfold F3.Gen.CertX.serveEnd serveEnd F3.Certs.u64
  -- the two `uint64` subtractions, as naturals; after that both sides are the same `if`
  rw [u64_u64_sub, ← Int.natCast_add, u64_natCast_pred _ (by omega), u64_natCast_pred _ (by omega),
    Nat.mod_eq_of_lt (show pending - 1 < 2 ^ 64 by omega)]
  simp only [ge_iff_le, Int.ofNat_le, Int.ofNat_lt]
  split <;> rfl

end F3.Proofs.CertXGen
