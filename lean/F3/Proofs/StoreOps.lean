import F3.Proofs.StoreRepr
/-! What `open`, `OpenStore`, `CreateStore` and `OpenOrCreateStore` do in represented and in uninitialised states. -/
namespace F3.Store

/-- No store has been created in `ds` (stray keys of interrupted creations are allowed). -/
structure NotInit (ds : DS) : Prop where
  noTomb : dsGet ds .tomb = none
  noRootTomb : dsGet ds .rootTomb = none
  first : dsGet ds .first = none
  latest : dsGet ds .latest = none

theorem NotInit.getNum_first {ds : DS} (h : NotInit ds) : getNum ds .first = .ok none := by
  rw [getNum, h.first]

theorem NotInit.congr {ds ds' : DS} (h : NotInit ds)
    (hag : ∀ k, (k = .tomb ∨ k = .rootTomb ∨ k = .first ∨ k = .latest) → dsGet ds' k = dsGet ds k) : NotInit ds' :=
  ⟨by rw [hag _ (Or.inl rfl)]; exact h.noTomb, by rw [hag _ (Or.inr (Or.inl rfl))]; exact h.noRootTomb,
   by rw [hag _ (Or.inr (Or.inr (Or.inl rfl)))]; exact h.first, by rw [hag _ (Or.inr (Or.inr (Or.inr rfl)))]; exact h.latest⟩

theorem NotInit.applyW {ds : DS} (h : NotInit ds) {w : W}
    (hw : ¬ (w.key = .tomb ∨ w.key = .rootTomb ∨ w.key = .first ∨ w.key = .latest)) : NotInit (applyW ds w) :=
  h.congr fun _ hk => dsGet_applyW_other ds w (fun e => hw (e ▸ hk))

/-- Every subscriber channel holds at most one certificate (capacity 1). -/
def SubsOk (m : Mem) : Prop := ∀ s ∈ m.subs, s.2.length ≤ 1

/-- The handle a successful open returns for history `sp` whose current table is `T`. -/
def memOf (sp : Spec) (T : Table) : Mem := { first := sp.first, latest := sp.latest, latestTable := T }

theorem memOk_memOf {sp : Spec} {T : Table} (h : sp.tbl sp.certs.length = some T) : MemOk (memOf sp T) sp :=
  ⟨rfl, rfl, h.symm⟩

theorem subsOk_memOf (sp : Spec) (T : Table) : SubsOk (memOf sp T) := nofun

theorem continueDelete_absent (sc : Scope) (o : List Key) (ds : DS) (h : dsGet ds sc.tomb = none) :
    continueDelete sc o ds = some [] := by
  unfold continueDelete; simp [h]

theorem openCore_clean (cfg : Cfg) (ds : DS) (o : Orders) (h1 : dsGet ds .rootTomb = none) (h2 : dsGet ds .tomb = none) :
    openCore cfg ds o =
      match getNum ds .latest with
      | .error e => ⟨[], .error e⟩
      | .ok none => ⟨[], .ok none⟩
      | .ok (some n) =>
        match getCert ds n with
        | .ok c => ⟨[], .ok (some c)⟩
        | .error (.notFound _) => ⟨[], .error .loadLatest⟩
        | .error e => ⟨[], .error e⟩ := by
  unfold openCore
  rw [continueDelete_absent .raw o.raw ds h1]
  have : (if cfg.resumeInner = true then continueDelete .inner o.inner ds else some []) = some [] := by
    split
    · exact continueDelete_absent .inner o.inner ds h2
    · rfl
  simp only [applyWs_nil, this, List.append_nil]
  rfl

variable {freq : Nat} {ds : DS} {sp : Spec}

theorem openCore_repr (cfg : Cfg) (o : Orders) (h : Repr freq ds sp) :
    openCore cfg ds o = ⟨[], .ok sp.latest⟩ := by
  rw [openCore_clean cfg ds o h.noRootTomb h.noTomb, getNum, h.latest]
  cases hc : sp.latest with
  | none => rfl
  | some c =>
    obtain ⟨hlen, hget⟩ := Spec.latest_getElem hc
    have hinst : c.inst = sp.first + (sp.certs.length - 1) := by rw [← hget]; exact h.facts.inst _ hlen
    simp only [Option.map_some, hinst, getCert_repr h hlen, hget]

theorem openCore_notInit (cfg : Cfg) (o : Orders) (h : NotInit ds) :
    openCore cfg ds o = ⟨[], .ok none⟩ := by
  rw [openCore_clean cfg ds o h.noRootTomb h.noTomb, getNum, h.latest]

/-- The period in force while opening finds no checkpoint boundary the writer did not write. -/
def OpenOk (cfg : Cfg) (sp : Spec) : Prop :=
  cfg.openFreq = cfg.freq ∨ sp.next - sp.next % cfg.openFreq ≤ sp.first

theorem openStore_repr (cfg : Cfg) (o : Orders) (h : Repr cfg.freq ds sp) (ho : OpenOk cfg sp) :
    ∃ T, sp.tbl sp.certs.length = some T ∧ openStore cfg ds o = ⟨[], .ok (memOf sp T)⟩ := by
  obtain ⟨T, hT, _⟩ := h.facts.tbls sp.certs.length (Nat.le_refl _)
  refine ⟨T, hT, ?_⟩
  unfold openStore
  rw [openCore_repr cfg o h]
  simp only [applyWs_nil]
  rw [h.getNum_first]
  simp only
  have hnext : ({ first := sp.first, latest := sp.latest, latestTable := [] } : Mem).next = sp.first + sp.certs.length :=
    mem_next_eq rfl rfl h.facts
  rw [hnext]
  have := getPowerTable_repr h cfg.opening { first := sp.first, latest := sp.latest, latestTable := [] } rfl rfl (Or.inl rfl)
    (Nat.le_refl sp.certs.length) ho hT
  rw [this]
  rfl

/-- Opening when `open`'s first phase leaves an uninitialised datastore behind (clean or just wiped). -/
theorem openStore_of_core {cfg : Cfg} {ds : DS} {o : Orders} {w : List W} (hoc : openCore cfg ds o = ⟨w, .ok none⟩)
    (h : NotInit (applyWs ds w)) : openStore cfg ds o = ⟨w, .error .notInitialized⟩ := by
  unfold openStore
  rw [hoc]
  simp only
  rw [h.getNum_first]

theorem openStore_notInit (cfg : Cfg) (o : Orders) (h : NotInit ds) :
    openStore cfg ds o = ⟨[], .error .notInitialized⟩ :=
  openStore_of_core (openCore_notInit cfg o h) h

def createWrites (first : Nat) (init : Table) : List W :=
  [W.put (.power first) (.tbl init), W.put .first (.num first)]

theorem createStore_of_core {cfg : Cfg} {ds : DS} {o : Orders} {w : List W} (hoc : openCore cfg ds o = ⟨w, .ok none⟩)
    (h : NotInit (applyWs ds w)) (first : Nat) {init : Table} (hne : init ≠ []) :
    createStore cfg ds o first init =
      ⟨w ++ createWrites first init, .ok { first := first, latest := none, latestTable := init }⟩ := by
  unfold createStore
  rw [if_neg hne, hoc]
  simp only
  rw [h.getNum_first]
  rfl

theorem createStore_notInit (cfg : Cfg) (o : Orders) (h : NotInit ds) (first : Nat) {init : Table} (hne : init ≠ []) :
    createStore cfg ds o first init = ⟨createWrites first init, .ok { first := first, latest := none, latestTable := init }⟩ :=
  createStore_of_core (openCore_notInit cfg o h) h first hne

theorem createStore_repr (cfg : Cfg) (o : Orders) (h : Repr freq ds sp) (first : Nat) {init : Table} (hne : init ≠ []) :
    createStore cfg ds o first init = ⟨[], .error .alreadyInitialized⟩ := by
  unfold createStore
  rw [if_neg hne, openCore_repr cfg o h]
  simp only [applyWs_nil]
  rw [h.getNum_first]

theorem openOrCreate_of_core {cfg : Cfg} {ds : DS} {o : Orders} {w : List W} (hoc : openCore cfg ds o = ⟨w, .ok none⟩)
    (h : NotInit (applyWs ds w)) (first : Nat) {init : Table} (hne : init ≠ []) :
    openOrCreateStore cfg ds o first init =
      ⟨w ++ createWrites first init, .ok { first := first, latest := none, latestTable := init }⟩ := by
  unfold openOrCreateStore
  rw [if_neg hne, hoc]
  simp only
  rw [h.getNum_first]
  rfl

theorem openOrCreate_notInit (cfg : Cfg) (o : Orders) (h : NotInit ds) (first : Nat) {init : Table} (hne : init ≠ []) :
    openOrCreateStore cfg ds o first init = ⟨createWrites first init, .ok { first := first, latest := none, latestTable := init }⟩ :=
  openOrCreate_of_core (openCore_notInit cfg o h) h first hne

theorem openOrCreate_repr (cfg : Cfg) (o : Orders) (h : Repr cfg.freq ds sp) (ho : OpenOk cfg sp) :
    ∃ T, sp.tbl sp.certs.length = some T ∧
      openOrCreateStore cfg ds o sp.first sp.init = ⟨[], .ok (memOf sp T)⟩ := by
  obtain ⟨T, hT, _⟩ := h.facts.tbls sp.certs.length (Nat.le_refl _)
  refine ⟨T, hT, ?_⟩
  unfold openOrCreateStore
  rw [if_neg h.facts.initNe, openCore_repr cfg o h]
  simp only [applyWs_nil]
  rw [h.getNum_first]
  simp only [ne_eq, not_true_eq_false, if_false, h.init]
  cases hc : sp.latest with
  | none =>
    have hnil := (Spec.latest_none_iff sp).1 hc
    have : sp.tbl sp.certs.length = some sp.init := by rw [hnil]; exact Spec.tbl_zero sp
    rw [hT] at this; cases this
    simp [memOf, hc]
  | some c =>
    simp only
    have hinst := Spec.latest_inst h.facts hc
    rw [hinst]
    have := getPowerTable_repr h cfg.opening { first := sp.first, latest := some c, latestTable := [] } rfl hc.symm (Or.inl rfl)
      (Nat.le_refl sp.certs.length) ho hT
    unfold Spec.next
    rw [this]
    simp [memOf, hc]

theorem openOrCreate_repr_first (cfg : Cfg) (o : Orders) (h : Repr freq ds sp) {f : Nat} {t : Table}
    (ht : t ≠ []) (hf : f ≠ sp.first) : openOrCreateStore cfg ds o f t = ⟨[], .error .firstMismatch⟩ := by
  unfold openOrCreateStore
  rw [if_neg ht, openCore_repr cfg o h]
  simp only [applyWs_nil]
  rw [h.getNum_first]
  simp only
  rw [if_pos hf]

theorem openOrCreate_repr_table (cfg : Cfg) (o : Orders) (h : Repr freq ds sp) {t : Table}
    (ht : t ≠ []) (hi : t ≠ sp.init) : openOrCreateStore cfg ds o sp.first t = ⟨[], .error .tableMismatch⟩ := by
  unfold openOrCreateStore
  rw [if_neg ht, openCore_repr cfg o h]
  simp only [applyWs_nil]
  rw [h.getNum_first]
  simp only [ne_eq, not_true_eq_false, if_false, h.init]
  have : Val.tbl sp.init ≠ Val.tbl t := fun e => hi (Val.tbl.inj e).symm
  rw [if_pos this]

theorem openOrCreate_repr_mismatch (cfg : Cfg) (o : Orders) (h : Repr freq ds sp) (first : Nat) {init : Table}
    (hne : init ≠ []) (hm : first ≠ sp.first ∨ init ≠ sp.init) :
    ∃ e, openOrCreateStore cfg ds o first init = ⟨[], .error e⟩ ∧ (e = .firstMismatch ∨ e = .tableMismatch) := by
  by_cases hf : first = sp.first
  · subst hf
    exact ⟨_, openOrCreate_repr_table cfg o h hne (hm.resolve_left fun hh => hh rfl), Or.inr rfl⟩
  · exact ⟨_, openOrCreate_repr_first cfg o h hne hf, Or.inl rfl⟩

theorem repr_create {ds : DS} (freq : Nat) (h : NotInit ds) (first : Nat) {init : Table} (hne : init ≠ []) (hc : Canon init) :
    Repr freq (applyWs ds (createWrites first init)) ⟨first, init, []⟩ := by
  have hmax : (0 : Nat) < maxInt := by decide
  simp only [createWrites, applyWs_cons, applyWs_nil, applyW]
  refine ⟨?_, ?_, ?_, ?_, ?_, ?_, ?_, Spec.Facts.create first hne, hc, hmax⟩
  · rw [dsGet_dsPut_other _ _ (by decide), dsGet_dsPut_other _ _ (by intro e; cases e)]; exact h.noTomb
  · rw [dsGet_dsPut_other _ _ (by decide), dsGet_dsPut_other _ _ (by intro e; cases e)]; exact h.noRootTomb
  · exact dsGet_dsPut_same _ _ _
  · rw [dsGet_dsPut_other _ _ (by intro e; cases e)]; exact dsGet_dsPut_same _ _ _
  · rw [dsGet_dsPut_other _ _ (by decide), dsGet_dsPut_other _ _ (by intro e; cases e)]
    simpa [Spec.latest] using h.latest
  · intro k hk; simp at hk
  · intro k hk1 hk2; simp at hk2; omega

/-- Creation on a datastore holding no store; the first-instance marker is the commit point. -/
theorem create_crash (freq : Nat) {ds : DS} (h : NotInit ds) (first : Nat) {init : Table} (hne : init ≠ []) (hc : Canon init) :
    Crash NotInit (Repr freq · ⟨first, init, []⟩) ds (createWrites first init) :=
  Crash.commit (a := [W.put (.power first) (.tbl init)])
    (fun x hx d hd => hd.applyW (by rw [List.mem_singleton.1 hx]; simp [W.key])) h (repr_create freq h first hne hc)

end F3.Store
