import F3.Proofs.InstanceDecision
import F3.Proofs.LongestPrefix
/-!
# Tallies of a unanimous run (helper lemmas for `C02.unanimous_sync_*`)

`Liveness.UTally`: the exact shape of a single-value tally (`prepared`, `committed`, `decision`) all of whose votes are
for the one chain `c` and come from members of `H`; `UT`: the same with the stored justifications being for `c` in
round 0. `QT`: what is needed of the QUALITY tally.
-/
namespace F3.Sync
open F3.Instance

/-- the standing hypotheses on the table `t`, the common input chain `c` and the honest members `H` -/
structure Ctx (t : Table) (c : Chain) (H : List Pid) : Prop where
  cne : c ≠ []
  nodup : H.Nodup
  inTbl : ∀ x ∈ H, ∃ i, t.index? x = some i
  strong : strongQ t (sumP t H) = true

/-- the support entry of a unanimous tally -/
def uEntry (t : Table) (c : Chain) (S : List Pid) : Support :=
  { chain := c, power := sumP t S, signers := S, strong := strongQ t (sumP t S) }

theorem mapM_some {α β} (f : α → Option β) (l : List α) (h : ∀ x ∈ l, ∃ i, f x = some i) :
    ∃ r, l.mapM f = some r ∧ r.length = l.length := by
  induction l with
  | nil => exact ⟨[], by simp, rfl⟩
  | cons a as ih =>
    obtain ⟨i, hi⟩ := h a List.mem_cons_self
    obtain ⟨r, hr, hl⟩ := ih (fun x hx => h x (List.mem_cons_of_mem _ hx))
    exact ⟨i :: r, by simp [List.mapM_cons, hi, hr], by simp [hl]⟩

theorem sumPow_cons (t : Table) (i : Nat) (l : List Nat) : sumPow t (i :: l) = t.powerAt i + sumPow t l := by
  rw [show i :: l = [i] ++ l from rfl, sumPow_append, sumPow_single]

theorem sumPow_mapM (t : Table) (l : List Pid) (r : List Nat) (h : l.mapM t.index? = some r) :
    sumPow t r = sumP t l := by
  induction l generalizing r with
  | nil => simp at h; subst h; rfl
  | cons a as ih =>
    simp only [List.mapM_cons] at h
    cases hfa : t.index? a with
    | none => simp [hfa] at h
    | some b =>
      cases hm : as.mapM t.index? with
      | none => simp [hfa, hm] at h
      | some bs =>
        simp [hfa, hm] at h
        subst h
        obtain ⟨_, _, hp⟩ := index_spec t a b hfa
        rw [sumPow_cons, sumP_cons, ih bs hm, hp]

theorem sumPow_insertSorted (t : Table) (x : Nat) (l : List Nat) :
    sumPow t (insertSorted x l) = t.powerAt x + sumPow t l := by
  induction l with
  | nil => simp [insertSorted, sumPow]
  | cons a as ih =>
    unfold insertSorted
    split
    · rw [sumPow_cons]
    · rw [sumPow_cons, ih, sumPow_cons]; omega

theorem sumPow_sortNat (t : Table) (l : List Nat) : sumPow t (sortNat l) = sumPow t l := by
  induction l with
  | nil => rfl
  | cons a as ih =>
    show sumPow t (insertSorted a (sortNat as)) = _
    rw [sumPow_insertSorted, ih, sumPow_cons]

theorem takeUntilStrong_some (t : Table) (l : List Nat) (acc : Nat) (taken : List Nat) (hne : l ≠ [])
    (hs : strongQ t (acc + sumPow t l) = true) : ∃ sg, takeUntilStrong t l acc taken = some sg := by
  induction l generalizing acc taken with
  | nil => exact absurd rfl hne
  | cons i is ih =>
    unfold takeUntilStrong
    dsimp only
    split
    · exact ⟨_, rfl⟩
    · rename_i hns
      have hisne : is ≠ [] := by
        intro he
        subst he
        rw [sumPow_single] at hs
        exact hns hs
      apply ih _ _ hisne
      rw [sumPow_cons] at hs
      rw [Nat.add_assoc]; exact hs

theorem fsqf_found (t : Table) (T : Tally) (k : Chain) (e : Support) (hf : T.findSupport k = some e)
    (hs : e.strong = true) (hin : ∀ x ∈ e.signers, ∃ i, t.index? x = some i) (hne : e.signers ≠ [])
    (hst : strongQ t (sumP t e.signers) = true) : ∃ sg, T.findStrongQuorumFor t k = .found sg := by
  unfold Tally.findStrongQuorumFor
  rw [hf]
  simp only [hs, Bool.not_true, Bool.false_eq_true, if_false]
  obtain ⟨r, hr, hlen⟩ := mapM_some t.index? e.signers hin
  rw [hr]
  dsimp only
  have hrne : sortNat r ≠ [] := by
    intro he
    cases hS : e.signers with
    | nil => exact hne hS
    | cons a as =>
      rw [hS] at hlen
      cases r with
      | nil => simp at hlen
      | cons b bs =>
        have : b ∈ sortNat (b :: bs) := (sortNat_mem _ _).2 List.mem_cons_self
        rw [he] at this; cases this
  have hst' : strongQ t (0 + sumPow t (sortNat r)) = true := by
    rw [Nat.zero_add, sumPow_sortNat, sumPow_mapM t _ _ hr]; exact hst
  obtain ⟨sg, hsg⟩ := takeUntilStrong_some t (sortNat r) 0 [] hrne hst'
  rw [hsg]
  exact ⟨sg, rfl⟩

/-- the strong entries of a support list in which only `k` can be strong -/
theorem filter_strong_one (l : List Support) (k : Chain) (hnd : (l.map (·.chain)).Nodup)
    (ho : ∀ e ∈ l, e.strong = true → e.chain = k) :
    l.filter (·.strong) = match l.find? (fun e => e.chain == k) with
      | some e => if e.strong then [e] else []
      | none => [] := by
  induction l with
  | nil => rfl
  | cons a as ih =>
    simp only [List.map_cons, List.nodup_cons] at hnd
    have iha := ih hnd.2 (fun e he => ho e (List.mem_cons_of_mem _ he))
    by_cases hak : a.chain = k
    · have hnone : as.find? (fun e => e.chain == k) = none := by
        rw [List.find?_eq_none]
        intro e he
        simp only [beq_iff_eq]
        intro hek
        exact hnd.1 (List.mem_map.2 ⟨e, he, by rw [hek, hak]⟩)
      rw [hnone] at iha
      rw [List.find?_cons, show (a.chain == k) = true by simpa using hak]
      dsimp only
      by_cases hs : a.strong = true
      · rw [List.filter_cons_of_pos hs, iha, if_pos hs]
      · rw [List.filter_cons_of_neg hs, iha, if_neg hs]
    · have hs : ¬ a.strong = true := fun hs => hak (ho a List.mem_cons_self hs)
      rw [List.filter_cons_of_neg hs, List.find?_cons, show (a.chain == k) = false by simpa using hak]
      exact iha

end F3.Sync

namespace F3.Liveness
open F3.Instance F3.Sync

variable {t : Table} {c : Chain} {H : List Pid}

/-- the exact shape of a PREPARE / COMMIT / DECIDE tally all of whose votes are for the one chain `c` and come from
members of `H` (`F3.Sync.UT` adds a clause on the stored justifications, which is about round 0) -/
structure UTally (t : Table) (c : Chain) (H : List Pid) (T : Tally) : Prop where
  nodup : T.senders.Nodup
  sub : ∀ x ∈ T.senders, x ∈ H
  pow : T.sendersPower = sumP t T.senders
  sup : T.support = if T.senders = [] then [] else [uEntry t c T.senders]

theorem UTally.findSupport {T : Tally} (h : UTally t c H T) :
    T.findSupport c = if T.senders = [] then none else some (uEntry t c T.senders) := by
  unfold Tally.findSupport
  rw [h.sup]
  split
  · rfl
  · simp [uEntry]

theorem UTally.hasStrongFor {T : Tally} (h : UTally t c H T) :
    T.hasStrongFor c = (decide (T.senders ≠ []) && strongQ t (sumP t T.senders)) := by
  unfold Tally.hasStrongFor
  rw [h.findSupport]
  by_cases he : T.senders = []
  · simp [he]
  · simp [he, uEntry]

theorem UTally.senders_ne_of_strong {T : Tally} (h : UTally t c H T) (hs : T.hasStrongFor c = true) : T.senders ≠ [] := by
  rw [h.hasStrongFor] at hs
  simp only [Bool.and_eq_true, decide_eq_true_eq] at hs
  exact hs.1

theorem UTally.receive_new {T : Tally} (h : UTally t c H T) (x : Pid) (hx : x ∈ H) (hn : x ∉ T.senders) :
    ∃ T', T.receive t x c = some T' ∧ UTally t c H T' ∧ T'.senders = T.senders ++ [x] ∧ T'.justs = T.justs := by
  have hc : T.senders.contains x = false := by simpa using hn
  unfold Tally.receive
  simp only [hc, Bool.false_eq_true, if_false]
  unfold Tally.receiveInner
  dsimp only
  have hfs : Tally.findSupport ({ T with senders := T.senders ++ [x], sendersPower := T.sendersPower + t.power x } : Tally) c = T.findSupport c := rfl
  rw [hfs, h.findSupport]
  by_cases he : T.senders = []
  · simp only [he, if_true, Option.getD_none, List.contains_nil, Bool.and_false, Bool.false_eq_true, if_false,
      List.nil_append]
    refine ⟨_, rfl, ⟨?_, ?_, ?_, ?_⟩, rfl, rfl⟩
    · simp
    · intro y hy; simp at hy; subst hy; exact hx
    · show T.sendersPower + t.power x = sumP t [x]
      rw [h.pow, he, sumP_single, sumP_nil]; omega
    · show upsertSupport T.support _ = _
      rw [h.sup]
      simp [he, upsertSupport, uEntry, sumP_single]
  · have hcs : (T.senders.contains x) = false := hc
    simp only [he, if_false, Option.getD_some, uEntry, hcs, Bool.and_false, Bool.false_eq_true, if_true]
    refine ⟨_, rfl, ⟨?_, ?_, ?_, ?_⟩, rfl, rfl⟩
    · show (T.senders ++ [x]).Nodup
      rw [List.nodup_append]
      exact ⟨h.nodup, by simp, fun a ha b hb => by simp at hb; subst hb; intro e; subst e; exact hn ha⟩
    · intro y hy
      have hy' : y ∈ T.senders ++ [x] := hy
      simp only [List.mem_append, List.mem_singleton] at hy'
      rcases hy' with hy' | rfl
      · exact h.sub y hy'
      · exact hx
    · show T.sendersPower + t.power x = sumP t (T.senders ++ [x])
      rw [h.pow, sumP_append, sumP_single]
    · show upsertSupport T.support _ = _
      rw [h.sup]
      have hne : T.senders ++ [x] ≠ [] := by simp
      simp only [he, if_false, hne, upsertSupport, uEntry, beq_self_eq_true, if_true, sumP_append, sumP_single]

theorem UTally.receive_old {T : Tally} (x : Pid) (hn : x ∈ T.senders) : T.receive t x c = some T := by
  have hc : T.senders.contains x = true := by simpa using hn
  unfold Tally.receive
  rw [if_pos hc]

theorem UTally.receive {T : Tally} (h : UTally t c H T) (x : Pid) (hx : x ∈ H) :
    ∃ T', T.receive t x c = some T' ∧ UTally t c H T' ∧ x ∈ T'.senders ∧ (∀ y ∈ T.senders, y ∈ T'.senders) ∧
      (∀ y ∈ T'.senders, y ∈ T.senders ∨ y = x) ∧ T'.justs = T.justs := by
  by_cases hn : x ∈ T.senders
  · exact ⟨T, UTally.receive_old x hn, h, hn, fun _ hy => hy, fun _ hy => Or.inl hy, rfl⟩
  · obtain ⟨T', h1, h2, h3, h4⟩ := h.receive_new x hx hn
    refine ⟨T', h1, h2, by simp [h3], fun y hy => by simp [h3, hy], fun y hy => ?_, h4⟩
    rw [h3] at hy
    simpa using hy

theorem UTally.fsqv {T : Tally} (h : UTally t c H T) :
    T.findStrongQuorumValue = if T.hasStrongFor c = true then .one c else .none := by
  unfold Tally.findStrongQuorumValue
  rw [h.hasStrongFor, h.sup]
  by_cases he : T.senders = []
  · simp [he]
  · by_cases hs : strongQ t (sumP t T.senders) = true
    · simp [he, hs, uEntry]
    · simp [he, hs, uEntry]

theorem UTally.couldReach {T : Tally} (h : UTally t c H T) : T.couldReach t c false = true := by
  unfold Tally.couldReach
  rw [h.findSupport, h.pow]
  unfold Spec.Quorum.couldReach Spec.Quorum.strong
  by_cases he : T.senders = []
  · simp only [he, if_true, sumP_nil]
    simp only [Bool.false_eq_true, if_false, decide_eq_true_eq]
    omega
  · simp only [he, if_false, uEntry]
    simp only [Bool.false_eq_true, if_false, decide_eq_true_eq]
    omega

theorem UTally.strong_of_all {T : Tally} (h : UTally t c H T) (hctx : Ctx t c H) (hne : H ≠ [])
    (hall : ∀ x ∈ H, x ∈ T.senders) : T.hasStrongFor c = true := by
  rw [h.hasStrongFor]
  have h1 : T.senders ≠ [] := by
    intro he
    cases H with
    | nil => exact hne rfl
    | cons a as => have := hall a List.mem_cons_self; rw [he] at this; cases this
  have h2 : sumP t H ≤ sumP t T.senders := sumP_le_of_subset t H T.senders hctx.nodup hall
  simp [h1, strongQ_of_le t h2 hctx.strong]

theorem UTally.fsqf {T : Tally} (h : UTally t c H T) (hctx : Ctx t c H) (hs : T.hasStrongFor c = true) :
    ∃ sg, T.findStrongQuorumFor t c = .found sg := by
  have hne := h.senders_ne_of_strong hs
  rw [h.hasStrongFor] at hs
  simp only [Bool.and_eq_true, decide_eq_true_eq] at hs
  exact fsqf_found t T c (uEntry t c T.senders) (by rw [h.findSupport, if_neg hne]) hs.2
    (fun x hx => hctx.inTbl x (h.sub x hx)) hne hs.2

theorem UTally_empty : UTally t c H {} := ⟨by simp, by simp, rfl, by simp⟩

end F3.Liveness

namespace F3.Sync
open F3.Instance F3.Liveness

structure UT (t : Table) (c : Chain) (H : List Pid) (jp : Phase) (T : Tally) : Prop where
  nodup : T.senders.Nodup
  sub : ∀ x ∈ T.senders, x ∈ H
  pow : T.sendersPower = sumP t T.senders
  sup : T.support = if T.senders = [] then [] else [uEntry t c T.senders]
  justs : ∀ e ∈ T.justs, e.1 = c ∧ e.2.round = 0 ∧ e.2.phase = jp ∧ e.2.value = c

variable {t : Table} {c : Chain} {H : List Pid} {jp : Phase}

theorem UT_empty : UT t c H jp {} := ⟨by simp, by simp, rfl, by simp, by simp⟩

theorem UT.toUTally {T : Tally} (h : UT t c H jp T) : UTally t c H T := ⟨h.nodup, h.sub, h.pow, h.sup⟩

theorem UT.hasStrongFor {T : Tally} (h : UT t c H jp T) :
    T.hasStrongFor c = (decide (T.senders ≠ []) && strongQ t (sumP t T.senders)) := h.toUTally.hasStrongFor

theorem UT.receive {T : Tally} (h : UT t c H jp T) (x : Pid) (hx : x ∈ H) :
    ∃ T', T.receive t x c = some T' ∧ UT t c H jp T' ∧ x ∈ T'.senders ∧ (∀ y ∈ T.senders, y ∈ T'.senders) ∧
      (∀ y ∈ T'.senders, y ∈ T.senders ∨ y = x) ∧ T'.justs = T.justs := by
  obtain ⟨T', h1, u, h3, h4, h5, h6⟩ := h.toUTally.receive x hx
  exact ⟨T', h1, ⟨u.nodup, u.sub, u.pow, u.sup, by rw [h6]; exact h.justs⟩, h3, h4, h5, h6⟩

theorem UT.receiveJust {T : Tally} (h : UT t c H jp T) (j : Just) (hj : j.round = 0 ∧ j.phase = jp ∧ j.value = c) :
    UT t c H jp (T.receiveJust c j) := by
  unfold Tally.receiveJust
  split
  · exact h
  · refine ⟨h.nodup, h.sub, h.pow, h.sup, ?_⟩
    intro e he
    have he' : e ∈ T.justs ++ [(c, j)] := he
    simp only [List.mem_append, List.mem_singleton] at he'
    rcases he' with he' | rfl
    · exact h.justs e he'
    · exact ⟨rfl, hj⟩

theorem receiveJust_senders (T : Tally) (k : Chain) (j : Just) : (T.receiveJust k j).senders = T.senders := by
  unfold Tally.receiveJust; split <;> rfl

theorem receiveJust_support (T : Tally) (k : Chain) (j : Just) : (T.receiveJust k j).support = T.support := by
  unfold Tally.receiveJust; split <;> rfl

theorem receiveJust_hasStrongFor (T : Tally) (k : Chain) (j : Just) (c : Chain) :
    (T.receiveJust k j).hasStrongFor c = T.hasStrongFor c := by
  unfold Tally.hasStrongFor Tally.findSupport
  rw [receiveJust_support]

theorem UT.fsqv {T : Tally} (h : UT t c H jp T) :
    T.findStrongQuorumValue = if T.hasStrongFor c = true then .one c else .none := h.toUTally.fsqv

theorem UT.getJustOf {T : Tally} (h : UT t c H jp T) (hc : c ≠ []) (ph : Phase) (j : Just)
    (hj : T.getJustOf ph c = some j) : j.round = 0 ∧ j.phase = jp ∧ j.value = c := by
  unfold Tally.getJustOf at hj
  have hce : c.isEmpty = false := by cases c <;> simp_all
  simp only [hce, Bool.false_eq_true, if_false] at hj
  split at hj
  · rename_i e he
    split at hj
    · cases hj
      exact (h.justs e (List.mem_of_find?_eq_some he)).2
    · cases hj
  · cases hj

theorem UT.couldReach {T : Tally} (h : UT t c H jp T) : T.couldReach t c false = true := h.toUTally.couldReach

theorem UT.strong_of_all {T : Tally} (h : UT t c H jp T) (hctx : Ctx t c H) (hne : H ≠ [])
    (hall : ∀ x ∈ H, x ∈ T.senders) : T.hasStrongFor c = true := h.toUTally.strong_of_all hctx hne hall

theorem UT.fsqf {T : Tally} (h : UT t c H jp T) (hctx : Ctx t c H) (hs : T.hasStrongFor c = true) :
    ∃ sg, T.findStrongQuorumFor t c = .found sg := h.toUTally.fsqf hctx hs

theorem UT.strong_of_subset {jp : Phase} {T : Tally} (h : UT t c H jp T) (S : List Pid) (hnd : S.Nodup)
    (hS : strongQ t (sumP t S) = true) (hne : T.senders ≠ []) (hsub : ∀ x ∈ S, x ∈ T.senders) :
    T.hasStrongFor c = true := by
  rw [h.hasStrongFor]
  simp [hne, strongQ_of_le t (sumP_le_of_subset t S T.senders hnd hsub) hS]

theorem UT.strong_imp {jp : Phase} {T : Tally} (h : UT t c H jp T) (hs : T.hasStrongFor c = true) :
    strongQ t (sumP t T.senders) = true := by
  rw [h.hasStrongFor] at hs
  simp only [Bool.and_eq_true] at hs
  exact hs.2

/-- power of the candidate entry `receiveInner` starts from -/
def candPower (Q : Tally) (c : Chain) : Nat :=
  ((Q.findSupport c).getD { chain := c, power := 0, signers := [], strong := false }).power

structure QT (t : Table) (c : Chain) (Q : Tally) : Prop where
  pow : Q.sendersPower = sumP t Q.senders
  cand : 2 ≤ c.length → candPower Q c = sumP t Q.senders
  strongOk : ∀ e, Q.findSupport c = some e → e.strong = strongQ t e.power
  present : 2 ≤ c.length → Q.senders ≠ [] → (Q.findSupport c).isSome = true

theorem QT_empty : QT t c {} := ⟨rfl, fun _ => rfl, by simp [Tally.findSupport], by simp⟩

theorem mem_qualityPrefixes (c k : Chain) : k ∈ qualityPrefixes c ↔ k <+: c ∧ 2 ≤ k.length := by
  unfold qualityPrefixes
  simp only [List.mem_map, List.mem_range, prefixTo]
  constructor
  · rintro ⟨j, hj, rfl⟩
    refine ⟨List.take_prefix _ _, ?_⟩
    rw [List.length_take]; omega
  · rintro ⟨hp, hl⟩
    have hle := hp.length_le
    refine ⟨k.length - 2, by omega, ?_⟩
    rw [show k.length - 2 + 1 + 1 = k.length by omega]
    exact (List.prefix_iff_eq_take.1 hp).symm

theorem qualityPrefixes_nodup (c : Chain) : (qualityPrefixes c).Nodup := by
  unfold qualityPrefixes
  rw [List.Nodup, List.pairwise_map]
  refine List.Pairwise.imp_of_mem ?_ (List.nodup_range (n := c.length - 1))
  intro a b ha hb hne heq
  rw [List.mem_range] at ha hb
  have := congrArg List.length heq
  simp only [prefixTo, List.length_take] at this
  omega

/-- the entry a QUALITY vote (no signature) of power `pw` writes for prefix `p` -/
def bump (t : Table) (Q : Tally) (p : Chain) (pw : Nat) : Support :=
  { chain := p, power := candPower Q p + pw,
    signers := ((Q.findSupport p).getD { chain := p, power := 0, signers := [], strong := false }).signers,
    strong := strongQ t (candPower Q p + pw) }

theorem receiveInner_false_some (t : Table) (Q : Tally) (x : Pid) (p : Chain) (pw : Nat) :
    Q.receiveInner t x p pw false = some { Q with support := upsertSupport Q.support (bump t Q p pw) } := by
  unfold Tally.receiveInner bump candPower
  simp

theorem findSupport_bump (t : Table) (Q : Tally) (a k : Chain) (pw : Nat) :
    Tally.findSupport { Q with support := upsertSupport Q.support (bump t Q a pw) } k =
      if k = a then some (bump t Q a pw) else Q.findSupport k := by
  unfold Tally.findSupport
  by_cases hk : k = a
  · subst hk
    rw [if_pos rfl]
    exact upsert_find_same Q.support (bump t Q k pw)
  · rw [if_neg hk]
    exact upsert_find_other _ _ k hk

theorem candPower_bump (t : Table) (Q : Tally) (a k : Chain) (pw : Nat) :
    candPower { Q with support := upsertSupport Q.support (bump t Q a pw) } k =
      if k = a then candPower Q a + pw else candPower Q k := by
  unfold candPower
  rw [findSupport_bump]
  by_cases hk : k = a
  · subst hk
    rw [if_pos rfl, if_pos rfl]
    rfl
  · rw [if_neg hk, if_neg hk]

/-- `Q'` is `Q` after a QUALITY vote of power `pw` has been counted for the prefixes `l` -/
structure Bumped (t : Table) (pw : Nat) (l : List Chain) (Q Q' : Tally) : Prop where
  senders : Q'.senders = Q.senders
  sendersPower : Q'.sendersPower = Q.sendersPower
  cand : ∀ k, candPower Q' k = candPower Q k + (if k ∈ l then pw else 0)
  strongOk : ∀ k, (∀ e, Q.findSupport k = some e → e.strong = strongQ t e.power) →
    ∀ e, Q'.findSupport k = some e → e.strong = strongQ t e.power
  present : ∀ k, (Q.findSupport k).isSome = true ∨ k ∈ l → (Q'.findSupport k).isSome = true

theorem fold_prefixes (t : Table) (x : Pid) (pw : Nat) (l : List Chain) (hnd : l.Nodup) (Q Q' : Tally)
    (hQ' : l.foldl (fun acc p => (acc.receiveInner t x p pw false).getD acc) Q = Q') : Bumped t pw l Q Q' := by
  induction l generalizing Q with
  | nil =>
    subst hQ'
    exact ⟨rfl, rfl, fun k => by simp, fun _ h => h, fun _ h => h.resolve_right List.not_mem_nil⟩
  | cons a as ih =>
    rw [List.foldl_cons, receiveInner_false_some, Option.getD_some] at hQ'
    have hnd' := List.nodup_cons.1 hnd
    have B := ih hnd'.2 _ hQ'
    refine ⟨B.senders, B.sendersPower, fun k => ?_, fun k hs => B.strongOk k ?_, fun k hk => B.present k ?_⟩
    · rw [B.cand, candPower_bump]
      by_cases hk : k = a
      · subst hk
        rw [if_pos rfl, if_neg hnd'.1, if_pos List.mem_cons_self]; omega
      · rw [if_neg hk]
        by_cases hm : k ∈ as
        · rw [if_pos hm, if_pos (List.mem_cons_of_mem _ hm)]
        · rw [if_neg hm, if_neg (by simp [hk, hm])]
    · intro e he
      rw [findSupport_bump] at he
      by_cases hk : k = a
      · rw [if_pos hk] at he
        cases he
        rfl
      · rw [if_neg hk] at he
        exact hs e he
    · rw [findSupport_bump]
      by_cases hka : k = a
      · rw [if_pos hka]
        exact Or.inl rfl
      · rw [if_neg hka]
        exact hk.imp id (fun h => (List.mem_cons.1 h).resolve_left hka)

theorem QT.receive {Q : Tally} (h : QT t c Q) (x : Pid) :
    QT t c (Q.receiveEachPrefix t x c) ∧ x ∈ (Q.receiveEachPrefix t x c).senders ∧
    (∀ y ∈ Q.senders, y ∈ (Q.receiveEachPrefix t x c).senders) := by
  unfold Tally.receiveEachPrefix
  by_cases hin : x ∈ Q.senders
  · have : Q.senders.contains x = true := by simpa using hin
    simp only [this, if_true]
    exact ⟨h, hin, fun _ hy => hy⟩
  · have hcf : Q.senders.contains x = false := by simpa using hin
    simp only [hcf, Bool.false_eq_true, if_false]
    generalize hQ1 : ((qualityPrefixes c).foldl (fun (acc : Tally) p => (acc.receiveInner t x p (t.power x) false).getD acc)
      ({ Q with senders := Q.senders ++ [x], sendersPower := Q.sendersPower + t.power x } : Tally)) = Q1
    have B := fold_prefixes t x (t.power x) _ (qualityPrefixes_nodup c) _ Q1 hQ1
    have f2' : Q1.senders = Q.senders ++ [x] := B.senders
    have hmem : 2 ≤ c.length → c ∈ qualityPrefixes c := fun hl => (mem_qualityPrefixes c c).2 ⟨List.prefix_rfl, hl⟩
    refine ⟨⟨?_, ?_, B.strongOk c h.strongOk, fun hl _ => B.present c (Or.inr (hmem hl))⟩, by rw [f2']; simp, fun y hy => by rw [f2']; simp [hy]⟩
    · rw [B.sendersPower, f2', sumP_append, sumP_single]
      exact congrArg (· + t.power x) h.pow
    · intro hl
      rw [B.cand, if_pos (hmem hl), f2', sumP_append, sumP_single]
      exact congrArg (· + t.power x) (h.cand hl)

theorem QT.hasStrongFor {Q : Tally} (h : QT t c Q) (hlen : 2 ≤ c.length) (hne : Q.senders ≠ []) :
    Q.hasStrongFor c = strongQ t (sumP t Q.senders) := by
  unfold Tally.hasStrongFor
  have hs := h.present hlen hne
  have hc := h.cand hlen
  unfold candPower at hc
  cases hf : Q.findSupport c with
  | none => rw [hf] at hs; cases hs
  | some e =>
    rw [hf] at hc
    simp only [Option.getD_some] at hc
    show e.strong = _
    rw [h.strongOk e hf, hc]

theorem QT.strong_of_all {Q : Tally} (h : QT t c Q) (hctx : Ctx t c H) (hlen : 2 ≤ c.length) (hne : H ≠ [])
    (hall : ∀ x ∈ H, x ∈ Q.senders) : Q.hasStrongFor c = true := by
  have h1 : Q.senders ≠ [] := by
    intro he
    cases H with
    | nil => exact hne rfl
    | cons a as => have := hall a List.mem_cons_self; rw [he] at this; cases this
  rw [h.hasStrongFor hlen h1]
  exact strongQ_of_le t (sumP_le_of_subset t H Q.senders hctx.nodup hall) hctx.strong

theorem QT.strong_imp {Q : Tally} (h : QT t c Q) (hlen : 2 ≤ c.length) (hs : Q.hasStrongFor c = true) :
    strongQ t (sumP t Q.senders) = true := by
  unfold Tally.hasStrongFor at hs
  have hc := h.cand hlen
  unfold candPower at hc
  cases hf : Q.findSupport c with
  | none => rw [hf] at hs; cases hs
  | some e =>
    rw [hf] at hs hc
    simp only [Option.getD_some] at hc
    dsimp only at hs
    rw [h.strongOk e hf, hc] at hs
    exact hs

theorem QT.strong_of_subset {Q : Tally} (h : QT t c Q) (hlen : 2 ≤ c.length) (S : List Pid) (hnd : S.Nodup)
    (hS : strongQ t (sumP t S) = true) (hne : S ≠ []) (hsub : ∀ x ∈ S, x ∈ Q.senders) : Q.hasStrongFor c = true := by
  have h1 : Q.senders ≠ [] := by
    intro he
    cases S with
    | nil => exact hne rfl
    | cons a as => have := hsub a List.mem_cons_self; rw [he] at this; cases this
  rw [h.hasStrongFor hlen h1]
  exact strongQ_of_le t (sumP_le_of_subset t S Q.senders hnd hsub) hS

end F3.Sync
