import F3.Model.Net
/-!
# Basic facts about the network of model participants (`F3/Model/Net.lean`)

Looking up and replacing nodes, what `opOk` says per event, failures of an effect list.
-/
namespace F3.Sync
open F3.Instance F3.Net

theorem opOk_start {n : Net} {p : Pid} {now : Int} :
    opOk n (.start p now) = true ↔ (n.node? p).isSome = true ∧ p ∉ n.started := by
  simp [opOk]

theorem opOk_deliver {n : Net} {p : Pid} {now : Int} {m : Msg} :
    opOk n (.deliver p now m) = true ↔ p ∈ n.started ∧ m ∈ n.pool := by
  simp [opOk]

theorem opOk_alarm {n : Net} {p : Pid} {now : Int} : opOk n (.alarm p now) = true ↔ p ∈ n.started := by
  simp [opOk]

theorem node?_mem {n : Net} {p : Pid} {s : State} (h : n.node? p = some s) : (p, s) ∈ n.nodes := by
  unfold Net.node? at h
  cases hf : n.nodes.find? (fun e => e.1 == p) with
  | none => rw [hf] at h; cases h
  | some e =>
    rw [hf] at h
    simp only [Option.map_some, Option.some.injEq] at h
    have h1 := List.mem_of_find?_eq_some hf
    have h2 := List.find?_some hf
    simp only [beq_iff_eq] at h2
    rw [← h, ← h2]
    exact h1

theorem mem_setNode {l : List (Pid × State)} {p : Pid} {s' : State} {q : Pid} {x : State}
    (h : (q, x) ∈ setNode l p s') : (q = p ∧ x = s') ∨ (q ≠ p ∧ (q, x) ∈ l) := by
  unfold setNode at h
  rw [List.mem_map] at h
  obtain ⟨e, he, heq⟩ := h
  by_cases hc : e.1 = p
  · rw [if_pos (by simp [hc])] at heq
    simp only [Prod.mk.injEq] at heq
    exact Or.inl ⟨by rw [← heq.1, hc], heq.2.symm⟩
  · rw [if_neg (by simp [hc])] at heq
    subst heq
    exact Or.inr ⟨hc, he⟩

theorem setNode_ids (l : List (Pid × State)) (p : Pid) (s' : State) : (setNode l p s').map (·.1) = l.map (·.1) := by
  unfold setNode
  rw [List.map_map]
  apply List.map_congr_left
  intro e _
  simp only [Function.comp]
  split <;> try rfl

theorem hasFailure_eq_any (es : List Eff) : hasFailure es = es.any isFailure := by
  unfold hasFailure
  congr

theorem failuresOf_nil (p : Pid) (es : List Eff) (h : hasFailure es = false) : failuresOf p es = [] := by
  unfold failuresOf
  rw [hasFailure_eq_any] at h
  have : es.filter isFailure = [] := by
    rw [List.filter_eq_nil_iff]
    intro e he
    have := List.any_eq_false.1 h e he
    simpa using this
  rw [this]; rfl

theorem nodes_unique {l : List (Pid × State)} (hnd : (l.map (·.1)).Nodup) {p : Pid} {x s : State}
    (hx : (p, x) ∈ l) (hs : (p, s) ∈ l) : x = s := by
  induction l with
  | nil => cases hx
  | cons e es ih =>
    simp only [List.map_cons, List.nodup_cons] at hnd
    rcases List.mem_cons.1 hx with hx | hx <;> rcases List.mem_cons.1 hs with hs | hs
    · rw [← hs] at hx; exact (Prod.mk.inj hx).2
    · exact absurd (List.mem_map.2 ⟨(p, s), hs, by rw [← hx]⟩) hnd.1
    · exact absurd (List.mem_map.2 ⟨(p, x), hx, by rw [← hs]⟩) hnd.1
    · exact ih hnd.2 hx hs

theorem node?_of_mem {n : Net} (hnd : (n.nodes.map (·.1)).Nodup) {p : Pid} {s : State} (h : (p, s) ∈ n.nodes) :
    n.node? p = some s := by
  unfold Net.node?
  cases hf : n.nodes.find? (fun e => e.1 == p) with
  | none =>
    rw [List.find?_eq_none] at hf
    have := hf (p, s) h
    simp at this
  | some e =>
    have h1 := List.mem_of_find?_eq_some hf
    have h2 := List.find?_some hf
    simp only [beq_iff_eq] at h2
    have : (p, e.2) ∈ n.nodes := by rw [← h2]; exact h1
    simp only [Option.map_some, Option.some.injEq]
    exact nodes_unique hnd this h

end F3.Sync
