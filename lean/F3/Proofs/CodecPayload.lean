import F3.Model.Payload
import F3.Proofs.CodecBytes
import F3.Proofs.CodecMerkle
/-! The layouts of the signing payload, the tipset bytes and the VRF input (C14a): fixed-width fields are
read off at fixed offsets, so the bytes determine the fields once one of the two variable-length fields
is pinned down. -/
namespace F3.Payload
open F3.Codec F3.Merkle

/-- the Go types of the fields: `uint8`, `uint64`, `uint64`, `[32]byte`, `[32]byte` -/
structure SigInput.WF (p : SigInput) : Prop where
  phase : p.phase < 256
  round : p.round < 2 ^ 64
  inst : p.inst < 2 ^ 64
  commitments : p.commitments.length = 32
  key : p.key.length = 32

/-- everything after the network name and its separator -/
def sigTail (p : SigInput) : Bytes :=
  [p.phase % 256] ++ be64 p.round ++ be64 p.inst ++ p.commitments ++ p.key ++ p.ptCid

theorem payloadBytes_eq (p : SigInput) :
    payloadBytes p = (domainTag ++ [sep]) ++ (p.net ++ ([sep] ++ sigTail p)) := by
  simp [payloadBytes, sigTail, List.append_assoc]

theorem sigTail_length (p : SigInput) (hp : p.WF) : (sigTail p).length = 81 + p.ptCid.length := by
  simp [sigTail, be64_length, hp.commitments, hp.key]; omega

/-- Phase, round, instance and commitments are read off the signed bytes at fixed offsets after the
network name: no hash is involved. -/
theorem sigTail_scalars {p q : SigInput} (hp : p.phase < 256) (hq : q.phase < 256)
    (hpr : p.round < 2 ^ 64) (hqr : q.round < 2 ^ 64) (hpi : p.inst < 2 ^ 64) (hqi : q.inst < 2 ^ 64)
    (hpc : p.commitments.length = 32) (hqc : q.commitments.length = 32) (h : sigTail p = sigTail q) :
    p.phase = q.phase ∧ p.round = q.round ∧ p.inst = q.inst ∧ p.commitments = q.commitments ∧
      p.key ++ p.ptCid = q.key ++ q.ptCid := by
  unfold sigTail at h
  simp only [List.append_assoc] at h
  obtain ⟨h1, h⟩ := List.append_inj h (by simp)
  obtain ⟨h2, h⟩ := List.append_inj h (by simp [be64_length])
  obtain ⟨h3, h⟩ := List.append_inj h (by simp [be64_length])
  obtain ⟨h4, h⟩ := List.append_inj h (by rw [hpc, hqc])
  have hph : p.phase % 256 = q.phase % 256 := by simpa using h1
  rw [Nat.mod_eq_of_lt hp, Nat.mod_eq_of_lt hq] at hph
  exact ⟨hph, be64_inj hpr hqr h2, be64_inj hpi hqi h3, h4, h⟩

theorem sigTail_inj {p q : SigInput} (hp : p.WF) (hq : q.WF) (h : sigTail p = sigTail q) :
    p.phase = q.phase ∧ p.round = q.round ∧ p.inst = q.inst ∧ p.commitments = q.commitments ∧
      p.key = q.key ∧ p.ptCid = q.ptCid := by
  obtain ⟨h1, h2, h3, h4, h5⟩ := sigTail_scalars hp.phase hq.phase hp.round hq.round hp.inst hq.inst
    hp.commitments hq.commitments h
  exact ⟨h1, h2, h3, h4, List.append_inj h5 (by rw [hp.key, hq.key])⟩

theorem SigInput.ext' {p q : SigInput} (h0 : p.net = q.net) (h1 : p.phase = q.phase) (h2 : p.round = q.round)
    (h3 : p.inst = q.inst) (h4 : p.commitments = q.commitments) (h5 : p.key = q.key) (h6 : p.ptCid = q.ptCid) :
    p = q := by
  cases p; cases q; simp_all

/-- For a fixed network name the signed bytes determine every other field. -/
theorem payload_inj_fixed_net {p q : SigInput} (hp : p.WF) (hq : q.WF) (hnet : p.net = q.net)
    (h : payloadBytes p = payloadBytes q) : p = q := by
  rw [payloadBytes_eq, payloadBytes_eq, hnet] at h
  have h' := List.append_cancel_left (List.append_cancel_left (List.append_cancel_left h))
  obtain ⟨h1, h2, h3, h4, h5, h6⟩ := sigTail_inj hp hq h'
  exact SigInput.ext' hnet h1 h2 h3 h4 h5 h6

theorem payload_scalars_fixed_net {p q : SigInput} (hp : p.phase < 256) (hq : q.phase < 256)
    (hpr : p.round < 2 ^ 64) (hqr : q.round < 2 ^ 64) (hpi : p.inst < 2 ^ 64) (hqi : q.inst < 2 ^ 64)
    (hpc : p.commitments.length = 32) (hqc : q.commitments.length = 32) (hnet : p.net = q.net)
    (h : payloadBytes p = payloadBytes q) :
    p.phase = q.phase ∧ p.round = q.round ∧ p.inst = q.inst ∧ p.commitments = q.commitments ∧
      p.key ++ p.ptCid = q.key ++ q.ptCid := by
  rw [payloadBytes_eq, payloadBytes_eq, hnet] at h
  have h' := List.append_cancel_left (List.append_cancel_left (List.append_cancel_left h))
  exact sigTail_scalars hp hq hpr hqr hpi hqi hpc hqc h'

/-- When the two power-table CIDs have the same length (in practice: always 38 bytes) the signed bytes
determine all fields, the network name included. -/
theorem payload_inj_cidlen {p q : SigInput} (hp : p.WF) (hq : q.WF) (hcid : p.ptCid.length = q.ptCid.length)
    (h : payloadBytes p = payloadBytes q) : p = q := by
  have h0 := h
  rw [payloadBytes_eq, payloadBytes_eq] at h
  have h' := List.append_cancel_left h
  have hl := congrArg List.length h'
  simp only [List.length_append, List.length_cons, List.length_nil, sigTail_length p hp, sigTail_length q hq] at hl
  have hnl : p.net.length = q.net.length := by omega
  obtain ⟨hnet, _⟩ := List.append_inj h' hnl
  exact payload_inj_fixed_net hp hq hnet h0

/-- Changing any one field changes the signed bytes: two well-typed inputs that differ, and that agree
on the network name or on the *length* of the power-table CID, never serialise to the same bytes.
(A single-field change always satisfies the side condition: either the network name is unchanged, or
it is the only change and then the CID is unchanged.) -/
theorem payload_sensitive {p q : SigInput} (hp : p.WF) (hq : q.WF) (hne : p ≠ q)
    (hside : p.net = q.net ∨ p.ptCid.length = q.ptCid.length) : payloadBytes p ≠ payloadBytes q := by
  intro h
  rcases hside with hn | hc
  · exact hne (payload_inj_fixed_net hp hq hn h)
  · exact hne (payload_inj_cidlen hp hq hc h)

/-- The *idealised* CID hash: globally injective with 32-byte output (false of blake2b-256 and of every
real hash, see `HashOK`). Used by the idealised-hash corollaries only. -/
structure CidHashOK (B : Bytes → Bytes) : Prop where
  inj : ∀ a b, B a = B b → a = b
  len : ∀ a, (B a).length = 32

structure TipSet.WF (t : TipSet) : Prop where
  epoch : -(2 ^ 63) ≤ t.epoch ∧ t.epoch < 2 ^ 63
  commitments : t.commitments.length = 32

theorem chainKey_eq_tree (H B : Bytes → Bytes) (x : List TipSet) :
    chainKey H B x = tree H (x.map (tipsetBytes B)) := by
  cases x with
  | nil => simp [chainKey, tree_nil]
  | cons _ _ => rfl

/-- `KeysForPrefixes()[i]` (and therefore the key cached in `AllPrefixes()[i]`) is `Prefix(i).Key()`. -/
theorem keysForPrefixes_get (H B : Bytes → Bytes) (c : List TipSet) (i : Nat) (hi : i < c.length) :
    (keysForPrefixes H B c)[i]? = some (chainKey H B (chainPrefix c i)) := by
  unfold keysForPrefixes chainPrefix
  rw [batchTree_get H _ i (by simpa using hi), chainKey_eq_tree, List.map_take]

theorem keysForPrefixes_length (H B : Bytes → Bytes) (c : List TipSet) : (keysForPrefixes H B c).length = c.length := by
  simp [keysForPrefixes, batchTree_length]

structure VrfInput.WF (v : VrfInput) : Prop where
  inst : v.inst < 2 ^ 64
  round : v.round < 2 ^ 64

theorem vrfBytes_eq (v : VrfInput) :
    vrfBytes v = (domainTagVRF ++ [sep]) ++ (v.net ++ ([sep] ++ (v.beacon ++ ([sep] ++ (be64 v.inst ++ be64 v.round))))) := by
  simp [vrfBytes, List.append_assoc]

theorem vrf_inj_fixed_net {v w : VrfInput} (hv : v.WF) (hw : w.WF) (hnet : v.net = w.net)
    (h : vrfBytes v = vrfBytes w) : v = w := by
  rw [vrfBytes_eq, vrfBytes_eq, hnet] at h
  have h' := List.append_cancel_left (List.append_cancel_left (List.append_cancel_left h))
  obtain ⟨hb, h2⟩ := List.append_inj' h' (by simp [be64_length])
  have h3 := List.append_cancel_left h2
  obtain ⟨hi, hr⟩ := List.append_inj h3 (by simp [be64_length])
  have := be64_inj hv.inst hw.inst hi
  have := be64_inj hv.round hw.round hr
  cases v; cases w; simp_all

theorem vrf_inj_beaconlen {v w : VrfInput} (hv : v.WF) (hw : w.WF) (hlen : v.beacon.length = w.beacon.length)
    (h : vrfBytes v = vrfBytes w) : v = w := by
  have h0 := h
  rw [vrfBytes_eq, vrfBytes_eq] at h
  have h' := List.append_cancel_left h
  have hl := congrArg List.length h'
  simp only [List.length_append, List.length_cons, List.length_nil, be64_length] at hl
  obtain ⟨hnet, _⟩ := List.append_inj h' (by omega)
  exact vrf_inj_fixed_net hv hw hnet h0

end F3.Payload
