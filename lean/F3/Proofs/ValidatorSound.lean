import F3.Proofs.ValidatorRules
import F3.Proofs.ValidatorBasic
import F3.Proofs.EarlyReturn
/-!
Soundness and completeness of the cache-free check against the declarative `validMsg`: `checkBody_sound` (for a
`WireMsg`), `checkBody_complete` (round a `uint64`, actor ids unique), together `checkMsg_accept_iff`; and `validateByProgress` read
as a window (`byProgress_none_iff`) with the `uint64` facts that turn it into `relevant` (C05 `relevance_window_exact`).
-/
namespace F3.Validator
open F3.Msg F3.Spec.ValidMsg F3.Proofs

theorem isEmpty_iff {a : Chain} : a.isEmpty = true ↔ a = [] := List.isEmpty_iff

theorem preMsg_eq_some_iff (cfg : Cfg) (c : Committee) (vk : Option VKey) (m : Msg) (b : Bool) :
    preMsg cfg c vk m = some b ↔
      ((c.get m.sender).1 ≠ 0 ∧ chainValid m.vote.value = true ∧
        phaseRules cfg c m (voteForBottom vk m) (c.get m.sender).2 = true ∧
        m.sig = Sig.tok (c.get m.sender).2 (votePayload cfg.net m.vote (vk.getD (keyOf m.vote.value))) ∧
        b = needsJust m (voteForBottom vk m)) := by
  unfold preMsg
  simp only [ite_eq_iff_of_ne (nofun : (none : Option Bool) ≠ some b), Option.some.injEq, Bool.not_eq_true',
    Bool.not_eq_false, beq_iff_eq, ne_eq, eq_comm (a := b)]

theorem get_ne_zero {c : Committee} {id : Nat} (h : (c.get id).1 ≠ 0) :
    ∃ e ∈ c.entries, e.id = id ∧ 0 < e.power ∧ c.get id = (e.power, e.pub) := by
  unfold Committee.get at h ⊢
  cases hf : findEntry c.entries id with
  | none => simp [hf] at h
  | some e =>
    simp only [hf] at h ⊢
    exact ⟨e, (findEntry_some hf).1, (findEntry_some hf).2, Nat.pos_of_ne_zero h, rfl⟩

theorem get_of_mem {c : Committee} (hu : Committee.uniqueIds c) {e : Entry} (he : e ∈ c.entries) :
    c.get e.id = (e.power, e.pub) := by
  unfold Committee.get
  rw [findEntry_of_mem hu he]

/-- The `switch msg.Vote.Phase` block (full mode) is the step constraint plus the ticket rule. -/
theorem phaseRules_iff (cfg : Cfg) (c : Committee) (m : Msg) (pub : Nat) :
    phaseRules cfg c m m.vote.value.isEmpty pub = true ↔
      (stepOK m.vote ∧
        (m.vote.phase = CONVERGE → m.ticket = Sig.tok pub (SigMsg.vrf cfg.net c.beacon m.vote.inst m.vote.round))) := by
  unfold phaseRules stepOK
  simp only [QUALITY, CONVERGE, PREPARE, COMMIT, DECIDE]
  rcases phase_cases m.vote.phase with h | h | h | h | h | h
  · simp [h]
  · -- CONVERGE: `round ≠ 0` of the code is `1 ≤ round` of the specification
    have hr : ¬ m.vote.round = 0 ↔ 1 ≤ m.vote.round := by omega
    simp [h, hr, and_assoc]
  · simp [h]
  · simp [h]
  · simp [h]
  · simp [h]

theorem needsJust_iff (m : Msg) :
    needsJust m m.vote.value.isEmpty = true ↔ needsJustification m.vote := by
  unfold needsJust needsJustification
  simp only [QUALITY, PREPARE, COMMIT]
  rcases phase_cases m.vote.phase with h | h | h | h | h | h <;> simp [h]

def tableOK (v j : Payload) : Prop :=
  match expectation v.phase v.round j.phase with
  | none => False
  | some (er, b) =>
    ¬ (j.round ≠ er ∧ (!anyRound v.phase er) = true) ∧
      keyOf j.value = (if b then keyOf v.value else VKey.zero)

theorem u64_pred {r : Nat} (h0 : r ≠ 0) (hr : r < 2 ^ 64) : u64 (r + maxU64) = r - 1 := by
  unfold u64
  rw [maxU64_eq]
  have : (2 : Nat) ^ 64 = 18446744073709551616 := by decide
  omega

theorem tableOK_iff_justifies (v j : Payload) (hr : v.round < 2 ^ 64)
    (h0 : (v.phase = CONVERGE ∨ v.phase = PREPARE) → v.round ≠ 0) :
    tableOK v j ↔ justifies v j := by
  unfold tableOK expectation justifies anyRound
  simp only [CONVERGE, PREPARE, COMMIT, DECIDE] at h0 ⊢
  -- CONVERGE / PREPARE: the table expects round `v.round - 1` (no wrap: `v.round ≠ 0`), the specification says
  -- `j.round + 1 = v.round`
  have hprev : (v.phase = 2 ∨ v.phase = 3) →
      u64 (v.round + maxU64) = v.round - 1 ∧ ∀ jr, jr = v.round - 1 ↔ jr + 1 = v.round := fun h =>
    ⟨u64_pred (h0 h) hr, fun jr => by have := h0 h; omega⟩
  rcases phase_cases v.phase with hv | hv | hv | hv | hv | ⟨hv1, hv2, hv3, hv4, hv5⟩
  · simp [hv]
  · obtain ⟨hpred, hround⟩ := hprev (.inl hv)
    rcases phase_cases j.phase with hj | hj | hj | hj | hj | hj <;>
      simp [hv, hj, hpred, hround, keyOf_inj, keyOf_zero]
  · obtain ⟨hpred, hround⟩ := hprev (.inr hv)
    rcases phase_cases j.phase with hj | hj | hj | hj | hj | hj <;>
      simp [hv, hj, hpred, hround, keyOf_inj, keyOf_zero]
  · rcases phase_cases j.phase with hj | hj | hj | hj | hj | hj <;>
      simp [hv, hj, keyOf_inj]
  · rcases phase_cases j.phase with hj | hj | hj | hj | hj | hj <;>
      simp [hv, hj, keyOf_inj]
  · simp [hv2, hv3, hv4, hv5]

theorem preJust_iff (vk : Option VKey) (m : Msg) (j : Just) (ek : VKey) :
    preJust vk m = some (j, ek) ↔
      (m.just = some j ∧ m.vote.inst = j.vote.inst ∧ m.vote.supp = j.vote.supp ∧
        chainValid j.vote.value = true ∧
        ∃ er b, expectation m.vote.phase m.vote.round j.vote.phase = some (er, b) ∧
          ¬ (j.vote.round ≠ er ∧ (!anyRound m.vote.phase er) = true) ∧
          ek = (if b then vk.getD (keyOf m.vote.value) else VKey.zero) ∧
          (vk = none → keyOf j.vote.value = ek)) := by
  have ne : (none : Option (Just × VKey)) ≠ some (j, ek) := nofun
  unfold preJust
  cases m.just with
  | none => simp
  | some j' =>
    -- each test that returns `none` fails
    simp only [ite_eq_iff_of_ne ne, Option.some.injEq]
    cases he : expectation m.vote.phase m.vote.round j'.vote.phase with
    | none =>
      simp only [reduceCtorEq, and_false, false_iff]
      rintro ⟨rfl, _, _, _, er, b, hex, _⟩
      rw [he] at hex; cases hex
    | some p =>
      obtain ⟨er, b⟩ := p
      simp only [ite_eq_iff_of_ne ne, Option.some.injEq, Prod.mk.injEq]
      constructor
      · rintro ⟨h1, h2, h3, h4, h5, rfl, rfl⟩
        refine ⟨rfl, by simpa using h1, by simpa using h2, by simpa using h3, er, b, he, h4, rfl, ?_⟩
        rintro rfl
        simpa using h5
      · rintro ⟨rfl, h1, h2, h3, er', b', hex, h4, rfl, h5⟩
        rw [he] at hex; cases hex
        refine ⟨by simpa using h1, by simpa using h2, by simpa using h3, h4, ?_, rfl, rfl⟩
        rintro ⟨hn, hne⟩
        exact hne (h5 (Option.isNone_iff_eq_none.mp hn))

theorem tableOK_iff (v j : Payload) :
    tableOK v j ↔ ∃ er b, expectation v.phase v.round j.phase = some (er, b) ∧
      ¬ (j.round ≠ er ∧ (!anyRound v.phase er) = true) ∧
      keyOf j.value = (if b then keyOf v.value else VKey.zero) := by
  unfold tableOK
  cases expectation v.phase v.round j.phase with
  | none => simp
  | some p =>
    obtain ⟨er, b⟩ := p
    simp only [Option.some.injEq, Prod.mk.injEq]
    constructor
    · exact fun h => ⟨er, b, ⟨rfl, rfl⟩, h⟩
    · rintro ⟨_, _, ⟨rfl, rfl⟩, h⟩; exact h

/-- Full mode: the expected key is the justification's own. -/
theorem preJust_none_iff {m : Msg} {j : Just} {ek : VKey} :
    preJust none m = some (j, ek) ↔
      (m.just = some j ∧ m.vote.inst = j.vote.inst ∧ m.vote.supp = j.vote.supp ∧
        chainValid j.vote.value = true ∧ tableOK m.vote j.vote ∧ ek = keyOf j.vote.value) := by
  rw [preJust_iff, tableOK_iff]
  constructor
  · rintro ⟨hj, h1, h2, h3, er, b, he, hr, hek, hk⟩
    exact ⟨hj, h1, h2, h3, ⟨er, b, he, hr, (hk rfl).trans hek⟩, (hk rfl).symm⟩
  · rintro ⟨hj, h1, h2, h3, ⟨er, b, he, hr, hk⟩, hek⟩
    exact ⟨hj, h1, h2, h3, er, b, he, hr, hek.trans hk, fun _ => hek.symm⟩

/-- Side condition on a message as decoded from the wire: the round is a `uint64`, and the signer list
of a justification is the ascending enumeration of a bit set. -/
structure WireMsg (m : Msg) : Prop where
  round : m.vote.round < 2 ^ 64
  signers : ∀ j, m.just = some j → j.signers.Pairwise (· < ·)

theorem round_ne_zero_of {v : Payload} (hs : stepOK v) (hn : needsJustification v)
    (h : v.phase = CONVERGE ∨ v.phase = PREPARE) : v.round ≠ 0 := by
  unfold stepOK at hs
  unfold needsJustification at hn
  simp only [QUALITY, CONVERGE, PREPARE, COMMIT, DECIDE] at hs hn h
  rcases h with h | h
  · simp [h] at hs; omega
  · simp [h] at hn; exact hn

theorem checkBody_sound {cfg : Cfg} {c : Committee} {m : Msg} (hw : WireMsg m)
    (h : checkBody cfg c none m = true) : validMsg cfg.net c m := by
  obtain ⟨b, hp, hrest⟩ := (checkBody_iff cfg c none m).mp h
  obtain ⟨hpow, hchain, hphase, hsig, hb⟩ := (preMsg_eq_some_iff cfg c none m b).mp hp
  simp only [voteForBottom] at hphase hb
  obtain ⟨e, he, hid, hpos, hget⟩ := get_ne_zero hpow
  have hph := (phaseRules_iff cfg c m _).mp hphase
  rw [hget] at hsig hph
  simp only [votePayload, Option.getD_none] at hsig
  refine ⟨⟨e, he, hid, hpos, hsig, hph.2⟩, (chainValid_iff _).mp hchain, hph.1, ?_⟩
  cases b with
  | true =>
    have hn : needsJustification m.vote := (needsJust_iff m).mp hb.symm
    obtain ⟨j, ek, hpj, hs⟩ := (checkJust_iff cfg c none m).mp (by simpa using hrest)
    obtain ⟨hj, h1, h2, h3, ht, hek⟩ := preJust_none_iff.mp hpj
    have hjust := (tableOK_iff_justifies m.vote j.vote hw.round (round_ne_zero_of hph.1 hn)).mp ht
    have hs := (sigJust_iff cfg c j ek (hw.signers j hj)).mp hs
    rw [hek] at hs
    exact ⟨fun _ => ⟨j, hj, h1.symm, h2.symm, (chainValid_iff _).mp h3, hjust, hs⟩, fun hnn => absurd hn hnn⟩
  | false =>
    have hn : ¬ needsJustification m.vote := fun hn => by rw [(needsJust_iff m).mpr hn] at hb; cases hb
    exact ⟨fun hnn => absurd hnn hn, fun _ => by simpa using hrest⟩

theorem checkBody_complete {cfg : Cfg} {c : Committee} {m : Msg} (hr : m.vote.round < 2 ^ 64)
    (hu : Committee.uniqueIds c) (h : validMsg cfg.net c m) : checkBody cfg c none m = true := by
  obtain ⟨⟨e, he, hid, hpos, hsig, htick⟩, hchain, hstep, hjn, hjnn⟩ := h
  have hget : c.get m.sender = (e.power, e.pub) := by rw [← hid]; exact get_of_mem hu he
  have hpm : preMsg cfg c none m = some (needsJust m m.vote.value.isEmpty) := by
    refine (preMsg_eq_some_iff cfg c none m _).mpr ⟨?_, (chainValid_iff _).mpr hchain, ?_, ?_, ?_⟩
    · rw [hget]; exact Nat.pos_iff_ne_zero.mp hpos
    · simp only [voteForBottom]
      rw [hget]
      exact (phaseRules_iff cfg c m _).mpr ⟨hstep, htick⟩
    · rw [hget]
      simp only [votePayload, Option.getD_none]
      exact hsig
    · simp only [voteForBottom]
  refine (checkBody_iff cfg c none m).mpr ⟨_, hpm, ?_⟩
  by_cases hn : needsJustification m.vote
  · rw [(needsJust_iff m).mpr hn, if_pos rfl]
    obtain ⟨j, hj, h1, h2, h3, hjust, ⟨hss, hagg⟩⟩ := hjn hn
    have ht := (tableOK_iff_justifies m.vote j.vote hr (round_ne_zero_of hstep hn)).mpr hjust
    have hpj := preJust_none_iff.mpr ⟨hj, h1.symm, h2.symm, (chainValid_iff _).mpr h3, ht, rfl⟩
    exact (checkJust_iff cfg c none m).mpr ⟨j, _, hpj, (sigJust_iff cfg c j _ hss.1).mpr ⟨hss, hagg⟩⟩
  · rw [Bool.eq_false_iff.mpr fun hbb => hn ((needsJust_iff m).mp hbb), if_neg Bool.false_ne_true]
    exact hjnn hn

/-- The cache-free verdict is `accept` exactly for valid messages (of an instance with a committee). -/
theorem checkMsg_accept_iff {cfg : Cfg} {comt : Nat → Option Committee} {m : Msg} (hw : WireMsg m)
    (hu : ∀ c, comt m.vote.inst = some c → Committee.uniqueIds c) :
    checkMsg cfg comt none m = .accept ↔ ∃ c, comt m.vote.inst = some c ∧ validMsg cfg.net c m := by
  rw [checkMsg_accept_iff_body]
  exact exists_congr fun c => and_congr_right fun hc =>
    ⟨checkBody_sound hw, checkBody_complete hw.round (hu c hc)⟩

theorem checkMsg_invalid_iff {cfg : Cfg} {comt : Nat → Option Committee} {m : Msg} :
    checkMsg cfg comt none m = .invalid ↔ ∃ c, comt m.vote.inst = some c ∧ checkBody cfg c none m = false :=
  checkMsg_invalid_iff_body cfg comt none m

/-- Wire-type bounds of a progress/message pair (all `uint64` in Go; `current + lookback` does not wrap). -/
structure ProgBounds (cfg : Cfg) (cur : Progress) (v : Payload) : Prop where
  inst : v.inst < 2 ^ 64
  round : v.round < 2 ^ 64
  curRound : cur.round < 2 ^ 64
  look : cur.id + cfg.lookback < 2 ^ 64

/-- `r >= c || r + 1 == c` in `uint64`: the wrap of `r + 1` at `r = 2^64 - 1` is covered by the first disjunct. -/
theorem ge_or_succ_eq {r c : Nat} (hr : r < 2 ^ 64) (hc : c < 2 ^ 64) :
    (r ≥ c ∨ u64 (r + 1) = c) ↔ c ≤ r + 1 := by
  by_cases h : r + 1 < 2 ^ 64
  · rw [u64_of_lt h]; omega
  · constructor <;> intro <;> omega

/-- `validateByProgress` returns `nil` exactly inside this window, for all values, wrap-arounds included: the shape of
`relevant` with the `uint64` arithmetic left in. -/
theorem byProgress_none_iff (cfg : Cfg) (cur : Progress) (v : Payload) :
    byProgress cfg cur v = none ↔
      v.inst < u64 (cur.id + cfg.lookback) ∧
      (cur.id < v.inst ∨ (u64 (v.inst + 1) = cur.id ∧ v.phase = DECIDE) ∨
        (v.inst = cur.id ∧ (cur.phase = DECIDE → v.phase = DECIDE) ∧
          (v.phase = QUALITY ∨ v.phase = DECIDE ∨ v.round ≥ cur.round ∨ u64 (v.round + 1) = cur.round))) := by
  unfold byProgress
  rw [ite_eq_iff_of_ne (by simp), Nat.not_le]
  refine and_congr_right fun _ => ?_
  by_cases h2 : v.inst > cur.id ∨ (u64 (v.inst + 1) = cur.id ∧ v.phase = DECIDE)
  · rw [if_pos h2]; simp only [true_iff]; rcases h2 with h | h
    · exact .inl h
    · exact .inr (.inl h)
  · rw [if_neg h2]
    rw [not_or] at h2
    simp only [h2.1, h2.2, false_or]
    by_cases h3 : v.inst = cur.id
    · simp only [h3, if_true, true_and, ne_eq]
      by_cases h4 : cur.phase = DECIDE ∧ ¬ v.phase = DECIDE
      · rw [if_pos h4]; simp only [reduceCtorEq, false_iff, not_and]; exact fun h => absurd (h h4.1) h4.2
      · rw [if_neg h4]
        have h4' : cur.phase = DECIDE → v.phase = DECIDE := fun a => Decidable.not_not.mp fun nb => h4 ⟨a, nb⟩
        split <;> simp [*] <;> exact h4'
    · simp [h3]

end F3.Validator
