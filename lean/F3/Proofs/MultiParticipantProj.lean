import F3.Proofs.MultiParticipant
/-!
`instance_projection`: in a run of the multi-instance participant in which no `StartInstanceAt` goes backwards or restarts
the running instance, what happens for instance `k` is the single-instance run `prun` over `opsOf … k`, the calls that
concern `k`. The proof is a simulation (`Sim`) through the four stages of the life of an instance: waiting (only its queue
exists), running, skipped by `StartInstanceAt`, finished. A hypothesis on the deliveries addressed to `k` (`MPOpK k`) holds
of every call in `opsOf … k` (`opsOf_PK`).
-/
namespace F3.Instance

/-- the call, if it concerns instance `k`: a delivery for `k` while `k` has not finished, an alarm while `k` is
current -/
def sel (k : Nat) (s : MState) : MPOp → List POp
  | .recv now m => if m.inst == k && decide (s.cur ≤ k) then [.recv now m.msg] else []
  | .alarm now _ _ _ => if s.cur == k then [.alarm now] else []
  | .startAt _ => []

/-- what the host supplied, if the call is the alarm that begins instance `k` -/
def begSel (k : Nat) (s : MState) : MPOp → Option (Table × Chain × List Pid)
  | .alarm _ tbl input order => if s.cur == k && s.active.isNone then some (tbl, input, order) else none
  | _ => none

def opsOfFrom (k : Nat) : MState → List MPOp → List POp
  | _, [] => []
  | s, op :: ops => sel k s op ++ opsOfFrom k (mpstep s op).1 ops

def begunFrom (k : Nat) : MState → List MPOp → Option (Table × Chain × List Pid)
  | _, [] => none
  | s, op :: ops => (begSel k s op).or (begunFrom k (mpstep s op).1 ops)

/-- the calls that concern instance `k` in the run `mprun (minit cfg c0) ops`, in order, as calls of the
single-instance participant API -/
def opsOf (cfg : Cfg) (c0 k : Nat) (ops : List MPOp) : List POp := opsOfFrom k (minit cfg c0) ops

/-- the power table, proposal and drain order with which instance `k` was begun in the run, if it was -/
def begunWith (cfg : Cfg) (c0 k : Nat) (ops : List MPOp) : Option (Table × Chain × List Pid) :=
  begunFrom k (minit cfg c0) ops

def effsOf (k : Nat) (l : List (Nat × Eff)) : List Eff := (l.filter (·.1 == k)).map (·.2)

theorem effsOf_append (k : Nat) (a b : List (Nat × Eff)) : effsOf k (a ++ b) = effsOf k a ++ effsOf k b := by
  simp [effsOf]

theorem effsOf_tag (k c : Nat) (l : List Eff) : effsOf k (l.map (fun e => (c, e))) = if c = k then l else [] := by
  unfold effsOf
  by_cases h : c = k
  · subst h
    rw [if_pos rfl, List.filter_eq_self.2 (by simp), List.map_map]
    exact List.map_id' _
  · rw [if_neg h, List.filter_eq_nil_iff.2 (by simpa using fun _ _ => h)]
    rfl

theorem mem_effsOf (k : Nat) (l : List (Nat × Eff)) (e : Eff) : e ∈ effsOf k l ↔ (k, e) ∈ l := by
  unfold effsOf
  simp only [List.mem_map, List.mem_filter, beq_iff_eq]
  constructor
  · rintro ⟨⟨a, b⟩, ⟨hm, rfl⟩, rfl⟩; exact hm
  · intro h; exact ⟨(k, e), ⟨h, rfl⟩, rfl⟩

/-- The state `s` of the multi-instance participant as seen from instance `k`, after the calls `pre` that concern
`k`; `beg` is what the host supplied when `k` began (if it has), `effs` are the effects tagged `k` so far. -/
inductive Sim (k : Nat) (cfg : Cfg) (s : MState) (pre : List POp) (beg : Option (Table × Chain × List Pid))
    (effs : List Eff) : Prop
  /-- `k` is a future instance or the current one not yet begun: only its queue exists, and it is the queue the
  unstarted single-instance participant would have built -/
  | waiting (hbeg : beg = none) (heffs : effs = []) (hcur : s.cur < k ∨ (s.cur = k ∧ s.active = none))
      (hrecv : ∀ op ∈ pre, op.isRecv = true) (hq : queueOf s.queues k = preQueue cfg.maxLookahead pre)
  /-- `k` is running: the running instance is the state of the single-instance run -/
  | running (tbl : Table) (input : Chain) (order : List Pid) (p : PState) (hbeg : beg = some (tbl, input, order))
      (hcur : s.cur = k) (hact : s.active = some p) (hst : p.started = true) (hterm : p.inst.termination = none)
      (hrun : prun order (pinit cfg tbl input) pre = (p, effs))
  /-- `k` was skipped by `StartInstanceAt` before it began -/
  | skipped (hbeg : beg = none) (heffs : effs = []) (hcur : k < s.cur) (hdec : ∀ d, (k, d) ∉ s.decisions)
  /-- `k` is over (decided, or abandoned by `StartInstanceAt`) -/
  | finished (tbl : Table) (input : Chain) (order : List Pid) (hbeg : beg = some (tbl, input, order))
      (hcur : k < s.cur) (heffs : (prun order (pinit cfg tbl input) pre).2 = effs)
      (hdec : ∀ d, (k, d) ∈ s.decisions ↔ (prun order (pinit cfg tbl input) pre).1.inst.termination = some d)

theorem sim_handle_waiting (k : Nat) (cfg : Cfg) (s1 : MState) (pre : List POp) (hcur : s1.cur < k)
    (hrecv : ∀ op ∈ pre, op.isRecv = true) (hq : queueOf s1.queues k = preQueue cfg.maxLookahead pre) :
    Sim k cfg s1.handleDecision pre none [] := by
  rcases handleDecision_cases s1 with ⟨he, _⟩ | ⟨p, d, _, _, he⟩
  · rw [he]; exact .waiting rfl rfl (Or.inl hcur) hrecv hq
  · rw [he]
    refine .waiting rfl rfl ?_ hrecv ?_
    · show s1.cur + 1 < k ∨ (s1.cur + 1 = k ∧ _)
      by_cases h : s1.cur + 1 < k
      · exact Or.inl h
      · exact Or.inr ⟨by omega, rfl⟩
    · show queueOf (s1.queues.filter (fun e => decide (s1.cur + 1 ≤ e.1))) k = _
      rw [queueOf_filter s1.queues k (fun i => decide (s1.cur + 1 ≤ i)) (decide_eq_true (by omega : s1.cur + 1 ≤ k))]
      exact hq

theorem sim_handle_running (k : Nat) (cfg : Cfg) (s1 : MState) (pre : List POp) (tbl : Table) (input : Chain)
    (order : List Pid) (p : PState) (effs : List Eff) (hcur : s1.cur = k) (hact : s1.active = some p)
    (hst : p.started = true) (hrun : prun order (pinit cfg tbl input) pre = (p, effs))
    (hdec : ∀ e ∈ s1.decisions, e.1 < k) :
    Sim k cfg s1.handleDecision pre (some (tbl, input, order)) effs := by
  cases ht : p.inst.termination with
  | none =>
    rw [handleDecision_running s1 p hact ht]
    exact .running tbl input order p rfl hcur hact hst ht hrun
  | some d =>
    rw [handleDecision_decided s1 p d hact ht]
    refine .finished tbl input order rfl (by show k < s1.cur + 1; omega) (by rw [hrun]) ?_
    intro d'
    rw [hrun]
    show (k, d') ∈ s1.decisions ++ [(s1.cur, d)] ↔ p.inst.termination = some d'
    rw [ht, List.mem_append]
    constructor
    · rintro (h | h)
      · exact absurd (hdec _ h) (Nat.lt_irrefl _)
      · simp only [List.mem_singleton] at h
        cases h; rfl
    · intro h
      cases h
      exact Or.inr (by simp [hcur])

/-- after its time nothing concerns instance `k` any more -/
theorem frozen_step (k : Nat) (s : MState) (op : MPOp) (hfw : fwdOp s op = true) (hk : k < s.cur) :
    k < (mpstep s op).1.cur ∧ (∀ d, (k, d) ∈ (mpstep s op).1.decisions ↔ (k, d) ∈ s.decisions) ∧
    sel k s op = [] ∧ begSel k s op = none := by
  have hne : (s.cur == k) = false := by simpa using (by omega : s.cur ≠ k)
  have hsel : sel k s op = [] ∧ begSel k s op = none := by
    cases op with
    | recv now m => exact ⟨by simp [sel, Nat.not_le.2 hk], rfl⟩
    | alarm now tbl input order => exact ⟨by simp [sel, hne], by simp [begSel, hne]⟩
    | startAt j => exact ⟨rfl, rfl⟩
  cases hop : op.isStartAt with
  | true =>
    cases op with
    | startAt j =>
      simp only [fwdOp, Bool.or_eq_true, decide_eq_true_eq, Bool.and_eq_true, beq_iff_eq] at hfw
      refine ⟨?_, fun d => Iff.rfl, hsel⟩
      show k < j
      omega
    | recv _ _ => cases hop
    | alarm _ _ _ _ => cases hop
  | false =>
    rcases mpstep_counter s op hop with ⟨hc, hd⟩ | ⟨d, hc, hd, _⟩
    · exact ⟨by omega, fun d => by rw [hd], hsel⟩
    · refine ⟨by omega, fun d' => ?_, hsel⟩
      rw [hd, List.mem_append]
      constructor
      · rintro (h | h)
        · exact h
        · simp only [List.mem_singleton] at h
          cases h; omega
      · exact Or.inl

theorem sim_step (k : Nat) (cfg : Cfg) (s : MState) (pre : List POp) (beg : Option (Table × Chain × List Pid))
    (effs : List Eff) (op : MPOp) (hcfg : s.cfg = cfg) (hds : DecSorted s) (hfw : fwdOp s op = true)
    (h : Sim k cfg s pre beg effs) :
    Sim k cfg (mpstep s op).1 (pre ++ sel k s op) (beg.or (begSel k s op))
      (effs ++ if s.cur = k then (mpstep s op).2 else []) := by
  cases h with
  | skipped hbeg heffs hcur hdec =>
    obtain ⟨h1, h2, h3, h4⟩ := frozen_step k s op hfw hcur
    rw [h3, h4, if_neg (by omega), List.append_nil, List.append_nil, Option.or_none]
    exact .skipped hbeg heffs h1 (fun d hd => hdec d ((h2 d).1 hd))
  | finished tbl input order hbeg hcur heffs hdec =>
    obtain ⟨h1, h2, h3, h4⟩ := frozen_step k s op hfw hcur
    rw [h3, h4, if_neg (by omega), List.append_nil, List.append_nil, Option.or_none]
    exact .finished tbl input order hbeg h1 heffs (fun d => (h2 d).trans (hdec d))
  | waiting hbeg heffs hcur hrecv hq =>
    subst hbeg heffs
    rw [Option.none_or, List.nil_append]
    have hle : s.cur ≤ k := by rcases hcur with h | h <;> omega
    cases op with
    | recv now m =>
      rcases recv_cases s m with hlt | hqa | ⟨p, ha, hm⟩
      · -- dropped
        rw [recv_finished s now m hlt]
        have : (m.inst == k) = false := by simpa using (by omega : m.inst ≠ k)
        simp only [sel, begSel, this, Bool.false_and, Bool.false_eq_true, if_false, List.append_nil, ite_self]
        exact .waiting rfl rfl hcur hrecv hq
      · -- queued
        rw [recv_queued_eq s now m hqa]
        simp only [begSel, ite_self]
        by_cases hmk : m.inst = k
        · have : sel k s (.recv now m) = [.recv now m.msg] := by simp [sel, hmk, hle]
          rw [this]
          refine .waiting rfl rfl hcur ?_ ?_
          · intro o ho
            rcases List.mem_append.1 ho with ho | ho
            · exact hrecv o ho
            · simp only [List.mem_singleton] at ho
              subst ho; rfl
          · show queueOf (setQueue _ _ _) k = _
            rw [queueOf_setQueue, if_pos hmk.symm, preQueue_snoc, ← hq, hmk, hcfg]
            rfl
        · have : sel k s (.recv now m) = [] := by
            have : (m.inst == k) = false := by simpa using hmk
            simp [sel, this]
          rw [this, List.append_nil]
          refine .waiting rfl rfl hcur hrecv ?_
          show queueOf (setQueue _ _ _) k = _
          rw [queueOf_setQueue, if_neg (fun h => hmk h.symm)]
          exact hq
      · -- delivered to the running instance, an earlier one
        have hck : s.cur < k := by
          rcases hcur with h | h
          · exact h
          · rw [ha] at h; cases h.2
        rw [recv_delivered_eq s now m p ha hm]
        have : (m.inst == k) = false := by simpa using (by omega : m.inst ≠ k)
        simp only [sel, begSel, this, Bool.false_and, Bool.false_eq_true, if_false, List.append_nil,
          if_neg (by omega : ¬ s.cur = k)]
        exact sim_handle_waiting k cfg _ pre hck hrecv hq
    | alarm now tbl input order =>
      cases ha : s.active with
      | some p =>
        have hck : s.cur < k := by
          rcases hcur with h | h
          · exact h
          · rw [ha] at h; cases h.2
        have hne : (s.cur == k) = false := by simpa using (by omega : s.cur ≠ k)
        rw [alarm_active_eq s now tbl input order p ha]
        simp only [sel, begSel, hne, Bool.false_and, Bool.false_eq_true, if_false, List.append_nil,
          if_neg (by omega : ¬ s.cur = k)]
        exact sim_handle_waiting k cfg _ pre hck hrecv hq
      | none =>
        rw [alarm_begin_eq s now tbl input order ha]
        by_cases hck : s.cur = k
        · -- the beginning of instance `k`
          have hbq : (s.cur == k) = true := by simpa using hck
          simp only [sel, begSel, hbq, ha, Option.isNone_none, Bool.and_self, if_true, if_pos hck]
          have hp0 : s.fresh tbl input = (prun order (pinit cfg tbl input) pre).1 := by
            rw [prun_waiting order cfg tbl input pre hrecv, MState.fresh, hcfg, hck, hq]
          have hrun : prun order (pinit cfg tbl input) (pre ++ [.alarm now]) =
              ((pstepWith order (s.fresh tbl input) (.alarm now)).1,
               (pstepWith order (s.fresh tbl input) (.alarm now)).2) := by
            rw [prun_snoc, ← hp0, prun_waiting order cfg tbl input pre hrecv]
            simp
          refine sim_handle_running k cfg _ _ tbl input order _ _ hck rfl
            (pstepWith_alarm_started order _ now) hrun ?_
          intro e he
          have := hds.2 e he
          omega
        · have hlt : s.cur < k := by omega
          have hne : (s.cur == k) = false := by simpa using hck
          simp only [sel, begSel, hne, Bool.false_and, Bool.false_eq_true, if_false, List.append_nil, if_neg hck]
          refine sim_handle_waiting k cfg _ pre hlt hrecv ?_
          show queueOf (s.queues.filter (fun e => e.1 != s.cur)) k = _
          rw [queueOf_filter s.queues k (fun i => i != s.cur) (by simpa using fun h => hck h.symm)]
          exact hq
    | startAt j =>
      simp only [sel, begSel, List.append_nil, mpstep, ite_self]
      simp only [fwdOp, Bool.or_eq_true, decide_eq_true_eq, Bool.and_eq_true, beq_iff_eq] at hfw
      by_cases hjk : j ≤ k
      · refine .waiting rfl rfl ?_ hrecv ?_
        · show j < k ∨ (j = k ∧ _)
          by_cases h : j < k
          · exact Or.inl h
          · exact Or.inr ⟨by omega, rfl⟩
        · show queueOf (s.queues.filter (fun e => decide (j ≤ e.1))) k = _
          rw [queueOf_filter s.queues k (fun i => decide (j ≤ i)) (by simpa using hjk)]
          exact hq
      · refine .skipped rfl rfl (by show k < j; omega) ?_
        intro d hd
        have := hds.2 _ hd
        simp only at this
        omega
  | running tbl input order p hbeg hcur hact hst hterm hrun =>
    subst hbeg
    rw [Option.some_or, if_pos hcur]
    have hdlt : ∀ e ∈ s.decisions, e.1 < k := fun e he => by have := hds.2 e he; omega
    cases op with
    | recv now m =>
      by_cases hlt : m.inst < s.cur
      · rw [recv_finished s now m hlt]
        have : (m.inst == k) = false := by simpa using (by omega : m.inst ≠ k)
        simp only [sel, this, Bool.false_and, Bool.false_eq_true, if_false, List.append_nil]
        exact .running tbl input order p rfl hcur hact hst hterm hrun
      · by_cases hmk : m.inst = k
        · -- delivered to the running instance `k`
          rw [recv_delivered_eq s now m p hact (by omega)]
          have : sel k s (.recv now m) = [.recv now m.msg] := by simp [sel, hmk, hcur]
          rw [this]
          have hrun' : prun order (pinit cfg tbl input) (pre ++ [.recv now m.msg]) =
              ((pstepWith [] p (.recv now m.msg)).1, effs ++ (pstepWith [] p (.recv now m.msg)).2) := by
            rw [prun_snoc, hrun, pstepWith_order_irrel order [] p _ hst]
          exact sim_handle_running k cfg { s with active := some (pstepWith [] p (.recv now m.msg)).1 } _ tbl input
            order _ _ hcur rfl (pstepWith_started [] p _ hst) hrun' hdlt
        · -- queued for a later instance
          have hqa : m.queuedAt s := Or.inl (by omega)
          rw [recv_queued_eq s now m hqa]
          have : sel k s (.recv now m) = [] := by
            have : (m.inst == k) = false := by simpa using hmk
            simp [sel, this]
          rw [this, List.append_nil, List.append_nil]
          exact .running tbl input order p rfl hcur hact hst hterm hrun
    | alarm now tbl' input' order' =>
      rw [alarm_active_eq s now tbl' input' order' p hact]
      have hbq : (s.cur == k) = true := by simpa using hcur
      simp only [sel, hbq, if_true]
      have hrun' : prun order (pinit cfg tbl input) (pre ++ [.alarm now]) =
          ((pstepWith order' p (.alarm now)).1, effs ++ (pstepWith order' p (.alarm now)).2) := by
        rw [prun_snoc, hrun, pstepWith_order_irrel order order' p _ hst]
      exact sim_handle_running k cfg { s with active := some (pstepWith order' p (.alarm now)).1 } _ tbl input
        order _ _ hcur rfl (pstepWith_alarm_started order' p now) hrun' hdlt
    | startAt j =>
      simp only [sel, List.append_nil, mpstep]
      simp only [fwdOp, Bool.or_eq_true, decide_eq_true_eq, Bool.and_eq_true, beq_iff_eq, hact,
        Option.isNone_some, Bool.false_eq_true, and_false, or_false] at hfw
      refine .finished tbl input order rfl (by show k < j; omega) (by rw [hrun]) ?_
      intro d
      rw [hrun]
      show (k, d) ∈ s.decisions ↔ p.inst.termination = some d
      rw [hterm]
      constructor
      · intro h; exact absurd (hdlt _ h) (Nat.lt_irrefl _)
      · intro h; cases h

theorem sim_run (k : Nat) (cfg : Cfg) (ops : List MPOp) (s : MState) (pre : List POp)
    (beg : Option (Table × Chain × List Pid)) (effs : List Eff) (hcfg : s.cfg = cfg) (hds : DecSorted s)
    (hfw : forwardOnly s ops = true) (h : Sim k cfg s pre beg effs) :
    Sim k cfg (mprun s ops).1 (pre ++ opsOfFrom k s ops) (beg.or (begunFrom k s ops))
      (effs ++ effsOf k (mprun s ops).2) := by
  induction ops generalizing s pre beg effs with
  | nil => simpa [opsOfFrom, begunFrom, effsOf] using h
  | cons op ops ih =>
    simp only [forwardOnly, Bool.and_eq_true] at hfw
    have h1 := sim_step k cfg s pre beg effs op hcfg hds hfw.1 h
    have hds1 := (mpstep_decSorted s op hds (fwdOp_noBackOp s op hfw.1)).1
    have h2 := ih (mpstep s op).1 _ _ _ ((mpstep_cfg s op).trans hcfg) hds1 hfw.2 h1
    rw [mprun_cons, effsOf_append, effsOf_tag]
    simp only [opsOfFrom, begunFrom]
    rw [← List.append_assoc, ← Option.or_assoc, ← List.append_assoc]
    exact h2

theorem sim_minit (k : Nat) (cfg : Cfg) (c0 : Nat) :
    Sim k cfg (minit cfg c0) [] none [] := by
  by_cases h : c0 ≤ k
  · refine .waiting rfl rfl ?_ (fun _ h => by cases h) rfl
    show c0 < k ∨ (c0 = k ∧ _)
    by_cases h' : c0 < k
    · exact Or.inl h'
    · exact Or.inr ⟨by omega, rfl⟩
  · exact .skipped rfl rfl (by show k < c0; omega) (fun d hd => by cases hd)

theorem sim_final (k : Nat) (cfg : Cfg) (c0 : Nat) (ops : List MPOp)
    (hfw : forwardOnly (minit cfg c0) ops = true) :
    Sim k cfg (mprun (minit cfg c0) ops).1 (opsOf cfg c0 k ops) (begunWith cfg c0 k ops)
      (effsOf k (mprun (minit cfg c0) ops).2) := by
  have := sim_run k cfg ops (minit cfg c0) [] none [] rfl (minit_decSorted cfg c0) hfw (sim_minit k cfg c0)
  simpa [opsOf, begunWith] using this

/-- Per-instance projection: every theorem about `prun` applies to each instance of a multi-instance run. Without
`forwardOnly` it fails: `ex_backward`, `ex_restart` (`F3.Proofs.MultiParticipantEx`). -/
theorem instance_projection (cfg : Cfg) (c0 : Nat) (ops : List MPOp) (k : Nat) (tbl : Table) (input : Chain)
    (order : List Pid) (hfw : forwardOnly (minit cfg c0) ops = true)
    (hbeg : begunWith cfg c0 k ops = some (tbl, input, order)) :
    effsOf k (mprun (minit cfg c0) ops).2 = (prun order (pinit cfg tbl input) (opsOf cfg c0 k ops)).2 ∧
    (∀ d, (k, d) ∈ (mprun (minit cfg c0) ops).1.decisions ↔
      (prun order (pinit cfg tbl input) (opsOf cfg c0 k ops)).1.inst.termination = some d) ∧
    ((mprun (minit cfg c0) ops).1.cur = k →
      (mprun (minit cfg c0) ops).1.active = some (prun order (pinit cfg tbl input) (opsOf cfg c0 k ops)).1) ∧
    k ≤ (mprun (minit cfg c0) ops).1.cur := by
  have hds := (mprun_decSorted (minit cfg c0) ops (minit_decSorted cfg c0)
    (forwardOnly_noBackward _ _ hfw)).1
  cases sim_final k cfg c0 ops hfw with
  | waiting hb _ _ _ _ => rw [hbeg] at hb; cases hb
  | skipped hb _ _ _ => rw [hbeg] at hb; cases hb
  | running tbl' input' order' p hb hcur hact hst hterm hrun =>
    rw [hbeg] at hb; cases hb
    refine ⟨by rw [hrun], ?_, fun _ => by rw [hrun]; exact hact, by omega⟩
    intro d
    rw [hrun]
    show _ ↔ p.inst.termination = some d
    rw [hterm]
    constructor
    · intro h
      have := hds.2 _ h
      simp only at this
      omega
    · intro h; cases h
  | finished tbl' input' order' hb hcur heffs hdec =>
    rw [hbeg] at hb; cases hb
    exact ⟨heffs.symm, hdec, fun h => by omega, by omega⟩

theorem instance_not_begun (cfg : Cfg) (c0 : Nat) (ops : List MPOp) (k : Nat)
    (hfw : forwardOnly (minit cfg c0) ops = true) (hbeg : begunWith cfg c0 k ops = none) :
    effsOf k (mprun (minit cfg c0) ops).2 = [] ∧ ∀ d, (k, d) ∉ (mprun (minit cfg c0) ops).1.decisions := by
  have hds := (mprun_decSorted (minit cfg c0) ops (minit_decSorted cfg c0)
    (forwardOnly_noBackward _ _ hfw)).1
  cases sim_final k cfg c0 ops hfw with
  | waiting _ heffs hcur _ _ =>
    refine ⟨heffs, fun d hd => ?_⟩
    have := hds.2 _ hd
    simp only at this
    rcases hcur with h | h <;> omega
  | skipped _ heffs _ hdec => exact ⟨heffs, hdec⟩
  | running tbl' input' order' p hb _ _ _ _ _ => rw [hbeg] at hb; cases hb
  | finished tbl' input' order' hb _ _ _ => rw [hbeg] at hb; cases hb

theorem decision_begun (cfg : Cfg) (c0 : Nat) (ops : List MPOp) (k : Nat) (d : Just)
    (hfw : forwardOnly (minit cfg c0) ops = true) (hd : (k, d) ∈ (mprun (minit cfg c0) ops).1.decisions) :
    ∃ tbl input order, begunWith cfg c0 k ops = some (tbl, input, order) ∧
      (prun order (pinit cfg tbl input) (opsOf cfg c0 k ops)).1.inst.termination = some d := by
  cases hb : begunWith cfg c0 k ops with
  | none => exact absurd hd ((instance_not_begun cfg c0 ops k hfw hb).2 d)
  | some b =>
    obtain ⟨tbl, input, order⟩ := b
    exact ⟨tbl, input, order, rfl, ((instance_projection cfg c0 ops k tbl input order hfw hb).2.1 d).1 hd⟩

def MPOpP (P : Msg → Prop) : MPOp → Prop
  | .recv _ m => P m.msg
  | _ => True

end F3.Instance

namespace F3.EmittedValid
open F3.Instance

/-- the delivery, if it is addressed to instance `k`, satisfies `P` -/
def MPOpK (k : Nat) (P : Msg → Prop) : MPOp → Prop
  | .recv _ m => m.inst = k → P m.msg
  | _ => True

theorem sel_PK (P : Msg → Prop) (k : Nat) (s : MState) (op : MPOp) (h : MPOpK k P op) :
    ∀ o ∈ sel k s op, POpP P o := by
  intro o ho
  cases op with
  | recv now m =>
    simp only [sel] at ho
    split at ho
    · rename_i hc
      simp only [Bool.and_eq_true, beq_iff_eq] at hc
      simp only [List.mem_singleton] at ho
      subst ho; exact h hc.1
    · cases ho
  | alarm now tbl input order =>
    simp only [sel] at ho
    split at ho
    · simp only [List.mem_singleton] at ho
      subst ho; trivial
    · cases ho
  | startAt j => cases ho

theorem opsOfFrom_PK (P : Msg → Prop) (k : Nat) (s : MState) (ops : List MPOp) (h : ∀ op ∈ ops, MPOpK k P op) :
    ∀ o ∈ opsOfFrom k s ops, POpP P o := by
  induction ops generalizing s with
  | nil => intro o ho; cases ho
  | cons op ops ih =>
    intro o ho
    simp only [opsOfFrom, List.mem_append] at ho
    rcases ho with ho | ho
    · exact sel_PK P k s op (h op List.mem_cons_self) o ho
    · exact ih _ (fun op' hop' => h op' (List.mem_cons_of_mem _ hop')) o ho

theorem opsOf_PK (P : Msg → Prop) (cfg : Cfg) (c0 k : Nat) (ops : List MPOp) (h : ∀ op ∈ ops, MPOpK k P op) :
    ∀ o ∈ opsOf cfg c0 k ops, POpP P o := opsOfFrom_PK P k _ ops h

end F3.EmittedValid

namespace F3.Instance

theorem opsOf_P (P : Msg → Prop) (cfg : Cfg) (c0 k : Nat) (ops : List MPOp) (h : ∀ op ∈ ops, MPOpP P op) :
    ∀ o ∈ opsOf cfg c0 k ops, POpP P o :=
  EmittedValid.opsOf_PK P cfg c0 k ops fun op hop => by
    have := h op hop
    cases op <;> first | exact fun _ => this | trivial

theorem effsOf_nofail (k : Nat) (l : List (Nat × Eff)) (h : hasFailure (l.map (·.2)) = false) :
    hasFailure (effsOf k l) = false := by
  cases hf : hasFailure (effsOf k l) with
  | false => rfl
  | true =>
    unfold hasFailure at hf
    rw [List.any_eq_true] at hf
    obtain ⟨e, he, hfe⟩ := hf
    have h2 : hasFailure (l.map (·.2)) = true := by
      unfold hasFailure
      rw [List.any_eq_true]
      exact ⟨e, List.mem_map.2 ⟨(k, e), (mem_effsOf k l e).1 he, rfl⟩, hfe⟩
    rw [h] at h2; cases h2

end F3.Instance
