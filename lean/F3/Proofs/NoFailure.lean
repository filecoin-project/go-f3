import F3.Proofs.NoFailureTally
import F3.Proofs.InstanceGuards3
/-!
# Failure-freedom, instance level: the invariant and the `try*` / `begin*` functions

`NFx` collects what the Layer-B invariant `GInv` does not say but the absence of internal errors needs:
the instance has been started, no sender is filed under two chains of a PREPARE / COMMIT / DECIDE tally,
the base chain is a candidate, from CONVERGE to COMMIT the proposal is a candidate, and in CONVERGE the
participant's own value sits in the converge state of the current round.

`GInv` is used with the trivial vote predicate `WT` ("every vote exists"): message validity `MsgValid W` is
monotone in `W`, every broadcast is trivially an own vote in `WT`, and the structural part of `GInv WT`
(well-formed tallies, shapes of the stored justifications, non-empty proposal, …) is all that is needed here.
-/
namespace F3.Instance

abbrev WT : Votes := fun _ _ _ _ => True

theorem ownIn_WT (me : Pid) (es : List Eff) : OwnIn WT me es := fun _ _ _ _ _ _ => trivial

theorem JustOk.top {W : Votes} {t : Table} {j : Just} (h : JustOk W t j) : JustOk WT t j :=
  ⟨h.1, h.2.1, h.2.2.1, fun i hi => by obtain ⟨x, hx, _⟩ := h.2.2.2 i hi; exact ⟨x, hx, trivial⟩⟩

theorem ConvJust.top {W : Votes} {t : Table} {r : Nat} {c : Chain} {j : Just} (h : ConvJust W t r c j) :
    ConvJust WT t r c j := ⟨h.1.top, h.2.1, h.2.2⟩

theorem CommitJust.top {W : Votes} {t : Table} {r : Nat} {c : Chain} {j : Just} (h : CommitJust W t r c j) :
    CommitJust WT t r c j := ⟨h.1.top, h.2⟩

theorem MsgValid.top {W : Votes} {t : Table} {m : Msg} (h : MsgValid W t m) : MsgValid WT t m := by
  obtain ⟨_, hpos, hrest⟩ := h
  refine ⟨trivial, hpos, ?_⟩
  cases hp : m.phase <;> rw [hp] at hrest <;> simp only at hrest ⊢
  · exact hrest
  · obtain ⟨h1, h2, j, hj, hc⟩ := hrest
    exact ⟨h1, h2, j, hj, hc.top⟩
  · exact ⟨hrest.1, fun h0 => by obtain ⟨j, hj, hc⟩ := hrest.2 h0; exact ⟨j, hj, hc.top⟩⟩
  · exact ⟨hrest.1, fun h0 => by obtain ⟨j, hj, hc⟩ := hrest.2 h0; exact ⟨j, hj, hc.top⟩⟩
  · obtain ⟨h1, h2, j, hj, hok, h3⟩ := hrest
    exact ⟨h1, h2, j, hj, hok.top, h3⟩

/-- the phases in which the proposal must be a candidate -/
def Phase.mid : Phase → Bool
  | .converge | .prepare | .commit => true
  | _ => false

theorem Phase.mid_of_ne {ph : Phase} (h1 : ph ≠ .initial) (h2 : ph ≠ .quality) (h3 : ph ≠ .decide)
    (h4 : ph ≠ .terminated) : ph.mid = true := by
  cases ph <;> simp_all [Phase.mid]

def RoundsDisj (rounds : List (Nat × RoundState)) : Prop :=
  ∀ e ∈ rounds, TallyDisj e.2.prepared ∧ TallyDisj e.2.committed

theorem getRound_disj {s : State} (h : RoundsDisj s.rounds) (r : Nat) :
    TallyDisj (s.getRound r).prepared ∧ TallyDisj (s.getRound r).committed := by
  unfold State.getRound
  split
  · rename_i e hf
    exact h e (List.mem_of_find?_eq_some hf)
  · exact ⟨TallyDisj_empty, TallyDisj_empty⟩

theorem setRound_disj {s : State} (h : RoundsDisj s.rounds) (r : Nat) (rs : RoundState)
    (hrs : TallyDisj rs.prepared ∧ TallyDisj rs.committed) : RoundsDisj (s.setRound r rs).rounds := by
  intro e he
  rcases setAssoc_mem _ _ _ _ he with rfl | he
  · exact hrs
  · exact h e he

structure NFx (s : State) : Prop where
  /-- `Start` has been called -/
  notInit : s.phase ≠ .initial
  disjR : RoundsDisj s.rounds
  disjD : TallyDisj s.decision
  baseCand : baseChain s.input ∈ s.candidates
  propCand : s.phase.mid = true → s.proposal ∈ s.candidates
  /-- in CONVERGE the converge state of the current round holds a value for the proposal -/
  convSelf : s.phase = .converge → ∃ cv ∈ (s.getRound s.round).converged.values, cv.chain = s.proposal

/-- the invariant of the failure-freedom argument -/
def NFI (s : State) : Prop := GInv WT 0 s ∧ NFx s

/-- what a function of the model is shown to guarantee here: it reports no failure and keeps `NFx` -/
def NFOK (r : R) : Prop := hasFailure r.2 = false ∧ NFx r.1

theorem NFI.of_gok {s : State} {r : R} (hg : GOK WT 0 s r) (h : NFOK r) : NFI r.1 := by
  rcases hg with hf | hk
  · exact absurd (hf.symm.trans h.1) (by decide)
  · exact ⟨(hk (ownIn_WT 0 r.2)).1, h.2⟩

theorem NFOK.nil {s : State} (h : NFx s) : NFOK (s, []) := ⟨rfl, h⟩

theorem NFx.of_fields {s s' : State} (h : NFx s) (hph : s'.phase = s.phase) (hr : s'.rounds = s.rounds)
    (hd : s'.decision = s.decision) (hi : s'.input = s.input) (hc : ∀ x ∈ s.candidates, x ∈ s'.candidates)
    (hp : s'.proposal = s.proposal) (hrd : s'.round = s.round) : NFx s' := by
  refine ⟨by rw [hph]; exact h.notInit, by rw [hr]; exact h.disjR, by rw [hd]; exact h.disjD,
    by rw [hi]; exact hc _ h.baseCand, ?_, ?_⟩
  · intro hm; rw [hph] at hm; rw [hp]; exact hc _ (h.propCand hm)
  · intro hcv; rw [hph] at hcv; rw [getRound_congr hr, hrd, hp]; exact h.convSelf hcv

theorem NFx.to_phase {s s' : State} (h : NFx s) (hni : s'.phase ≠ .initial) (hnc : s'.phase ≠ .converge)
    (hr : s'.rounds = s.rounds) (hd : s'.decision = s.decision) (hi : s'.input = s.input)
    (hc : ∀ x ∈ s.candidates, x ∈ s'.candidates) (hp : s'.phase.mid = true → s'.proposal ∈ s'.candidates) : NFx s' :=
  ⟨hni, by rw [hr]; exact h.disjR, by rw [hd]; exact h.disjD, by rw [hi]; exact hc _ h.baseCand, hp,
    fun hcv => absurd hcv hnc⟩

theorem prefix_len_one (p input : Chain) (hp : p <+: input) (hne : p ≠ []) (hl : ¬ 2 ≤ p.length) :
    p = baseChain input := by
  obtain ⟨tl, rfl⟩ := hp
  cases p with
  | nil => exact absurd rfl hne
  | cons a as =>
    cases as with
    | nil => simp [baseChain]
    | cons b bs => simp at hl

theorem quality_prop_cand (s s' : State) (q : Chain) (hq : q <+: s.input) (hqne : q ≠ [])
    (hb : baseChain s.input ∈ s'.candidates) : q ∈ (s'.addCandidatePrefixes q).1.candidates := by
  by_cases hl : 2 ≤ q.length
  · exact addCandidatePrefixes_self s' q hl
  · rw [prefix_len_one q s.input hq hqne hl]
    exact addCandidatePrefixes_sub _ _ _ hb

theorem setSelf_has (c : Conv) (v : Chain) (j : Just) : ∃ cv ∈ (c.setSelf v j).values, cv.chain = v := by
  unfold Conv.setSelf
  split
  · rename_i h
    simp only [List.any_eq_true, beq_iff_eq] at h
    exact h
  · exact ⟨{ chain := v, just := j, rank := none }, by simp, rfl⟩

theorem Conv.receive_keeps (c : Conv) (sender : Pid) (v' : Chain) (rank : Nat) (j : Just) (v : Chain)
    (h : ∃ cv ∈ c.values, cv.chain = v) : ∃ cv ∈ (c.receive sender v' rank j).values, cv.chain = v := by
  obtain ⟨cv, hcv, hch⟩ := h
  unfold Conv.receive
  split
  · exact ⟨cv, hcv, hch⟩
  · dsimp only
    split
    · refine ⟨_, List.mem_map.2 ⟨cv, hcv, rfl⟩, ?_⟩
      split
      · exact hch
      · exact hch
    · exact ⟨cv, List.mem_append_left _ hcv, hch⟩

theorem tryRebroadcast_nf {s : State} (now : Int) (h : NFx s) : NFOK (s.tryRebroadcast now) :=
  ⟨tryRebroadcast_nofail s now, h.of_fields (tryRebroadcast_phase s now) (by simp) (by simp) (by simp)
    (fun x hx => by simpa using hx) (by simp) (by simp)⟩

theorem beginConverge_nf (s : State) (now : Int) (j : Just) (hjr : j.round + 1 = s.round)
    (hdR : RoundsDisj s.rounds) (hdD : TallyDisj s.decision) (hb : baseChain s.input ∈ s.candidates)
    (hp : s.proposal ∈ s.candidates) : NFOK (s.beginConverge now j) := by
  unfold State.beginConverge State.alarmAfter State.resetReb
  dsimp only
  split
  · rename_i hbad; simp [hjr] at hbad
  · refine ⟨by simp, ?_⟩
    refine ⟨by simp, ?_, hdD, hb, fun _ => hp, fun _ => ?_⟩
    · apply setRound_disj (s := { s with phase := .converge, phaseTimeout := now + _, rebAttempts := 0, rebTimeout := none }) hdR
      exact getRound_disj hdR s.round
    · rw [getRound_setRound]
      simp only [setRound_round, if_true]
      exact setSelf_has _ _ _

theorem commitJust_ok {W : Votes} (s3 : State) (hr : RoundsOK W s3.tbl s3.rounds) (hT : 0 < s3.tbl.total)
    (h : (s3.getRound s3.round).prepared.hasStrongFor s3.value = true ∨
         ((s3.getRound s3.round).committed.getJustOf .prepare s3.value).isSome = true ∨
         ((s3.getRound (s3.round + 1)).prepared.getJustOf .prepare s3.value).isSome = true ∨
         ((s3.getRound (s3.round + 1)).converged.getJustOf .prepare s3.value).isSome = true) :
    ∃ j, s3.commitJust = .ok j := by
  unfold State.commitJust
  dsimp only
  rcases findStrongQuorumFor_total s3.tbl (s3.getRound s3.round).prepared s3.value
    (getRound_ok hr s3.round).prep.wf hT with ⟨hns, h'⟩ | ⟨_, sg, h'⟩ <;> simp only [h']
  · -- no strong quorum held: the first forwarded justification that is there answers
    have h := h.resolve_left (by simp [hns])
    split
    · exact ⟨_, rfl⟩
    split
    · exact ⟨_, rfl⟩
    split
    · exact ⟨_, rfl⟩
    rename_i h1 _ h2 _ h3
    simp [h1, h2, h3] at h
  · exact ⟨_, rfl⟩

theorem nextRoundJust_ok {W : Votes} (s1 : State) (hr : RoundsOK W s1.tbl s1.rounds) (hT : 0 < s1.tbl.total)
    (h : (s1.getRound (s1.round - 1)).committed.hasStrongFor [] = true ∨
         ((s1.getRound s1.round).prepared.getJustOf .commit []).isSome = true ∨
         ((s1.getRound s1.round).converged.getJustOf .commit []).isSome = true ∨
         ((s1.getRound (s1.round - 1)).committed.justs.find? (·.1 == s1.proposal)).isSome = true) :
    ∃ j, s1.nextRoundJust = .ok j := by
  unfold State.nextRoundJust
  dsimp only
  rcases findStrongQuorumFor_total s1.tbl (s1.getRound (s1.round - 1)).committed []
    (getRound_ok hr (s1.round - 1)).comm.wf hT with ⟨hns, h'⟩ | ⟨_, sg, h'⟩ <;> simp only [h']
  · have h := h.resolve_left (by simp [hns])
    split
    · exact ⟨_, rfl⟩
    split
    · exact ⟨_, rfl⟩
    split
    · exact ⟨_, rfl⟩
    rename_i h1 _ h2 _ h3
    simp [h1, h2, h3] at h
  · exact ⟨_, rfl⟩

theorem beginNextRound_nf (s : State) (now : Int) (hr : RoundsOK WT s.tbl s.rounds)
    (hdR : RoundsDisj s.rounds) (hdD : TallyDisj s.decision) (hb : baseChain s.input ∈ s.candidates)
    (hp : s.proposal ∈ s.candidates)
    (hj : ∃ j, ({ s with round := s.round + 1 } : State).nextRoundJust = .ok j) : NFOK (s.beginNextRound now) := by
  obtain ⟨j, hj⟩ := hj
  have hcj := nextRoundJust_conv (W := WT) (s1 := { s with round := s.round + 1 }) hr (by simp) j hj
  unfold State.beginNextRound
  dsimp only
  rw [hj]
  exact beginConverge_nf _ now j hcj.2.1 hdR hdD hb hp

theorem beginPrepare_nf {s s' : State} (h : NFx s) (now : Int) (j : Option Just) (hr : s'.rounds = s.rounds)
    (hd : s'.decision = s.decision) (hi : s'.input = s.input) (hc : ∀ x ∈ s.candidates, x ∈ s'.candidates)
    (hp : s'.proposal ∈ s'.candidates) : NFOK (s'.beginPrepare now j) := by
  have hph : (s'.beginPrepare now j).1.phase = .prepare := rfl
  refine ⟨by unfold State.beginPrepare State.alarmAfter State.resetReb; simp, ?_⟩
  refine h.to_phase (by rw [hph]; decide) (by rw [hph]; decide) (by simpa using hr) (by simpa using hd)
    (by simpa using hi) (fun x hx => by simpa using hc x hx) (fun _ => by simpa using hp)

theorem tryQuality_nf {s : State} (now : Int) (h : NFI s) (hq : s.phase = .quality) : NFOK (s.tryQuality now) := by
  refine tryQuality_ind s now (fun hne => absurd hq hne) (fun _ _ => NFOK.nil h.2) (fun _ _ cs hcs => ?_)
  obtain ⟨hpre, hpne⟩ := longest_prefix_facts s.quality s.input h.1.core.inputNe
  have hc : (State.addCandidatePrefixes { s with proposal := s.quality.longestPrefixWithQuorum s.input }
      (s.quality.longestPrefixWithQuorum s.input)).1.candidates = cs := by rw [hcs]
  refine beginPrepare_nf h.2 now none rfl rfl rfl (fun x hx => ?_) ?_
  · rw [← hc]; exact addCandidatePrefixes_sub _ _ _ hx
  · show s.quality.longestPrefixWithQuorum s.input ∈ cs
    rw [← hc]; exact quality_prop_cand s _ _ hpre hpne h.2.baseCand

theorem tryConverge_nf {s : State} (now : Int) (h : NFI s) (hq : s.phase = .converge) : NFOK (s.tryConverge now) := by
  obtain ⟨cv, hcv, hch⟩ := h.2.convSelf hq
  have hprop := h.2.propCand (by rw [hq]; rfl)
  refine tryConverge_ind s now (fun hne => absurd hq hne) (fun _ _ _ => tryRebroadcast_nf now h.2)
    (fun _ _ _ => NFOK.nil h.2) (fun _ _ hnone => ?_) (fun _ _ w hw _ cs hcs => ?_)
  · -- the own value passes the filter, so `findBest` finds something; and stored values are not bottom
    exfalso
    rcases hnone with hn | ⟨w, hw, he⟩
    · obtain ⟨w, hw⟩ := findBest_some _ (fun cv => s.isCandidate cv.chain || (cv.just.phase == .prepare &&
        (s.getRound (s.round - 1)).committed.couldReach s.tbl cv.chain true)) cv hcv (by simp [State.isCandidate, hch, hprop])
      rw [hw] at hn; cases hn
    · exact ((getRound_ok h.1.core.rounds s.round).conv w (findBest_mem _ _ _ hw).1).1 (by simpa using he)
  · have hc : (s.addCandidate w.chain).1.candidates = cs := by rw [hcs]
    refine beginPrepare_nf h.2 now _ rfl rfl rfl (fun x hx => ?_) ?_
    · rw [← hc]; exact addCandidate_sub _ _ _ hx
    · show w.chain ∈ cs
      rw [← hc]; exact addCandidate_self _ _

theorem beginCommit_nofail (s : State) (now : Int) (h : s.value = [] ∨ ∃ j, s.commitJust = .ok j) :
    hasFailure (s.beginCommit now).2 = false := by
  unfold State.beginCommit State.alarmAfter
  dsimp only
  split
  · simp
  · rename_i hne
    split
    · simp
    · rename_i p hp
      exfalso
      rcases h with h | ⟨j, hj⟩
      · simp [State.resetReb, h] at hne
      · have : s.commitJust = .error p := hp
        rw [hj] at this; cases this

theorem tryPrepare_nf {s : State} (now : Int) (h : NFI s) (hq : s.phase = .prepare) : NFOK (s.tryPrepare now) := by
  have hx : ∀ v, NFx ({ s with value := v } : State) := fun v =>
    h.2.of_fields rfl rfl rfl rfl (fun x hx => hx) rfl rfl
  refine tryPrepare_ind s now (fun hne => absurd hq hne) (fun _ hdone v hpv => ?_)
    (fun _ _ v _ _ => tryRebroadcast_nf now (hx v)) (fun _ _ v _ _ => NFOK.nil (hx v))
  have hv : v = (s.prepareValue now).value := by rw [hpv]
  refine ⟨beginCommit_nofail _ now ?_, ?_⟩
  · -- COMMIT is for the proposal when a quorum or a justification for it is at hand, else for bottom
    unfold State.prepareValue at hv
    by_cases hA : (s.prepFoundQuorum || s.prepFoundJust) = true
    · rw [if_pos hA] at hv
      subst hv
      refine Or.inr (commitJust_ok (W := WT) ({ s with value := s.proposal }) h.1.core.rounds h.1.core.totalPos ?_)
      simp only [Bool.or_eq_true] at hA
      rcases hA with hA | hA
      · exact Or.inl hA
      · unfold State.prepFoundJust at hA
        simp only [Bool.or_eq_true] at hA
        rcases hA with (hA | hA) | hA
        · exact Or.inr (Or.inl hA)
        · exact Or.inr (Or.inr (Or.inl hA))
        · exact Or.inr (Or.inr (Or.inr hA))
    · have hB : (s.prepNotPossible || s.prepComplete now) = true := by
        simp only [Bool.or_eq_true] at hA hdone ⊢
        rcases hdone with (hd | hd) | hd
        · exact absurd hd hA
        · exact Or.inl hd
        · exact Or.inr hd
      rw [if_neg hA, if_pos hB] at hv
      exact Or.inl hv
  · obtain ⟨hph, _⟩ := beginCommit_res ({ s with value := v } : State) now
    exact (hx v).to_phase (by rw [hph]; simp) (by rw [hph]; simp) (by simp) (by simp) (by simp)
      (fun x hx' => by simpa using hx') (fun _ => by simpa using h.2.propCand (by rw [hq]; rfl))

theorem commitSway_some (s : State) (q : Tally) (v : Chain) (h : q.firstNonZero = some v) :
    (s.commitSway q).proposal = v ∧ (s.commitSway q).candidates = (s.addCandidate v).1.candidates := by
  unfold State.commitSway
  rw [h]
  dsimp only
  split
  · exact ⟨rfl, rfl⟩
  · rename_i hne
    have : v = (s.addCandidate v).1.proposal := by simpa using hne
    exact ⟨this.symm, rfl⟩

theorem beginDecide_nf {s : State} (round : Nat) (h : NFx s)
    (hf : ∃ sg, (s.getRound round).committed.findStrongQuorumFor s.tbl s.value = .found sg) :
    NFOK (s.beginDecide round) := by
  obtain ⟨sg, hsg⟩ := hf
  unfold State.beginDecide State.resetReb
  dsimp only
  split
  · refine ⟨by simp, ?_⟩
    exact h.to_phase (by simp) (by simp) rfl rfl rfl (fun x hx => hx) (fun hm => by simp [Phase.mid] at hm)
  · rename_i p hp
    exact absurd (hp.symm.trans hsg) (by intro h'; cases h')
  · rename_i hp
    exact absurd (hp.symm.trans hsg) (by intro h'; cases h')

theorem tryCommit_nf {s : State} (now : Int) (round : Nat) (h : NFI s) :
    NFOK (s.tryCommit now round) := by
  have hro := getRound_ok h.1.core.rounds round
  have hT := h.1.core.totalPos
  -- in COMMIT of `round` the next round can begin as soon as some justification for its CONVERGE is at hand
  have hnext : (s.round != round || s.phase != .commit) = false →
      (∃ j, ({ s with round := s.round + 1 } : State).nextRoundJust = .ok j) → NFOK (s.beginNextRound now) := fun hg hj => by
    simp only [Bool.or_eq_false_iff, bne_eq_false_iff_eq] at hg
    exact beginNextRound_nf s now h.1.core.rounds h.2.disjR h.2.disjD h.2.baseCand (h.2.propCand (by rw [hg.2]; rfl)) hj
  refine tryCommit_ind s now round
    (fun hm => (fsqv_not_multiple s.tbl _ hro.comm.wf (getRound_disj h.2.disjR round).2 hT hm).elim)
    (fun c hone _ => beginDecide_nf round (h.2.of_fields rfl rfl rfl rfl (fun x hx => hx) rfl rfl)
      (findStrongQuorumFor_found s.tbl _ c hro.comm.wf hT (fsqv_one_strong s.tbl _ hro.comm.wf c hone)))
    (fun _ _ => NFOK.nil h.2) (fun hg hj => hnext hg ?_) (fun hg hnone _ hto cs p heq => ?_)
    (fun _ _ _ _ _ => tryRebroadcast_nf now h.2) (fun _ _ _ _ _ => NFOK.nil h.2)
  · have hr : s.round = round := by simp only [Bool.or_eq_false_iff, bne_eq_false_iff_eq] at hg; exact hg.1
    apply nextRoundJust_ok (W := WT) ({ s with round := s.round + 1 }) h.1.core.rounds hT
    simp only [Nat.add_sub_cancel]
    rw [hr]
    rcases hj with hone | ⟨_, hfj⟩
    · exact Or.inl (fsqv_one_strong s.tbl _ hro.comm.wf [] hone)
    · unfold State.foundJustBottom at hfj
      simp only [Bool.or_eq_true] at hfj
      exact Or.inr (hfj.imp id Or.inl)
  · -- sway: the adopted value is a committed one, so the COMMIT that carried it brought a justification
    have hr : s.round = round := by simp only [Bool.or_eq_false_iff, bne_eq_false_iff_eq] at hg; exact hg.1
    simp only [Bool.and_eq_true] at hto
    obtain ⟨v, hv⟩ := firstNonZero_some s.tbl _ hro.comm.wf hT hnone hto.2
    obtain ⟨hsp, hsc⟩ := commitSway_some s _ v hv
    obtain ⟨hvne, sup, hsup, hch⟩ := firstNonZero_mem _ _ hv
    obtain ⟨e, he, hek⟩ := hro.comm.cover rfl sup hsup (by rw [hch]; exact hvne)
    rw [heq] at hsp hsc
    apply beginNextRound_nf ({ s with candidates := cs, proposal := p } : State) now h.1.core.rounds h.2.disjR h.2.disjD
    · show baseChain s.input ∈ cs
      rw [show cs = (s.addCandidate v).1.candidates from hsc]; exact addCandidate_sub _ _ _ h.2.baseCand
    · show p ∈ cs
      rw [show cs = (s.addCandidate v).1.candidates from hsc, show p = v from hsp]; exact addCandidate_self _ _
    · apply nextRoundJust_ok (W := WT) ({ s with candidates := cs, proposal := p, round := s.round + 1 })
        h.1.core.rounds hT
      right; right; right
      simp only [Nat.add_sub_cancel]
      rw [List.find?_isSome]
      refine ⟨e, ?_, ?_⟩
      · rw [hr]; exact he
      · simp only [beq_iff_eq]; rw [show p = v from hsp, hek, hch]

theorem tryDecide_nf {s : State} (now : Int) (h : NFI s) : NFOK (s.tryDecide now) := by
  have hT := h.1.core.totalPos
  refine tryDecide_ind s now (fun p hp => ?_) (fun v sg _ _ => ?_) (fun _ => tryRebroadcast_nf now h.2)
  · exfalso
    rcases hp with hm | ⟨v, hone, hf⟩
    · exact fsqv_not_multiple s.tbl _ h.1.core.decision h.2.disjD hT hm
    · obtain ⟨sg, hsg⟩ := findStrongQuorumFor_found s.tbl _ v h.1.core.decision hT
        (fsqv_one_strong s.tbl _ h.1.core.decision v hone)
      rcases hf with hf | hf <;> rw [hsg] at hf <;> cases hf
  · unfold State.terminate State.resetReb
    exact ⟨by simp, h.2.to_phase (by simp) (by simp) rfl rfl rfl (fun x hx => hx) (fun hm => by simp [Phase.mid] at hm)⟩

theorem tryCurrentPhase_nf {s : State} (now : Int) (h : NFI s) : NFOK (s.tryCurrentPhase now) :=
  tryCurrentPhase_ind s now (tryQuality_nf now h) (tryConverge_nf now h) (tryPrepare_nf now h)
    (fun _ => tryCommit_nf now s.round h) (fun _ => tryDecide_nf now h) (fun _ => NFOK.nil h.2)
    (fun hp => absurd hp h.2.notInit)

end F3.Instance
