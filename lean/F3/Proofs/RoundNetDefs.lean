import F3.Model.NetRanked
import F3.Proofs.RoundDecides
/-!
# Round `r ≥ 1` at network level: the executable (Bool-valued) hypotheses

Everything here is a decidable condition on a `NetRanked` network state or on a list of events, so that the hypotheses
of `round_r_decides` (`F3/Proofs/RoundNetMain.lean`) can be checked on concrete runs by `decide`.

* `relevant r m`: the messages that matter in round `r`: CONVERGE / PREPARE / COMMIT of round `r` and DECIDE (which the
  implementation always sends with round 0).
* `roundStartB` (`RoundStart`): the live participants `H` (distinct table members holding a strong quorum; the
  whole table is the special case `H = tbl.entries.map (·.1)`) all sit in CONVERGE of round `r` with their own CONVERGE
  value `val p` broadcast (ticket `rankOf p r`, justification `jst p`), the tallies of round `r` and the DECIDE tally
  empty, nobody terminated, no round-`r` / DECIDE message handed over yet.
* `syncOkR` (`SyncOrderedR`): the events of the round: only members of `H` act, no `Start`, only `relevant` messages are
  handed over (**re-deliveries of older rounds' messages are excluded**, not proved harmless: a re-delivered COMMIT of
  round `r-1` can complete a late strong quorum, a late QUALITY vote changes the candidates), and a member that
  evaluates its CONVERGE timeout of round `r` as expired (in `ReceiveAlarm` *or* at the end of `Receive`) has been handed
  the CONVERGE of every member of `H`. No condition on the PREPARE / COMMIT timeouts is needed (total power positive:
  with unanimous votes "timeout expired and a strong quorum of senders heard" already implies a quorum for the value).
* `completeR`: every relevant pool message has been handed to every member of `H`.
-/
namespace F3.Liveness
open F3.Instance F3.Net F3.NetRanked

def relevant (r : Nat) (m : Msg) : Bool :=
  (m.round == r && (m.phase == .converge || m.phase == .prepare || m.phase == .commit)) || m.phase == .decide

/-- the filter of `tryConverge` on a value and its justification (`admissible s cv = admAt s cv.chain cv.just`) -/
def admAt (s : State) (v : Chain) (j : Just) : Bool :=
  s.isCandidate v || (j.phase == .prepare && (s.getRound (s.round - 1)).committed.couldReach s.tbl v true)

theorem admissible_eq (s : State) (cv : ConvVal) : admissible s cv = admAt s cv.chain cv.just := rfl

/-- the CONVERGE message of `p` for round `r`, read off the pool -/
def convMsg? (n : Net) (r : Nat) (p : Pid) : Option Msg :=
  n.pool.find? (fun m => m.sender == p && m.round == r && m.phase == .converge)
def valOf (n : Net) (r : Nat) (p : Pid) : Chain := ((convMsg? n r p).map (·.value)).getD []
def jstOf (n : Net) (r : Nat) (p : Pid) : Just := ((convMsg? n r p).bind (·.just)).getD default

def tallyEmpty (T : Tally) : Bool := T.senders.isEmpty && T.sendersPower == 0 && T.support.isEmpty

/-- member `p` at the start of round `r` -/
def nodeStartB (t : Table) (r b : Nat) (val : Pid → Chain) (jst : Pid → Just) (p : Pid) (x : State) : Bool :=
  x.tbl.entries == t.entries && x.input.head? == some b && x.round == r && x.phase == .converge &&
  (x.rounds.find? (·.1 == r + 1)).isNone &&
  (x.getRound r).converged.senders.isEmpty &&
  (x.getRound r).converged.values.map (fun cv => (cv.chain, cv.just, cv.rank)) == [(val p, jst p, none)] &&
  tallyEmpty (x.getRound r).prepared && tallyEmpty (x.getRound r).committed && tallyEmpty x.decision &&
  x.termination.isNone

def roundStartB (rankOf : Pid → Nat → Nat) (t : Table) (H : List Pid) (r b : Nat) (val : Pid → Chain)
    (jst : Pid → Just) (n : Net) : Bool :=
  decide (1 ≤ r) && decide (0 < t.total) && H.all (fun p => (t.index? p).isSome) && strongQ t (sumP t H) &&
  decide H.Nodup && decide (n.nodes.map (·.1)).Nodup &&
  H.all (fun p => match n.node? p with | some x => nodeStartB t r b val jst p x | none => false) &&
  H.all (fun p => (val p).head? == some b) &&
  H.all (fun p => n.pool.any (fun m => relevant r m && m.sender == p && m.phase == .converge)) &&
  n.pool.all (fun m => !relevant r m ||
    (m.phase == .converge && H.contains m.sender && m.value == val m.sender && m.rank == rankOf m.sender r &&
     m.just == some (jst m.sender) && m.suppOk && m.instOk)) &&
  n.delivered.all (fun d => !(H.contains d.1 && relevant r d.2))

/-- **the start of round `r`** -/
def RoundStart (rankOf : Pid → Nat → Nat) (t : Table) (H : List Pid) (r b : Nat) (val : Pid → Chain)
    (jst : Pid → Just) (n : Net) : Prop := roundStartB rankOf t H r b val jst n = true

/-- node `p` has been handed the round-`r` CONVERGE of every member of `H` -/
def allHandedR (H : List Pid) (dl : List (Pid × Msg)) (p : Pid) (r : Nat) : Bool :=
  H.all (fun q => dl.any (fun d => d.1 == p && d.2.sender == q && d.2.phase == .converge && d.2.round == r))

def syncAtR (r : Nat) (H : List Pid) (n : Net) (dl : List (Pid × Msg)) (p : Pid) (now : Int) : Bool :=
  match n.node? p with
  | none => true
  | some s => if s.round == r && s.phase == .converge && s.phaseTimeoutElapsed now then allHandedR H dl p r else true

def syncOpOkR (r : Nat) (H : List Pid) (n : Net) : NetOp → Bool
  | .start _ _ => false
  | .deliver p now m => H.contains p && relevant r m && syncAtR r H n (n.delivered ++ [(p, m)]) p now
  | .alarm p now => H.contains p && syncAtR r H n n.delivered p now

def syncOkR (rankOf : Pid → Nat → Nat) (r : Nat) (H : List Pid) (n : Net) : List NetOp → Bool
  | [] => true
  | op :: ops => syncOpOkR r H n op && syncOkR rankOf r H (netStepR rankOf n op) ops

/-- **synchrony of round `r`, untimed** -/
def SyncOrderedR (rankOf : Pid → Nat → Nat) (r : Nat) (H : List Pid) (n : Net) (ops : List NetOp) : Prop :=
  syncOkR rankOf r H n ops = true

def completeR (r : Nat) (H : List Pid) (n : Net) : Bool :=
  n.pool.all (fun m => !relevant r m || H.all (fun q => n.delivered.contains (q, m)))

/-- nobody is left waiting for its CONVERGE timer -/
def noneInConverge (H : List Pid) (n : Net) : Bool :=
  H.all (fun p => match n.node? p with | some x => x.phase != .converge | none => true)

/-- the value of `w` is admissible at every member, under the justification of every member that sends it -/
def admAllB (H : List Pid) (w : Pid) (val : Pid → Chain) (jst : Pid → Just) (n : Net) : Bool :=
  H.all (fun p => match n.node? p with
    | some x => H.all (fun q => val q != val w || admAt x (val w) (jst q))
    | none => false)

/-- what the round theorem concludes, as a Bool (for experiments) -/
def decidedB (H : List Pid) (r : Nat) (v : Chain) (n : Net) : Bool :=
  H.all (fun p => match n.node? p with
    | some x => x.phase == .terminated && x.round == r && x.termination.map (·.value) == some v
    | none => false)

end F3.Liveness
