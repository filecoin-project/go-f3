import F3.Proofs.InstanceStep
/-! Invariants of the decision side of an instance.

Table, config, input, DECIDE tally and termination value are what `FrameD` keeps; only `recvDecide` (a vote enters
the tally) and `tryDecide` (termination on a strong quorum) touch them. A property that survives those two and every
`FrameD` step is an invariant of `step`: every other piece of an API call is a `FrameD` step (`DecideStable.rule`). -/
namespace F3.Instance

structure DecideStable (I : State → Prop) : Prop where
  frame : ∀ {s s'}, FrameD s s' → I s → I s'
  terminate : ∀ {s v sg}, s.decision.findStrongQuorumValue = .one v →
    s.decision.findStrongQuorumFor s.tbl v = .found sg → I s →
    I (s.terminate { round := 0, phase := .decide, value := v, signers := sg }).1

section Stable
variable {I : State → Prop} (hI : DecideStable I)
include hI

theorem tryDecide_stable (s : State) (now : Int) (hi : I s) : I (s.tryDecide now).1 :=
  tryDecide_ind s now (fun _ _ => hi) (fun _ _ hv hsg => hI.terminate hv hsg hi)
    fun _ => hI.frame (tryRebroadcast_frame s now) hi

theorem tryCurrentPhase_stable (s : State) (now : Int) (hi : I s) : I (s.tryCurrentPhase now).1 :=
  tryCurrentPhase_ind s now (fun _ => hI.frame (tryQuality_frame s now) hi)
    (fun _ => hI.frame (tryConverge_frame s now) hi) (fun _ => hI.frame (tryPrepare_frame s now) hi)
    (fun _ => hI.frame (tryCommit_frame s now _) hi) (fun _ => tryDecide_stable hI s now hi) (fun _ => hi) fun _ => hi

omit hI in
theorem andThen_stable {r : R} {f : State → R} (h1 : I r.1) (h2 : ∀ st, I st → I (f st).1) : I (andThen r f).1 := by
  unfold andThen; split
  · exact h1
  · exact h2 _ h1

/-- every piece of an API call keeps `I`, the filing of a DECIDE vote apart -/
theorem DecideStable.rule : StepRule I (fun _ m => m.phase ≠ .decide) fun _ r => I r.1 where
  seq {s r f} h1 _ _ h2 := by
    unfold andThen
    split
    · exact h1
    · exact h2 (by simpa using ‹¬hasFailure r.2 = true›) h1
  skip hi := hi
  malformed _ hi _ _ _ := hi
  panic _ hi _ _ _ := hi
  filed {s _ _} hi hv _ hf := by
    cases hf with
    | decide _ hph _ => exact absurd hph hv
    | _ => exact hI.frame (s := s) ⟨rfl, rfl, rfl, rfl, rfl⟩ hi
  phase now hi := tryCurrentPhase_stable hI _ now hi
  commit now round hi _ := hI.frame (tryCommit_frame _ now round) hi
  toDecide hi _ _ _ := hI.frame (skipToDecide_frame _ _ _) hi
  late hi _ := hI.frame (addCandidatePrefixes_frame _ _) hi
  post now round hi _ := hI.frame (postReceive_frame _ now round) hi

theorem recvDecide_stable (s : State) (now : Int) (m : Msg)
    (hq : ∀ q, s.decision.receive s.tbl m.sender m.value = some q → I { s with decision := q }) (hi : I s) :
    I (s.recvDecide now m).1 :=
  recvDecide_ind s now m (fun _ => hi)
    (fun _ q h => andThen_stable (hI.frame (skipToDecide_frame _ _ _) (hq q h)) fun st =>
      tryCurrentPhase_stable hI st now)
    fun _ q h => tryCurrentPhase_stable hI _ now (hq q h)

theorem receiveOne_stable (s : State) (now : Int) (m : Msg) (hi : I s)
    (hq : m.phase = .decide → s.recvPre m = .accept →
      ∀ q, s.decision.receive s.tbl m.sender m.value = some q → I { s with decision := q }) :
    I (s.receiveOne now m).1.1 := by
  by_cases hd : m.phase = .decide
  · exact receiveOne_ind s now m (fun _ _ => hi) (fun _ => hi) (fun _ h => nomatch hd.symm.trans h)
      (fun _ h _ _ _ => nomatch hd.symm.trans h) (fun _ h => nomatch hd.symm.trans h) (fun _ h => nomatch hd.symm.trans h)
      fun hacc hph => recvDecide_stable hI s now m (hq hph hacc) hi
  · exact (DecideStable.rule hI).receiveOne now m hi hd fun _ _ => hi

theorem step_stable (s : State) (op : Op) (hi : I s)
    (hq : ∀ now m, op = .recv now m → m.phase = .decide → s.recvPre m = .accept →
      ∀ q, s.decision.receive s.tbl m.sender m.value = some q → I { s with decision := q }) :
    I (step s op).1 := by
  cases op with
  | start now => exact hI.frame (beginQuality_frame s now) hi
  | alarm now => exact tryCurrentPhase_stable hI s now hi
  | recv now m =>
    have h1 := receiveOne_stable hI s now m hi (hq now m rfl)
    exact step_recv_ind s now m (fun _ => hi) (fun _ => h1) fun _ _ =>
      andThen_stable h1 fun st => hI.frame (postReceive_frame st now m.round)

end Stable

theorem decision_stable (d : Tally) : DecideStable fun s => s.decision = d :=
  ⟨fun h hi => h.decision.trans hi, fun _ _ hi => hi⟩

end F3.Instance
