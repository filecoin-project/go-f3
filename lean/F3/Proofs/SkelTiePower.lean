import F3.Gen.SkelPower
/-!
Hand-written expectations for the REGENERATED skeletons of `F3.Gen.SkelPower` (tools/go2lean/skel.go): the pre-order
list of the statements of a Go function as `<depth>:<kind>`. The expression-level tie theorems pin what single
conditions say; these pin that nothing was added around them (an extra early return, a cap, a dropped branch). A
structural change of the function — harmful or not — breaks the `rfl` below and with it the obligation of every
property importing this file; the check then searches for a failing input as for any broken obligation.
-/
namespace F3.SkelTie.SkelPower
open F3.Gen.SkelPower

/-- the structure the model of `ScalePower` was written against -/
def skelScalePowerExpected : List String :=
  ["0:decl", "0:if", "1:return2", "0:assign:=", "0:assign=", "0:assign=", "0:return2"]

theorem skelScalePower_expected : skelScalePower = skelScalePowerExpected := rfl

/-- the structure the model of `PowerTableCopy` was written against -/
def skelPowerTableCopyExpected : List String :=
  ["0:assign:=", "0:assign=", "0:assign=", "0:assign=", "0:assign=", "0:assign=", "0:return1"]

theorem skelPowerTableCopy_expected : skelPowerTableCopy = skelPowerTableCopyExpected := rfl

/-- the structure the model of `Rescale` was written against -/
def skelRescaleExpected : List String :=
  ["0:assign=", "0:range", "1:assign:=", "1:if", "2:return1", "1:assign=", "1:assign+=", "0:return1"]

theorem skelRescale_expected : skelRescale = skelRescaleExpected := rfl

end F3.SkelTie.SkelPower
