import F3.Proofs.EmittedValidQuality
import F3.Proofs.ValidSound
/-!
# Non-vacuity of the run-level theorems of `F3.EmittedValid`: a two-round run

`r2Ops` is what member 1 sees in a run of four members of equal power (inputs `[7,8]` ×3 and `[7,9]`;
PREPARE of round 0 split 2/2, four COMMITs for bottom, CONVERGE of round 1 won by member 3's ticket for `[7]`,
decision `[7]` in round 1; a fourth DECIDE arrives after termination and is refused). `r2Votes` is the set of votes
in existence. The hypotheses on the delivered messages are checked with the executable checker `msgValidB`
(`F3.Proofs.ValidSound`).
-/
namespace F3.EmittedValid
open F3.Instance

def opValidB' (votes : List Vote) (t : Table) : Op → Bool
  | .recv _ m => msgValidB votes t m
  | _ => true

theorem opValidB_sound' (votes : List Vote) (t : Table) (ops : List Op)
    (h : ops.all (fun op => foreignOp op || opValidB' votes t op) = true) :
    ∀ op ∈ ops, foreignOp op = true ∨ OpValidG (WofL votes) t op := by
  intro op hop
  have := List.all_eq_true.1 h op hop
  simp only [Bool.or_eq_true] at this
  rcases this with hf | hv
  · exact Or.inl hf
  · right
    cases op with
    | recv now m => exact msgValidB_sound' votes t m hv
    | start _ => trivial
    | alarm _ => trivial

/-- (round, phase, value, justification) of the broadcasts of an effect list -/
def bcList (es : List Eff) : List (Nat × Phase × Chain × Option Just) :=
  es.filterMap (fun e => match e with | .broadcast r ph v _ j => some (r, ph, v, j) | _ => none)

theorem mem_bcList {es : List Eff} {r : Nat} {ph : Phase} {v : Chain} {tk : Bool} {j : Option Just}
    (h : Eff.broadcast r ph v tk j ∈ es) : (r, ph, v, j) ∈ bcList es :=
  List.mem_filterMap.2 ⟨_, h, rfl⟩

theorem forall_bcList {es : List Eff} {P : Nat → Phase → Chain → Option Just → Prop}
    (h : ∀ r ph v tk j, Eff.broadcast r ph v tk j ∈ es → P r ph v j) :
    ∀ x ∈ bcList es, P x.1 x.2.1 x.2.2.1 x.2.2.2 := by
  intro x hx
  simp only [bcList, List.mem_filterMap] at hx
  obtain ⟨e, he, hex⟩ := hx
  cases e <;> simp at hex
  subst hex
  exact h _ _ _ _ _ he

def r2Tbl : Table := { entries := [(1, 10), (2, 10), (3, 10), (4, 10)] }
def r2Cfg : Cfg :=
  { maxLookahead := 2, rebImmediateAfter := 3, timeout2 := [100, 130], qualityTimeout2 := 100, rebAfter := [50] }

/-- strong COMMIT quorum for bottom in round 0 -/
def jB : Just := { round := 0, phase := .commit, value := [], signers := [0, 1, 2] }
/-- strong PREPARE quorum for `[7]` in round 1 -/
def jP : Just := { round := 1, phase := .prepare, value := [7], signers := [0, 1, 2] }
/-- strong COMMIT quorum for `[7]` in round 1 -/
def jC : Just := { round := 1, phase := .commit, value := [7], signers := [0, 1, 2] }

def r2Votes : List Vote :=
  [(1, 0, .quality, [7, 8]), (2, 0, .quality, [7, 8]), (3, 0, .quality, [7, 8]), (4, 0, .quality, [7, 9]),
   (1, 0, .prepare, [7, 8]), (2, 0, .prepare, [7, 8]), (3, 0, .prepare, [7]), (4, 0, .prepare, [7]),
   (1, 0, .commit, []), (2, 0, .commit, []), (3, 0, .commit, []), (4, 0, .commit, []),
   (1, 1, .converge, [7, 8]), (2, 1, .converge, [7, 8]), (3, 1, .converge, [7]), (4, 1, .converge, [7]),
   (1, 1, .prepare, [7]), (2, 1, .prepare, [7]), (3, 1, .prepare, [7]), (4, 1, .prepare, [7]),
   (1, 1, .commit, [7]), (2, 1, .commit, [7]), (3, 1, .commit, [7]), (4, 1, .commit, [7]),
   (1, 0, .decide, [7]), (2, 0, .decide, [7]), (3, 0, .decide, [7]), (4, 0, .decide, [7])]

/-- the calls on member 1 after its `Start` -/
def r2Ops : List Op :=
  [.recv 1 { sender := 1, round := 0, phase := .quality, value := [7, 8] },
   .recv 1 { sender := 2, round := 0, phase := .quality, value := [7, 8] },
   .recv 1 { sender := 3, round := 0, phase := .quality, value := [7, 8] },   -- quorum for the input: PREPARE [7,8]
   .recv 1 { sender := 4, round := 0, phase := .quality, value := [7, 9] },   -- late QUALITY vote
   .recv 102 { sender := 1, round := 0, phase := .prepare, value := [7, 8] },
   .recv 102 { sender := 2, round := 0, phase := .prepare, value := [7, 8] },
   .recv 102 { sender := 3, round := 0, phase := .prepare, value := [7] },
   .recv 102 { sender := 4, round := 0, phase := .prepare, value := [7] },     -- no quorum possible: COMMIT bottom
   .recv 103 { sender := 1, round := 0, phase := .commit, value := [] },
   .recv 103 { sender := 2, round := 0, phase := .commit, value := [] },
   .recv 103 { sender := 3, round := 0, phase := .commit, value := [] },       -- quorum for bottom: CONVERGE round 1
   .recv 103 { sender := 4, round := 0, phase := .commit, value := [] },
   .recv 104 { sender := 1, round := 1, phase := .converge, value := [7, 8], rank := 6, just := some jB },
   .recv 104 { sender := 2, round := 1, phase := .converge, value := [7, 8], rank := 7, just := some jB },
   .recv 104 { sender := 3, round := 1, phase := .converge, value := [7], rank := 1, just := some jB },  -- best ticket
   .recv 104 { sender := 4, round := 1, phase := .converge, value := [7], rank := 9, just := some jB },
   .alarm 400,                                                                 -- CONVERGE timeout: PREPARE [7]
   .recv 401 { sender := 1, round := 1, phase := .prepare, value := [7], just := some jB },
   .recv 401 { sender := 2, round := 1, phase := .prepare, value := [7], just := some jB },
   .recv 401 { sender := 3, round := 1, phase := .prepare, value := [7], just := some jB },  -- quorum: COMMIT [7]
   .recv 401 { sender := 4, round := 1, phase := .prepare, value := [7], just := some jB },
   .recv 402 { sender := 1, round := 1, phase := .commit, value := [7], just := some jP },
   .recv 402 { sender := 2, round := 1, phase := .commit, value := [7], just := some jP },
   .recv 402 { sender := 3, round := 1, phase := .commit, value := [7], just := some jP },   -- quorum: DECIDE [7]
   .recv 402 { sender := 4, round := 1, phase := .commit, value := [7], just := some jP },
   .recv 403 { sender := 1, round := 0, phase := .decide, value := [7], just := some jC },
   .recv 403 { sender := 2, round := 0, phase := .decide, value := [7], just := some jC },
   .recv 403 { sender := 3, round := 0, phase := .decide, value := [7], just := some jC },   -- terminated
   .recv 403 { sender := 4, round := 0, phase := .decide, value := [7], just := some jC }]   -- refused

abbrev r2W : Votes := WofL r2Votes

/-- the whole run of member 1 -/
abbrev r2Run : State × List Eff := run (init r2Cfg r2Tbl [7, 8]) (.start 0 :: r2Ops)

theorem r2_noRestart : ∀ op ∈ r2Ops, op.isStart = false := by
  have : r2Ops.all (fun op => !op.isStart) = true := by decide
  intro op hop
  simpa using List.all_eq_true.1 this op hop

theorem r2_valid : ∀ op ∈ r2Ops, foreignOp op = true ∨ OpValidG r2W r2Tbl op :=
  opValidB_sound' r2Votes r2Tbl r2Ops (by decide +kernel)

/-- what member 1 broadcasts: seven messages over two rounds, with these justifications -/
theorem r2_broadcasts : bcList r2Run.2 =
    [(0, .quality, [7, 8], none), (0, .prepare, [7, 8], none), (0, .commit, [], none),
     (1, .converge, [7, 8], some jB), (1, .prepare, [7], some jB), (1, .commit, [7], some jP),
     (0, .decide, [7], some jC)] := by decide +kernel

theorem r2_own : ∀ r ph v tk j, Eff.broadcast r ph v tk j ∈ r2Run.2 → r2W 1 r ph v := by
  intro r ph v tk j hm
  have hall : ∀ x ∈ bcList r2Run.2, ((1 : Pid), x.1, x.2.1, x.2.2.1) ∈ r2Votes := by
    rw [r2_broadcasts]; decide
  exact hall _ (mem_bcList hm)

/-- the run decides `[7]` in round 1 and reports exactly one error: the refusal after termination -/
theorem r2_outcome : r2Run.1.termination = some { round := 0, phase := .decide, value := [7], signers := [0, 1, 2] } ∧
    r2Run.1.round = 1 ∧ r2Run.2.filter (fun e => !nonErr e) = [.err .afterTermination] := by
  decide +kernel

/-! ## a run that leaves QUALITY for DECIDE directly (candidates are *not* completed there) -/

/-- strong COMMIT quorum for `[7,8]` in round 0 -/
def jC0 : Just := { round := 0, phase := .commit, value := [7, 8], signers := [0, 1, 2] }

def cxVotes : List Vote :=
  [(1, 0, .quality, [7, 8]), (2, 0, .quality, [7, 8]), (3, 0, .quality, [7, 8]), (4, 0, .quality, [7, 8, 9]),
   (1, 0, .commit, [7, 8]), (2, 0, .commit, [7, 8]), (3, 0, .commit, [7, 8]), (1, 0, .decide, [7, 8])]

/-- member 4 (input `[7,8,9]`) hears three QUALITY votes for `[7,8]` — no quorum for its whole input, so QUALITY goes
on — and then a DECIDE for `[7,8]` -/
def cxOps : List Op :=
  [.recv 1 { sender := 1, round := 0, phase := .quality, value := [7, 8] },
   .recv 1 { sender := 2, round := 0, phase := .quality, value := [7, 8] },
   .recv 1 { sender := 3, round := 0, phase := .quality, value := [7, 8] },
   .recv 2 { sender := 1, round := 0, phase := .decide, value := [7, 8], just := some jC0 }]

theorem cx_noRestart : ∀ op ∈ cxOps, op.isStart = false := by
  have : cxOps.all (fun op => !op.isStart) = true := by decide
  intro op hop
  simpa using List.all_eq_true.1 this op hop

theorem cx_valid : ∀ op ∈ cxOps, foreignOp op = true ∨ OpValidG (WofL cxVotes) r2Tbl op :=
  opValidB_sound' cxVotes r2Tbl cxOps (by decide)

end F3.EmittedValid
