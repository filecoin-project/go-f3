import F3.Proofs.SyncTimedInv
/-!
# The timing invariant `TInv` is preserved by every event that respects the real-time conditions
-/
namespace F3.Sync
open F3.Instance F3.Net

section
variable {p : Pid} {c : Chain} {a b : Phase} {ms : List Msg}

/-! Inversions of `Trans`, read off `Trans.kinds`: where a phase was entered from, what was sent on leaving a phase,
and which move a new message of a phase belongs to. -/

theorem Trans.toQ (h : Trans p c a b ms) (hb : b = .quality) : a = .quality ∨ a = .initial := by
  rcases h.kinds with ⟨rfl, _⟩ | ⟨ha, _⟩ | ⟨_, rfl, _⟩ | ⟨_, rfl, _⟩ | ⟨_, rfl | rfl, _⟩ | ⟨_, rfl, _⟩ <;>
    first | exact Or.inl hb | exact Or.inr ha | cases hb

theorem Trans.toP (h : Trans p c a b ms) (hb : b = .prepare) :
    a = .prepare ∨ (a = .quality ∧ mkMsg p .prepare c none ∈ ms) := by
  rcases h.kinds with ⟨rfl, _⟩ | ⟨_, rfl, _⟩ | ⟨ha, _, rfl⟩ | ⟨_, rfl, _⟩ | ⟨_, rfl | rfl, _⟩ | ⟨_, rfl, _⟩ <;>
    first | exact Or.inl hb | exact Or.inr ⟨ha, List.mem_singleton.2 rfl⟩ | cases hb

theorem Trans.toC (h : Trans p c a b ms) (hb : b = .commit) :
    a = .commit ∨ (a = .prepare ∧ ∃ j, mkMsg p .commit c (some j) ∈ ms) := by
  rcases h.kinds with ⟨rfl, _⟩ | ⟨_, rfl, _⟩ | ⟨_, rfl, _⟩ | ⟨ha, _, j, rfl⟩ | ⟨_, rfl | rfl, _⟩ | ⟨_, rfl, _⟩ <;>
    first | exact Or.inl hb | exact Or.inr ⟨ha, j, List.mem_singleton.2 rfl⟩ | cases hb

theorem Trans.leftQ (h : Trans p c a b ms) (h1 : b ≠ .initial) (h2 : b ≠ .quality) :
    (a ≠ .initial ∧ a ≠ .quality) ∨
    (a = .quality ∧ ∃ m ∈ ms, m.sender = p ∧ (m.phase = .prepare ∨ m.phase = .decide)) := by
  rcases h.kinds with ⟨rfl, _⟩ | ⟨_, rfl, _⟩ | ⟨ha, _, rfl⟩ | ⟨rfl, _⟩ | ⟨ha, _, j, rfl⟩ | ⟨rfl, _⟩
  · exact Or.inl ⟨h1, h2⟩
  · exact absurd rfl h2
  · exact Or.inr ⟨ha, _, List.mem_singleton.2 rfl, rfl, Or.inl rfl⟩
  · exact Or.inl ⟨by decide, by decide⟩
  · rcases ha with rfl | rfl | rfl
    · exact Or.inr ⟨rfl, _, List.mem_singleton.2 rfl, rfl, Or.inr rfl⟩
    · exact Or.inl ⟨by decide, by decide⟩
    · exact Or.inl ⟨by decide, by decide⟩
  · exact Or.inl ⟨by decide, by decide⟩

theorem Trans.leftP (h : Trans p c a b ms) (hb : b = .commit ∨ b = .decide ∨ b = .terminated) :
    (a = .commit ∨ a = .decide ∨ a = .terminated) ∨
    ((a = .quality ∨ a = .prepare) ∧ ∃ m ∈ ms, m.sender = p ∧ (m.phase = .commit ∨ m.phase = .decide)) := by
  rcases h.kinds with ⟨rfl, _⟩ | ⟨_, rfl, _⟩ | ⟨_, rfl, _⟩ | ⟨ha, _, j, rfl⟩ | ⟨ha, _, j, rfl⟩ | ⟨rfl, _⟩
  · exact Or.inl hb
  · rcases hb with hb | hb | hb <;> cases hb
  · rcases hb with hb | hb | hb <;> cases hb
  · exact Or.inr ⟨Or.inr ha, _, List.mem_singleton.2 rfl, rfl, Or.inl rfl⟩
  · rcases ha with ha | ha | ha
    · exact Or.inr ⟨Or.inl ha, _, List.mem_singleton.2 rfl, rfl, Or.inr rfl⟩
    · exact Or.inr ⟨Or.inr ha, _, List.mem_singleton.2 rfl, rfl, Or.inr rfl⟩
    · exact Or.inl (Or.inl ha)
  · exact Or.inl (Or.inr (Or.inl rfl))

/-- the move that put a message of phase `ph` on the wire -/
theorem Trans.new (h : Trans p c a b ms) {m : Msg} (hm : m ∈ ms) :
    (m.phase = .quality → a = .initial) ∧ (m.phase = .prepare → a = .quality ∧ b = .prepare) ∧
    (m.phase = .commit → a = .prepare ∧ b = .commit) := by
  rcases h.kinds with ⟨_, rfl⟩ | ⟨ha, _, rfl⟩ | ⟨ha, hb, rfl⟩ | ⟨ha, hb, j, rfl⟩ | ⟨_, _, j, rfl⟩ | ⟨_, _, rfl⟩
  · cases hm
  · rw [List.mem_singleton.1 hm]; exact ⟨fun _ => ha, nofun, nofun⟩
  · rw [List.mem_singleton.1 hm]; exact ⟨nofun, fun _ => ⟨ha, hb⟩, nofun⟩
  · rw [List.mem_singleton.1 hm]; exact ⟨nofun, nofun, fun _ => ⟨ha, hb⟩⟩
  · rw [List.mem_singleton.1 hm]; exact ⟨nofun, nofun, nofun⟩
  · cases hm

end

section
variable {t : Table} {c : Chain} {H : List Pid} {Δ : Int} {cfg : Pid → Cfg}

theorem TNode.mono (hΔ : 0 ≤ Δ) {st new : List (Msg × Int)} {sts sts' : List (Pid × Int)} {pool pool' : List Msg}
    {q : Pid} {x : State} (h : TNode t Δ cfg st sts pool q x) (now : Int)
    (hnew : ∀ d ∈ new, d.2 = now) (hle : ∀ m τ, (m, τ) ∈ st → τ ≤ now)
    (hsts : ∀ d ∈ sts, d ∈ sts') (hpool : ∀ m ∈ pool, m ∈ pool') :
    TNode t Δ cfg (st ++ new) sts' pool' q x := by
  refine ⟨h.cfg, h.qn, h.js, ?_, ?_, ?_, ?_, ?_, ?_⟩
  · intro ph y hy
    obtain ⟨m, hm, h1, h2⟩ := h.conv ph y hy
    exact ⟨m, hpool m hm, h1, h2⟩
  · intro hq
    obtain ⟨s, h1, h2⟩ := h.timerQ hq
    exact ⟨s, hsts _ h1, h2⟩
  · intro hq
    obtain ⟨m, e, h1, h2⟩ := h.timerP hq
    exact ⟨m, e, List.mem_append_left _ h1, h2⟩
  · intro hq
    obtain ⟨m, e, h1, h2⟩ := h.timerC hq
    exact ⟨m, e, List.mem_append_left _ h1, h2⟩
  · intro h1 h2
    obtain ⟨m, τ, hm, hs, hp, hpr⟩ := h.leftQ h1 h2
    exact ⟨m, τ, List.mem_append_left _ hm, hs, hp, hpr.mono hΔ (hle m τ hm) hnew⟩
  · intro h1
    obtain ⟨m, τ, hm, hs, hp, hpr⟩ := h.leftP h1
    exact ⟨m, τ, List.mem_append_left _ hm, hs, hp, hpr.mono hΔ (hle m τ hm) hnew⟩

/-- every sender tallied after the step has a message of that phase in the pool the step found -/
theorem conv_step {tn : TNet} (ht : TInv t Δ cfg tn) {p : Pid} {s : State} (hp : (p, s) ∈ tn.net.nodes)
    {r : R} {om : Option Msg} {now : Int} (sx : SX c now om s r) (hom : ∀ m, om = some m → m ∈ tn.net.pool) :
    ∀ ph y, y ∈ sendersOf r.1 ph → hasMsg tn.net.pool y ph := by
  intro ph y hy
  rcases sx.conv ph y hy with h | ⟨m, hm, h1, h2⟩
  · exact (ht.node p s hp).conv ph y h
  · exact ⟨m, hom m hm, h1.symm, h2.symm⟩

theorem new_stamp_gt {new : List Msg} {now e : Int} (he : e < now) :
    ∀ d ∈ new.map (fun m => (m, now)), e < d.2 := by
  intro d hd
  obtain ⟨m', _, rfl⟩ := List.mem_map.1 hd
  exact he

/-- QUALITY and PREPARE at once: the event stamped `now` that finds `p` still in `ph` is prompt (else `p` would hold
the whole quorum already). `hph`: having broadcast its `ph` vote, `p` is in `ph`. -/
theorem prompt_of_T3 (hlen : 2 ≤ c.length) (hΔ : 0 ≤ Δ) {tn : TNet} (hn : NInv t c H tn.net)
    (ht : TInv t Δ cfg tn) {p : Pid} {s : State} (hp : (p, s) ∈ tn.net.nodes) {ph : Phase}
    (htp : ph = .quality ∨ ph = .prepare) (hph : hasMsg tn.net.pool p ph → s.phase = ph)
    {now : Int} (hT3 : T3 Δ tn now) (new : List Msg) :
    Prompt t Δ (tn.stamps ++ new.map (fun m => (m, now))) p ph now := by
  intro e S he hnd hstr hall hpS
  have hno := hn.node p s hp
  have hall' : ∀ x ∈ S, SentBy tn.stamps x ph e :=
    fun x hx => (hall x hx).restrict (new_stamp_gt (by omega))
  obtain ⟨mp, τp, hmp, hsp, hpp, hτp⟩ := hall' p hpS
  obtain ⟨σ, hps, hσ⟩ := ht.sender_started mp τp hmp
  rw [hsp] at hps
  have hq := hph ⟨mp, ht.st_pool mp τp hmp, hsp, hpp⟩
  have hsub : ∀ y ∈ S, y ∈ sendersOf s ph :=
    senders_of_T3 hT3 hps (by omega) (by omega)
      (fun m hm => hno.deliv m hm (by rcases htp with rfl | rfl <;> rw [hq] <;> decide)) hall'
  rw [← hq] at hsub
  exact hno.no_quorum hlen (by rcases htp with rfl | rfl <;> rw [hq] <;> rfl) hnd hstr (hsub p hpS) hsub

theorem TNode.step (hlen : 2 ≤ c.length) (hΔ : 0 ≤ Δ) {tn : TNet} (hn : NInv t c H tn.net)
    (ht : TInv t Δ cfg tn) {p : Pid} {s : State} (hp : (p, s) ∈ tn.net.nodes) (r : R) (om : Option Msg) (now : Int)
    (g : Good t c H p s r) (sx : SX c now om s r) (hom : ∀ m, om = some m → m ∈ tn.net.pool)
    (hT1 : tn.clock ≤ now) (hT3 : T3 Δ tn now)
    (hT4 : 2 * Δ ≤ (cfg p).qualityTimeout2 ∧ 2 * Δ ≤ tableGet (cfg p).timeout2 0)
    (sts' : List (Pid × Int)) (hsts : ∀ d ∈ tn.starts, d ∈ sts')
    (hstart : s.phase = .initial → r.1.phaseTimeout = now + s.cfg.qualityTimeout2 ∧ (p, now) ∈ sts') :
    TNode t Δ cfg (tn.stamps ++ (sent p r.2).map (fun m => (m, now))) sts' (tn.net.pool ++ sent p r.2) p r.1 := by
  have hno := hn.node p s hp
  have htn := ht.node p s hp
  have old := htn.mono (new := (sent p r.2).map (fun m => (m, now))) (sts' := sts')
    (pool' := tn.net.pool ++ sent p r.2) hΔ now
    (by intro d hd; obtain ⟨m', _, rfl⟩ := List.mem_map.1 hd; rfl)
    (fun m τ h => Int.le_trans (ht.st_clock m τ h) hT1) hsts (fun m hm => List.mem_append_left _ hm)
  have hconv0 := conv_step ht hp sx hom
  have hnewmem : ∀ m ∈ sent p r.2, (m, now) ∈ tn.stamps ++ (sent p r.2).map (fun m => (m, now)) :=
    fun m hm => List.mem_append_right _ (List.mem_map.2 ⟨m, hm, rfl⟩)
  have hcfg : s.cfg = cfg p := htn.cfg
  refine ⟨sx.cfg.trans hcfg, sx.qn htn.qn, sx.js htn.js, ?_, ?_, ?_, ?_, ?_, ?_⟩
  · intro ph y hy
    exact (hasMsg_append _ _ _ _).2 (Or.inl (hconv0 ph y hy))
  · intro hq
    rcases g.trans.toQ hq with ha | ha
    · obtain ⟨s', h1, h2⟩ := old.timerQ ha
      exact ⟨s', h1, by rw [sx.same (hq.trans ha.symm)]; exact h2⟩
    · obtain ⟨h1, h2⟩ := hstart ha
      rw [hcfg] at h1
      exact ⟨now, h2, by rw [h1]; omega⟩
  · intro hq
    rcases g.trans.toP hq with ha | ⟨ha, hm⟩
    · obtain ⟨m, e, h1, h2, h3, h4⟩ := old.timerP ha
      exact ⟨m, e, h1, h2, h3, by rw [sx.same (hq.trans ha.symm)]; exact h4⟩
    · have h1 := (sx.toP ha hq).1
      rw [hcfg] at h1
      exact ⟨_, now, hnewmem _ hm, rfl, rfl, by rw [h1]; omega⟩
  · intro hq
    rcases g.trans.toC hq with ha | ⟨ha, j, hm⟩
    · obtain ⟨m, e, h1, h2, h3, h4⟩ := old.timerC ha
      exact ⟨m, e, h1, h2, h3, by rw [sx.same (hq.trans ha.symm)]; exact h4⟩
    · have h1 := (sx.toC ha hq).1
      rw [hcfg] at h1
      exact ⟨_, now, hnewmem _ hm, rfl, rfl, by rw [h1]; omega⟩
  · intro h1 h2
    rcases g.trans.leftQ h1 h2 with ⟨a1, a2⟩ | ⟨ha, m, hm, hs, hph⟩
    · exact old.leftQ a1 a2
    · exact ⟨m, now, hnewmem m hm, hs, hph, prompt_of_T3 hlen hΔ hn ht hp (.inl rfl) (fun _ => ha) hT3 _⟩
  · intro hb
    rcases g.trans.leftP hb with ha | ⟨ha, m, hm, hs, hph⟩
    · exact old.leftP ha
    · exact ⟨m, now, hnewmem m hm, hs, hph, prompt_of_T3 hlen hΔ hn ht hp (.inr rfl)
        (fun hm => ha.resolve_left (hno.prepSelf hm).2) hT3 _⟩

end

end F3.Sync
