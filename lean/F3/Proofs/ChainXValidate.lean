import F3.Spec.ChainX
import F3.Proofs.EarlyReturn
/-! When the pubsub validator of the model accepts, and when the specification has no objection: each a chain of
early returns, so each a conjunction of passed tests. -/
namespace F3.ChainX
open Spec F3.Proofs

theorem validate_accept_iff (o : Opts) (p : Progress) (now : Int) (m : Msg) :
    validate o p now (some m) = .accept ↔
      m.chain ≠ [] ∧ chainValid m.chain = true ∧ ¬ m.inst < p.id ∧ ¬ m.inst > (p.id + o.lookahead) % u64 ∧
      ¬ (p.input.isSome = true ∧ m.inst = p.id ∧ (p.input.getD []).head? ≠ (chainIds m.chain).head?) ∧
      ¬ now - o.maxAgeMs > m.ts ∧ ¬ m.ts > now := by
  unfold validate
  rw [ite_eq_iff_of_ne (by decide), ite_eq_iff_of_ne (by decide), ite_eq_iff_of_ne (by decide), ite_eq_iff_of_ne (by decide),
    ite_eq_iff_of_ne (by decide), ite_eq_iff_of_ne (by decide), ite_eq_iff_of_ne (by decide)]
  simp only [Bool.not_eq_true', Bool.not_eq_false, and_true, ne_eq]

theorem mustNotAdmit_none_iff (o : Opts) (p : Progress) (now : Int) (m : Msg) :
    mustNotAdmit o p now (some m) = none ↔
      m.chain ≠ [] ∧ chainValid m.chain = true ∧ ¬ m.inst < p.id ∧
      ¬ (p.id + o.lookahead < u64 ∧ m.inst > p.id + o.lookahead) ∧ ¬ m.ts > now ∧ ¬ m.ts < now - o.maxAgeMs ∧
      ∀ inp, p.input = some inp → ¬ (m.inst = p.id ∧ inp.head? ≠ (chainIds m.chain).head?) := by
  unfold mustNotAdmit
  rw [ite_eq_iff_of_ne (by decide), ite_eq_iff_of_ne (by decide), ite_eq_iff_of_ne (by decide), ite_eq_iff_of_ne (by decide),
    ite_eq_iff_of_ne (by decide), ite_eq_iff_of_ne (by decide)]
  cases p.input with
  | none => simp
  | some inp => simp only [ite_eq_iff_of_ne (Option.some_ne_none _), and_true, Bool.not_eq_false, ne_eq, Option.some.injEq, forall_eq']

end F3.ChainX
