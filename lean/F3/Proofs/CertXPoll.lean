import F3.Spec.CertX
import F3.Proofs.CertsTables
import F3.Proofs.CertsValidate
import F3.Proofs.CertX
import F3.Proofs.CertXStore
/-! `Poll` (C16): whatever the peer answers, what the poller stores validates in sequence from the poller's own
instance and table. Proved for a poller that stands anywhere inside its store (`Lag`); the poller `Consistent`
with its store, of which C16 speaks, is the special case. -/
namespace F3.CertX
open F3.Certs F3.Spec.Certs F3.Spec.CertX

/-- `NewPoller` starts at the instance the server would advertise as pending, with the store's table for it -/
theorem newPoller_eq (s : Store) :
    newPoller s = (s.getPowerTable s.pending).map fun t => ⟨s.pending, t, s⟩ := by
  show (match s.getPowerTable s.pending with | some t => some (⟨s.pending, t, s⟩ : PState) | none => none) = _
  cases s.getPowerTable s.pending <;> rfl

theorem catchUp_eq {st : PState} (hw : st.store.nextInst < 2 ^ 64) :
    catchUp st = if st.store.certs = [] ∨ st.next = st.store.nextInst then some st
      else st.store.latestTable.map fun t => ⟨st.store.nextInst, t, st.store⟩ := by
  unfold catchUp
  rw [latest?_eq]
  by_cases h0 : st.store.certs.length = 0
  · rw [if_pos h0, if_pos (Or.inl (List.eq_nil_of_length_eq_zero h0))]
  · have hu : u64 (st.store.nextInst - 1 + 1) = st.store.nextInst := by
      rw [Nat.sub_add_cancel (by unfold Store.nextInst; omega), u64_of_lt hw]
    have h0' : st.store.certs ≠ [] := fun h => h0 (by rw [h]; rfl)
    rw [if_neg h0]
    simp only [hu]
    by_cases hn : st.next = st.store.nextInst
    · rw [if_pos hn.symm, if_pos (Or.inr hn)]
    · rw [if_neg (Ne.symm hn), if_neg (not_or.mpr ⟨h0', hn⟩)]
      unfold Store.latestTable
      cases st.store.getPowerTable st.store.nextInst <;> rfl

theorem catchUp_head {st : PState} (hn : st.next = st.store.nextInst) (hroom : st.store.nextInst < 2 ^ 64) :
    catchUp st = some st := by
  rw [catchUp_eq hroom, if_pos (Or.inr hn)]

theorem catchUp_behind {st : PState} {lt : Table} (hw : st.store.nextInst < 2 ^ 64)
    (hne : st.store.certs ≠ []) (hlt : st.store.latestTable = some lt) (hbehind : st.next ≠ st.store.nextInst) :
    catchUp st = some ⟨st.store.nextInst, lt, st.store⟩ := by
  rw [catchUp_eq hw, if_neg (not_or.mpr ⟨hne, hbehind⟩), hlt]
  rfl

theorem isFresh_iff {s : Store} {c : Cert} (hlo : s.first ≤ c.inst) :
    isFresh s c = true ↔ s.nextInst ≤ c.inst := by
  unfold isFresh
  rw [latest?_eq]
  unfold Store.nextInst at *
  by_cases h0 : s.certs.length = 0
  · rw [if_pos h0]
    simp only [true_iff]; omega
  · rw [if_neg h0]
    simp only [decide_eq_true_eq]; omega

theorem pollCert_invalid {net : Nat} {st : PState} {c : Cert} (res : PollRes)
    (h : ∀ nt, ¬ CertValid net st.table st.next none c nt) :
    pollCert net st res c = (st, { res with status := .illegal }, .illegal) := by
  unfold pollCert
  cases hstep : stepCert net ⟨st.next, [], st.table, none⟩ c with
  | error e => rfl
  | ok v =>
    obtain ⟨nt, hv, _⟩ := (stepCert_ok_iff ..).mp hstep
    exact absurd hv (h nt)

theorem pollCert_valid {net : Nat} {st : PState} {c : Cert} {nt : Table} (res : PollRes)
    (hv : CertValid net st.table st.next none c nt) (hlo : st.store.first ≤ st.next)
    (hw : st.next + 1 < 2 ^ 64) :
    pollCert net st res c =
      if st.store.nextInst ≤ st.next then
        match st.store.put c with
        | .error _ => (st, { res with received := res.received + 1, internal := true }, .internal)
        | .ok s' =>
          (⟨st.next + 1, nt, s'⟩, { res with received := res.received + 1, newCerts := res.newCerts + 1 }, .cont)
      else ({ st with next := st.next + 1, table := nt }, { res with received := res.received + 1 }, .cont) := by
  have hstep : stepCert net ⟨st.next, [], st.table, none⟩ c =
      .ok ⟨st.next + 1, c.chain.tail, nt, c.chain.getLast?⟩ :=
    (stepCert_ok_iff ..).mpr ⟨nt, hv, by unfold advance; rw [u64_of_lt hw]; rfl⟩
  unfold pollCert
  rw [hstep]
  simp only [isFresh_iff (hv.inst ▸ hlo), hv.inst]
  split
  · cases st.store.put c <;> rfl
  · rfl

theorem put_consistent {net : Nat} {st : PState} {c : Cert} {nt : Table} (hc : Consistent st)
    (hv : CertValid net st.table st.next none c nt) :
    st.store.put c =
      if nt.isEmpty then .error .emptyTable else .ok { st.store with certs := st.store.certs ++ [c] } := by
  have hi : c.inst = st.store.nextInst := hv.inst.trans hc.next
  unfold Store.put
  rw [if_neg (by rw [hi]; unfold Store.nextInst; omega), if_neg (by rw [List.isEmpty_iff]; exact hv.chain_nonempty),
    hv.chain_valid, if_neg (by decide), if_neg (by omega), if_neg (by omega), hc.table]
  simp only [putDelta_eq hc.canon]
  simp only [hv.delta, hv.committed, bne_self_eq_false, Bool.false_eq_true, if_false]

theorem pollRun_append {net : Nat} {x y z : Nat × Table} {a b : List Cert}
    (h₁ : PollRun net x a y) (h₂ : PollRun net y b z) : PollRun net x (a ++ b) z := by
  induction h₁ with
  | nil => exact h₂
  | cons hv _ ih => exact PollRun.cons hv (ih h₂)

theorem pollRun_nil_inv {net : Nat} {x y : Nat × Table} (h : PollRun net x [] y) : y = x := by
  cases h; rfl

/-- what processing the certificates of one response does to a consistent poller: `acc` are validated and
stored, `rest` is not looked at -/
structure CertsOutcome (net : Nat) (st : PState) (res : PollRes) (ds : List Cert)
    (st' : PState) (res' : PollRes) (out : CertOutcome) (acc rest : List Cert) : Prop where
  split : ds = acc ++ rest
  store : st'.store = { st.store with certs := st.store.certs ++ acc }
  run : PollRun net (st.next, st.table) acc (st'.next, st'.table)
  next : st'.next = st.next + acc.length
  cons : Consistent st'
  newCerts : res'.newCerts = res.newCerts + acc.length
  received : res'.received = res.received + acc.length + (if out = .internal then 1 else 0)
  cont : out = .cont → rest = [] ∧ res'.status = res.status ∧ res'.internal = res.internal
  illegal : out = .illegal → ∃ c rest', rest = c :: rest' ∧
    (∀ nt, ¬ CertValid net st'.table st'.next none c nt) ∧ res'.status = .illegal ∧ res'.internal = res.internal
  internal : out = .internal → ∃ c rest', rest = c :: rest' ∧
    CertValid net st'.table st'.next none c [] ∧ res'.internal = true

/-- the poller is somewhere inside its store, whose latest table is known (its own table may be anything) -/
structure Lag (st : PState) : Prop where
  lo : st.store.first ≤ st.next
  hi : st.next ≤ st.store.nextInst
  ok : StoreOK st.store

theorem Lag.of_consistent {st : PState} (hc : Consistent st) : Lag st :=
  ⟨by rw [hc.next]; unfold Store.nextInst; omega, by rw [hc.next]; exact Nat.le_refl _,
    ⟨st.table, hc.table, hc.canon⟩⟩

/-- what processing the certificates of one response does when the poller may lag behind its store:
`skipped` are validated and passed over (their instances are in the store already), `new` are validated and
stored, `rest` is not looked at -/
structure LagOutcome (net : Nat) (st : PState) (res : PollRes) (ds : List Cert)
    (st' : PState) (res' : PollRes) (out : CertOutcome) (skipped new rest : List Cert) (m : Nat) (tm : Table) :
    Prop where
  split : ds = skipped ++ (new ++ rest)
  store : st'.store = { st.store with certs := st.store.certs ++ new }
  runS : PollRun net (st.next, st.table) skipped (m, tm)
  runN : PollRun net (m, tm) new (st'.next, st'.table)
  mid : m = st.next + skipped.length
  midle : m ≤ st.store.nextInst
  next : st'.next = m + new.length
  stored : new ≠ [] → m = st.store.nextInst ∧ Consistent st'
  newCerts : res'.newCerts = res.newCerts + new.length
  received : res'.received = res.received + skipped.length + new.length + (if out = .internal then 1 else 0)
  cont : out = .cont → rest = [] ∧ res'.status = res.status ∧ res'.internal = res.internal
  illegal : out = .illegal → ∃ c rest', rest = c :: rest' ∧
    (∀ nt, ¬ CertValid net st'.table st'.next none c nt) ∧ res'.status = .illegal ∧ res'.internal = res.internal
  internal : out = .internal → ∃ c rest' nt, rest = c :: rest' ∧
    CertValid net st'.table st'.next none c nt ∧ res'.internal = true

theorem LagOutcome.nil {net : Nat} {st : PState} (res : PollRes) (hl : Lag st) :
    LagOutcome net st res [] st res .cont [] [] [] st.next st.table :=
  { split := rfl, store := (store_append_nil _).symm, runS := PollRun.nil _, runN := PollRun.nil _,
    mid := rfl, midle := hl.hi, next := rfl, stored := fun h => absurd rfl h, newCerts := rfl, received := rfl,
    cont := fun _ => ⟨rfl, rfl, rfl⟩, illegal := nofun, internal := nofun }

theorem LagOutcome.lag {net : Nat} {st : PState} {res : PollRes} {ds : List Cert} {st' : PState} {res' : PollRes}
    {out : CertOutcome} {skipped new rest : List Cert} {m : Nat} {tm : Table}
    (ho : LagOutcome net st res ds st' res' out skipped new rest m tm) (hl : Lag st) : Lag st' := by
  by_cases hn : new = []
  · subst hn
    have hs : st'.store = st.store := by rw [ho.store]; exact store_append_nil _
    have h1 := ho.next; have h2 := ho.mid; have h3 := ho.midle
    rw [List.length_nil, Nat.add_zero] at h1
    exact ⟨by rw [hs]; have := hl.lo; omega, by rw [hs]; omega, hs ▸ hl.ok⟩
  · exact Lag.of_consistent (ho.stored hn).2

theorem pollCerts_lag_spec (net : Nat) (st : PState) (res : PollRes) (ds : List Cert) (hl : Lag st)
    (hroom : st.store.nextInst + ds.length < 2 ^ 64) :
    ∃ st' res' out skipped new rest m tm, pollCerts net st res ds = (st', res', out) ∧
      LagOutcome net st res ds st' res' out skipped new rest m tm ∧ (Consistent st → Consistent st') ∧
      (out = .internal → ∀ c, rest.head? = some c → ∃ e, st'.store.put c = .error e) := by
  induction ds generalizing st res with
  | nil => exact ⟨st, res, .cont, [], [], [], st.next, st.table, rfl, .nil res hl, id, nofun⟩
  | cons c cs ih =>
    rw [List.length_cons] at hroom
    have hhi := hl.hi
    -- the loop stops at `c`: nothing passed over, nothing stored, the poller where it was
    have hstop : ∀ res' out, (out = .illegal → (∀ nt, ¬ CertValid net st.table st.next none c nt) ∧
          res'.status = .illegal ∧ res'.internal = res.internal) →
        (out = .internal → ∃ nt, CertValid net st.table st.next none c nt ∧ res'.internal = true) →
        out ≠ .cont → res'.newCerts = res.newCerts →
        res'.received = res.received + (if out = .internal then 1 else 0) →
        LagOutcome net st res (c :: cs) st res' out [] [] (c :: cs) st.next st.table :=
      fun res' out hillegal hinternal hcont hnew hrecv =>
        { split := rfl, store := (store_append_nil _).symm, runS := PollRun.nil _, runN := PollRun.nil _,
          mid := rfl, midle := hhi, next := rfl, stored := fun h => absurd rfl h,
          newCerts := hnew, received := hrecv, cont := fun h => absurd h hcont,
          illegal := fun h => ⟨c, cs, rfl, hillegal h⟩,
          internal := fun h => (hinternal h).elim fun nt hv => ⟨c, cs, nt, rfl, hv⟩ }
    unfold pollCerts
    by_cases hval : ∃ nt, CertValid net st.table st.next none c nt
    · obtain ⟨nt, hv⟩ := hval
      have hu : u64 (st.next + 1) = st.next + 1 := u64_of_lt (by omega)
      rw [pollCert_valid res hv hl.lo (by omega)]
      by_cases hlt : st.next < st.store.nextInst
      · -- an instance the store holds already: validated and passed over
        rw [if_neg (by omega)]
        obtain ⟨st', res', out, skipped, new, rest, m, tm, hp, ho, _, href⟩ :=
          ih { st with next := st.next + 1, table := nt } { res with received := res.received + 1 }
            ⟨Nat.le_succ_of_le hl.lo, hlt, hl.ok⟩ (by show st.store.nextInst + cs.length < 2 ^ 64; omega)
        refine ⟨st', res', out, c :: skipped, new, rest, m, tm, hp, ⟨by rw [ho.split]; rfl, ho.store, ?_, ho.runN,
          ?_, ho.midle, ho.next, ho.stored, ho.newCerts, ?_, ho.cont, ho.illegal, ho.internal⟩,
          fun hc => absurd hc.next (by omega), href⟩
        · exact PollRun.cons hv (by rw [hu]; exact ho.runS)
        · rw [ho.mid]; simp only [List.length_cons]; omega
        · rw [ho.received]; simp only [List.length_cons]; omega
      · -- the store's next instance: offered to the store, which checks it against its own latest table
        have hn : st.next = st.store.nextInst := by omega
        rw [if_pos (by omega)]
        cases hput : st.store.put c with
        | error e =>
          exact ⟨st, _, .internal, [], [], c :: cs, st.next, st.table, rfl,
            hstop _ _ nofun (fun _ => ⟨nt, hv, rfl⟩) nofun rfl rfl, id, fun _ c' hc' => by cases hc'; exact ⟨e, hput⟩⟩
        | ok s' =>
          rcases put_ok hput with ⟨_, hlt'⟩ | ⟨hs', _, lt, nt', hlat, hnt, hpt⟩
          · have := hv.inst; omega
          obtain ⟨lt', hlat', hcanon⟩ := hl.ok
          rw [hlat] at hlat'
          cases hlat'
          cases CidTok.table.inj (hpt.symm.trans hv.committed)
          rw [putDelta_eq hcanon] at hnt
          -- from here the poller is consistent, so nothing more is passed over
          have hc1 : Consistent ⟨st.next + 1, nt, s'⟩ :=
            ⟨by rw [hs', nextInst_append, hn]; rfl,
              by rw [hs']; exact latestTable_snoc c hlat hnt, applyDiff_fixed hnt⟩
          obtain ⟨st', res', out, skipped, new, rest, m, tm, hp, ho, hcc, href⟩ := ih _
            { res with received := res.received + 1, newCerts := res.newCerts + 1 } (Lag.of_consistent hc1)
            (by rw [hs', nextInst_append]; simp only [List.length_singleton]; omega)
          have hsk : skipped = [] :=
            List.eq_nil_of_length_eq_zero (by have := ho.mid; have := ho.midle; have := hc1.next; omega)
          subst hsk
          obtain ⟨rfl, rfl⟩ : m = st.next + 1 ∧ tm = nt := Prod.mk.inj (pollRun_nil_inv ho.runS)
          refine ⟨st', res', out, [], c :: new, rest, st.next, st.table, hp, ⟨by rw [ho.split]; rfl, ?_, PollRun.nil _,
            ?_, rfl, hhi, ?_, fun _ => ⟨hn, hcc hc1⟩, ?_, ?_, ho.cont, ho.illegal, ho.internal⟩, fun _ => hcc hc1, href⟩
          · rw [ho.store, hs']; simp
          · exact PollRun.cons hv (by rw [hu]; exact ho.runN)
          · rw [ho.next]; simp only [List.length_cons]; omega
          · rw [ho.newCerts]; simp only [List.length_cons]; omega
          · rw [ho.received]; simp only [List.length_cons, List.length_nil]; omega
    · rw [pollCert_invalid res (not_exists.mp hval)]
      exact ⟨st, _, .illegal, [], [], c :: cs, st.next, st.table, rfl,
        hstop _ _ (fun _ => ⟨not_exists.mp hval, rfl, rfl⟩) nofun nofun rfl rfl, id, nofun⟩

/-- a consistent poller stands at the head of its store, so nothing is passed over, and its store refuses a
certificate it validated only for leaving no participant -/
theorem pollCerts_spec (net : Nat) (st : PState) (res : PollRes) (ds : List Cert) (hc : Consistent st)
    (hroom : st.store.nextInst + ds.length < 2 ^ 64) :
    ∃ st' res' out acc rest, pollCerts net st res ds = (st', res', out) ∧
      CertsOutcome net st res ds st' res' out acc rest := by
  obtain ⟨st', res', out, skipped, acc, rest, m, tm, hp, ho, hcc, href⟩ :=
    pollCerts_lag_spec net st res ds (Lag.of_consistent hc) hroom
  have hsk : skipped = [] :=
    List.eq_nil_of_length_eq_zero (by have := ho.mid; have := ho.midle; have := hc.next; omega)
  subst hsk
  obtain ⟨rfl, rfl⟩ : m = st.next ∧ tm = st.table := Prod.mk.inj (pollRun_nil_inv ho.runS)
  refine ⟨st', res', out, acc, rest, hp, ho.split, ho.store, ho.runN, ho.next, hcc hc, ho.newCerts,
    by simpa using ho.received, ho.cont, ho.illegal, fun h => ?_⟩
  obtain ⟨c, rest', nt, h1, hv, h3⟩ := ho.internal h
  obtain ⟨e, he⟩ := href h c (by rw [h1]; rfl)
  rw [put_consistent (hcc hc) hv] at he
  split at he
  · rename_i hem
    rw [List.isEmpty_iff.mp hem] at hv
    exact ⟨c, rest', h1, hv, h3⟩
  · cases he

/-- one request of `Poll`, after `CatchUp`: the response is read and its certificates processed; `Poll` goes on
only if the peer advertises more than it gave and gave something -/
def pollRound (net : Nat) (respond : Nat → Nat → Resp) (fuel n : Nat) (st : PState) (res : PollRes) :
    PState × PollRes :=
  match respond n st.next with
  | .fail => (st, { res with status := .failed })
  | .ok pending items =>
    match pollCerts net st (if st.next ≤ pending then { res with status := .hit } else res)
        (clientRecv st.next maxRequestLength 0 items) with
    | (st', res', .cont) =>
      if pending ≤ st'.next then (st', res')
      else if res'.received = res.received then (st', { res' with status := .failed })
      else poll net respond fuel (n + 1) st' res'
    | (st', res', _) => (st', res')

theorem poll_succ (net : Nat) (respond : Nat → Nat → Resp) (fuel n : Nat) (st : PState) (res : PollRes) :
    poll net respond (fuel + 1) n st res =
      match catchUp st with
      | none => (st, { res with internal := true })
      | some st => pollRound net respond fuel n st res := by
  rw [poll]
  rfl

/-- the certificates `Client.Request` hands to `Poll` out of the answer to request `n` -/
def handed (respond : Nat → Nat → Resp) (n first : Nat) : List Cert :=
  match respond n first with
  | .fail => []
  | .ok _ items => clientRecv first maxRequestLength 0 items

theorem pollRound_spec {net : Nat} {respond : Nat → Nat → Resp} {fuel n : Nat} {st st' : PState}
    {res res' : PollRes} (hl : Lag st) (hroom : st.store.nextInst + maxRequestLength < 2 ^ 64)
    (h : pollRound net respond fuel n st res = (st', res')) :
    ∃ resH st1 res1 out skipped new rest m tm, resH.newCerts = res.newCerts ∧
      (handed respond n st.next).length ≤ maxRequestLength ∧
      LagOutcome net st resH (handed respond n st.next) st1 res1 out skipped new rest m tm ∧
      (Consistent st → Consistent st1) ∧
      ((st' = st1 ∧ res'.newCerts = res1.newCerts) ∨ poll net respond fuel (n + 1) st1 res1 = (st', res')) := by
  unfold pollRound at h
  unfold handed
  cases hresp : respond n st.next with
  | fail =>
    rw [hresp] at h
    cases h
    exact ⟨res, st, res, .cont, [], [], [], st.next, st.table, rfl, Nat.zero_le _, .nil res hl, id, Or.inl ⟨rfl, rfl⟩⟩
  | ok pending items =>
    rw [hresp] at h
    simp only at h ⊢
    have hlen : (clientRecv st.next maxRequestLength 0 items).length ≤ maxRequestLength := by
      have := clientRecv_length st.next maxRequestLength 0 items; omega
    obtain ⟨st1, res1, out, skipped, new, rest, m, tm, hp, ho, hcc, _⟩ := pollCerts_lag_spec net st
      (if st.next ≤ pending then { res with status := .hit } else res)
      (clientRecv st.next maxRequestLength 0 items) hl (by omega)
    rw [hp] at h
    refine ⟨_, st1, res1, out, skipped, new, rest, m, tm, by split <;> rfl, hlen, ho, hcc, ?_⟩
    cases out with
    | cont =>
      simp only at h
      split at h
      · cases h; exact Or.inl ⟨rfl, rfl⟩
      · split at h
        · cases h; exact Or.inl ⟨rfl, rfl⟩
        · exact Or.inr h
    | illegal => cases h; exact Or.inl ⟨rfl, rfl⟩
    | internal => cases h; exact Or.inl ⟨rfl, rfl⟩

/-- `CatchUp` of a poller inside its store: it ends at the head of the store, where it was or with the store's
latest table -/
theorem catchUp_lag {st st2 : PState} (hl : Lag st) (hw : st.store.nextInst < 2 ^ 64)
    (h : catchUp st = some st2) :
    st2.store = st.store ∧ st2.next = st.store.nextInst ∧ Lag st2 ∧ (Consistent st → st2 = st) ∧
      (st2 = st ∨ (st.next < st.store.nextInst ∧ Consistent st2 ∧ st.store.latestTable = some st2.table)) := by
  rw [catchUp_eq hw] at h
  by_cases hn : st.next = st.store.nextInst
  · rw [if_pos (Or.inr hn)] at h
    cases h
    exact ⟨rfl, hn, hl, fun _ => rfl, Or.inl rfl⟩
  · have hlt : st.next < st.store.nextInst := by have := hl.hi; omega
    obtain ⟨lt, hlat, hcanon⟩ := hl.ok
    rw [if_neg (not_or.mpr ⟨certs_ne_nil hl.lo hlt, hn⟩), hlat] at h
    cases h
    have hc2 : Consistent ⟨st.store.nextInst, lt, st.store⟩ := ⟨rfl, hlat, hcanon⟩
    exact ⟨rfl, rfl, Lag.of_consistent hc2, fun hc => absurd hc.next hn, Or.inr ⟨hlt, hc2, hlat⟩⟩

/-- `Poll` either stops where it is or catches up and does a round -/
theorem poll_cases {net : Nat} {respond : Nat → Nat → Resp} {fuel n : Nat} {st st' : PState} {res res' : PollRes}
    (h : poll net respond fuel n st res = (st', res')) :
    (st' = st ∧ res'.newCerts = res.newCerts) ∨
      ∃ k st2, fuel = k + 1 ∧ catchUp st = some st2 ∧ pollRound net respond k n st2 res = (st', res') := by
  cases fuel with
  | zero => cases h; exact Or.inl ⟨rfl, rfl⟩
  | succ k =>
    rw [poll_succ] at h
    cases hcu : catchUp st with
    | none => rw [hcu] at h; cases h; exact Or.inl ⟨rfl, rfl⟩
    | some st2 => rw [hcu] at h; exact Or.inr ⟨k, st2, rfl, rfl, h⟩

/-- One request of `Poll` and all that follow it, from a poller anywhere inside its store. The poller first walks over
`skipped`, a prefix of what the client handed over, validating each and storing none (the store holds their instances), and
reaches instance `m` with table `tm`. What is stored, `new`, validates in sequence either from `(m, tm)` — then `m` is the
head of the store as soon as anything is stored — or, when the first response ended below the head, from the head with the
store's own table, where `CatchUp` of the next request took the poller. Only the first response can pass anything over:
every later request begins with `CatchUp`, that is at the head. -/
theorem pollRound_lag_spec (net : Nat) (respond : Nat → Nat → Resp) (fuel n : Nat) (st : PState) (res : PollRes)
    (hl : Lag st) (hroom : st.store.nextInst + (fuel + 1) * maxRequestLength < 2 ^ 64)
    (st' : PState) (res' : PollRes) (h : pollRound net respond fuel n st res = (st', res')) :
    ∃ skipped new m tm,
      st'.store = { st.store with certs := st.store.certs ++ new } ∧
      skipped <+: handed respond n st.next ∧
      PollRun net (st.next, st.table) skipped (m, tm) ∧ m = st.next + skipped.length ∧
      m ≤ st.store.nextInst ∧ m ≤ st'.next ∧
      res'.newCerts = res.newCerts + new.length ∧ (new ≠ [] → Consistent st') ∧
      (Consistent st → Consistent st') ∧ Lag st' ∧
      ((PollRun net (m, tm) new (st'.next, st'.table) ∧ (new ≠ [] → m = st.store.nextInst)) ∨
       (m < st.store.nextInst ∧ Consistent st' ∧
          ∃ lt, st.store.latestTable = some lt ∧ PollRun net (st.store.nextInst, lt) new (st'.next, st'.table))) := by
  induction fuel using Nat.strongRecOn generalizing n st res with
  | ind fuel ih =>
  rw [Nat.add_mul, Nat.one_mul] at hroom
  obtain ⟨resH, st1, res1, out, skipped, new1, rest, m, tm, hH, hlen, ho, hcc, hend⟩ :=
    pollRound_spec hl (by omega) h
  have hnc : res1.newCerts = res.newCerts + new1.length := by rw [ho.newCerts, hH]
  have hpre : skipped <+: handed respond n st.next := by rw [ho.split]; exact List.prefix_append _ _
  have hl1 := ho.lag hl
  have hx := ho.next
  have hhi1 := hl1.hi
  have hend' := hend.elim Or.inl poll_cases
  rcases hend' with ⟨rfl, hr⟩ | ⟨k, st2, rfl, hcu, hcont⟩
  · exact ⟨skipped, new1, m, tm, ho.store, hpre, ho.runS, ho.mid, ho.midle, by omega, by rw [hr, hnc],
      fun hne => (ho.stored hne).2, hcc, hl1, Or.inl ⟨ho.runN, fun hne => (ho.stored hne).1⟩⟩
  · -- the peer advertised more: `CatchUp` takes the poller from `st1` to the head of its store, `st2`
    have hsub : skipped.length + new1.length ≤ maxRequestLength := by
      have := congrArg List.length ho.split
      simp only [List.length_append] at this
      omega
    have hst1n : st1.store.nextInst = st.store.nextInst + new1.length := by rw [ho.store, nextInst_append]
    obtain ⟨hs2, hn2, hl2, hcs2, hor2⟩ := catchUp_lag hl1 (by omega) hcu
    obtain ⟨sk2, new2, m2, tm2, hst2, _, hrS2, hmid2, hmle2, hmn2, hnc2, hne2, hcc2, hl', hd2⟩ :=
      ih k (Nat.lt_succ_self k) (n + 1) st2 res1 hl2 (by rw [hs2]; omega) hcont
    rw [hs2] at hmle2
    -- at the head of the store nothing is passed over
    have hsk2 : sk2 = [] := List.eq_nil_of_length_eq_zero (by omega)
    subst hsk2
    obtain ⟨rfl, rfl⟩ : m2 = st2.next ∧ tm2 = st2.table := Prod.mk.inj (pollRun_nil_inv hrS2)
    have hrun2 : PollRun net (st2.next, st2.table) new2 (st'.next, st'.table) := by
      rcases hd2 with ⟨hr, _⟩ | ⟨hlt, _⟩
      · exact hr
      · rw [hs2] at hlt; omega
    have hstore' : st'.store = { st.store with certs := st.store.certs ++ (new1 ++ new2) } := by
      rw [hst2, hs2, ho.store]; simp
    have hcount : res'.newCerts = res.newCerts + (new1 ++ new2).length := by
      rw [hnc2, hnc, List.length_append]; omega
    have hcons1 : Consistent st1 → Consistent st' := fun hc1 => hcc2 (by rw [hcs2 hc1]; exact hc1)
    refine ⟨skipped, new1 ++ new2, m, tm, hstore', hpre, ho.runS, ho.mid, ho.midle, by omega, hcount, fun hne => ?_,
      fun hc => hcons1 (hcc hc), hl', ?_⟩
    · by_cases h1 : new1 = []
      · exact hne2 (by simpa [h1] using hne)
      · exact hcons1 (ho.stored h1).2
    rcases hor2 with heq | ⟨hlt1, hc2, hlat2⟩
    · rw [heq] at hrun2 hn2
      refine Or.inl ⟨pollRun_append ho.runN hrun2, fun hne => ?_⟩
      by_cases h1 : new1 = []
      · subst h1
        simp only [List.length_nil, Nat.add_zero] at hx hst1n
        omega
      · exact (ho.stored h1).1
    · -- the first response ended below the head of the store, so it stored nothing
      have h1 : new1 = [] := by
        by_cases h1 : new1 = []
        · exact h1
        · have := (ho.stored h1).2.next; omega
      subst h1
      simp only [List.length_nil, Nat.add_zero] at hx hst1n
      have hst1s : st1.store = st.store := by rw [ho.store]; exact store_append_nil _
      refine Or.inr ⟨by omega, hcc2 hc2, st2.table, by rw [← hst1s]; exact hlat2, ?_⟩
      rw [List.nil_append, ← hst1s, ← hn2]; exact hrun2

/-- at the head of the store nothing is passed over -/
theorem pollRound_head_spec {net : Nat} {respond : Nat → Nat → Resp} {fuel n : Nat} {st st' : PState}
    {res res' : PollRes} (hl : Lag st) (hn : st.next = st.store.nextInst)
    (hroom : st.store.nextInst + (fuel + 1) * maxRequestLength < 2 ^ 64)
    (h : pollRound net respond fuel n st res = (st', res')) :
    ∃ new, st'.store = { st.store with certs := st.store.certs ++ new } ∧
      res'.newCerts = res.newCerts + new.length ∧ st.next ≤ st'.next ∧
      PollRun net (st.next, st.table) new (st'.next, st'.table) ∧ (new ≠ [] → Consistent st') ∧
      (Consistent st → Consistent st') := by
  obtain ⟨sk, new, m, tm, hs, _, hrS, hmid, hmle, hmn, hnc, hne, hcc, _, hd⟩ :=
    pollRound_lag_spec net respond fuel n st res hl hroom st' res' h
  have hsk : sk = [] := List.eq_nil_of_length_eq_zero (by omega)
  subst hsk
  obtain ⟨rfl, rfl⟩ : m = st.next ∧ tm = st.table := Prod.mk.inj (pollRun_nil_inv hrS)
  refine ⟨new, hs, hnc, hmn, ?_, hne, hcc⟩
  rcases hd with ⟨hr, _⟩ | ⟨hlt, _⟩
  · exact hr
  · omega

/-- a consistent poller stays at the head of its store throughout -/
theorem poll_spec (net : Nat) (respond : Nat → Nat → Resp) (fuel n : Nat) (st : PState) (res : PollRes)
    (hc : Consistent st) (hroom : st.store.nextInst + fuel * maxRequestLength < 2 ^ 64)
    (st' : PState) (res' : PollRes) (h : poll net respond fuel n st res = (st', res')) :
    ∃ acc, st'.store = { st.store with certs := st.store.certs ++ acc } ∧
      PollRun net (st.next, st.table) acc (st'.next, st'.table) ∧ Consistent st' ∧
      res'.newCerts = res.newCerts + acc.length := by
  have hl := Lag.of_consistent hc
  rcases poll_cases h with ⟨rfl, hr⟩ | ⟨k, st2, rfl, hcu, hround⟩
  · exact ⟨[], (store_append_nil _).symm, PollRun.nil _, hc, hr⟩
  · rw [Nat.add_mul, Nat.one_mul] at hroom
    obtain rfl := (catchUp_lag hl (by omega) hcu).2.2.2.1 hc
    obtain ⟨acc, hs, hnc, _, hrun, _, hcc⟩ :=
      pollRound_head_spec hl hc.next (by rw [Nat.add_mul, Nat.one_mul]; omega) hround
    exact ⟨acc, hs, hrun, hcc hc, hnc⟩

end F3.CertX
