import F3.Proofs.ParticipantMicro
import F3.Model.MultiParticipant
import F3.Proofs.InstanceRefusal
/-!
The participant wrapper (`pstepWith`: pre-start queue, drain in any sender order, `ReceiveMany`) in terms of micro-runs.
`ReceiveMany` is a fold of `receiveOne` followed by at most one effective `postReceive` (`receiveMany_inv`,
`receiveMany_sorted`); every run whose calls report no error other than a refusal at the door has the final instance state
and the non-error effects of a failure-free micro-run (`prun_micro`).
-/
namespace F3.Instance

def pinit (cfg : Cfg) (tbl : Table) (input : Chain) : PState := { inst := init cfg tbl input }

/-- a sequence of participant API calls; `order` is the sender order of the drain performed by the first alarm
(the only call that drains) -/
def prun (order : List Pid) (p : PState) (ops : List POp) : PState × List Eff :=
  ops.foldl (fun (acc : PState × List Eff) op => let r := pstepWith order acc.1 op; (r.1, acc.2 ++ r.2)) (p, [])

@[simp] theorem prun_nil (order : List Pid) (p : PState) : prun order p [] = (p, []) := rfl

theorem prun_cons (order : List Pid) (p : PState) (op : POp) (ops : List POp) :
    prun order p (op :: ops) =
      ((prun order (pstepWith order p op).1 ops).1,
       (pstepWith order p op).2 ++ (prun order (pstepWith order p op).1 ops).2) :=
  logFold_cons (pstepWith order) p op ops

theorem prun_append (order : List Pid) (p : PState) (a b : List POp) :
    prun order p (a ++ b) =
      ((prun order (prun order p a).1 b).1, (prun order p a).2 ++ (prun order (prun order p a).1 b).2) :=
  logFold_append (pstepWith order) p a b

theorem prun_snoc (order : List Pid) (p : PState) (a : List POp) (op : POp) :
    prun order p (a ++ [op]) =
      ((pstepWith order (prun order p a).1 op).1, (prun order p a).2 ++ (pstepWith order (prun order p a).1 op).2) :=
  logFold_snoc (pstepWith order) p a op

def POp.toOp : POp → Op
  | .alarm now => .alarm now
  | .recv now m => .recv now m

theorem pstep_started_eq (order : List Pid) (p : PState) (op : POp) (hs : p.started = true) :
    pstepWith order p op = ({ p with inst := (step p.inst op.toOp).1 }, (step p.inst op.toOp).2) := by
  cases op <;> simp [pstepWith, hs, POp.toOp]

theorem pstep_queued (order : List Pid) (p : PState) (now : Int) (m : Msg) (hs : p.started = false) :
    pstepWith order p (.recv now m) = (p.queueAdd m, []) := by
  simp [pstepWith, hs]

theorem pstep_begin (order : List Pid) (p : PState) (now : Int) (hs : p.started = false)
    (hnf : hasFailure (p.inst.beginQuality now).2 = false) :
    pstepWith order p (.alarm now) =
      ({ inst := ((p.inst.beginQuality now).1.receiveMany now (drainWith order p.queue)).1, started := true, queue := [] },
       (p.inst.beginQuality now).2 ++ ((p.inst.beginQuality now).1.receiveMany now (drainWith order p.queue)).2) := by
  simp [pstepWith, hs, hnf]

theorem pstep_begin_failed (order : List Pid) (p : PState) (now : Int) (hs : p.started = false)
    (hf : hasFailure (p.inst.beginQuality now).2 = true) :
    pstepWith order p (.alarm now) =
      ({ p with inst := (p.inst.beginQuality now).1, started := true, queue := [] }, (p.inst.beginQuality now).2) := by
  simp [pstepWith, hs, hf]

theorem pstepWith_order_irrel (o1 o2 : List Pid) (p : PState) (op : POp) (hs : p.started = true) :
    pstepWith o1 p op = pstepWith o2 p op := by
  rw [pstep_started_eq o1 p op hs, pstep_started_eq o2 p op hs]

theorem pstepWith_started (order : List Pid) (p : PState) (op : POp) (hs : p.started = true) :
    (pstepWith order p op).1.started = true := by
  rw [pstep_started_eq order p op hs]; exact hs

def sameSlot (a b : Msg) : Prop := a.sender = b.sender ∧ a.round = b.round ∧ a.phase = b.phase

/-- `messageQueue.Add` of the single-instance participant is `queueAddL` (the same rule on a bare list, used per
instance by the multi-instance participant) on its queue; nothing else changes -/
theorem queueAdd_eq (p : PState) (m : Msg) :
    p.queueAdd m = { p with queue := queueAddL p.inst.cfg.maxLookahead p.queue m } := by
  unfold PState.queueAdd queueAddL
  split
  · rfl
  · split <;> rfl

theorem queueAddL_mem (look : Nat) (q : List Msg) (m x : Msg) (h : x ∈ queueAddL look q m) : x ∈ q ∨ x = m := by
  unfold queueAddL at h
  split at h
  · exact Or.inl h
  · split at h
    · exact Or.inl h
    · simpa using h

/-- `messageQueue.Add` keeps at most one message per (sender, round, phase) -/
theorem queueAddL_slots (look : Nat) (q : List Msg) (m : Msg) (h : q.Pairwise (fun a b => ¬ sameSlot a b)) :
    (queueAddL look q m).Pairwise (fun a b => ¬ sameSlot a b) := by
  unfold queueAddL
  split
  · exact h
  · split
    · exact h
    · rename_i hany
      simp only [List.any_eq_true, Bool.and_eq_true, beq_iff_eq, not_exists, not_and] at hany
      rw [List.pairwise_append]
      refine ⟨h, by simp, ?_⟩
      intro a ha b hb
      simp only [List.mem_singleton] at hb
      subst hb
      intro hs
      have h1 := hany a
      simp only [hs.1, hs.2.1, hs.2.2] at h1
      exact h1 ha (by simp) (by simp)

theorem queueAdd_mem (p : PState) (m x : Msg) (h : x ∈ (p.queueAdd m).queue) : x ∈ p.queue ∨ x = m := by
  rw [queueAdd_eq] at h; exact queueAddL_mem _ _ _ _ h

theorem queueAdd_inst (p : PState) (m : Msg) : (p.queueAdd m).inst = p.inst ∧ (p.queueAdd m).started = p.started := by
  rw [queueAdd_eq]; exact ⟨rfl, rfl⟩

theorem queueAdd_slots (p : PState) (m : Msg) (h : p.queue.Pairwise (fun a b => ¬ sameSlot a b)) :
    (p.queueAdd m).queue.Pairwise (fun a b => ¬ sameSlot a b) := by
  rw [queueAdd_eq]; exact queueAddL_slots _ _ _ h

/-- **The four things a participant call can be**: a call of the running instance; a delivery that is only queued; the
beginning alarm whose `beginQuality` fails; the beginning alarm followed by the drain of the queue -/
@[elab_as_elim]
theorem pstepWith_ind {C : PState × List Eff → Prop} (order : List Pid) (p : PState) (op : POp)
    (hrun : p.started = true → C ({ p with inst := (step p.inst op.toOp).1 }, (step p.inst op.toOp).2))
    (hqueue : ∀ now m, op = .recv now m → p.started = false →
      C ({ p with queue := queueAddL p.inst.cfg.maxLookahead p.queue m }, []))
    (hfail : ∀ now, op = .alarm now → p.started = false → hasFailure (p.inst.beginQuality now).2 = true →
      C ({ p with inst := (p.inst.beginQuality now).1, started := true, queue := [] }, (p.inst.beginQuality now).2))
    (hbegin : ∀ now, op = .alarm now → p.started = false → hasFailure (p.inst.beginQuality now).2 = false →
      C ({ inst := ((p.inst.beginQuality now).1.receiveMany now (drainWith order p.queue)).1, started := true,
           queue := [] },
         (p.inst.beginQuality now).2 ++ ((p.inst.beginQuality now).1.receiveMany now (drainWith order p.queue)).2)) :
    C (pstepWith order p op) := by
  cases hs : p.started with
  | true => rw [pstep_started_eq order p op hs]; exact hrun hs
  | false =>
    cases op with
    | recv now m => rw [pstep_queued order p now m hs, queueAdd_eq]; exact hqueue now m rfl hs
    | alarm now =>
      cases hf : hasFailure (p.inst.beginQuality now).2 with
      | true => rw [pstep_begin_failed order p now hs hf]; exact hfail now rfl hs hf
      | false => rw [pstep_begin order p now hs hf]; exact hbegin now rfl hs hf

theorem pstepWith_alarm_started (order : List Pid) (p : PState) (now : Int) :
    (pstepWith order p (.alarm now)).1.started = true :=
  pstepWith_ind order p (.alarm now) id (fun _ _ he => nomatch he) (fun _ _ _ _ => rfl) fun _ _ _ _ => rfl

def POp.isRecv : POp → Bool
  | .recv _ _ => true
  | _ => false

/-- `messageQueue.Add` of a delivery; alarms do not touch the queue -/
def qstep (look : Nat) (q : List Msg) : POp → List Msg
  | .recv _ m => queueAddL look q m
  | .alarm _ => q

def preQueue (look : Nat) (pre : List POp) : List Msg := pre.foldl (qstep look) []

theorem preQueue_snoc (look : Nat) (pre : List POp) (op : POp) :
    preQueue look (pre ++ [op]) = qstep look (preQueue look pre) op := by
  simp [preQueue, List.foldl_append]

theorem prun_unstarted (order : List Pid) (p : PState) (pre : List POp) (hs : p.started = false)
    (hr : ∀ op ∈ pre, op.isRecv = true) :
    prun order p pre = ({ p with queue := pre.foldl (qstep p.inst.cfg.maxLookahead) p.queue }, []) := by
  induction pre generalizing p with
  | nil => rfl
  | cons op pre ih =>
    cases op with
    | alarm now => exact absurd (hr _ List.mem_cons_self) (by simp [POp.isRecv])
    | recv now m =>
      rw [prun_cons, pstep_queued order p now m hs, queueAdd_eq]
      have := ih { p with queue := queueAddL p.inst.cfg.maxLookahead p.queue m } hs
        (fun o ho => hr o (List.mem_cons_of_mem _ ho))
      dsimp only at this ⊢
      rw [this]
      rfl

/-- queued by the multi-instance participant = queued inside the unstarted single-instance participant, whatever power
table and proposal the host will supply when the instance begins -/
theorem prun_waiting (order : List Pid) (cfg : Cfg) (tbl : Table) (input : Chain) (pre : List POp)
    (hr : ∀ op ∈ pre, op.isRecv = true) :
    prun order (pinit cfg tbl input) pre =
      ({ inst := init cfg tbl input, started := false, queue := preQueue cfg.maxLookahead pre }, []) :=
  prun_unstarted order (pinit cfg tbl input) pre rfl hr

theorem insertStable_mem (m : Msg) (l : List Msg) (x : Msg) : x ∈ insertStable m l ↔ x = m ∨ x ∈ l := by
  induction l with
  | nil => simp [insertStable]
  | cons a as ih =>
    unfold insertStable
    split
    · rw [List.mem_cons, ih, List.mem_cons, or_left_comm]
    · simp

theorem sortStable_foldl_mem (l acc : List Msg) (x : Msg) :
    x ∈ l.foldl (fun acc m => insertStable m acc) acc ↔ x ∈ acc ∨ x ∈ l := by
  induction l generalizing acc with
  | nil => simp
  | cons a as ih => rw [List.foldl_cons, ih, insertStable_mem, List.mem_cons, or_comm (a := x = a), or_assoc]

theorem sortStable_mem (l : List Msg) (x : Msg) : x ∈ sortStable l ↔ x ∈ l := by
  unfold sortStable
  rw [sortStable_foldl_mem]; simp

def RoundSorted (l : List Msg) : Prop := l.Pairwise (fun a b => a.round ≤ b.round)

theorem insertStable_sorted (m : Msg) (l : List Msg) (h : RoundSorted l) : RoundSorted (insertStable m l) := by
  induction l with
  | nil => simp [insertStable, RoundSorted]
  | cons a as ih =>
    unfold RoundSorted at h ih ⊢
    have h' := List.pairwise_cons.1 h
    unfold insertStable
    split
    · rename_i hle
      have ham : a.round ≤ m.round := by
        unfold msgLe at hle
        simp only [Bool.or_eq_true, decide_eq_true_eq, Bool.and_eq_true, beq_iff_eq] at hle
        omega
      refine List.pairwise_cons.2 ⟨?_, ih h'.2⟩
      intro y hy
      rcases (insertStable_mem m as y).1 hy with rfl | hy
      · exact ham
      · exact h'.1 y hy
    · rename_i hle
      have hma : m.round ≤ a.round := by
        unfold msgLe at hle
        simp only [Bool.or_eq_true, decide_eq_true_eq, Bool.and_eq_true, beq_iff_eq, not_or, not_and] at hle
        omega
      refine List.pairwise_cons.2 ⟨?_, h⟩
      intro y hy
      rcases List.mem_cons.1 hy with rfl | hy
      · exact hma
      · exact Nat.le_trans hma (h'.1 y hy)

theorem sortStable_sorted (l : List Msg) : RoundSorted (sortStable l) := by
  unfold sortStable
  suffices h : ∀ acc, RoundSorted acc → RoundSorted (l.foldl (fun acc m => insertStable m acc) acc) from
    h [] (by simp [RoundSorted])
  induction l with
  | nil => intro acc h; simpa using h
  | cons a as ih => intro acc h; exact ih _ (insertStable_sorted a acc h)

theorem drainWith_mem (order : List Pid) (l : List Msg) (x : Msg) (h : x ∈ drainWith order l) : x ∈ l := by
  unfold drainWith at h
  rw [sortStable_mem] at h
  simp only [List.mem_flatMap, List.mem_filter] at h
  obtain ⟨_, _, hx, _⟩ := h
  exact hx

theorem drainWith_sorted (order : List Pid) (l : List Msg) : RoundSorted (drainWith order l) :=
  sortStable_sorted _

/-- the body of the loop of `ReceiveMany` -/
def rmStep (now : Int) (acc : State × List Eff × List Nat × Bool) (m : Msg) : State × List Eff × List Nat × Bool :=
  if acc.2.2.2 then acc
  else
    let r := acc.1.receiveOne now m
    if isLateBinding r.1.2 then (acc.1, acc.2.1, acc.2.2.1, false)
    else if hasFailure r.1.2 then (r.1.1, acc.2.1 ++ r.1.2, acc.2.2.1, true)
    else (r.1.1, acc.2.1 ++ r.1.2,
          if r.2 && !acc.2.2.1.contains m.round then acc.2.2.1 ++ [m.round] else acc.2.2.1, false)

theorem receiveMany_eq (s : State) (now : Int) (ms : List Msg) :
    s.receiveMany now ms =
      if s.phase == .terminated then (s, [.err .afterTermination])
      else
        let acc := ms.foldl (rmStep now) (s, [], [], false)
        if acc.2.2.2 then (acc.1, acc.2.1)
        else
          let r2 := State.receiveMany.go now acc.1 (sortNat acc.2.2.1).reverse
          (r2.1, acc.2.1 ++ r2.2) := rfl

theorem rmFold_failed (now : Int) (ms : List Msg) (st : State) (effs : List Eff) (rounds : List Nat) :
    ms.foldl (rmStep now) (st, effs, rounds, true) = (st, effs, rounds, true) := by
  induction ms with
  | nil => rfl
  | cons m ms ih => rw [List.foldl_cons]; simpa [rmStep] using ih

/-- the loop of `postReceive(rounds...)`: nothing, or the first effective `postReceive` -/
theorem go_cases (now : Int) (st : State) (rs : List Nat) :
    State.receiveMany.go now st rs = (st, []) ∨
    ∃ r ∈ rs, State.receiveMany.go now st rs = st.postReceive now r ∧ (st.postReceive now r).2 ≠ [] := by
  induction rs with
  | nil => exact Or.inl (by simp [State.receiveMany.go])
  | cons r rs ih =>
    simp only [State.receiveMany.go]
    split
    · rcases ih with h | ⟨r', hr', h⟩
      · exact Or.inl h
      · exact Or.inr ⟨r', List.mem_cons_of_mem _ hr', h⟩
    · rename_i hne
      exact Or.inr ⟨r, List.mem_cons_self, rfl, by simpa using hne⟩

theorem rmStep_state (now : Int) (acc : State × List Eff × List Nat × Bool) (m : Msg) :
    (rmStep now acc m).1 = acc.1 ∨ (rmStep now acc m).1 = (acc.1.receiveOne now m).1.1 := by
  unfold rmStep
  dsimp only
  split
  · exact Or.inl rfl
  · split
    · exact Or.inl rfl
    · split <;> exact Or.inr rfl

theorem receiveMany_inv {I : State → Prop} {P : Msg → Prop} (now : Int)
    (hone : ∀ s m, I s → P m → I (s.receiveOne now m).1.1) (hpost : ∀ s r, I s → I (s.postReceive now r).1)
    (s : State) (ms : List Msg) (hi : I s) (hms : ∀ m ∈ ms, P m) : I (s.receiveMany now ms).1 := by
  have hfold : ∀ (ms : List Msg) (acc : State × List Eff × List Nat × Bool), I acc.1 → (∀ m ∈ ms, P m) →
      I (ms.foldl (rmStep now) acc).1 := by
    intro ms
    induction ms with
    | nil => intro acc h _; exact h
    | cons m ms ih =>
      intro acc h hms
      refine ih _ ?_ (fun m' hm' => hms m' (List.mem_cons_of_mem _ hm'))
      rcases rmStep_state now acc m with he | he <;> rw [he]
      · exact h
      · exact hone _ _ h (hms m List.mem_cons_self)
  rw [receiveMany_eq]
  split
  · exact hi
  · have h1 := hfold ms (s, [], [], false) hi hms
    dsimp only
    generalize ms.foldl (rmStep now) (s, [], [], false) = acc at *
    split
    · exact h1
    · rcases go_cases now acc.1 (sortNat acc.2.2.1).reverse with hgo | ⟨r, _, hgo, _⟩ <;> rw [hgo]
      · exact h1
      · exact hpost _ _ h1

/-! `ReceiveMany` over round-sorted messages. `J rest st effs` is what holds of the state and the effects so far when the
messages `rest` are still to come, `K` what is to hold of the result. The loop drops late-binding rejects, stops at the first
failure, and notes the rounds of the messages that changed the state; because the messages come in non-decreasing round
order and a message that terminates the instance is a DECIDE, hence (`MsgOk`) for round 0, the round skip that follows is
never run on a terminated instance. On an unsorted list it can be (`F3.Props.C07.exUnsorted`). -/

theorem rmFold_sorted {J : List Msg → State → List Eff → Prop} {K : State → List Eff → Prop} (now : Int)
    (hdq : ∀ {rest st effs}, J rest st effs → DQ st)
    (hdrop : ∀ {m rest st effs}, J (m :: rest) st effs → isLateBinding (st.receiveOne now m).1.2 = true → J rest st effs)
    (hstep : ∀ {m rest st effs}, J (m :: rest) st effs → isLateBinding (st.receiveOne now m).1.2 = false →
      hasFailure (st.receiveOne now m).1.2 = false →
      MsgOk m ∧ J rest (st.receiveOne now m).1.1 (effs ++ (st.receiveOne now m).1.2))
    (hfail : ∀ {m rest st effs}, J (m :: rest) st effs → isLateBinding (st.receiveOne now m).1.2 = false →
      hasFailure (st.receiveOne now m).1.2 = true → K (st.receiveOne now m).1.1 (effs ++ (st.receiveOne now m).1.2))
    (ms : List Msg) (st : State) (effs : List Eff) (rounds : List Nat) (hJ : J ms st effs)
    (hsorted : RoundSorted ms) (hrounds : ∀ r ∈ rounds, ∀ m ∈ ms, r ≤ m.round)
    (hterm : st.phase = .terminated → ∀ r ∈ rounds, r = 0) :
    let acc := ms.foldl (rmStep now) (st, effs, rounds, false)
    (acc.2.2.2 = true ∧ K acc.1 acc.2.1) ∨
    (acc.2.2.2 = false ∧ J [] acc.1 acc.2.1 ∧ (acc.1.phase = .terminated → ∀ r ∈ acc.2.2.1, r = 0)) := by
  induction ms generalizing st effs rounds with
  | nil => exact Or.inr ⟨rfl, hJ, hterm⟩
  | cons m ms ih =>
    dsimp only
    rw [List.foldl_cons]
    have hs' := List.pairwise_cons.1 hsorted
    have hrounds' : ∀ r ∈ rounds, ∀ m' ∈ ms, r ≤ m'.round :=
      fun r hr m' hm' => hrounds r hr m' (List.mem_cons_of_mem _ hm')
    cases hlb : isLateBinding (st.receiveOne now m).1.2 with
    | true =>
      have : rmStep now (st, effs, rounds, false) m = (st, effs, rounds, false) := by simp [rmStep, hlb]
      rw [this]
      exact ih st effs rounds (hdrop hJ hlb) hs'.2 hrounds' hterm
    | false =>
      cases hf : hasFailure (st.receiveOne now m).1.2 with
      | true =>
        have : rmStep now (st, effs, rounds, false) m =
            ((st.receiveOne now m).1.1, effs ++ (st.receiveOne now m).1.2, rounds, true) := by
          simp [rmStep, hlb, hf]
        rw [this, rmFold_failed]
        exact Or.inl ⟨rfl, hfail hJ hlb hf⟩
      | false =>
        have : rmStep now (st, effs, rounds, false) m =
            ((st.receiveOne now m).1.1, effs ++ (st.receiveOne now m).1.2,
             if (st.receiveOne now m).2 && !rounds.contains m.round then rounds ++ [m.round] else rounds, false) := by
          simp [rmStep, hlb, hf]
        rw [this]
        obtain ⟨hmok, hJ'⟩ := hstep hJ hlb hf
        refine ih _ _ _ hJ' hs'.2 ?_ ?_
        · intro r hr m' hm'
          split at hr
          · rcases List.mem_append.1 hr with hr | hr
            · exact hrounds' r hr m' hm'
            · simp only [List.mem_singleton] at hr
              subst hr; exact hs'.1 m' hm'
          · exact hrounds' r hr m' hm'
        · intro ht1 r hr
          by_cases ht0 : st.phase = .terminated
          · -- already terminated: nothing changed
            obtain ⟨_, hch⟩ := receiveOne_terminated st now m ht0
            simp only [hch, Bool.false_and, Bool.false_eq_true, if_false] at hr
            exact hterm ht0 r hr
          · -- this message terminated the instance: it is a DECIDE, hence for round 0
            have hr0 : m.round = 0 := hmok ((receiveOne_term now m (hdq hJ) hf ht1).resolve_left ht0)
            have hle : ∀ r ∈ rounds, r = 0 := fun r hr => by
              have := hrounds r hr m List.mem_cons_self; omega
            split at hr
            · rcases List.mem_append.1 hr with hr | hr
              · exact hle r hr
              · simp only [List.mem_singleton] at hr; omega
            · exact hle r hr

theorem receiveMany_sorted {J : List Msg → State → List Eff → Prop} {K : State → List Eff → Prop} (now : Int)
    (hdq : ∀ {rest st effs}, J rest st effs → DQ st)
    (hdrop : ∀ {m rest st effs}, J (m :: rest) st effs → isLateBinding (st.receiveOne now m).1.2 = true → J rest st effs)
    (hstep : ∀ {m rest st effs}, J (m :: rest) st effs → isLateBinding (st.receiveOne now m).1.2 = false →
      hasFailure (st.receiveOne now m).1.2 = false →
      MsgOk m ∧ J rest (st.receiveOne now m).1.1 (effs ++ (st.receiveOne now m).1.2))
    (hfail : ∀ {m rest st effs}, J (m :: rest) st effs → isLateBinding (st.receiveOne now m).1.2 = false →
      hasFailure (st.receiveOne now m).1.2 = true → K (st.receiveOne now m).1.1 (effs ++ (st.receiveOne now m).1.2))
    (s : State) (ms : List Msg) (hsorted : RoundSorted ms) (hnt : s.phase ≠ .terminated)
    (h0 : J ms s []) (hdone : ∀ {st effs}, J [] st effs → K st effs)
    (hpost : ∀ {st effs} (r : Nat), J [] st effs → st.phase ≠ .terminated →
      K (st.postReceive now r).1 (effs ++ (st.postReceive now r).2)) :
    K (s.receiveMany now ms).1 (s.receiveMany now ms).2 := by
  rw [receiveMany_eq, if_neg (by simpa using hnt)]
  dsimp only
  rcases rmFold_sorted now @hdq @hdrop @hstep @hfail ms s [] [] h0 hsorted (by simp) (by simp) with
    ⟨hfail', hK⟩ | ⟨hfail', hJ, hterm⟩
  · rw [if_pos hfail']; exact hK
  · rw [if_neg (by simp [hfail'])]
    generalize ms.foldl (rmStep now) (s, [], [], false) = acc at *
    rcases go_cases now acc.1 (sortNat acc.2.2.1).reverse with hgo | ⟨r, hr, hgo, hne⟩ <;> rw [hgo]
    · simpa using hdone hJ
    · refine hpost r hJ fun ht => hne ?_
      have hr0 := hterm ht r (by rw [List.mem_reverse, sortNat_mem] at hr; exact hr)
      rw [postReceive_noop _ _ _ (by omega)]

/-- The drain as a micro-run. Messages of another instance or with other supplemental data need not satisfy `P`: the loop
drops them or fails on them. -/
theorem receiveMany_micro (P : Msg → Prop) (hPok : ∀ m, P m → MsgOk m) (now : Int) (s : State) (ms : List Msg)
    (hq : DQ s) (hP : ∀ m ∈ ms, foreignM m = true ∨ P m) (hsorted : RoundSorted ms)
    (hnf : hasFailure (s.receiveMany now ms).2 = false) :
    ∃ mops, mrun s mops = s.receiveMany now ms ∧ MOK P s mops := by
  have hnt : s.phase ≠ .terminated := by
    intro ht
    rw [receiveMany_eq, if_pos (by simpa using ht)] at hnf
    cases hnf
  refine receiveMany_sorted now
    (J := fun rest st effs => (∀ m ∈ rest, foreignM m = true ∨ P m) ∧ DQ st ∧ ∃ mops, mrun s mops = (st, effs) ∧ MOK P s mops)
    (K := fun st effs => hasFailure effs = false → ∃ mops, mrun s mops = (st, effs) ∧ MOK P s mops)
    (fun h => h.2.1) (fun h _ => ⟨fun x hx => h.1 x (List.mem_cons_of_mem _ hx), h.2⟩) ?_ ?_ s ms hsorted hnt
    ⟨hP, hq, [], rfl, trivial⟩ (fun h _ => h.2.2) ?_ hnf
  · rintro m rest st effs ⟨hP, hq, mops, hrun, hok⟩ _ hf
    have hPm : P m := (hP m List.mem_cons_self).resolve_left fun h => by
      rw [receiveOne_foreign st now m h] at hf; cases hf
    refine ⟨hPok m hPm, fun x hx => hP x (List.mem_cons_of_mem _ hx), receiveOne_dq st now m hq hf,
      mops ++ [.one now m], ?_, ?_⟩
    · rw [mrun_append, hrun, mrun_single]; rfl
    · rw [MOK_append]; exact ⟨hok, hPm, trivial⟩
  · intro m rest st effs _ _ hf hnf
    simp [hf] at hnf
  · rintro st effs r ⟨_, _, mops, hrun, hok⟩ hnt _
    refine ⟨mops ++ [.post now r], ?_, ?_⟩
    · rw [mrun_append, hrun, mrun_single]; rfl
    · rw [MOK_append, hrun]; exact ⟨hok, hnt, trivial⟩

/-- a refused call of the participant API: a delivery to the running instance that it refuses at the door
(before the instance has begun everything is queued; late-binding rejects are then dropped silently by the drain) -/
def prefused (p : PState) : POp → Bool
  | .recv _ m => p.started && refusedM p.inst m
  | _ => false

def okRunP (order : List Pid) : PState → List POp → Bool
  | _, [] => true
  | p, op :: ops =>
    (prefused p op || !hasFailure (pstepWith order p op).2) && okRunP order (pstepWith order p op).1 ops

def pforeign : POp → Bool
  | .recv _ m => foreignM m
  | _ => false

def POpP (P : Msg → Prop) : POp → Prop
  | .recv _ m => P m
  | _ => True

theorem okRunP_of_nofail (order : List Pid) (p : PState) (ops : List POp)
    (h : hasFailure (prun order p ops).2 = false) : okRunP order p ops = true := by
  induction ops generalizing p with
  | nil => rfl
  | cons op ops ih =>
    rw [prun_cons] at h
    simp only [hasFailure_append, Bool.or_eq_false_iff] at h
    simp only [okRunP, Bool.and_eq_true, Bool.or_eq_true, Bool.not_eq_true']
    exact ⟨Or.inr h.1, ih _ h.2⟩

/-- the effect-list predicates about broadcasts do not see reported errors -/
theorem ownIn_filter_nonErr {W : Votes} {me : Pid} {es : List Eff} : OwnIn W me (es.filter nonErr) ↔ OwnIn W me es := by
  simp only [OwnIn, bc_mem_filter_nonErr]

theorem guarded_filter_nonErr {W : Votes} {t : Table} {me : Pid} {input : Chain} {es : List Eff} :
    Guarded W t me input (es.filter nonErr) ↔ Guarded W t me input es := by
  simp only [Guarded, bc_mem_filter_nonErr]

section Translate
variable (P : Msg → Prop) (hPok : ∀ m, P m → MsgOk m)
include hPok

/-- one failure-free `Receive` is a micro-run: `receiveOne`, then `postReceive` for the message's round unless
the message terminated the instance -/
theorem step_recv_micro (s : State) (now : Int) (m : Msg) (hq : DQ s) (hm : foreignM m = true ∨ P m)
    (hnf : hasFailure (step s (.recv now m)).2 = false) :
    ∃ mops, mrun s mops = step s (.recv now m) ∧ MOK P s mops := by
  revert hnf
  refine step_recv_ind (P := fun r => hasFailure r.2 = false → ∃ mops, mrun s mops = r ∧ MOK P s mops) s now m
    (fun _ h => by cases h) (fun _ hnf => ?_) (fun hst hf hnf => ?_)
  · have hPm : P m := hm.resolve_left fun h => by rw [receiveOne_foreign s now m h] at hnf; cases hnf
    exact ⟨[.one now m], mrun_single s _, hPm, trivial⟩
  · have hPm : P m := hm.resolve_left fun h => by rw [receiveOne_foreign s now m h] at hf; cases hf
    have h1 : mrun s [.one now m] = (s.receiveOne now m).1 := mrun_single s _
    by_cases ht1 : (s.receiveOne now m).1.1.phase = .terminated
    · have hr0 : m.round = 0 := hPok m hPm ((receiveOne_term now m hq hf ht1).resolve_left hst)
      refine ⟨[.one now m], ?_, hPm, trivial⟩
      rw [h1]; unfold andThen
      simp [hf, postReceive_noop (s.receiveOne now m).1.1 now m.round (by omega)]
    · refine ⟨[.one now m] ++ [.post now m.round], ?_, ?_⟩
      · rw [mrun_append, h1, mrun_single]; unfold andThen; simp [hf, mstep]
      · rw [MOK_append, h1]; exact ⟨⟨hPm, trivial⟩, ht1, trivial⟩

/-- One participant call as a micro-run of its instance: a queued or refused delivery is the empty micro-run, a
delivery to the running instance or an alarm is that of `step`, the alarm that begins the instance is `beginQuality`
followed by the micro-run of the drain. -/
theorem pstep_micro (order : List Pid) (p : PState) (op : POp) (hq : DQ p.inst)
    (hqu : ∀ m ∈ p.queue, foreignM m = true ∨ P m)
    (hop : pforeign op = true ∨ POpP P op)
    (hok : prefused p op = true ∨ hasFailure (pstepWith order p op).2 = false) :
    ∃ mops, MOK P p.inst mops ∧ hasFailure (mrun p.inst mops).2 = false ∧
      mrun p.inst mops = ((pstepWith order p op).1.inst, (pstepWith order p op).2.filter nonErr) ∧
      (∀ m ∈ (pstepWith order p op).1.queue, foreignM m = true ∨ P m) := by
  revert hok
  refine pstepWith_ind order p op (fun hs hok => ?_) (fun now m he _ _ => ?_) (fun now he _ hf hok => ?_)
    fun now he _ hf1 hok => ?_
  · cases op with
    | alarm now =>
      dsimp only [POp.toOp] at hok ⊢
      have hnf : hasFailure (step p.inst (.alarm now)).2 = false := hok.resolve_left (by simp [prefused])
      rw [filter_nonErr_of_nofail _ hnf]
      exact ⟨[.alarm now], ⟨trivial, trivial⟩, by rw [mrun_single]; exact hnf, by rw [mrun_single]; rfl, hqu⟩
    | recv now m =>
      dsimp only [POp.toOp] at hok ⊢
      by_cases hr : refusedM p.inst m = true
      · obtain ⟨k, hk⟩ := step_refusedM (now := now) hr
        exact ⟨[], trivial, rfl, by simp [hk, nonErr], hqu⟩
      · have hnf : hasFailure (step p.inst (.recv now m)).2 = false :=
          hok.resolve_left (by simp [prefused, hs, hr])
        rw [filter_nonErr_of_nofail _ hnf]
        obtain ⟨mops, hrun, hmok⟩ := step_recv_micro P hPok p.inst now m hq hop hnf
        exact ⟨mops, hmok, by rw [hrun]; exact hnf, by rw [hrun], hqu⟩
  · subst he
    refine ⟨[], trivial, rfl, rfl, fun x hx => ?_⟩
    rcases queueAddL_mem _ _ _ x hx with h | rfl
    · exact hqu x h
    · exact hop
  · subst he
    exact absurd (hf.symm.trans (hok.resolve_left (by simp [prefused]))) (by decide)
  · subst he
    have hnf := hok.resolve_left (by simp [prefused])
    rw [filter_nonErr_of_nofail _ hnf]
    simp only [hasFailure_append, Bool.or_eq_false_iff] at hnf
    have hq1 : DQ (p.inst.beginQuality now).1 :=
      ((mstep_ok p.inst (.start now) hq trivial).resolve_left (by simp [mstep, hf1])).2
    obtain ⟨mops, hrun, hmok⟩ := receiveMany_micro P hPok now (p.inst.beginQuality now).1
      (drainWith order p.queue) hq1 (fun m hm => hqu m (drainWith_mem order p.queue m hm))
      (drainWith_sorted order p.queue) hnf.2
    have hms : mstep p.inst (.start now) = p.inst.beginQuality now := rfl
    refine ⟨.start now :: mops, ⟨trivial, hmok⟩, ?_, ?_, by simp⟩
    · rw [mrun_cons, hms, hrun]; simp [hf1, hnf.2]
    · rw [mrun_cons, hms, hrun]

/-- The simulation: for any drain order, a run none of whose calls reports an error other than a refusal at the door has the
final instance state and, reported refusals aside, the effects of a failure-free micro-run over messages satisfying `P`. -/
theorem prun_micro (order : List Pid) (p : PState) (ops : List POp) (hq : DQ p.inst)
    (hqu : ∀ m ∈ p.queue, foreignM m = true ∨ P m)
    (hops : ∀ op ∈ ops, pforeign op = true ∨ POpP P op)
    (hok : okRunP order p ops = true) :
    ∃ mops, MOK P p.inst mops ∧ hasFailure (mrun p.inst mops).2 = false ∧
      (mrun p.inst mops).1 = (prun order p ops).1.inst ∧
      (mrun p.inst mops).2 = (prun order p ops).2.filter nonErr := by
  induction ops generalizing p with
  | nil => exact ⟨[], trivial, rfl, rfl, rfl⟩
  | cons op ops ih =>
    simp only [okRunP, Bool.and_eq_true, Bool.or_eq_true, Bool.not_eq_true'] at hok
    obtain ⟨mops1, hmok1, hnf1, hrun1, hqu1⟩ :=
      pstep_micro P hPok order p op hq hqu (hops op List.mem_cons_self) hok.1
    have hst1 : (mrun p.inst mops1).1 = (pstepWith order p op).1.inst := by rw [hrun1]
    have hq1 : DQ (pstepWith order p op).1.inst := by
      rw [← hst1]
      exact (mrun_wp p.inst mops1 hq (hmok1.mono (fun _ _ => trivial)) hnf1).2
    obtain ⟨mops2, hmok2, hnf2, hst2, heff2⟩ :=
      ih (pstepWith order p op).1 hq1 hqu1 (fun o ho => hops o (List.mem_cons_of_mem _ ho)) hok.2
    refine ⟨mops1 ++ mops2, ?_, ?_, ?_, ?_⟩
    · rw [MOK_append, hst1]; exact ⟨hmok1, hmok2⟩
    · rw [mrun_append, hst1]; simp [hnf1, hnf2]
    · rw [mrun_append, hst1, prun_cons]; exact hst2
    · rw [mrun_append, hst1, prun_cons, List.filter_append, heff2, hrun1]

end Translate

abbrev POpOk : POp → Prop := POpP MsgOk

theorem prun_wp_ok (order : List Pid) (p : PState) (ops : List POp) (hq : DQ p.inst)
    (hqu : ∀ m ∈ p.queue, foreignM m = true ∨ MsgOk m)
    (hops : ∀ op ∈ ops, pforeign op = true ∨ POpOk op) (hok : okRunP order p ops = true) :
    WP p.inst.pt (evs (prun order p ops).2) (prun order p ops).1.inst.pt ∧ DQ (prun order p ops).1.inst := by
  obtain ⟨mops, hmok, hnf, hst, heff⟩ := prun_micro MsgOk (fun _ h => h) order p ops hq hqu hops hok
  have := mrun_wp p.inst mops hq (hmok.mono (fun _ _ => trivial)) hnf
  rw [hst, heff, evs_filter_nonErr] at this
  exact this

/-- For every drain order and every sequence of participant API calls over validated messages that reports no internal
error or panic, the (progress, broadcast) skeleton of everything the instance did — the drain of the pre-start queue
through `ReceiveMany` included — is well paired. -/
theorem prun_wp (order : List Pid) (p : PState) (ops : List POp) (hq : DQ p.inst)
    (hqu : ∀ m ∈ p.queue, MsgOk m) (hops : ∀ op ∈ ops, POpOk op)
    (hnf : hasFailure (prun order p ops).2 = false) :
    WP p.inst.pt (evs (prun order p ops).2) (prun order p ops).1.inst.pt ∧ DQ (prun order p ops).1.inst :=
  prun_wp_ok order p ops hq (fun m hm => Or.inr (hqu m hm)) (fun op hop => Or.inr (hops op hop))
    (okRunP_of_nofail order p ops hnf)

theorem DQ_pinit (cfg : Cfg) (tbl : Table) (input : Chain) : DQ (pinit cfg tbl input).inst := DQ_init cfg tbl input

end F3.Instance
