import F3.Proofs.CertsCanon
/-! Lemmas for C04's delta algebra: `applyLoop` and `makeDiff` in terms of their pointwise effect on
id-sorted maps. -/
namespace F3.Certs
open F3.SMap

abbrev L (m : Table) (i : Nat) : Option Entry := lookup Entry.id m i
abbrev LD (d : Diff) (i : Nat) : Option Delta := lookup Delta.id d i

/-- pointwise effect of a delta on the (optional) entry carrying its id -/
def stepSpec (o : Option Entry) (d : Delta) : Except DiffErr (Option Entry) :=
  match o with
  | some pe =>
    if d.key == pe.key then .error .unchangedKey
    else if d.key != 0 && pe.power + d.delta == 0 then .error .removeWithKey
    else if pe.power + d.delta == 0 then .ok none
    else if pe.power + d.delta > 0 then
      .ok (some ⟨d.id, pe.power + d.delta, if d.key != 0 then d.key else pe.key⟩)
    else .error .negative
  | none =>
    if d.delta ≤ 0 then .error .newNonPositive
    else if d.key == 0 then .error .newNoKey
    else .ok (some ⟨d.id, d.delta, d.key⟩)

def putBack (m : Table) (i : Nat) : Option Entry → Table
  | none => erase Entry.id i m
  | some e => insert Entry.id e m

theorem applyDelta_eq (m : Table) (d : Delta) :
    applyDelta m d = (stepSpec (L m d.id) d).map (putBack m d.id) := by
  unfold applyDelta stepSpec L
  cases lookup Entry.id m d.id
  all_goals
    simp only [apply_ite (Except.map (putBack m d.id))]
    rfl

theorem stepSpec_ok {o : Option Entry} {δ : Delta} {r : Option Entry} :
    stepSpec o δ = .ok r ↔
      match o with
      | none => 0 < δ.delta ∧ δ.key ≠ 0 ∧ r = some ⟨δ.id, δ.delta, δ.key⟩
      | some pe => δ.key ≠ pe.key ∧ 0 ≤ pe.power + δ.delta ∧ (δ.key ≠ 0 → pe.power + δ.delta ≠ 0) ∧
          r = if pe.power + δ.delta = 0 then none
            else some ⟨δ.id, pe.power + δ.delta, if δ.key != 0 then δ.key else pe.key⟩ := by
  cases o with
  | none =>
    simp only [stepSpec]
    by_cases h1 : δ.delta ≤ 0
    · rw [if_pos h1]; exact ⟨nofun, fun h => absurd h.1 (by omega)⟩
    rw [if_neg h1]
    by_cases h2 : δ.key = 0
    · rw [if_pos (by rw [h2]; rfl)]; exact ⟨nofun, fun h => absurd h2 h.2.1⟩
    rw [if_neg (by simpa using h2)]
    exact ⟨fun h => ⟨by omega, h2, (Except.ok.inj h).symm⟩, fun h => h.2.2 ▸ rfl⟩
  | some pe =>
    simp only [stepSpec]
    by_cases h1 : δ.key = pe.key
    · rw [if_pos (by rw [h1]; exact beq_self_eq_true _)]; exact ⟨nofun, fun h => absurd h1 h.1⟩
    rw [if_neg (by simpa using h1)]
    by_cases h2 : pe.power + δ.delta = 0
    · by_cases h3 : δ.key = 0
      · simp only [h2, h3, bne_self_eq_false, Bool.false_and, Bool.false_eq_true, if_false, beq_self_eq_true,
          if_true, Except.ok.injEq]
        exact ⟨fun h => ⟨h3 ▸ h1, by omega, fun h => absurd rfl h, h.symm⟩, fun h => h.2.2.2.symm⟩
      · have : (δ.key != 0 && pe.power + δ.delta == 0) = true := by simp [h2, h3]
        rw [if_pos this]
        exact ⟨nofun, fun h => absurd h2 (h.2.2.1 h3)⟩
    · have : ¬ (δ.key != 0 && pe.power + δ.delta == 0) = true := by simp [h2]
      rw [if_neg this, if_neg (by simpa using h2), if_neg h2]
      by_cases h4 : pe.power + δ.delta > 0
      · rw [if_pos h4]
        exact ⟨fun h => ⟨h1, by omega, fun _ => h2, (Except.ok.inj h).symm⟩, fun h => h.2.2.2 ▸ rfl⟩
      · rw [if_neg h4]
        exact ⟨nofun, fun h => absurd h.2.1 (by omega)⟩

theorem stepSpec_id {o : Option Entry} {d : Delta} {e : Entry}
    (h : stepSpec o d = .ok (some e)) : e.id = d.id := by
  rw [stepSpec_ok] at h
  cases o with
  | none => cases h.2.2; rfl
  | some pe =>
    have h := h.2.2.2
    split at h
    · cases h
    · cases h; rfl

theorem lookup_putBack {m : Table} {d : Delta} {r : Option Entry} {o : Option Entry}
    (h : stepSpec o d = .ok r) (i : Nat) :
    L (putBack m d.id r) i = if i = d.id then r else L m i := by
  unfold L
  cases r with
  | none => simp only [putBack]; rw [lookup_erase]
  | some e =>
    have hid := stepSpec_id h
    simp only [putBack]; rw [lookup_insert, hid]
    by_cases hi : i = d.id
    · simp [hi]
    · have : d.id ≠ i := fun e => hi e.symm
      simp [hi, this]

theorem ssorted_putBack {m : Table} (hs : SSorted Entry.id m) (i : Nat) (r : Option Entry) :
    SSorted Entry.id (putBack m i r) := by
  cases r with
  | none => exact ssorted_erase _ _ hs
  | some e => exact ssorted_insert _ _ hs

theorem outOfOrder_eq_false {prev : Option Nat} {i : Nat} :
    outOfOrder prev i = false ↔ ∀ p, prev = some p → p < i := by
  cases prev with
  | none => exact ⟨fun _ _ h => (nomatch h), fun _ => rfl⟩
  | some p =>
    simp only [outOfOrder, decide_eq_false_iff_not, Nat.not_le, Option.some.injEq]
    exact ⟨fun h q hq => hq ▸ h, fun h => h p rfl⟩

theorem applyLoop_cons_ok {m m' : Table} {prev : Option Nat} {δ : Delta} {ds : Diff} :
    applyLoop m prev (δ :: ds) = .ok m' ↔ outOfOrder prev δ.id = false ∧ δ.isZero = false ∧
      ∃ r, stepSpec (L m δ.id) δ = .ok r ∧ applyLoop (putBack m δ.id r) (some δ.id) ds = .ok m' := by
  rw [applyLoop]
  by_cases h1 : outOfOrder prev δ.id = true
  · rw [if_pos h1]
    exact ⟨nofun, fun h => by rw [h1] at h; cases h.1⟩
  by_cases h2 : δ.isZero = true
  · rw [if_neg h1, if_pos h2]
    exact ⟨nofun, fun h => by rw [h2] at h; cases h.2.1⟩
  rw [if_neg h1, if_neg h2, applyDelta_eq]
  cases hr : stepSpec (L m δ.id) δ with
  | error e => exact ⟨nofun, fun ⟨_, _, r, h, _⟩ => nomatch h⟩
  | ok r =>
    exact ⟨fun h => ⟨by simpa using h1, by simpa using h2, r, rfl, h⟩,
      fun ⟨_, _, r', h, h'⟩ => by cases h; exact h'⟩

/-- the entry `o` under some id becomes `r` when the diff holds `x` for that id -/
def Upd (o : Option Entry) (x : Option Delta) (r : Option Entry) : Prop :=
  match x with
  | none => r = o
  | some δ => δ.isZero = false ∧ stepSpec o δ = .ok r

/-- `applyLoop`, pointwise: the diff is strictly sorted (above `prev`) and every id is updated by its own entry -/
theorem applyLoop_iff {m m' : Table} {prev : Option Nat} {d : Diff} (hs : SSorted Entry.id m) :
    applyLoop m prev d = .ok m' ↔
      SSorted Delta.id d ∧ (∀ δ ∈ d, ∀ p, prev = some p → p < δ.id) ∧ SSorted Entry.id m' ∧
      ∀ i, Upd (L m i) (LD d i) (L m' i) := by
  induction d generalizing m prev with
  | nil =>
    refine ⟨fun h => ?_, fun ⟨_, _, hs', h⟩ => ?_⟩
    · cases h; exact ⟨List.Pairwise.nil, nofun, hs, fun _ => rfl⟩
    · rw [ext Entry.id hs' hs h]; rfl
  | cons δ ds ih =>
    -- with the head applied, the tail sees the input map at every other id, and the head's id is not in the tail
    have key : ∀ {r}, δ.isZero = false → stepSpec (L m δ.id) δ = .ok r → (∀ δ' ∈ ds, δ.id < δ'.id) → ∀ i,
        Upd (L (putBack m δ.id r) i) (LD ds i) (L m' i) ↔ Upd (L m i) (LD (δ :: ds) i) (L m' i) := by
      intro r hnz hr hlt i
      show Upd _ _ _ ↔ Upd _ (lookup Delta.id (δ :: ds) i) _
      rw [lookup_cons, lookup_putBack hr]
      by_cases hi : δ.id = i
      · have hnone : LD ds i = none := (lookup_none_iff Delta.id).mpr fun δ' hδ' => by have := hlt δ' hδ'; omega
        subst hi
        rw [hnone, if_pos rfl, if_pos rfl]
        show L m' δ.id = r ↔ _ ∧ _
        rw [hr]
        exact ⟨fun e => ⟨hnz, by rw [e]⟩, fun e => (Except.ok.inj e.2).symm⟩
      · rw [if_neg hi, if_neg (Ne.symm hi)]
    rw [applyLoop_cons_ok]
    constructor
    · rintro ⟨hprev, hnz, r, hr, h⟩
      obtain ⟨hsd, hab, hs', hU⟩ := (ih (ssorted_putBack hs _ _)).mp h
      have hlt : ∀ δ' ∈ ds, δ.id < δ'.id := fun δ' hδ' => hab δ' hδ' _ rfl
      refine ⟨List.pairwise_cons.mpr ⟨hlt, hsd⟩, fun δ' hδ' p hp => ?_, hs', fun i => (key hnz hr hlt i).mp (hU i)⟩
      rcases List.mem_cons.mp hδ' with rfl | h'
      · exact outOfOrder_eq_false.mp hprev p hp
      · exact Nat.lt_trans (outOfOrder_eq_false.mp hprev p hp) (hlt δ' h')
    · rintro ⟨hsd, hab, hs', hU⟩
      obtain ⟨hlt, hsd'⟩ := List.pairwise_cons.mp hsd
      have h0 := hU δ.id
      rw [show LD (δ :: ds) δ.id = some δ from by show lookup _ _ _ = _; rw [lookup_cons, if_pos rfl]] at h0
      obtain ⟨hnz, hr⟩ := h0
      exact ⟨outOfOrder_eq_false.mpr (hab δ (List.mem_cons_self ..)), hnz, _, hr,
        (ih (ssorted_putBack hs _ _)).mpr ⟨hsd', fun δ' hδ' p hp => by cases hp; exact hlt δ' hδ', hs',
          fun i => (key hnz hr hlt i).mpr (hU i)⟩⟩

/-- acceptance alone: every entry applies to the INPUT map (the ids are distinct, so no entry sees another's effect) -/
theorem applyLoop_isOk_iff {m : Table} {prev : Option Nat} {d : Diff} (hs : SSorted Entry.id m) :
    (∃ m', applyLoop m prev d = .ok m') ↔
      SSorted Delta.id d ∧ (∀ δ ∈ d, ∀ p, prev = some p → p < δ.id) ∧
      ∀ δ ∈ d, δ.isZero = false ∧ ∃ r, stepSpec (L m δ.id) δ = .ok r := by
  constructor
  · rintro ⟨m', h⟩
    obtain ⟨hsd, hab, _, hU⟩ := (applyLoop_iff hs).mp h
    refine ⟨hsd, hab, fun δ hδ => ?_⟩
    have := hU δ.id
    rw [show LD d δ.id = some δ from lookup_of_mem Delta.id hsd hδ] at this
    exact ⟨this.1, _, this.2⟩
  · rintro ⟨hsd, hab, hok⟩
    induction d generalizing m prev with
    | nil => exact ⟨m, rfl⟩
    | cons δ ds ih =>
      obtain ⟨hlt, hsd'⟩ := List.pairwise_cons.mp hsd
      obtain ⟨hnz, r, hr⟩ := hok δ (List.mem_cons_self ..)
      obtain ⟨m', hm'⟩ := ih (prev := some δ.id) (ssorted_putBack hs δ.id r) hsd' (fun δ' hδ' p hp => by cases hp; exact hlt δ' hδ')
        fun δ' hδ' => by
          rw [lookup_putBack hr, if_neg (by have := hlt δ' hδ'; omega)]
          exact hok δ' (List.mem_cons_of_mem _ hδ')
      exact ⟨m', applyLoop_cons_ok.mpr ⟨outOfOrder_eq_false.mpr (hab δ (List.mem_cons_self ..)), hnz, r, hr, hm'⟩⟩

/-- the canonical delta for one id, given the old and the new entry carrying it -/
def dspec (o n : Option Entry) : Option Delta :=
  match o, n with
  | some o, some e => if (deltaFor o e).isZero then none else some (deltaFor o e)
  | none, some e => some ⟨e.id, e.power, e.key⟩
  | some o, none => some ⟨o.id, -o.power, 0⟩
  | none, none => none

theorem dspec_id {o n : Option Entry} {i : Nat} {δ : Delta} (ho : ∀ x, o = some x → x.id = i)
    (hn : ∀ x, n = some x → x.id = i) (h : dspec o n = some δ) : δ.id = i := by
  unfold dspec at h
  split at h
  · split at h
    · cases h
    · cases h; exact hn _ rfl
  · cases h; exact hn _ rfl
  · cases h; exact ho _ rfl
  · cases h

theorem dspec_id_L {a b : Table} {i : Nat} {δ : Delta} (h : dspec (L a i) (L b i) = some δ) : δ.id = i :=
  dspec_id (fun _ => lookup_key Entry.id) (fun _ => lookup_key Entry.id) h

theorem ssorted_toMap (a : Table) : SSorted Entry.id (toMap a) := ssorted_ofList Entry.id a

theorem lookup_toMap {a : Table} (ha : (a.map Entry.id).Nodup) (i : Nat) : L (toMap a) i = L a i :=
  lookup_ofList Entry.id ha i

/-- invariant of the loop over the new table in `MakePowerTableDiff`; `p` = entries processed -/
structure MkInv (a : Table) (p : Table) (st : Table × Diff) : Prop where
  sorted : SSorted Entry.id st.1
  look : ∀ i, L st.1 i = if i ∈ p.map Entry.id then none else L (toMap a) i
  sub : (st.2.map Delta.id).Sublist (p.map Entry.id)
  mem : ∀ δ, δ ∈ st.2 ↔ ∃ e ∈ p, dspec (L (toMap a) e.id) (some e) = some δ

theorem mkInv_init (a : Table) : MkInv a [] (toMap a, []) where
  sorted := ssorted_toMap a
  look := by intro i; simp
  sub := by simp
  mem := by intro δ; simp

theorem makeDiffStep_eq (st : Table × Diff) (e : Entry) :
    makeDiffStep st e = (erase Entry.id e.id st.1, st.2 ++ (dspec (L st.1 e.id) (some e)).toList) := by
  unfold makeDiffStep L
  cases ho : lookup Entry.id st.1 e.id with
  | none => rw [erase_of_lookup_none Entry.id ho]; rfl
  | some o =>
    simp only [dspec]
    split <;> simp

theorem mkInv_step {a p : Table} {st : Table × Diff} (e : Entry) (h : MkInv a p st)
    (hne : e.id ∉ p.map Entry.id) : MkInv a (p ++ [e]) (makeDiffStep st e) := by
  have hl : L st.1 e.id = L (toMap a) e.id := by rw [h.look, if_neg hne]
  rw [makeDiffStep_eq, hl]
  refine ⟨ssorted_erase _ _ h.sorted, fun i => ?_, ?_, fun δ => ?_⟩
  · show lookup Entry.id (erase Entry.id e.id st.1) i = _
    rw [lookup_erase, show lookup Entry.id st.1 i = _ from h.look i]
    simp only [List.map_append, List.mem_append, List.map_cons, List.map_nil, List.mem_singleton]
    by_cases hi : i = e.id <;> by_cases hp : i ∈ p.map Entry.id <;> simp [hi, hp]
  · rw [List.map_append, List.map_append]
    refine h.sub.append ?_
    cases hd : dspec (L (toMap a) e.id) (some e) with
    | none => exact List.nil_sublist _
    | some δ =>
      have : δ.id = e.id := dspec_id (fun _ => lookup_key Entry.id) (fun _ hx => by cases hx; rfl) hd
      show [δ.id].Sublist [e.id]
      rw [this]
      exact List.Sublist.refl _
  · simp only [List.mem_append, h.mem, Option.mem_toList, List.mem_singleton]
    constructor
    · rintro (⟨e', he', hd⟩ | hd)
      · exact ⟨e', Or.inl he', hd⟩
      · exact ⟨e, Or.inr rfl, hd⟩
    · rintro ⟨e', he' | rfl, hd⟩
      · exact Or.inl ⟨e', he', hd⟩
      · exact Or.inr hd

theorem mkInv_fold {a : Table} (rest p : Table) (st : Table × Diff) (h : MkInv a p st)
    (hnd : ((p ++ rest).map Entry.id).Nodup) :
    MkInv a (p ++ rest) (rest.foldl makeDiffStep st) := by
  induction rest generalizing p st with
  | nil => simpa using h
  | cons e es ih =>
    have hne : e.id ∉ p.map Entry.id := by
      intro hm
      rw [List.map_append, List.map_cons] at hnd
      have := (List.nodup_append.mp hnd).2.2 e.id hm e.id (List.mem_cons_self ..)
      exact this rfl
    have := ih (p ++ [e]) (makeDiffStep st e) (mkInv_step e h hne) (by simpa using hnd)
    simpa using this

theorem sortDeltas_perm (l : Diff) : (sortDeltas l).Perm l := sortBy_perm _ _

theorem sortDeltas_sorted (l : Diff) : (sortDeltas l).Pairwise (fun a b => a.id ≤ b.id) := by
  have := sortBy_pairwise (fun (a b : Delta) => decide (a.id ≤ b.id))
    (by intro a b c; simp only [decide_eq_true_eq]; omega)
    (by intro a b; simp only [Bool.or_eq_true, decide_eq_true_eq]; omega) l
  exact this.imp (by intro a b h; simpa using h)

theorem ssorted_sortDeltas {l : Diff} (hnd : (l.map Delta.id).Nodup) :
    SSorted Delta.id (sortDeltas l) := by
  have hp := sortDeltas_perm l
  have hnd' : ((sortDeltas l).map Delta.id).Nodup := (hp.map Delta.id).nodup_iff.mpr hnd
  have hne : (sortDeltas l).Pairwise (fun a b => a.id ≠ b.id) := by
    unfold List.Nodup at hnd'
    rwa [List.pairwise_map] at hnd'
  unfold SSorted
  exact ((sortDeltas_sorted l).and hne).imp (by intro a b h; omega)

theorem makeDiff_spec {a b : Table} (ha : (a.map Entry.id).Nodup) (hb : (b.map Entry.id).Nodup) :
    SSorted Delta.id (makeDiff a b) ∧ ∀ i, LD (makeDiff a b) i = dspec (L a i) (L b i) := by
  have inv : MkInv a b (b.foldl makeDiffStep (toMap a, [])) := by
    have := mkInv_fold b [] (toMap a, []) (mkInv_init a) (by simpa using hb)
    simpa using this
  generalize hst : b.foldl makeDiffStep (toMap a, []) = st at inv
  have hF : makeDiff a b = sortDeltas (st.2 ++ st.1.map (fun e => ⟨e.id, -e.power, 0⟩)) := by
    unfold makeDiff; rw [hst]
  have hleft : ∀ o, o ∈ st.1 ↔ L a o.id = some o ∧ L b o.id = none := by
    intro o
    have h1 : o ∈ st.1 ↔ lookup Entry.id st.1 o.id = some o :=
      ⟨lookup_of_mem Entry.id inv.sorted, lookup_mem Entry.id⟩
    rw [h1, show lookup Entry.id st.1 o.id = _ from inv.look o.id, lookup_toMap ha, lookup_none_iff_keys]
    by_cases hm : o.id ∈ b.map Entry.id
    · rw [if_pos hm]; exact ⟨nofun, fun h => absurd hm h.2⟩
    · rw [if_neg hm]; exact ⟨fun h => ⟨h, hm⟩, fun h => h.1⟩
  have hM : ∀ δ, δ ∈ st.2 ++ st.1.map (fun e => (⟨e.id, -e.power, 0⟩ : Delta)) ↔
      dspec (L a δ.id) (L b δ.id) = some δ := by
    intro δ
    rw [List.mem_append, inv.mem, List.mem_map]
    constructor
    · rintro (⟨e, he, hd⟩ | ⟨o, ho, rfl⟩)
      · rw [lookup_toMap ha] at hd
        have hbe : L b e.id = some e := lookup_of_mem_nodup Entry.id hb he
        have hid : δ.id = e.id := by
          have := hd; rw [← hbe] at this; exact dspec_id_L this
        rw [hid, hbe]; exact hd
      · obtain ⟨hao, hbn⟩ := (hleft o).mp ho
        show dspec (L a o.id) (L b o.id) = _
        rw [hao, hbn]; rfl
    · intro hd
      have hid := dspec_id_L hd
      cases hbl : L b δ.id with
      | some e =>
        left
        refine ⟨e, lookup_mem Entry.id hbl, ?_⟩
        have hek : e.id = δ.id := lookup_key Entry.id hbl
        rw [lookup_toMap ha, hek, ← hbl]; exact hd
      | none =>
        right
        cases hal : L a δ.id with
        | none => rw [hal, hbl] at hd; cases hd
        | some o =>
          have hoi : o.id = δ.id := lookup_key Entry.id hal
          rw [hal, hbl] at hd
          exact ⟨o, (hleft o).mpr (by rw [hoi]; exact ⟨hal, hbl⟩), Option.some.inj hd⟩
  have hnd : ((st.2 ++ st.1.map (fun e => (⟨e.id, -e.power, 0⟩ : Delta))).map Delta.id).Nodup := by
    rw [List.map_append, List.nodup_append]
    refine ⟨inv.sub.nodup hb, ?_, ?_⟩
    · rw [List.map_map]
      exact nodup_of_ssorted Entry.id inv.sorted
    · intro x hx y hy hxy
      rw [List.map_map, List.mem_map] at hy
      obtain ⟨o, ho, rfl⟩ := hy
      exact (lookup_none_iff_keys Entry.id).mp ((hleft o).mp ho).2 ((show x = o.id from hxy) ▸ inv.sub.subset hx)
  have hsorted := ssorted_sortDeltas hnd
  have hperm := sortDeltas_perm (st.2 ++ st.1.map (fun e => (⟨e.id, -e.power, 0⟩ : Delta)))
  rw [hF]
  refine ⟨hsorted, fun i => Option.ext fun δ => ?_⟩
  rw [show LD _ i = some δ ↔ _ from lookup_eq_some_iff Delta.id (nodup_of_ssorted _ hsorted), hperm.mem_iff, hM]
  exact ⟨fun ⟨h, hi⟩ => hi ▸ h, fun h => have hi := dspec_id_L h; ⟨hi ▸ h, hi⟩⟩
end F3.Certs
