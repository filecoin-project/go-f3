import F3.Proofs.NoFailureRun
/-!
# Failure-freedom at the participant API (`pstepWith`, `prun`)

Before the instance has begun every message is queued; the first alarm begins the instance and drains the queue through
`instance.ReceiveMany`, which drops late-binding rejects (`wrongSupp`, `wrongBase`) silently but *returns* on
`wrongInstance`. The Go participant keeps one queue per instance, so only messages of the current instance reach
`ReceiveMany`: the hypothesis on delivered messages is `PMsgOK` — of this instance, and valid unless the supplemental
data differ. With `prun_ok` every such run is, refusals aside, a failure-free micro-run (`prun_transfer`).
-/
namespace F3.Instance

/-- what the participant hands to the instance: a message of this instance, validated unless its supplemental data
are not the instance's (such a message is refused at the door / dropped by the drain whatever else it contains) -/
def PMsgOK (W : Votes) (t : Table) (m : Msg) : Prop :=
  m.instOk = true ∧ (m.suppOk = false ∨ MsgValid W t m)

theorem PMsgOK.top {W : Votes} {t : Table} {m : Msg} (h : PMsgOK W t m) : PMsgOK WT t m :=
  ⟨h.1, h.2.imp id (fun hv => hv.top)⟩

theorem PMsgOK.foreign_or {W : Votes} {t : Table} {m : Msg} (h : PMsgOK W t m) : foreignM m = true ∨ MsgValid W t m := by
  rcases h.2 with hs | hv
  · left; simp [foreignM, hs]
  · exact Or.inr hv

theorem receiveOne_pm {s : State} (now : Int) (m : Msg) (h : NFI s) (hm : PMsgOK WT s.tbl m)
    (hlb : isLateBinding (s.receiveOne now m).1.2 = false) :
    hasFailure (s.receiveOne now m).1.2 = false ∧ NFI (s.receiveOne now m).1.1 := by
  refine Or.resolve_left (a := isLateBinding (s.receiveOne now m).1.2 = true) ?_ (by simp [hlb])
  rcases hm.2 with hs | hv
  · left
    unfold State.receiveOne State.recvPre
    simp [hm.1, hs, isLateBinding]
  · rcases receiveOne_nf now m h hv with ⟨k, hk, heq⟩ | hok
    · left
      rw [heq]
      rcases recvPre_reject_kind s m k hk with ⟨_, hi⟩ | rfl | rfl
      · rw [hm.1] at hi; cases hi
      · rfl
      · rfl
    · exact Or.inr hok

/-- a processed message of this instance is a validated one (a message with other supplemental data is reported) -/
theorem PMsgOK.msgOk {W : Votes} {t : Table} {s : State} {now : Int} {m : Msg} (hm : PMsgOK W t m)
    (hf : hasFailure (s.receiveOne now m).1.2 = false) : MsgOk m := by
  rcases hm.2 with hs | hv
  · have := receiveOne_foreign s now m (by simp [foreignM, hs])
    rw [hf] at this; cases this
  · exact MsgValid.msgOk (W := W) hv

/-- **`ReceiveMany` reports no failure**: the drain of round-sorted messages of this instance, each validated unless
its supplemental data differ, into a started, non-terminated instance -/
theorem receiveMany_nf (now : Int) (s : State) (ms : List Msg) (h : NFI s) (hq : DQ s) (hnt : s.phase ≠ .terminated)
    (hP : ∀ m ∈ ms, PMsgOK WT s.tbl m) (hsorted : RoundSorted ms) :
    hasFailure (s.receiveMany now ms).2 = false ∧ NFI (s.receiveMany now ms).1 ∧ DQ (s.receiveMany now ms).1 ∧
      (s.receiveMany now ms).1.tbl = s.tbl := by
  refine receiveMany_sorted
    (J := fun rest st effs => (∀ m ∈ rest, PMsgOK WT s.tbl m) ∧ NFI st ∧ DQ st ∧ st.tbl = s.tbl ∧ hasFailure effs = false)
    (K := fun st effs => hasFailure effs = false ∧ NFI st ∧ DQ st ∧ st.tbl = s.tbl) now
    (fun hJ => hJ.2.2.1) (fun hJ _ => ⟨fun m hm => hJ.1 m (List.mem_cons_of_mem _ hm), hJ.2⟩) ?_ ?_
    s ms hsorted hnt ⟨hP, h, hq, rfl, rfl⟩ (fun hJ => ⟨hJ.2.2.2.2, hJ.2.1, hJ.2.2.1, hJ.2.2.2.1⟩) ?_
  · intro m rest st effs ⟨hP, hi, hq, htb, hnf⟩ hlb hf
    have hPm : PMsgOK WT st.tbl m := by rw [htb]; exact hP m List.mem_cons_self
    exact ⟨hPm.msgOk hf, fun m' hm' => hP m' (List.mem_cons_of_mem _ hm'), (receiveOne_pm now m hi hPm hlb).2,
      receiveOne_dq st now m hq hf,
      (receiveOne_tbl_input st now m).1.trans htb, by simp [hnf, hf]⟩
  · intro m rest st effs ⟨hP, hi, _, htb, _⟩ hlb hf
    rw [(receiveOne_pm now m hi (by rw [htb]; exact hP m List.mem_cons_self) hlb).1] at hf
    cases hf
  · intro st effs r ⟨_, hi, hq, htb, hnf⟩ hnt1
    have hp := postReceive_nf now r hi hnt1
    exact ⟨by simp [hnf, hp.1], NFI.of_gok (postReceive_gok now r hi.1 hnt1) hp,
      mstep_dq (P := MsgOk) (op := .post now r) hq hnt1 hp.1, (postReceive_tbl st now r).trans htb⟩

/-- the invariant of a participant run: before the first alarm the instance is untouched and the queue holds
messages of this instance only; afterwards the instance satisfies `NFI` and `DQ` -/
structure PInv (cfg : Cfg) (t : Table) (input : Chain) (p : PState) : Prop where
  tbl : p.inst.tbl = t
  pre : p.started = false → p.inst = init cfg t input ∧ ∀ m ∈ p.queue, PMsgOK WT t m
  post : p.started = true → NFI p.inst ∧ DQ p.inst

theorem PInv_pinit (cfg : Cfg) (t : Table) (input : Chain) : PInv cfg t input (pinit cfg t input) :=
  ⟨rfl, fun _ => ⟨rfl, by simp [pinit]⟩, fun h => by simp [pinit] at h⟩

theorem POpP.toOp {W : Votes} {t : Table} {op : POp} (h : POpP (PMsgOK W t) op) :
    foreignOp op.toOp = true ∨ OpValidG W t op.toOp := by
  cases op with
  | recv now m => exact PMsgOK.foreign_or h
  | alarm now => exact Or.inr trivial

theorem pstep_nf (cfg : Cfg) (t : Table) (input : Chain) (hin : input ≠ []) (hT : 0 < t.total)
    (order : List Pid) (p : PState) (op : POp) (hinv : PInv cfg t input p) (hop : POpP (PMsgOK WT t) op) :
    (prefused p op = true ∨ hasFailure (pstepWith order p op).2 = false) ∧ PInv cfg t input (pstepWith order p op).1 := by
  refine pstepWith_ind order p op (fun hs => ?_) (fun now m he hs => ?_) (fun now _ hs hf => ?_) fun now _ hs _ => ?_
  · obtain ⟨hi, hq⟩ := hinv.post hs
    obtain ⟨h1, h2, h3⟩ := step_nf op.toOp hi hq (by rw [hinv.tbl]; exact hop.toOp) (by cases op <;> rfl)
    refine ⟨h1.imp (fun hr => ?_) id, (step_tbl _ _).trans hinv.tbl, fun h => by simp [hs] at h, fun _ => ⟨h2, h3⟩⟩
    cases op with
    | alarm _ => cases hr
    | recv now m => simpa [prefused, hs, refusedOp, POp.toOp] using hr
  · subst he
    obtain ⟨hinit, hqu⟩ := hinv.pre hs
    refine ⟨Or.inr rfl, hinv.tbl, fun _ => ⟨hinit, fun x hx => ?_⟩, fun h => by rw [hs] at h; cases h⟩
    rcases queueAddL_mem _ _ _ x hx with h | rfl
    · exact hqu x h
    · exact hop
  · rw [(hinv.pre hs).1] at hf
    exact absurd ((start_nf cfg t input now hin hT).1.symm.trans hf) (by decide)
  · obtain ⟨hinit, hqu⟩ := hinv.pre hs
    rw [hinit]
    obtain ⟨h1, h2, h3⟩ : hasFailure ((init cfg t input).beginQuality now).2 = false ∧
        NFI ((init cfg t input).beginQuality now).1 ∧ DQ ((init cfg t input).beginQuality now).1 :=
      start_nf cfg t input now hin hT
    obtain ⟨g1, g2, g3, g4⟩ := receiveMany_nf now _ (drainWith order p.queue) h2 h3 (fun hc => Phase.noConfusion hc)
      (fun m hm => hqu m (drainWith_mem order p.queue m hm)) (drainWith_sorted order p.queue)
    exact ⟨Or.inr (by simp [h1, g1]), g4, fun h => (by cases h), fun _ => ⟨g2, g3⟩⟩

theorem prun_nf (cfg : Cfg) (t : Table) (input : Chain) (hin : input ≠ []) (hT : 0 < t.total)
    (order : List Pid) (p : PState) (ops : List POp) (hinv : PInv cfg t input p)
    (hops : ∀ op ∈ ops, POpP (PMsgOK WT t) op) :
    okRunP order p ops = true ∧ PInv cfg t input (prun order p ops).1 := by
  induction ops generalizing p with
  | nil => exact ⟨rfl, hinv⟩
  | cons op ops ih =>
    obtain ⟨h1, h2⟩ := pstep_nf cfg t input hin hT order p op hinv (hops op List.mem_cons_self)
    have := ih _ h2 (fun o ho => hops o (List.mem_cons_of_mem _ ho))
    rw [prun_cons]
    refine ⟨?_, this.2⟩
    simp only [okRunP, Bool.and_eq_true, Bool.or_eq_true, Bool.not_eq_true']
    exact ⟨h1, this.1⟩

theorem POpP.mono {P Q : Msg → Prop} (h : ∀ m, P m → Q m) {op : POp} (hop : POpP P op) : POpP Q op := by
  cases op with
  | recv now m => exact h m hop
  | alarm _ => trivial

theorem POpP.foreign_or_valid {W : Votes} {t : Table} {op : POp} (h : POpP (PMsgOK W t) op) :
    pforeign op = true ∨ POpP (MsgValid W t) op := by
  cases op with
  | recv now m => exact PMsgOK.foreign_or h
  | alarm _ => exact Or.inr trivial

theorem POpP.foreign_or_ok {W : Votes} {t : Table} {op : POp} (h : POpP (PMsgOK W t) op) :
    pforeign op = true ∨ POpOk op :=
  h.foreign_or_valid.imp id (POpP.mono fun _ hv => MsgValid.msgOk (W := W) hv)

/-- **No internal error or panic, participant level.** -/
theorem prun_ok (cfg : Cfg) (t : Table) (input : Chain) (W : Votes) (order : List Pid) (ops : List POp)
    (hin : input ≠ []) (hT : 0 < t.total) (hops : ∀ op ∈ ops, POpP (PMsgOK W t) op) :
    okRunP order (pinit cfg t input) ops = true :=
  (prun_nf cfg t input hin hT order _ ops (PInv_pinit cfg t input)
    (fun op hop => (hops op hop).mono (fun _ h => h.top))).1

/-- **Every validated participant run is, reported refusals aside, a failure-free micro-run of its instance over validated
messages** (`prun_ok`, `prun_micro`): whatever holds of the final state and the effects of every such micro-run from the
initial state holds of the participant run with the refusals' errors removed. The participant-level members of a family
without a failure hypothesis are instances, like those of `run_transfer`. -/
theorem prun_transfer {Φ : State → List Eff → Prop} (cfg : Cfg) (t : Table) (input : Chain) (W : Votes)
    (order : List Pid) (ops : List POp) (hin : input ≠ []) (hT : 0 < t.total)
    (hvalid : ∀ op ∈ ops, POpP (PMsgOK W t) op)
    (hΦ : ∀ mops, MOK (MsgValid W t) (init cfg t input) mops → hasFailure (mrun (init cfg t input) mops).2 = false →
      Φ (mrun (init cfg t input) mops).1 (mrun (init cfg t input) mops).2) :
    Φ (prun order (pinit cfg t input) ops).1.inst ((prun order (pinit cfg t input) ops).2.filter nonErr) := by
  obtain ⟨mops, hmok, hnf, hst, heff⟩ :=
    prun_micro (MsgValid W t) (fun _ hm => MsgValid.msgOk (W := W) hm) order (pinit cfg t input) ops
      (DQ_pinit cfg t input) (by simp [pinit]) (fun op hop => (hvalid op hop).foreign_or_valid)
      (prun_ok cfg t input W order ops hin hT hvalid)
  rw [← hst, ← heff]
  exact hΦ mops hmok hnf

/-- the (progress, broadcast) skeleton of every validated participant run is well paired -/
theorem prun_wp_valid (cfg : Cfg) (t : Table) (input : Chain) (W : Votes) (order : List Pid) (ops : List POp)
    (hin : input ≠ []) (hT : 0 < t.total) (hvalid : ∀ op ∈ ops, POpP (PMsgOK W t) op) :
    WP (0, 0) (evs (prun order (pinit cfg t input) ops).2) (prun order (pinit cfg t input) ops).1.inst.pt := by
  have := prun_transfer (Φ := fun s es => WP (0, 0) (evs es) s.pt) cfg t input W order ops hin hT hvalid
    fun mops hmok hnf => (mrun_wp _ mops (DQ_init cfg t input) (hmok.mono fun _ _ => trivial) hnf).1
  rwa [evs_filter_nonErr] at this

theorem pstep_prefused (order : List Pid) (p : PState) (op : POp) (h : prefused p op = true) :
    ∃ k, (pstepWith order p op).2 = [.err k] ∧ (pstepWith order p op).1 = p ∧
      (k = .afterTermination ∨ k = .wrongInstance ∨ k = .wrongSupp ∨ k = .wrongBase) := by
  cases op with
  | alarm _ => cases h
  | recv now m =>
    simp only [prefused, Bool.and_eq_true] at h
    obtain ⟨k, hk, hkind⟩ := step_refusedOp (s := p.inst) (op := .recv now m) (by simpa [refusedOp] using h.2)
    have heq : pstepWith order p (.recv now m) = (p, [.err k]) := by
      rw [pstep_started_eq order p _ h.1]
      simp only [POp.toOp, hk]
    exact ⟨k, by rw [heq], by rw [heq], hkind⟩

theorem okRunP_effects (order : List Pid) (p : PState) (ops : List POp) (h : okRunP order p ops = true) :
    ∀ e ∈ (prun order p ops).2, (∀ q, e ≠ .panic q) ∧
      (∀ k, e = .err k → k = .afterTermination ∨ k = .wrongInstance ∨ k = .wrongSupp ∨ k = .wrongBase) := by
  induction ops generalizing p with
  | nil => intro e he; simp [prun] at he
  | cons op ops ih =>
    simp only [okRunP, Bool.and_eq_true, Bool.or_eq_true, Bool.not_eq_true'] at h
    intro e he
    rw [prun_cons] at he
    rcases List.mem_append.1 he with he | he
    · rcases h.1 with hr | hnf
      · obtain ⟨k, hk, _, hkind⟩ := pstep_prefused order p op hr
        rw [hk] at he
        simp only [List.mem_singleton] at he
        subst he
        exact ⟨fun q hq => (by cases hq), fun k' hk' => (by injection hk' with hk'; subst hk'; exact hkind)⟩
      · obtain ⟨hp, hk⟩ := mem_nofail hnf he
        exact ⟨hp, fun k hk' => absurd hk' (hk k)⟩
    · exact ih _ h.2 e he

end F3.Instance
