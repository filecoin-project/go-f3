import F3.Proofs.AlarmInv
/-!
# Timer bookkeeping of every function of the instance model (`Outcome`), composed to one API call

Every function either fails, ends in DECIDE/TERMINATED, begins a phase (`FreshR`: phase timeout requested, rebroadcast
parameters reset), does nothing to the timer fields, or is a call of `tryRebroadcast` made because
`shouldRebroadcast` holds. `step_recvOK` / `step_alarmOK`: one API call keeps `Armed`.
-/
namespace F3.Liveness
open F3.Instance

theorem Outcome.fail {q : Prop} {s : State} {now : Int} {r : R} (h : hasFailure r.2 = true) : Outcome q s now r :=
  Or.inl h
theorem Outcome.out {q : Prop} {s : State} {now : Int} {r : R} (h : OutP r.1) : Outcome q s now r :=
  Or.inr (Or.inl h)
theorem Outcome.fresh {q : Prop} {s : State} {now : Int} {r : R} (h : FreshR r) : Outcome q s now r :=
  Or.inr (Or.inr (Or.inl h))
theorem Outcome.same {q : Prop} {s : State} {now : Int} {r : R} (h1 : SameT s r.1) (h2 : ∀ tm, lastAlarm tm r.2 = tm)
    (h3 : q) : Outcome q s now r :=
  Or.inr (Or.inr (Or.inr (Or.inl ⟨h1, h2, h3⟩)))
theorem Outcome.reb {q : Prop} {s : State} {now : Int} (s' : State) (h1 : SameT s s')
    (h2 : s'.shouldRebroadcast now = true) : Outcome q s now (s'.tryRebroadcast now) :=
  Or.inr (Or.inr (Or.inr (Or.inr ⟨s', h1, h2, rfl⟩)))
theorem Outcome.fail_or_fresh {q : Prop} {s : State} {now : Int} {r : R} (h : hasFailure r.2 = true ∨ FreshR r) :
    Outcome q s now r := h.elim Outcome.fail Outcome.fresh

/-- move the starting point along a change that leaves the timer fields alone -/
theorem Outcome.of_same {q : Prop} {s s1 : State} {now : Int} {r : R} (hT : SameT s s1) (h : Outcome q s1 now r) :
    Outcome q s now r := by
  rcases h with h | h | h | ⟨h1, h2, h3⟩ | ⟨s', h1, h2, h3⟩
  · exact .fail h
  · exact .out h
  · exact .fresh h
  · exact .same (hT.trans h1) h2 h3
  · exact Or.inr (Or.inr (Or.inr (Or.inr ⟨s', hT.trans h1, h2, h3⟩)))

theorem RecvOK.of_same {s s1 : State} {now : Int} {r : R} (hT : SameT s s1) (h : RecvOK s1 now r) : RecvOK s now r := by
  rcases h with h | h
  · exact Or.inl h
  · exact Or.inr (fun tm c hc ha => h tm c hc (ha.same hT (Int.le_refl c)))

theorem beginPrepare_fresh (s : State) (now : Int) (j : Option Just) : FreshR (s.beginPrepare now j) := by
  unfold State.beginPrepare State.alarmAfter State.resetReb
  exact ⟨rfl, rfl, fun _ => rfl⟩

theorem beginCommit_fresh (s : State) (now : Int) : FreshR (s.beginCommit now) := by
  unfold State.beginCommit State.alarmAfter State.resetReb
  dsimp only
  split
  · exact ⟨rfl, rfl, fun _ => rfl⟩
  · split <;> exact ⟨rfl, rfl, fun _ => rfl⟩

theorem beginConverge_fresh (s : State) (now : Int) (j : Just) :
    hasFailure (s.beginConverge now j).2 = true ∨ FreshR (s.beginConverge now j) := by
  unfold State.beginConverge State.alarmAfter State.resetReb State.setRound
  dsimp only
  split
  · exact Or.inl (by simp [hasFailure])
  · exact Or.inr ⟨rfl, rfl, fun _ => rfl⟩

theorem beginNextRound_fresh (s : State) (now : Int) :
    hasFailure (s.beginNextRound now).2 = true ∨ FreshR (s.beginNextRound now) := by
  unfold State.beginNextRound
  dsimp only
  split
  · exact beginConverge_fresh _ _ _
  · exact Or.inl (by simp [hasFailure])

theorem beginQuality_fresh (s : State) (now : Int) :
    hasFailure (s.beginQuality now).2 = true ∨ FreshR (s.beginQuality now) := by
  unfold State.beginQuality State.alarmAfter State.resetReb
  dsimp only
  split
  · exact Or.inl (by simp [hasFailure])
  · exact Or.inr ⟨rfl, rfl, fun _ => rfl⟩

theorem beginDecide_out (s : State) (round : Nat) : OutP (s.beginDecide round).1 :=
  Or.inl (by rw [beginDecide_fst])

theorem addCandidatePrefixes_sameT (s : State) (c : Chain) : SameT s (s.addCandidatePrefixes c).1 := by
  obtain ⟨cs, h⟩ := addCandidatePrefixes_fst s c
  rw [h]; exact ⟨rfl, rfl, rfl, rfl, rfl, rfl⟩

theorem setRound_sameT (s : State) (r : Nat) (rs : RoundState) : SameT s (s.setRound r rs) :=
  ⟨rfl, rfl, rfl, rfl, rfl, rfl⟩

theorem not_should_not_elapsed {s : State} {now : Int} (h : s.shouldRebroadcast now = false) :
    s.phaseTimeoutElapsed now = false := by
  unfold State.shouldRebroadcast at h
  exact (Bool.or_eq_false_iff.1 h).1

theorem tryQuality_outcome (s : State) (now : Int) :
    Outcome (s.phaseTimeoutElapsed now = false) s now (s.tryQuality now) := by
  refine tryQuality_ind s now ?_ ?_ ?_
  · exact fun _ => .fail rfl
  · exact fun _ h => .same (SameT.refl s) (fun _ => rfl) (Bool.or_eq_false_iff.1 h).2
  · exact fun _ _ _ _ => .fresh (beginPrepare_fresh _ _ _)

theorem tryConverge_outcome (s : State) (now : Int) :
    Outcome (s.phaseTimeoutElapsed now = false) s now (s.tryConverge now) := by
  refine tryConverge_ind s now ?_ ?_ ?_ ?_ ?_
  · exact fun _ => .fail rfl
  · exact fun _ _ h => .reb s (SameT.refl s) h
  · exact fun _ h _ => .same (SameT.refl s) (fun _ => rfl) h
  · exact fun _ _ _ => .fail rfl
  · exact fun _ _ _ _ _ _ _ => .fresh (beginPrepare_fresh _ _ _)

theorem tryPrepare_outcome (s : State) (now : Int) :
    Outcome (s.phaseTimeoutElapsed now = false) s now (s.tryPrepare now) := by
  refine tryPrepare_ind s now ?_ ?_ ?_ ?_
  · exact fun _ => .fail rfl
  · exact fun _ _ _ _ => .fresh (beginCommit_fresh _ _)
  · exact fun _ _ v _ h => .reb { s with value := v } ⟨rfl, rfl, rfl, rfl, rfl, rfl⟩ h
  · exact fun _ _ v _ h => .same ⟨rfl, rfl, rfl, rfl, rfl, rfl⟩ (fun _ => rfl) (not_should_not_elapsed (s := { s with value := v }) h)

theorem tryCommit_outcome (s : State) (now : Int) (round : Nat) :
    Outcome (s.round = round → s.phase = .commit → s.phaseTimeoutElapsed now = false) s now (s.tryCommit now round) := by
  refine tryCommit_ind s now round ?_ ?_ ?_ ?_ ?_ ?_ ?_
  · exact fun _ => .fail rfl
  · exact fun _ _ _ => .out (beginDecide_out _ _)
  · exact fun h _ => .same (SameT.refl s) (fun _ => rfl) (fun hr hp => by rw [hr, hp] at h; simp at h)
  · exact fun _ _ => .fail_or_fresh (beginNextRound_fresh _ _)
  · exact fun _ _ _ _ _ _ _ => .fail_or_fresh (beginNextRound_fresh _ _)
  · exact fun _ _ _ _ h => .reb s (SameT.refl s) h
  · exact fun _ _ _ _ h => .same (SameT.refl s) (fun _ => rfl) (fun _ _ => not_should_not_elapsed h)

theorem tryDecide_out (s : State) (now : Int) (h : s.phase = .decide) :
    hasFailure (s.tryDecide now).2 = true ∨ OutP (s.tryDecide now).1 := by
  rcases tryDecide_cases s now with hf | ⟨ht, _, _⟩ | ⟨hp, _, _⟩
  · exact Or.inl hf
  · exact Or.inr (Or.inr (Or.inl ht))
  · exact Or.inr (Or.inl (hp.trans h))

/-- **`tryCurrentPhase`**: "nothing happened" is possible only out of scope or before the phase timeout -/
theorem tryCurrentPhase_outcome (s : State) (now : Int) :
    Outcome (InScope s → s.phaseTimeoutElapsed now = false) s now (s.tryCurrentPhase now) :=
  tryCurrentPhase_ind s now
    (fun _ => (tryQuality_outcome s now).mono (fun h _ => h))
    (fun _ => (tryConverge_outcome s now).mono (fun h _ => h))
    (fun _ => (tryPrepare_outcome s now).mono (fun h _ => h))
    (fun hp => (tryCommit_outcome s now s.round).mono (fun h _ => h rfl hp))
    (fun hp => (tryDecide_out s now hp).elim .fail .out)
    (fun hp => .out (Or.inr (Or.inl hp)))
    (fun _ => .fail rfl)

theorem tryCurrentPhase_recvOK (s : State) (now : Int) : RecvOK s now (s.tryCurrentPhase now) :=
  (tryCurrentPhase_outcome s now).recvOK

theorem tryCurrentPhase_alarmOK (s : State) (now : Int) : AlarmOK s now (s.tryCurrentPhase now) :=
  (tryCurrentPhase_outcome s now).alarmOK

theorem recvQuality_recvOK (s : State) (now : Int) (m : Msg) : RecvOK s now (s.recvQuality now m) := by
  refine recvQuality_ind s now m ?_ ?_
  · intro _
    refine Outcome.recvOK (q := True) (.same ?_ (fun _ => rfl) trivial)
    unfold State.updateCandidatesFromQuality
    exact SameT.trans (b := { s with quality := s.quality.receiveEachPrefix s.tbl m.sender m.value })
      ⟨rfl, rfl, rfl, rfl, rfl, rfl⟩ (addCandidatePrefixes_sameT _ _)
  · exact fun _ => (tryCurrentPhase_recvOK _ now).of_same ⟨rfl, rfl, rfl, rfl, rfl, rfl⟩

theorem recvPrepare_recvOK (s : State) (now : Int) (m : Msg) : RecvOK s now (s.recvPrepare now m) := by
  refine recvPrepare_ind s now m ?_ ?_
  · exact fun _ => Or.inl rfl
  · exact fun _ _ => (tryCurrentPhase_recvOK _ now).of_same (setRound_sameT _ _ _)

theorem RecvOK.nil (s : State) (now : Int) : RecvOK s now (s, []) :=
  Outcome.recvOK (q := True) (.same (SameT.refl s) (fun _ => rfl) trivial)

theorem recvCommit_recvOK (s : State) (now : Int) (m : Msg) : RecvOK s now (s.recvCommit now m) :=
  recvCommit_ind s now m (fun _ _ => Or.inl rfl)
    (fun _ _ _ _ _ _ _ => RecvOK.andThen ((tryCommit_outcome _ now m.round).recvOK.of_same (setRound_sameT _ _ _))
      (fun st => tryCurrentPhase_recvOK st now))
    (fun _ _ _ _ => (tryCommit_outcome _ now m.round).recvOK.of_same (setRound_sameT _ _ _))
    (fun _ _ _ _ => (tryCurrentPhase_recvOK _ now).of_same (setRound_sameT _ _ _))

theorem recvDecide_recvOK (s : State) (now : Int) (m : Msg) : RecvOK s now (s.recvDecide now m) :=
  recvDecide_ind s now m (fun _ => Or.inl rfl)
    (fun _ _ _ => RecvOK.andThen (Outcome.recvOK (q := True) (.out (Or.inl (skipToDecide_phase _ _ _))))
      (fun st => tryCurrentPhase_recvOK st now))
    (fun _ _ _ => (tryCurrentPhase_recvOK _ now).of_same ⟨rfl, rfl, rfl, rfl, rfl, rfl⟩)

theorem receiveOne_recvOK (s : State) (now : Int) (m : Msg) : RecvOK s now (s.receiveOne now m).1 :=
  receiveOne_ind s now m (fun _ _ => Or.inl rfl) (fun _ => RecvOK.nil s now)
    (fun _ _ => recvQuality_recvOK s now m)
    (fun _ _ _ _ _ => (tryCurrentPhase_recvOK _ now).of_same (setRound_sameT _ _ _))
    (fun _ _ => recvPrepare_recvOK s now m) (fun _ _ => recvCommit_recvOK s now m) (fun _ _ => recvDecide_recvOK s now m)

theorem postReceive_recvOK (s : State) (now : Int) (round : Nat) : RecvOK s now (s.postReceive now round) :=
  postReceive_ind s now round (RecvOK.nil s now)
    (fun _ _ _ _ _ => Outcome.recvOK (q := True) (.fail_or_fresh (beginConverge_fresh _ _ _)))

/-- **one delivery or `Start` keeps the timer armed** -/
theorem step_recvOK (s : State) (op : Op) (hna : ∀ now, op ≠ .alarm now) : RecvOK s (opNow op) (step s op) := by
  cases op with
  | alarm now => exact absurd rfl (hna now)
  | start now => exact Outcome.recvOK (q := True) (.fail_or_fresh (beginQuality_fresh s now))
  | recv now m =>
    exact step_recv_ind s now m (fun _ => Or.inl rfl) (fun _ => receiveOne_recvOK s now m)
      (fun _ _ => (receiveOne_recvOK s now m).andThen (fun st => postReceive_recvOK st now m.round))

/-- **a due alarm re-arms the timer** -/
theorem step_alarmOK (s : State) (now : Int) : AlarmOK s now (step s (.alarm now)) :=
  tryCurrentPhase_alarmOK s now

end F3.Liveness
