import F3.Model.ChainX
import F3.Proofs.ChainXLru
/-!
Every operation of `F3.ChainX` acts on the two caches of ONE instance (`getLocal`, folds of `discStep`
/ `wantStep`) and leaves all other instances alone; `prune` empties the instances below its bound.
An absent map entry behaves exactly like an empty cache (`IMap.cacheAt`), so the proofs
look at a state only through `W s i`, `D s i` and `opts`.
-/
namespace F3.ChainX
open F3.Lru

namespace IMap

theorem find?_set (m : IMap) (i : Nat) (c : PCache) (j : Nat) :
    find? (set m i c) j = if j = i then some c else find? m j := by
  induction m with
  | nil =>
    by_cases h : j = i
    · simp [set, find?, h]
    · simp [set, find?, h, Ne.symm h]
  | cons e t ih =>
    obtain ⟨a, c'⟩ := e
    by_cases ha : a = i
    · subst ha
      by_cases h : j = a
      · simp [set, find?, h]
      · simp [set, find?, h, Ne.symm h]
    · simp only [set, ha, if_false, find?, ih]
      by_cases haj : a = j
      · subst haj; simp [ha]
      · simp [haj]

theorem find?_prune (m : IMap) (n i : Nat) : find? (prune m n) i = if i < n then none else find? m i := by
  induction m with
  | nil => simp [prune, find?]
  | cons e t ih =>
    obtain ⟨a, c⟩ := e
    simp only [prune] at ih ⊢
    by_cases han : a < n
    · simp only [List.filter_cons, han, decide_true, Bool.not_true, Bool.false_eq_true, if_false, ih, find?]
      by_cases hai : a = i
      · subst hai; simp [han]
      · simp [hai]
    · simp only [List.filter_cons, han, decide_false, Bool.not_false, if_true, find?, ih]
      by_cases hai : a = i
      · subst hai; simp [han]
      · simp [hai]

theorem cacheAt_set (m : IMap) (i : Nat) (c : PCache) (cap j : Nat) :
    cacheAt (set m i c) j cap = if j = i then c else cacheAt m j cap := by
  unfold cacheAt; rw [find?_set]; split <;> rfl

theorem cacheAt_prune (m : IMap) (n i cap : Nat) :
    cacheAt (prune m n) i cap = if i < n then Lru.empty cap else cacheAt m i cap := by
  simp only [cacheAt, find?_prune]
  by_cases h : i < n <;> simp [h]

theorem mem_instances_iff (m : IMap) (i : Nat) : i ∈ instances m ↔ (find? m i).isSome = true := by
  induction m with
  | nil => simp [instances, find?]
  | cons e t ih =>
    obtain ⟨a, c⟩ := e
    simp only [instances, List.map_cons, List.mem_cons] at ih ⊢
    by_cases h : a = i
    · simp [find?, h]
    · have : ¬ i = a := fun e => h e.symm
      simp [find?, h, this, ih]

end IMap

def W (s : State) (i : Nat) : PCache := IMap.cacheAt s.wanted i s.opts.maxWanted
def D (s : State) (i : Nat) : PCache := IMap.cacheAt s.discovered i s.opts.maxDiscovered

/-- `GetChainByInstance` on the two caches of the instance (non-zero key) -/
def getLocal (w d : PCache) (k : Key) : PCache × PCache × Option Chain :=
  match (w.get k).2 with
  | some (.chain c) => ((w.get k).1, d, some c)
  | _ =>
    match (d.get k).2 with
    | some p => (((w.get k).1.add k p).1, ((d.get k).1.remove k).1, some p.chainOf)
    | none => (((w.get k).1.containsOrAdd k .placeholder).1, (d.get k).1, none)

theorem getChain_zero (s : State) (i : Nat) : getChain s i [] = (s, none, []) := by
  simp [getChain]

theorem getChain_opts (s : State) (i : Nat) (k : Key) : (getChain s i k).1.opts = s.opts := by
  unfold getChain
  by_cases hk : k = []
  · simp [hk]
  · simp only [hk, if_false]
    split
    · rfl
    · split <;> rfl

theorem D_keep (s : State) (wm : IMap) (j : Nat) : D { s with wanted := wm } j = D s j := rfl

theorem ite_self_eq {α : Type} (j i : Nat) (f : Nat → α) : (if j = i then f i else f j) = f j := by
  by_cases h : j = i
  · subst h; simp
  · simp [h]

theorem getChain_local (s : State) (i : Nat) {k : Key} (hk : k ≠ []) :
    (getChain s i k).2.1 = (getLocal (W s i) (D s i) k).2.2 ∧
    (∀ j, W (getChain s i k).1 j = if j = i then (getLocal (W s i) (D s i) k).1 else W s j) ∧
    (∀ j, D (getChain s i k).1 j = if j = i then (getLocal (W s i) (D s i) k).2.1 else D s j) := by
  have hWdef : IMap.cacheAt s.wanted i s.opts.maxWanted = W s i := rfl
  have hDdef : IMap.cacheAt s.discovered i s.opts.maxDiscovered = D s i := rfl
  unfold getChain getLocal
  simp only [hk, if_false, hWdef, hDdef]
  -- every branch sets both maps at `i`, except that a hit in the wanted cache leaves the discovered map alone
  cases hw : (Cache.get (W s i) k).2 with
  | some pw =>
    cases pw with
    | chain c => exact ⟨rfl, fun j => IMap.cacheAt_set _ _ _ _ j, fun j => (ite_self_eq j i (D s)).symm⟩
    | placeholder =>
      cases hd : (Cache.get (D s i) k).2 <;>
        exact ⟨rfl, fun j => IMap.cacheAt_set _ _ _ _ j, fun j => IMap.cacheAt_set _ _ _ _ j⟩
  | none =>
    cases hd : (Cache.get (D s i) k).2 <;>
      exact ⟨rfl, fun j => IMap.cacheAt_set _ _ _ _ j, fun j => IMap.cacheAt_set _ _ _ _ j⟩

theorem cacheAsDiscovered_local (s : State) (i : Nat) (c : Chain) :
    (cacheAsDiscovered s i c).opts = s.opts ∧
    (∀ j, W (cacheAsDiscovered s i c) j = if j = i then ((prefixes c).foldl discStep (W s i, D s i)).1 else W s j) ∧
    (∀ j, D (cacheAsDiscovered s i c) j = if j = i then ((prefixes c).foldl discStep (W s i, D s i)).2 else D s j) := by
  unfold cacheAsDiscovered
  exact ⟨rfl, fun j => IMap.cacheAt_set _ _ _ _ j, fun j => IMap.cacheAt_set _ _ _ _ j⟩

theorem cacheAsWanted_local (s : State) (i : Nat) (c : Chain) :
    (cacheAsWanted s i c).1.opts = s.opts ∧
    (∀ j, W (cacheAsWanted s i c).1 j = if j = i then ((prefixes c).foldl wantStep (W s i, [])).1 else W s j) ∧
    (∀ j, D (cacheAsWanted s i c).1 j = D s j) := by
  unfold cacheAsWanted
  exact ⟨rfl, fun j => IMap.cacheAt_set _ _ _ _ j, fun j => rfl⟩

theorem prune_local (s : State) (n : Nat) :
    (prune s n).opts = s.opts ∧
    (∀ j, W (prune s n) j = if j < n then Lru.empty s.opts.maxWanted else W s j) ∧
    (∀ j, D (prune s n) j = if j < n then Lru.empty s.opts.maxDiscovered else D s j) := by
  unfold prune W D
  exact ⟨rfl, fun j => IMap.cacheAt_prune _ _ _ _, fun j => IMap.cacheAt_prune _ _ _ _⟩

theorem mem_prefixes {c p : Chain} : p ∈ prefixes c ↔ ∃ n, n < c.length ∧ p = c.take (n + 1) := by
  unfold prefixes
  simp only [List.mem_map, List.mem_reverse, List.mem_range]
  constructor
  · rintro ⟨n, hn, rfl⟩; exact ⟨n, hn, rfl⟩
  · rintro ⟨n, hn, rfl⟩; exact ⟨n, hn, rfl⟩

theorem length_prefixes (c : Chain) : (prefixes c).length = c.length := by
  simp [prefixes]

theorem prefixes_ne_nil {c p : Chain} (h : p ∈ prefixes c) : p ≠ [] := by
  obtain ⟨n, hn, rfl⟩ := mem_prefixes.mp h
  intro he
  have : (c.take (n + 1)).length = 0 := by rw [he]; rfl
  rw [List.length_take] at this
  omega

theorem self_mem_prefixes {c : Chain} (h : c ≠ []) : c ∈ prefixes c := by
  refine mem_prefixes.mpr ⟨c.length - 1, ?_, ?_⟩
  · have : 0 < c.length := List.length_pos_iff.mpr h
    omega
  · have : 0 < c.length := List.length_pos_iff.mpr h
    have h2 : c.length - 1 + 1 = c.length := by omega
    rw [h2, List.take_length]

theorem prefix_of_mem_prefixes {c p : Chain} (h : p ∈ prefixes c) : p <+: c := by
  obtain ⟨n, _, rfl⟩ := mem_prefixes.mp h
  exact List.take_prefix _ _

theorem mem_prefixes_of_prefix {c p : Chain} (hp : p <+: c) (hne : p ≠ []) : p ∈ prefixes c := by
  obtain ⟨t, rfl⟩ := hp
  refine mem_prefixes.mpr ⟨p.length - 1, ?_, ?_⟩
  · have : 0 < p.length := List.length_pos_iff.mpr hne
    simp; omega
  · have : 0 < p.length := List.length_pos_iff.mpr hne
    have h2 : p.length - 1 + 1 = p.length := by omega
    rw [h2, List.take_left']
    rfl

end F3.ChainX
