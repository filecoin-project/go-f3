import F3.Model.Wal
/-! The decode loop of `readLogFile` on a file of complete records followed by at most one cut record, and the per-file maximum epoch (C11).
Core-only. -/
namespace F3.Wal
variable {α β γ : Type}

theorem Codec.Ok.dec1_nil {c : Codec α β} (h : c.Ok) : c.dec1 [] = none := by
  cases hd : c.dec1 [] with
  | none => rfl
  | some p =>
    have := h.torn p.1 0 (List.length_pos_iff.mpr (h.nonempty p.1))
    simp [hd] at this

theorem encAll_nil (c : Codec α β) : encAll c [] = [] := rfl

theorem encAll_cons (c : Codec α β) (e : α) (es : List α) : encAll c (e :: es) = c.enc e ++ encAll c es := by
  simp [encAll]

theorem encAll_append (c : Codec α β) (es fs : List α) : encAll c (es ++ fs) = encAll c es ++ encAll c fs := by
  simp [encAll]

theorem encAll_singleton (c : Codec α β) (e : α) : encAll c [e] = c.enc e := by
  simp [encAll]

/-- The reader `d` reads what `c` writes, seeing a record `e` as `f e`: the codec facts of `Codec.Ok` for a
reader that need not be `c.dec1` (the deployed reader is `c.dec1` without its re-check, `f` forgets the
checked fact). -/
structure Codec.Reads (c : Codec α β) (d : Codec γ β) (f : α → γ) : Prop where
  nil : d.dec1 [] = none
  roundtrip : ∀ e rest, d.dec1 (c.enc e ++ rest) = some (f e, rest)
  torn : ∀ e n, n < (c.enc e).length → d.dec1 ((c.enc e).take n) = none

theorem Codec.Ok.reads {c : Codec α β} (h : c.Ok) : c.Reads c id := ⟨h.dec1_nil, h.roundtrip, h.torn⟩

section Reads
variable {c : Codec α β} {d : Codec γ β} {f : α → γ}

/-- The decode loop consumes a well-formed prefix record by record. -/
theorem decAll_append (h : c.Reads d f) (es : List α) (t : List β) (n : Nat) :
    decAll d (es.length + n) (encAll c es ++ t) = es.map f ++ decAll d n t := by
  induction es with
  | nil => simp [encAll]
  | cons e es ih =>
    have : (e :: es).length + n = (es.length + n) + 1 := by simp; omega
    rw [this, encAll_cons, List.append_assoc]
    simp only [decAll, h.roundtrip]
    rw [ih]; rfl

theorem decAll_nil (h : c.Reads d f) (n : Nat) : decAll d n [] = [] := by
  cases n with
  | zero => rfl
  | succ n => simp [decAll, h.nil]

theorem decAll_torn (h : c.Reads d f) (e : α) (k n : Nat) (hk : k < (c.enc e).length) :
    decAll d n ((c.enc e).take k) = [] := by
  cases n with
  | zero => rfl
  | succ n => simp [decAll, h.torn e k hk]

/-- the fuel of `readFile` suffices: every record is at least one token long -/
theorem readFile_fuel (hne : ∀ e, c.enc e ≠ []) (es : List α) (t : List β) :
    ∃ n, (encAll c es ++ t).length + 1 = es.length + (n + 1) := by
  have hl : es.length ≤ (encAll c es).length := by
    induction es with
    | nil => exact Nat.zero_le _
    | cons e es ih =>
      rw [encAll_cons, List.length_append, List.length_cons]
      have := List.length_pos_iff.mpr (hne e)
      omega
  exact ⟨(encAll c es ++ t).length - es.length, by rw [List.length_append] at *; omega⟩

/-- A file holding complete records followed by the first `k` tokens of one more record reads back the
complete records, and the last one too when it is all there. -/
theorem readFile_reads_take (h : c.Reads d f) (hne : ∀ e, c.enc e ≠ []) (es : List α) (e : α) (k : Nat) :
    readFile d (encAll c es ++ (c.enc e).take k) =
      if k < (c.enc e).length then es.map f else (es ++ [e]).map f := by
  unfold readFile
  split
  · next hk =>
    obtain ⟨n, hn⟩ := readFile_fuel hne es ((c.enc e).take k)
    rw [hn, decAll_append h, decAll_torn h e k _ hk, List.append_nil]
  · next hk =>
    rw [List.take_of_length_le (by omega), ← encAll_singleton c e, ← encAll_append,
      ← List.append_nil (encAll c (es ++ [e]))]
    obtain ⟨n, hn⟩ := readFile_fuel hne (es ++ [e]) []
    rw [hn, decAll_append h, decAll_nil h, List.append_nil]

theorem readFile_reads (h : c.Reads d f) (hne : ∀ e, c.enc e ≠ []) (es : List α) :
    readFile d (encAll c es) = es.map f := by
  unfold readFile
  obtain ⟨n, hn⟩ := readFile_fuel hne es []
  rw [List.append_nil] at hn
  rw [hn, ← List.append_nil (encAll c es), decAll_append h, decAll_nil h, List.append_nil]

end Reads

theorem readFile_encAll {c : Codec α β} (h : c.Ok) (es : List α) : readFile c (encAll c es) = es := by
  rw [readFile_reads h.reads h.nonempty, List.map_id]

theorem readFile_encAll_take {c : Codec α β} (h : c.Ok) (es : List α) (e : α) (k : Nat) :
    readFile c (encAll c es ++ (c.enc e).take k) = if k < (c.enc e).length then es else es ++ [e] := by
  rw [readFile_reads_take h.reads h.nonempty, List.map_id, List.map_id]

theorem maxEpochOf_append (cfg : Cfg α β) (es : List α) (e : α) :
    maxEpochOf cfg (es ++ [e]) = max (maxEpochOf cfg es) (cfg.epoch e) := by
  simp [maxEpochOf, List.foldl_append]

theorem foldl_max_ge (f : α → Nat) (es : List α) (a : Nat) : a ≤ es.foldl (fun a e => max a (f e)) a := by
  induction es generalizing a with
  | nil => simp
  | cons e es ih => simp only [List.foldl_cons]; exact Nat.le_trans (Nat.le_max_left _ _) (ih _)

theorem foldl_max_mem (f : α → Nat) (es : List α) (a : Nat) (e : α) (he : e ∈ es) :
    f e ≤ es.foldl (fun a e => max a (f e)) a := by
  induction es generalizing a with
  | nil => cases he
  | cons x es ih =>
    simp only [List.foldl_cons]
    cases he with
    | head => exact Nat.le_trans (Nat.le_max_right _ _) (foldl_max_ge f es _)
    | tail _ h => exact ih _ h

theorem foldl_max_lt (f : α → Nat) (es : List α) (a k : Nat) (ha : a < k) (h : ∀ e ∈ es, f e < k) :
    es.foldl (fun a e => max a (f e)) a < k := by
  induction es generalizing a with
  | nil => simpa
  | cons x es ih =>
    simp only [List.foldl_cons]
    apply ih
    · have := h x (by simp); omega
    · intro e he; exact h e (by simp [he])

theorem maxEpochOf_lt_iff (cfg : Cfg α β) (es : List α) (k : Nat) (hk : 0 < k) :
    maxEpochOf cfg es < k ↔ ∀ e ∈ es, cfg.epoch e < k := by
  constructor
  · intro h e he
    exact Nat.lt_of_le_of_lt (foldl_max_mem cfg.epoch es 0 e he) h
  · intro h
    exact foldl_max_lt cfg.epoch es 0 k hk h

theorem le_maxEpochOf (cfg : Cfg α β) (es : List α) (e : α) (he : e ∈ es) : cfg.epoch e ≤ maxEpochOf cfg es :=
  foldl_max_mem cfg.epoch es 0 e he

end F3.Wal
