import F3.Proofs.NoFailure
/-!
# Failure-freedom, instance level: filing a message, `postReceive`, the instance `nfRule` of `StepRule`, `receiveOne`

Under the invariant no tally refuses a valid message (`not_unfiled`) and validation excludes the malformed ones
(`not_malformed`): the failing leaves of `receiveOne` do not occur.
-/
namespace F3.Instance

theorem andThen_nf {r : R} {f : State → R} (h1 : hasFailure r.2 = false) (h2 : NFOK (f r.1)) : NFOK (andThen r f) := by
  unfold andThen
  rw [if_neg (by simp [h1])]
  exact ⟨by simp [h1, h2.1], h2.2⟩

theorem NFx.setRound {s : State} (h : NFx s) (r : Nat) (rs : RoundState)
    (hd : TallyDisj rs.prepared ∧ TallyDisj rs.committed)
    (hcv : ∀ v, (∃ cv ∈ (s.getRound r).converged.values, cv.chain = v) → ∃ cv ∈ rs.converged.values, cv.chain = v) :
    NFx (s.setRound r rs) := by
  refine ⟨h.notInit, setRound_disj h.disjR r rs hd, h.disjD, h.baseCand, h.propCand, fun hc => ?_⟩
  rw [getRound_setRound]
  show ∃ cv ∈ (if s.round = r then rs else s.getRound s.round).converged.values, cv.chain = s.proposal
  split
  · rename_i e
    apply hcv
    rw [← e]; exact h.convSelf hc
  · exact h.convSelf hc

theorem skipState_sub (s : State) (round : Nat) (p : ConvVal) (x : Chain) (hx : x ∈ s.candidates) :
    x ∈ (skipState s round p).candidates := by
  unfold skipState
  dsimp only
  split
  · simp only
    apply addCandidate_sub
    split
    · exact addCandidatePrefixes_sub _ _ _ hx
    · exact hx
  · split
    · exact addCandidatePrefixes_sub _ _ _ hx
    · exact hx

theorem skipState_prop_cand {s : State} (round : Nat) (p : ConvVal) (h : NFI s)
    (hnd : s.phase ≠ .decide) (hnt : s.phase ≠ .terminated) :
    (skipState s round p).proposal ∈ (skipState s round p).candidates := by
  obtain ⟨hql, hqne⟩ := longest_prefix_facts s.quality s.input h.1.core.inputNe
  unfold skipState
  dsimp only
  split
  · simp only
    exact addCandidate_self _ _
  · split
    · simp only [addCandidatePrefixes_proposal]
      exact quality_prop_cand s _ _ hql hqne h.2.baseCand
    · rename_i hnq
      have hnq' : s.phase ≠ .quality := by simpa using hnq
      exact h.2.propCand (Phase.mid_of_ne h.2.notInit hnq' hnd hnt)

theorem postReceive_nf {s : State} (now : Int) (round : Nat) (h : NFI s) (hnt : s.phase ≠ .terminated) :
    NFOK (s.postReceive now round) := by
  rcases postReceive_eq s now round with heq | ⟨p, hp, hpne, hlt, hnd, heq⟩
  · rw [heq]; exact NFOK.nil h.2
  · rw [heq]
    obtain ⟨ht, hi, hr, hd, hrd, hph⟩ := skipState_fields s round p
    obtain ⟨hmem, _⟩ := findBest_mem _ _ _ hp
    obtain ⟨_, hcj⟩ := (getRound_ok h.1.core.rounds round).conv p hmem
    apply beginConverge_nf
    · rw [hrd]; exact hcj.2.1
    · rw [hr]; exact h.2.disjR
    · rw [hd]; exact h.2.disjD
    · rw [hi]; exact skipState_sub s round p _ h.2.baseCand
    · exact skipState_prop_cand round p h hnd hnt

/-- under the invariant a valid, accepted message is filed: no tally refuses it -/
theorem not_unfiled {s : State} {m : Msg} (h : NFI s) (hm : MsgValid WT s.tbl m) : ¬ Unfiled s m := by
  rintro (⟨_, hn⟩ | ⟨hph, hn | hnj⟩ | ⟨_, hn⟩)
  · obtain ⟨q0, hq0⟩ := receive_some s.tbl _ m.sender m.value (getRound_ok h.1.core.rounds m.round).prep.wf
    rw [hq0] at hn; cases hn
  · obtain ⟨q0, hq0⟩ := receive_some s.tbl _ m.sender m.value (getRound_ok h.1.core.rounds m.round).comm.wf
    rw [hq0] at hn; cases hn
  · have hsh := hm.2.2
    rw [hph] at hsh
    simp only [Bool.and_eq_true, Bool.not_eq_true', List.isEmpty_eq_false_iff, Option.isNone_iff_eq_none] at hnj
    obtain ⟨j, hj, _⟩ := hsh.2 hnj.1
    rw [hnj.2] at hj; cases hj
  · obtain ⟨q0, hq0⟩ := receive_some s.tbl _ m.sender m.value h.1.core.decision
    rw [hq0] at hn; cases hn

theorem not_malformed {t : Table} {m : Msg} (hm : MsgValid WT t m) : ¬ Malformed m := by
  have hsh := hm.2.2
  rintro (⟨hph, hb⟩ | hph | hph) <;> rw [hph] at hsh
  · obtain ⟨_, hne, j', hj', _⟩ := hsh
    rcases hb with he | hn
    · exact hne (by simpa using he)
    · rw [hn] at hj'; cases hj'
  · exact hsh
  · exact hsh

/-- filing keeps `NFx`: the tallies stay disjoint, CONVERGE values are kept -/
theorem Filed.nfx {s s1 : State} {m : Msg} (hf : Filed s m s1) (h : NFI s) : NFx s1 := by
  have hdj := getRound_disj h.2.disjR m.round
  cases hf with
  | quality _ => exact h.2.of_fields rfl rfl rfl rfl (fun x hx => hx) rfl rfl
  | converge j _ _ _ => exact h.2.setRound _ _ hdj fun v hv => Conv.receive_keeps _ _ _ _ _ v hv
  | prepare q _ hq =>
    exact h.2.setRound _ _ ⟨(receive_disj s.tbl _ q _ _ (getRound_ok h.1.core.rounds m.round).prep.wf hdj.1 hq).of_support
      (storePrepareJust_support q m), hdj.2⟩ fun v hv => hv
  | commit q _ hq _ =>
    exact h.2.setRound _ _ ⟨hdj.1, (receive_disj s.tbl _ q _ _ (getRound_ok h.1.core.rounds m.round).comm.wf hdj.2 hq).of_support
      (storeCommitJust_support q m)⟩ fun v hv => hv
  | decide q _ hq =>
    exact ⟨h.2.notInit, h.2.disjR, receive_disj s.tbl _ q _ _ h.1.core.decision h.2.disjD hq, h.2.baseCand, h.2.propCand,
      h.2.convSelf⟩

/-- failure-freedom through one API call, on top of `gokRule` -/
theorem nfRule : StepRule NFI (MsgValid WT) fun s r => GOK WT 0 s r ∧ NFOK r where
  seq h1 ht hin h2 :=
    have h := h2 h1.2.1 (NFI.of_gok h1.1 h1.2)
    ⟨gokRule.seq h1.1 ht hin fun hnf _ => h.1, andThen_nf h1.2.1 h.2⟩
  skip hi := ⟨GOK.nil hi.1, NFOK.nil hi.2⟩
  malformed _ _ hv _ hm := absurd hm (not_malformed hv)
  panic _ hi hv _ hu := absurd hu (not_unfiled hi hv)
  filed hi hv hacc hf := ⟨gokRule.filed hi.1 hv hacc hf, rfl, hf.nfx hi⟩
  phase now hi := ⟨tryCurrentPhase_gok now hi.1, tryCurrentPhase_nf now hi⟩
  commit now round hi h5 := ⟨tryCommit_gok now round hi.1 h5, tryCommit_nf now round hi⟩
  toDecide {s} _ hi hv hph h5 := ⟨gokRule.toDecide hi.1 hv hph h5, by
    unfold State.skipToDecide State.resetReb
    exact ⟨by simp, hi.2.to_phase (by simp) (by simp) rfl rfl rfl (fun x hx => hx) (fun hm => by simp [Phase.mid] at hm)⟩⟩
  late {s} hi hnq := ⟨gokRule.late hi.1 hnq, rfl, by
    unfold State.updateCandidatesFromQuality
    exact hi.2.of_fields (by simp) (by simp) (by simp) (by simp) (fun x hx => addCandidatePrefixes_sub _ _ _ hx)
      (by simp) (by simp)⟩
  post now round hi hnt := ⟨postReceive_gok now round hi.1 hnt, postReceive_nf now round hi hnt⟩

theorem receiveOne_nf {s : State} (now : Int) (m : Msg) (h : NFI s) (hm : MsgValid WT s.tbl m) :
    (∃ k, s.recvPre m = .reject k ∧ (s.receiveOne now m).1 = (s, [.err k])) ∨
    (hasFailure (s.receiveOne now m).1.2 = false ∧ NFI (s.receiveOne now m).1.1) := by
  by_cases hr : ∃ k, s.recvPre m = .reject k
  · obtain ⟨k, hk⟩ := hr
    exact .inl ⟨k, hk, by simp only [State.receiveOne, hk]⟩
  · have hok := nfRule.receiveOne now m h hm fun k hk => absurd ⟨k, hk⟩ hr
    exact .inr ⟨hok.2.1, NFI.of_gok hok.1 hok.2⟩

end F3.Instance
