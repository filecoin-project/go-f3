import F3.Proofs.NoFailureParticipant
import F3.Proofs.ParticipantBridge
/-!
# Failure-freedom and the bridge to Layer A, participant API

`ValidRunP` is `HonestRunP` without the `ok` field (`okRunP`), which `F3.Instance.prun_ok` proves; the hypothesis
on delivered messages is `PMsgOK` (of this instance; validated unless the supplemental data differ).
-/
namespace F3.Bridge
open F3 F3.Instance

/-- one honest participant's execution at the participant API, without any assumption on reported errors -/
structure ValidRunP (W : Votes) (t : Table) (p : Pid) where
  cfg : Cfg
  input : Chain
  order : List Pid
  ops : List POp
  inputNe : input ≠ []
  /-- the participant hands the instance (and its pre-start queue) messages of this instance only, validated (C05)
  unless their supplemental data are not the instance's -/
  valid : ∀ op ∈ ops, POpP (PMsgOK W t) op
  own : ∀ r ph v, W p r ph v ↔ ∃ tk j, Eff.broadcast r ph v tk j ∈ (prun order (pinit cfg t input) ops).2

def ValidRunP.toHonest {W : Votes} {t : Table} {p : Pid} (vr : ValidRunP W t p) (hT : 0 < t.total) : HonestRunP W t p where
  cfg := vr.cfg
  input := vr.input
  order := vr.order
  ops := vr.ops
  inputNe := vr.inputNe
  valid := by
    intro op hop
    have := vr.valid op hop
    cases op with
    | recv now m => exact PMsgOK.foreign_or this
    | alarm _ => exact Or.inr trivial
  ok := prun_ok vr.cfg t vr.input W vr.order vr.ops vr.inputNe hT vr.valid
  own := vr.own

structure NetworkVP (t : Table) (F : Finset Pid) (W : Votes) where
  idsNodup : (ids t).Nodup
  totalPos : 0 < t.total
  faultBound : 3 * (world t F W).power F < (world t F W).T
  nonMembers : ∀ p, p ∉ (ids t).toFinset → ∀ r ph v, ¬ W p r ph v
  runs : ∀ p, p ∈ (ids t).toFinset → p ∉ F → ValidRunP W t p

def NetworkVP.toNetworkP {t : Table} {F : Finset Pid} {W : Votes} (N : NetworkVP t F W) : NetworkP t F W where
  idsNodup := N.idsNodup
  totalPos := N.totalPos
  faultBound := N.faultBound
  nonMembers := N.nonMembers
  runs := fun p hp hF => (N.runs p hp hF).toHonest N.totalPos

def pmsgOKB (votes : List Vote) (t : Table) : POp → Bool
  | .recv _ m => m.instOk && (!m.suppOk || msgValidB votes t m)
  | _ => true

theorem pmsgOKB_sound (votes : List Vote) (t : Table) (ops : List POp)
    (h : ops.all (pmsgOKB votes t) = true) : ∀ op ∈ ops, POpP (PMsgOK (Wof votes) t) op := by
  intro op hop
  have := List.all_eq_true.1 h op hop
  cases op with
  | recv now m =>
    simp only [pmsgOKB, Bool.and_eq_true, Bool.or_eq_true, Bool.not_eq_true'] at this
    exact ⟨this.1, this.2.imp id (msgValidB_sound votes t m)⟩
  | alarm _ => trivial

def exRunVP (p : Pid) (hp : p = 1 ∨ p = 2 ∨ p = 3) : ValidRunP exW exTbl p where
  cfg := exCfg
  input := [7, 8]
  order := exOrder
  ops := exPOps
  inputNe := by decide
  valid := pmsgOKB_sound exVotes exTbl exPOps (by decide)
  own := (exRunP p hp).own

def exNetVP : NetworkVP exTbl exF exW where
  idsNodup := exNet.idsNodup
  totalPos := exNet.totalPos
  faultBound := exNet.faultBound
  nonMembers := exNet.nonMembers
  runs := fun p hp hF => exRunVP p (by
    rw [ex_ids] at hp
    simp only [Finset.mem_insert, Finset.mem_singleton, exF] at hp hF
    rcases hp with h | h | h | h
    · exact Or.inl h
    · exact Or.inr (Or.inl h)
    · exact Or.inr (Or.inr h)
    · exact absurd h hF)

theorem ex_networkVP_decides :
    ∃ d, (prun (exNetVP.runs 1 (by decide) (by decide)).order
        (pinit (exNetVP.runs 1 (by decide) (by decide)).cfg exTbl (exNetVP.runs 1 (by decide) (by decide)).input)
        (exNetVP.runs 1 (by decide) (by decide)).ops).1.inst.termination = some d ∧ d.value = [7, 8] :=
  ⟨{ round := 0, phase := .decide, value := [7, 8], signers := [0, 1, 2] }, by decide +kernel, rfl⟩

end F3.Bridge
