import F3.Proofs.StoreObserve
/-! Whole histories of handle operations refine the abstract history. -/
namespace F3.Store

/-- Operations on an open store. -/
inductive HOp where
  | put (c : Cert)
  | reopen (o : Orders)        -- drop the handle, `OpenStore`
  | sub
  | recv (i : Nat)
  | unsub (i : Nat)

/-- One operation of the model on (datastore, handle). -/
def stepH (cfg : Cfg) (w : DS × Mem) : HOp → DS × Mem
  | .put c =>
    match (put cfg w.2 c).res with
    | .ok m' => (applyWs w.1 (put cfg w.2 c).ws, m')
    | .error _ => (applyWs w.1 (put cfg w.2 c).ws, w.2)
  | .reopen o =>
    match (openStore cfg w.1 o).res with
    | .ok m' => (applyWs w.1 (openStore cfg w.1 o).ws, m')
    | .error _ => (applyWs w.1 (openStore cfg w.1 o).ws, w.2)
  | .sub => (w.1, (subscribe w.2).1)
  | .recv i => (w.1, match recv w.2 i with | some (m', _) => m' | none => w.2)
  | .unsub i => (w.1, unsubscribe w.2 i)

/-- The same operation on the abstract history. -/
def specStepH (sp : Spec) : HOp → Spec
  | .put c => sp.put c
  | _ => sp

structure Inv (cfg : Cfg) (w : DS × Mem) (sp : Spec) : Prop where
  repr : Repr cfg.freq w.1 sp
  mem : MemOk w.2 sp
  subs : SubsOk w.2

theorem subsOk_subscribe {m : Mem} (hs : SubsOk m) : SubsOk (subscribe m).1 := by
  intro s hs'
  simp only [subscribe, List.mem_append, List.mem_singleton] at hs'
  rcases hs' with h | h
  · exact hs s h
  · subst h
    cases m.latest <;> simp

theorem subsOk_recv {m m' : Mem} {i : Nat} {c : Option Cert} (hs : SubsOk m) (h : recv m i = some (m', c)) : SubsOk m' := by
  unfold recv at h
  split at h
  · cases h
  · cases h
    intro s hs'
    simp only [List.mem_map] at hs'
    obtain ⟨s0, hs0, rfl⟩ := hs'
    have h0 := hs s0 hs0
    split
    · simp only [chanDrain, List.length_drop]; omega
    · exact h0

theorem subsOk_unsubscribe {m : Mem} (hs : SubsOk m) (i : Nat) : SubsOk (unsubscribe m i) := by
  intro s hs'
  exact hs s (List.mem_filter.1 hs').1

theorem memOk_of_fields {m m' : Mem} {sp : Spec} (h : MemOk m sp) (h1 : m'.first = m.first) (h2 : m'.latest = m.latest)
    (h3 : m'.latestTable = m.latestTable) : MemOk m' sp :=
  ⟨h1.trans h.first, h2.trans h.latest, by rw [h3]; exact h.table⟩

theorem inv_step (cfg : Cfg) (hu : cfg.openFreq = cfg.freq) {w : DS × Mem} {sp : Spec} (h : Inv cfg w sp)
    (hsmall : sp.certs.length + 1 < maxInt) (op : HOp) : Inv cfg (stepH cfg w op) (specStepH sp op) := by
  cases op with
  | put c =>
    have hp := put_refines' cfg h.repr h.mem h.subs hsmall c
    cases hres : (put cfg w.2 c).res with
    | ok m' =>
      rw [hres] at hp
      simp only [stepH, specStepH, hres]
      exact ⟨hp.1, hp.2.1, hp.2.2⟩
    | error e =>
      rw [hres] at hp
      simp only at hp
      simp only [stepH, specStepH, hres]
      refine ⟨hp.1, ?_, h.subs⟩
      rw [hp.2]; exact h.mem
  | reopen o =>
    obtain ⟨T, hT, hopen⟩ := openStore_repr cfg o h.repr (Or.inl hu)
    simp only [stepH, specStepH, hopen, applyWs_nil]
    exact ⟨h.repr, memOk_memOf hT, subsOk_memOf sp T⟩
  | sub =>
    exact ⟨h.repr, memOk_of_fields h.mem rfl rfl rfl, subsOk_subscribe h.subs⟩
  | recv i =>
    simp only [stepH, specStepH]
    cases hr : recv w.2 i with
    | none => exact h
    | some p =>
      obtain ⟨m', c⟩ := p
      refine ⟨h.repr, ?_, subsOk_recv h.subs hr⟩
      unfold recv at hr
      split at hr
      · cases hr
      · cases hr; exact memOk_of_fields h.mem rfl rfl rfl
  | unsub i =>
    exact ⟨h.repr, memOk_of_fields h.mem rfl rfl rfl, subsOk_unsubscribe h.subs i⟩

theorem inv_run (cfg : Cfg) (hu : cfg.openFreq = cfg.freq) (ops : List HOp) {w : DS × Mem} {sp : Spec} (h : Inv cfg w sp)
    (hsmall : sp.certs.length + ops.length < maxInt) :
    Inv cfg (ops.foldl (stepH cfg) w) (ops.foldl specStepH sp) := by
  induction ops generalizing w sp with
  | nil => exact h
  | cons op r ih =>
    simp only [List.foldl_cons, List.length_cons] at hsmall ⊢
    refine ih (inv_step cfg hu h (by omega) op) ?_
    have : (specStepH sp op).certs.length ≤ sp.certs.length + 1 := by
      cases op <;> simp only [specStepH, Nat.le_succ]
      unfold Spec.put; split <;> simp [Spec.push_certs]
    omega

end F3.Store
