import F3.Proofs.InstanceTrans
/-! What each function of the instance model does.

* Functions that touch few fields: an equation `(f s ..).1 = { s with .. }` listing the fields that may change
  (`*_fst`). The per-field lemmas and the frame `FrameD` (table, config, input, decision tally and termination value
  stay) are read off it.
* Functions with a tree of cases (`tryRebroadcast`, `tryQuality` .. `tryDecide`, `tryCurrentPhase`, `postReceive`,
  the `recv*` handlers, `recvPre`, `receiveOne`, the `Receive` step): a case principle `*_ind`: a property holds of the
  result if it holds of each shape the result can take; every leaf comes with the conditions of its branch and the
  equations of what it generalises. Use: `refine X_ind s now ?_ ?_ ..` (or `exact X_ind s now (fun .. => ..) ..`) on a
  goal about `s.X now`; the motive is read off the goal; unused leaf hypotheses are `_`. For a single branch there are
  the conditional equations `tryCurrentPhase_quality` .., `receiveOne_prepare` .., `beginQuality_eq`. -/
namespace F3.Instance

structure FrameD (s s' : State) : Prop where
  tbl : s'.tbl = s.tbl
  cfg : s'.cfg = s.cfg
  input : s'.input = s.input
  decision : s'.decision = s.decision
  termination : s'.termination = s.termination

theorem FrameD.refl (s : State) : FrameD s s := ⟨rfl, rfl, rfl, rfl, rfl⟩
theorem FrameD.trans {a b c : State} (h1 : FrameD a b) (h2 : FrameD b c) : FrameD a c :=
  ⟨h2.tbl.trans h1.tbl, h2.cfg.trans h1.cfg, h2.input.trans h1.input, h2.decision.trans h1.decision,
   h2.termination.trans h1.termination⟩
theorem FrameD.of_eq {s s' t : State} (h : s' = t) (ht : FrameD s t) : FrameD s s' := h ▸ ht

theorem addCandidate_fst (s : State) (c : Chain) : ∃ cs, (s.addCandidate c).1 = { s with candidates := cs } := by
  unfold State.addCandidate
  split
  · exact ⟨s.candidates, rfl⟩
  · exact ⟨_, rfl⟩

theorem addCandidate_frame (s : State) (c : Chain) : FrameD s (s.addCandidate c).1 :=
  let ⟨_, h⟩ := addCandidate_fst s c; .of_eq h ⟨rfl, rfl, rfl, rfl, rfl⟩
@[simp] theorem addCandidate_tbl (s : State) (c : Chain) : (s.addCandidate c).1.tbl = s.tbl := (addCandidate_frame s c).tbl
@[simp] theorem addCandidate_cfg (s : State) (c : Chain) : (s.addCandidate c).1.cfg = s.cfg := (addCandidate_frame s c).cfg
@[simp] theorem addCandidate_input (s : State) (c : Chain) : (s.addCandidate c).1.input = s.input := (addCandidate_frame s c).input
@[simp] theorem addCandidate_decision (s : State) (c : Chain) : (s.addCandidate c).1.decision = s.decision := (addCandidate_frame s c).decision
@[simp] theorem addCandidate_termination (s : State) (c : Chain) : (s.addCandidate c).1.termination = s.termination := (addCandidate_frame s c).termination
@[simp] theorem addCandidate_rounds (s : State) (c : Chain) : (s.addCandidate c).1.rounds = s.rounds := by
  obtain ⟨_, h⟩ := addCandidate_fst s c; rw [h]
@[simp] theorem addCandidate_proposal (s : State) (c : Chain) : (s.addCandidate c).1.proposal = s.proposal := by
  obtain ⟨_, h⟩ := addCandidate_fst s c; rw [h]
@[simp] theorem addCandidate_quality (s : State) (c : Chain) : (s.addCandidate c).1.quality = s.quality := by
  obtain ⟨_, h⟩ := addCandidate_fst s c; rw [h]
@[simp] theorem addCandidate_round (s : State) (c : Chain) : (s.addCandidate c).1.round = s.round := by
  obtain ⟨_, h⟩ := addCandidate_fst s c; rw [h]
@[simp] theorem addCandidate_phase (s : State) (c : Chain) : (s.addCandidate c).1.phase = s.phase := by
  obtain ⟨_, h⟩ := addCandidate_fst s c; rw [h]

theorem ite_ind {α} {P : α → Prop} {c : Prop} [Decidable c] {a b : α} (ha : P a) (hb : P b) :
    P (if c then a else b) := by
  split <;> assumption

theorem ite_cases {α} {P : α → Prop} {c : Prop} [Decidable c] {a b : α} (ha : c → P a) (hb : ¬c → P b) :
    P (if c then a else b) := by
  split
  · exact ha ‹_›
  · exact hb ‹_›

theorem ite_casesB {α} {P : α → Prop} {c : Bool} {a b : α} (ha : c = true → P a) (hb : c = false → P b) :
    P (if c = true then a else b) := by
  cases c
  · exact hb rfl
  · exact ha rfl

@[elab_as_elim]
theorem tryRebroadcast_ind {P : R → Prop} (s : State) (now : Int)
    (h0 : ∀ rt ra, P ({ s with rebTimeout := rt, rebAttempts := ra }, []))
    (h1 : ∀ rt ra t, P ({ s with rebTimeout := rt, rebAttempts := ra }, [.setAlarm t]))
    (h2 : ∀ rt ra t, P ({ s with rebTimeout := rt, rebAttempts := ra }, rebroadcastEffs s ++ [.setAlarm t])) :
    P (s.tryRebroadcast now) := by
  -- the tree of `if`s of the definition, leaf by leaf
  unfold State.tryRebroadcast
  cases s.rebTimeout with
  | none =>
    exact ite_ind (ite_ind (h1 _ _ _) (ite_ind (h1 _ _ _) (h0 _ _)))
      (ite_ind (h2 _ _ _) (ite_ind (h2 _ _ _) (h2 _ _ _)))
  | some rt0 => exact ite_ind (ite_ind (h2 _ _ _) (ite_ind (h2 _ _ _) (h2 _ _ _))) (h0 _ _)

theorem tryRebroadcast_fst (s : State) (now : Int) :
    ∃ rt ra, (s.tryRebroadcast now).1 = { s with rebTimeout := rt, rebAttempts := ra } :=
  tryRebroadcast_ind s now
    (fun _ _ => ⟨_, _, rfl⟩) (fun _ _ _ => ⟨_, _, rfl⟩) (fun _ _ _ => ⟨_, _, rfl⟩)

theorem tryRebroadcast_frame (s : State) (now : Int) : FrameD s (s.tryRebroadcast now).1 :=
  let ⟨_, _, h⟩ := tryRebroadcast_fst s now; .of_eq h ⟨rfl, rfl, rfl, rfl, rfl⟩
@[simp] theorem tryRebroadcast_tbl (s : State) (now : Int) : (s.tryRebroadcast now).1.tbl = s.tbl := (tryRebroadcast_frame s now).tbl
@[simp] theorem tryRebroadcast_cfg (s : State) (now : Int) : (s.tryRebroadcast now).1.cfg = s.cfg := (tryRebroadcast_frame s now).cfg
@[simp] theorem tryRebroadcast_input (s : State) (now : Int) : (s.tryRebroadcast now).1.input = s.input := (tryRebroadcast_frame s now).input
@[simp] theorem tryRebroadcast_decision (s : State) (now : Int) : (s.tryRebroadcast now).1.decision = s.decision := (tryRebroadcast_frame s now).decision
@[simp] theorem tryRebroadcast_termination (s : State) (now : Int) : (s.tryRebroadcast now).1.termination = s.termination := (tryRebroadcast_frame s now).termination
@[simp] theorem tryRebroadcast_rounds (s : State) (now : Int) : (s.tryRebroadcast now).1.rounds = s.rounds := by
  obtain ⟨_, _, h⟩ := tryRebroadcast_fst s now; rw [h]
@[simp] theorem tryRebroadcast_candidates (s : State) (now : Int) : (s.tryRebroadcast now).1.candidates = s.candidates := by
  obtain ⟨_, _, h⟩ := tryRebroadcast_fst s now; rw [h]
@[simp] theorem tryRebroadcast_proposal (s : State) (now : Int) : (s.tryRebroadcast now).1.proposal = s.proposal := by
  obtain ⟨_, _, h⟩ := tryRebroadcast_fst s now; rw [h]
@[simp] theorem tryRebroadcast_quality (s : State) (now : Int) : (s.tryRebroadcast now).1.quality = s.quality := by
  obtain ⟨_, _, h⟩ := tryRebroadcast_fst s now; rw [h]

theorem beginQuality_fst (s : State) (now : Int) : ∃ ph pt rt ra,
    (s.beginQuality now).1 = { s with phase := ph, phaseTimeout := pt, rebTimeout := rt, rebAttempts := ra } := by
  unfold State.beginQuality
  split <;> exact ⟨_, _, _, _, rfl⟩

theorem beginQuality_frame (s : State) (now : Int) : FrameD s (s.beginQuality now).1 :=
  let ⟨_, _, _, _, h⟩ := beginQuality_fst s now; .of_eq h ⟨rfl, rfl, rfl, rfl, rfl⟩
@[simp] theorem beginQuality_tbl (s : State) (now : Int) : (s.beginQuality now).1.tbl = s.tbl := (beginQuality_frame s now).tbl
@[simp] theorem beginQuality_cfg (s : State) (now : Int) : (s.beginQuality now).1.cfg = s.cfg := (beginQuality_frame s now).cfg
@[simp] theorem beginQuality_input (s : State) (now : Int) : (s.beginQuality now).1.input = s.input := (beginQuality_frame s now).input
@[simp] theorem beginQuality_decision (s : State) (now : Int) : (s.beginQuality now).1.decision = s.decision := (beginQuality_frame s now).decision
@[simp] theorem beginQuality_termination (s : State) (now : Int) : (s.beginQuality now).1.termination = s.termination := (beginQuality_frame s now).termination
@[simp] theorem beginQuality_rounds (s : State) (now : Int) : (s.beginQuality now).1.rounds = s.rounds := by
  obtain ⟨_, _, _, _, h⟩ := beginQuality_fst s now; rw [h]
@[simp] theorem beginQuality_candidates (s : State) (now : Int) : (s.beginQuality now).1.candidates = s.candidates := by
  obtain ⟨_, _, _, _, h⟩ := beginQuality_fst s now; rw [h]
@[simp] theorem beginQuality_proposal (s : State) (now : Int) : (s.beginQuality now).1.proposal = s.proposal := by
  obtain ⟨_, _, _, _, h⟩ := beginQuality_fst s now; rw [h]
@[simp] theorem beginQuality_quality (s : State) (now : Int) : (s.beginQuality now).1.quality = s.quality := by
  obtain ⟨_, _, _, _, h⟩ := beginQuality_fst s now; rw [h]

theorem beginPrepare_frame (s : State) (now : Int) (j : Option Just) : FrameD s (s.beginPrepare now j).1 :=
  ⟨rfl, rfl, rfl, rfl, rfl⟩
@[simp] theorem beginPrepare_tbl (s : State) (now : Int) (j : Option Just) : (s.beginPrepare now j).1.tbl = s.tbl := (beginPrepare_frame s now j).tbl
@[simp] theorem beginPrepare_cfg (s : State) (now : Int) (j : Option Just) : (s.beginPrepare now j).1.cfg = s.cfg := (beginPrepare_frame s now j).cfg
@[simp] theorem beginPrepare_input (s : State) (now : Int) (j : Option Just) : (s.beginPrepare now j).1.input = s.input := (beginPrepare_frame s now j).input
@[simp] theorem beginPrepare_decision (s : State) (now : Int) (j : Option Just) : (s.beginPrepare now j).1.decision = s.decision := (beginPrepare_frame s now j).decision
@[simp] theorem beginPrepare_termination (s : State) (now : Int) (j : Option Just) : (s.beginPrepare now j).1.termination = s.termination := (beginPrepare_frame s now j).termination
@[simp] theorem beginPrepare_rounds (s : State) (now : Int) (j : Option Just) : (s.beginPrepare now j).1.rounds = s.rounds := rfl
@[simp] theorem beginPrepare_candidates (s : State) (now : Int) (j : Option Just) : (s.beginPrepare now j).1.candidates = s.candidates := rfl
@[simp] theorem beginPrepare_proposal (s : State) (now : Int) (j : Option Just) : (s.beginPrepare now j).1.proposal = s.proposal := rfl
@[simp] theorem beginPrepare_quality (s : State) (now : Int) (j : Option Just) : (s.beginPrepare now j).1.quality = s.quality := rfl

theorem beginCommit_fst (s : State) (now : Int) : (s.beginCommit now).1 =
    { s with phase := .commit, phaseTimeout := now + s.roundTimeout, rebTimeout := none, rebAttempts := 0 } := by
  unfold State.beginCommit
  dsimp only
  split
  · rfl
  · split <;> rfl

theorem beginCommit_frame (s : State) (now : Int) : FrameD s (s.beginCommit now).1 :=
  .of_eq (beginCommit_fst s now) ⟨rfl, rfl, rfl, rfl, rfl⟩
@[simp] theorem beginCommit_tbl (s : State) (now : Int) : (s.beginCommit now).1.tbl = s.tbl := (beginCommit_frame s now).tbl
@[simp] theorem beginCommit_cfg (s : State) (now : Int) : (s.beginCommit now).1.cfg = s.cfg := (beginCommit_frame s now).cfg
@[simp] theorem beginCommit_input (s : State) (now : Int) : (s.beginCommit now).1.input = s.input := (beginCommit_frame s now).input
@[simp] theorem beginCommit_decision (s : State) (now : Int) : (s.beginCommit now).1.decision = s.decision := (beginCommit_frame s now).decision
@[simp] theorem beginCommit_termination (s : State) (now : Int) : (s.beginCommit now).1.termination = s.termination := (beginCommit_frame s now).termination
@[simp] theorem beginCommit_rounds (s : State) (now : Int) : (s.beginCommit now).1.rounds = s.rounds := by
  rw [beginCommit_fst]
@[simp] theorem beginCommit_candidates (s : State) (now : Int) : (s.beginCommit now).1.candidates = s.candidates := by
  rw [beginCommit_fst]
@[simp] theorem beginCommit_proposal (s : State) (now : Int) : (s.beginCommit now).1.proposal = s.proposal := by
  rw [beginCommit_fst]
@[simp] theorem beginCommit_quality (s : State) (now : Int) : (s.beginCommit now).1.quality = s.quality := by
  rw [beginCommit_fst]

theorem beginConverge_fst (s : State) (now : Int) (j : Just) : ∃ ph rs pt rt ra, (s.beginConverge now j).1 =
    { s with phase := ph, rounds := rs, phaseTimeout := pt, rebTimeout := rt, rebAttempts := ra } := by
  unfold State.beginConverge
  split <;> exact ⟨_, _, _, _, _, rfl⟩

theorem beginConverge_frame (s : State) (now : Int) (j : Just) : FrameD s (s.beginConverge now j).1 :=
  let ⟨_, _, _, _, _, h⟩ := beginConverge_fst s now j; .of_eq h ⟨rfl, rfl, rfl, rfl, rfl⟩
@[simp] theorem beginConverge_tbl (s : State) (now : Int) (j : Just) : (s.beginConverge now j).1.tbl = s.tbl := (beginConverge_frame s now j).tbl
@[simp] theorem beginConverge_cfg (s : State) (now : Int) (j : Just) : (s.beginConverge now j).1.cfg = s.cfg := (beginConverge_frame s now j).cfg
@[simp] theorem beginConverge_input (s : State) (now : Int) (j : Just) : (s.beginConverge now j).1.input = s.input := (beginConverge_frame s now j).input
@[simp] theorem beginConverge_decision (s : State) (now : Int) (j : Just) : (s.beginConverge now j).1.decision = s.decision := (beginConverge_frame s now j).decision
@[simp] theorem beginConverge_termination (s : State) (now : Int) (j : Just) : (s.beginConverge now j).1.termination = s.termination := (beginConverge_frame s now j).termination
@[simp] theorem beginConverge_candidates (s : State) (now : Int) (j : Just) : (s.beginConverge now j).1.candidates = s.candidates := by
  obtain ⟨_, _, _, _, _, h⟩ := beginConverge_fst s now j; rw [h]
@[simp] theorem beginConverge_proposal (s : State) (now : Int) (j : Just) : (s.beginConverge now j).1.proposal = s.proposal := by
  obtain ⟨_, _, _, _, _, h⟩ := beginConverge_fst s now j; rw [h]
@[simp] theorem beginConverge_quality (s : State) (now : Int) (j : Just) : (s.beginConverge now j).1.quality = s.quality := by
  obtain ⟨_, _, _, _, _, h⟩ := beginConverge_fst s now j; rw [h]

theorem beginDecide_fst (s : State) (r : Nat) :
    (s.beginDecide r).1 = { s with phase := .decide, rebTimeout := none, rebAttempts := 0 } := by
  unfold State.beginDecide
  dsimp only
  split <;> rfl

theorem beginDecide_frame (s : State) (r : Nat) : FrameD s (s.beginDecide r).1 :=
  .of_eq (beginDecide_fst s r) ⟨rfl, rfl, rfl, rfl, rfl⟩
@[simp] theorem beginDecide_tbl (s : State) (r : Nat) : (s.beginDecide r).1.tbl = s.tbl := (beginDecide_frame s r).tbl
@[simp] theorem beginDecide_cfg (s : State) (r : Nat) : (s.beginDecide r).1.cfg = s.cfg := (beginDecide_frame s r).cfg
@[simp] theorem beginDecide_input (s : State) (r : Nat) : (s.beginDecide r).1.input = s.input := (beginDecide_frame s r).input
@[simp] theorem beginDecide_decision (s : State) (r : Nat) : (s.beginDecide r).1.decision = s.decision := (beginDecide_frame s r).decision
@[simp] theorem beginDecide_termination (s : State) (r : Nat) : (s.beginDecide r).1.termination = s.termination := (beginDecide_frame s r).termination
@[simp] theorem beginDecide_rounds (s : State) (r : Nat) : (s.beginDecide r).1.rounds = s.rounds := by
  rw [beginDecide_fst]
@[simp] theorem beginDecide_candidates (s : State) (r : Nat) : (s.beginDecide r).1.candidates = s.candidates := by
  rw [beginDecide_fst]
@[simp] theorem beginDecide_proposal (s : State) (r : Nat) : (s.beginDecide r).1.proposal = s.proposal := by
  rw [beginDecide_fst]
@[simp] theorem beginDecide_quality (s : State) (r : Nat) : (s.beginDecide r).1.quality = s.quality := by
  rw [beginDecide_fst]

theorem skipToDecide_frame (s : State) (v : Chain) (j : Option Just) : FrameD s (s.skipToDecide v j).1 :=
  ⟨rfl, rfl, rfl, rfl, rfl⟩
@[simp] theorem skipToDecide_tbl (s : State) (v : Chain) (j : Option Just) : (s.skipToDecide v j).1.tbl = s.tbl := (skipToDecide_frame s v j).tbl
@[simp] theorem skipToDecide_cfg (s : State) (v : Chain) (j : Option Just) : (s.skipToDecide v j).1.cfg = s.cfg := (skipToDecide_frame s v j).cfg
@[simp] theorem skipToDecide_input (s : State) (v : Chain) (j : Option Just) : (s.skipToDecide v j).1.input = s.input := (skipToDecide_frame s v j).input
@[simp] theorem skipToDecide_decision (s : State) (v : Chain) (j : Option Just) : (s.skipToDecide v j).1.decision = s.decision := (skipToDecide_frame s v j).decision
@[simp] theorem skipToDecide_termination (s : State) (v : Chain) (j : Option Just) : (s.skipToDecide v j).1.termination = s.termination := (skipToDecide_frame s v j).termination
@[simp] theorem skipToDecide_rounds (s : State) (v : Chain) (j : Option Just) : (s.skipToDecide v j).1.rounds = s.rounds := rfl
@[simp] theorem skipToDecide_candidates (s : State) (v : Chain) (j : Option Just) : (s.skipToDecide v j).1.candidates = s.candidates := rfl
@[simp] theorem skipToDecide_quality (s : State) (v : Chain) (j : Option Just) : (s.skipToDecide v j).1.quality = s.quality := rfl

theorem beginNextRound_fst (s : State) (now : Int) : ∃ ph rs pt rt ra, (s.beginNextRound now).1 =
    { s with round := s.round + 1, phase := ph, rounds := rs, phaseTimeout := pt, rebTimeout := rt,
             rebAttempts := ra } := by
  unfold State.beginNextRound
  dsimp only
  split
  · exact beginConverge_fst { s with round := s.round + 1 } now _
  · exact ⟨_, _, _, _, _, rfl⟩

theorem beginNextRound_frame (s : State) (now : Int) : FrameD s (s.beginNextRound now).1 :=
  let ⟨_, _, _, _, _, h⟩ := beginNextRound_fst s now; .of_eq h ⟨rfl, rfl, rfl, rfl, rfl⟩
@[simp] theorem beginNextRound_tbl (s : State) (now : Int) : (s.beginNextRound now).1.tbl = s.tbl := (beginNextRound_frame s now).tbl
@[simp] theorem beginNextRound_cfg (s : State) (now : Int) : (s.beginNextRound now).1.cfg = s.cfg := (beginNextRound_frame s now).cfg
@[simp] theorem beginNextRound_input (s : State) (now : Int) : (s.beginNextRound now).1.input = s.input := (beginNextRound_frame s now).input
@[simp] theorem beginNextRound_decision (s : State) (now : Int) : (s.beginNextRound now).1.decision = s.decision := (beginNextRound_frame s now).decision
@[simp] theorem beginNextRound_termination (s : State) (now : Int) : (s.beginNextRound now).1.termination = s.termination := (beginNextRound_frame s now).termination
@[simp] theorem beginNextRound_candidates (s : State) (now : Int) : (s.beginNextRound now).1.candidates = s.candidates := by
  obtain ⟨_, _, _, _, _, h⟩ := beginNextRound_fst s now; rw [h]
@[simp] theorem beginNextRound_proposal (s : State) (now : Int) : (s.beginNextRound now).1.proposal = s.proposal := by
  obtain ⟨_, _, _, _, _, h⟩ := beginNextRound_fst s now; rw [h]
@[simp] theorem beginNextRound_quality (s : State) (now : Int) : (s.beginNextRound now).1.quality = s.quality := by
  obtain ⟨_, _, _, _, _, h⟩ := beginNextRound_fst s now; rw [h]

theorem addCandidatePrefixes_fst (s : State) (c : Chain) :
    ∃ cs, (s.addCandidatePrefixes c).1 = { s with candidates := cs } := by
  unfold State.addCandidatePrefixes
  generalize (List.range (c.length - 1)).reverse.map (· + 1) = l
  suffices h : ∀ acc : State × Bool, (∃ cs, acc.1 = { s with candidates := cs }) →
      ∃ cs, (l.foldl (fun (acc : State × Bool) l =>
        let r := acc.1.addCandidate (prefixTo c l); (r.1, acc.2 || r.2)) acc).1 = { s with candidates := cs } from
    h (s, false) ⟨s.candidates, rfl⟩
  induction l with
  | nil => exact fun acc h => h
  | cons x xs ih =>
    intro acc ⟨cs, h⟩
    obtain ⟨cs', h'⟩ := addCandidate_fst acc.1 (prefixTo c x)
    exact ih _ ⟨cs', by rw [h', h]⟩

theorem addCandidatePrefixes_frame (s : State) (c : Chain) : FrameD s (s.addCandidatePrefixes c).1 :=
  let ⟨_, h⟩ := addCandidatePrefixes_fst s c; .of_eq h ⟨rfl, rfl, rfl, rfl, rfl⟩
@[simp] theorem addCandidatePrefixes_tbl (s : State) (c : Chain) : (s.addCandidatePrefixes c).1.tbl = s.tbl := (addCandidatePrefixes_frame s c).tbl
@[simp] theorem addCandidatePrefixes_cfg (s : State) (c : Chain) : (s.addCandidatePrefixes c).1.cfg = s.cfg := (addCandidatePrefixes_frame s c).cfg
@[simp] theorem addCandidatePrefixes_input (s : State) (c : Chain) : (s.addCandidatePrefixes c).1.input = s.input := (addCandidatePrefixes_frame s c).input
@[simp] theorem addCandidatePrefixes_decision (s : State) (c : Chain) : (s.addCandidatePrefixes c).1.decision = s.decision := (addCandidatePrefixes_frame s c).decision
@[simp] theorem addCandidatePrefixes_termination (s : State) (c : Chain) : (s.addCandidatePrefixes c).1.termination = s.termination := (addCandidatePrefixes_frame s c).termination
@[simp] theorem addCandidatePrefixes_rounds (s : State) (c : Chain) : (s.addCandidatePrefixes c).1.rounds = s.rounds := by
  obtain ⟨_, h⟩ := addCandidatePrefixes_fst s c; rw [h]
@[simp] theorem addCandidatePrefixes_proposal (s : State) (c : Chain) : (s.addCandidatePrefixes c).1.proposal = s.proposal := by
  obtain ⟨_, h⟩ := addCandidatePrefixes_fst s c; rw [h]
@[simp] theorem addCandidatePrefixes_quality (s : State) (c : Chain) : (s.addCandidatePrefixes c).1.quality = s.quality := by
  obtain ⟨_, h⟩ := addCandidatePrefixes_fst s c; rw [h]
@[simp] theorem addCandidatePrefixes_round (s : State) (c : Chain) : (s.addCandidatePrefixes c).1.round = s.round := by
  obtain ⟨_, h⟩ := addCandidatePrefixes_fst s c; rw [h]
@[simp] theorem addCandidatePrefixes_phase (s : State) (c : Chain) : (s.addCandidatePrefixes c).1.phase = s.phase := by
  obtain ⟨_, h⟩ := addCandidatePrefixes_fst s c; rw [h]

@[elab_as_elim]
theorem tryQuality_ind {P : R → Prop} (s : State) (now : Int)
    (herr : s.phase ≠ .quality → P (s, [.err .unexpectedPhase]))
    (hwait : s.phase = .quality → (s.quality.hasStrongFor s.proposal || s.phaseTimeoutElapsed now) = false → P (s, []))
    (hgo : s.phase = .quality → (s.quality.hasStrongFor s.proposal || s.phaseTimeoutElapsed now) = true → ∀ cs,
      (State.addCandidatePrefixes { s with proposal := s.quality.longestPrefixWithQuorum s.input }
        (s.quality.longestPrefixWithQuorum s.input)).1 =
        { s with proposal := s.quality.longestPrefixWithQuorum s.input, candidates := cs } →
      P (State.beginPrepare { s with proposal := s.quality.longestPrefixWithQuorum s.input, candidates := cs,
                                     value := s.quality.longestPrefixWithQuorum s.input } now none)) :
    P (s.tryQuality now) := by
  unfold State.tryQuality
  by_cases hph : s.phase = .quality
  · rw [if_neg (by simp [hph])]
    refine ite_casesB (fun hc => ?_) (hwait hph)
    dsimp only
    obtain ⟨cs, h⟩ := addCandidatePrefixes_fst { s with proposal := s.quality.longestPrefixWithQuorum s.input }
      (s.quality.longestPrefixWithQuorum s.input)
    rw [h]; exact hgo hph hc cs h
  · rw [if_pos (by simpa using hph)]; exact herr hph

theorem tryQuality_frame (s : State) (now : Int) : FrameD s (s.tryQuality now).1 :=
  tryQuality_ind s now (fun _ => .refl s) (fun _ _ => .refl s) fun _ _ _ _ => ⟨rfl, rfl, rfl, rfl, rfl⟩
@[simp] theorem tryQuality_tbl (s : State) (now : Int) : (s.tryQuality now).1.tbl = s.tbl := (tryQuality_frame s now).tbl
@[simp] theorem tryQuality_cfg (s : State) (now : Int) : (s.tryQuality now).1.cfg = s.cfg := (tryQuality_frame s now).cfg
@[simp] theorem tryQuality_input (s : State) (now : Int) : (s.tryQuality now).1.input = s.input := (tryQuality_frame s now).input
@[simp] theorem tryQuality_decision (s : State) (now : Int) : (s.tryQuality now).1.decision = s.decision := (tryQuality_frame s now).decision
@[simp] theorem tryQuality_termination (s : State) (now : Int) : (s.tryQuality now).1.termination = s.termination := (tryQuality_frame s now).termination

@[elab_as_elim]
theorem tryConverge_ind {P : R → Prop} (s : State) (now : Int)
    (herr : s.phase ≠ .converge → P (s, [.err .unexpectedPhase]))
    (hreb : s.phase = .converge → s.phaseTimeoutElapsed now = false → s.shouldRebroadcast now = true →
      P (s.tryRebroadcast now))
    (hwait : s.phase = .converge → s.phaseTimeoutElapsed now = false → s.shouldRebroadcast now = false → P (s, []))
    (hnone : s.phase = .converge → s.phaseTimeoutElapsed now = true →
      ((s.getRound s.round).converged.findBest (fun cv => s.isCandidate cv.chain ||
          (cv.just.phase == .prepare && (s.getRound (s.round - 1)).committed.couldReach s.tbl cv.chain true)) = none ∨
        ∃ w, (s.getRound s.round).converged.findBest (fun cv => s.isCandidate cv.chain ||
          (cv.just.phase == .prepare && (s.getRound (s.round - 1)).committed.couldReach s.tbl cv.chain true)) = some w ∧
          w.chain.isEmpty = true) →
      P (s, [.err .noValuesAtConverge]))
    (hgo : s.phase = .converge → s.phaseTimeoutElapsed now = true → ∀ w : ConvVal,
      (s.getRound s.round).converged.findBest (fun cv => s.isCandidate cv.chain ||
        (cv.just.phase == .prepare && (s.getRound (s.round - 1)).committed.couldReach s.tbl cv.chain true)) = some w →
      w.chain.isEmpty = false → ∀ cs, (s.addCandidate w.chain).1 = { s with candidates := cs } →
      P (State.beginPrepare { s with candidates := cs, proposal := w.chain, value := w.chain } now (some w.just))) :
    P (s.tryConverge now) := by
  unfold State.tryConverge
  by_cases hph : s.phase = .converge
  · rw [if_neg (by simp [hph])]
    cases hel : s.phaseTimeoutElapsed now
    · rw [if_pos (by simp)]
      exact ite_casesB (hreb hph hel) (hwait hph hel)
    · rw [if_neg (by simp)]
      dsimp only
      split
      · exact hnone hph hel (.inl ‹_›)
      · rename_i w hw
        refine ite_casesB (fun he => hnone hph hel (.inr ⟨w, hw, he⟩)) fun he => ?_
        obtain ⟨cs, h⟩ := addCandidate_fst s w.chain
        rw [h]; exact hgo hph hel w hw he cs h
  · rw [if_pos (by simpa using hph)]; exact herr hph

theorem tryConverge_frame (s : State) (now : Int) : FrameD s (s.tryConverge now).1 :=
  tryConverge_ind s now (fun _ => .refl s) (fun _ _ _ => tryRebroadcast_frame s now)
    (fun _ _ _ => .refl s) (fun _ _ _ => .refl s) fun _ _ _ _ _ _ _ => ⟨rfl, rfl, rfl, rfl, rfl⟩
@[simp] theorem tryConverge_tbl (s : State) (now : Int) : (s.tryConverge now).1.tbl = s.tbl := (tryConverge_frame s now).tbl
@[simp] theorem tryConverge_cfg (s : State) (now : Int) : (s.tryConverge now).1.cfg = s.cfg := (tryConverge_frame s now).cfg
@[simp] theorem tryConverge_input (s : State) (now : Int) : (s.tryConverge now).1.input = s.input := (tryConverge_frame s now).input
@[simp] theorem tryConverge_decision (s : State) (now : Int) : (s.tryConverge now).1.decision = s.decision := (tryConverge_frame s now).decision
@[simp] theorem tryConverge_termination (s : State) (now : Int) : (s.tryConverge now).1.termination = s.termination := (tryConverge_frame s now).termination

theorem prepareValue_fst (s : State) (now : Int) : ∃ v, s.prepareValue now = { s with value := v } := by
  unfold State.prepareValue
  repeat' split
  all_goals exact ⟨_, rfl⟩

theorem prepareValue_frame (s : State) (now : Int) : FrameD s (s.prepareValue now) :=
  let ⟨_, h⟩ := prepareValue_fst s now; .of_eq h ⟨rfl, rfl, rfl, rfl, rfl⟩
@[simp] theorem prepareValue_tbl (s : State) (now : Int) : (s.prepareValue now).tbl = s.tbl := (prepareValue_frame s now).tbl
@[simp] theorem prepareValue_cfg (s : State) (now : Int) : (s.prepareValue now).cfg = s.cfg := (prepareValue_frame s now).cfg
@[simp] theorem prepareValue_input (s : State) (now : Int) : (s.prepareValue now).input = s.input := (prepareValue_frame s now).input
@[simp] theorem prepareValue_decision (s : State) (now : Int) : (s.prepareValue now).decision = s.decision := (prepareValue_frame s now).decision
@[simp] theorem prepareValue_termination (s : State) (now : Int) : (s.prepareValue now).termination = s.termination := (prepareValue_frame s now).termination
@[simp] theorem prepareValue_round (s : State) (now : Int) : (s.prepareValue now).round = s.round := by
  obtain ⟨_, h⟩ := prepareValue_fst s now; rw [h]
@[simp] theorem prepareValue_phase (s : State) (now : Int) : (s.prepareValue now).phase = s.phase := by
  obtain ⟨_, h⟩ := prepareValue_fst s now; rw [h]
@[simp] theorem prepareValue_rounds (s : State) (now : Int) : (s.prepareValue now).rounds = s.rounds := by
  obtain ⟨_, h⟩ := prepareValue_fst s now; rw [h]
@[simp] theorem prepareValue_candidates (s : State) (now : Int) : (s.prepareValue now).candidates = s.candidates := by
  obtain ⟨_, h⟩ := prepareValue_fst s now; rw [h]
@[simp] theorem prepareValue_proposal (s : State) (now : Int) : (s.prepareValue now).proposal = s.proposal := by
  obtain ⟨_, h⟩ := prepareValue_fst s now; rw [h]
@[simp] theorem prepareValue_quality (s : State) (now : Int) : (s.prepareValue now).quality = s.quality := by
  obtain ⟨_, h⟩ := prepareValue_fst s now; rw [h]

@[elab_as_elim]
theorem tryPrepare_ind {P : R → Prop} (s : State) (now : Int)
    (herr : s.phase ≠ .prepare → P (s, [.err .unexpectedPhase]))
    (hcommit : s.phase = .prepare →
      (s.prepFoundQuorum || s.prepFoundJust || s.prepNotPossible || s.prepComplete now) = true →
      ∀ v, s.prepareValue now = { s with value := v } → P (State.beginCommit { s with value := v } now))
    (hreb : s.phase = .prepare →
      (s.prepFoundQuorum || s.prepFoundJust || s.prepNotPossible || s.prepComplete now) = false →
      ∀ v, s.prepareValue now = { s with value := v } → State.shouldRebroadcast { s with value := v } now = true →
      P (State.tryRebroadcast { s with value := v } now))
    (hwait : s.phase = .prepare →
      (s.prepFoundQuorum || s.prepFoundJust || s.prepNotPossible || s.prepComplete now) = false →
      ∀ v, s.prepareValue now = { s with value := v } → State.shouldRebroadcast { s with value := v } now = false →
      P ({ s with value := v }, [])) :
    P (s.tryPrepare now) := by
  unfold State.tryPrepare
  by_cases hph : s.phase = .prepare
  · rw [if_neg (by simp [hph])]
    obtain ⟨v, hv⟩ := prepareValue_fst s now
    dsimp only
    rw [hv]
    exact ite_casesB (fun hc => hcommit hph hc v hv) fun hc => ite_casesB (hreb hph hc v hv) (hwait hph hc v hv)
  · rw [if_pos (by simpa using hph)]; exact herr hph

theorem tryPrepare_fst (s : State) (now : Int) : ∃ v ph pt rt ra, (s.tryPrepare now).1 =
    { s with value := v, phase := ph, phaseTimeout := pt, rebTimeout := rt, rebAttempts := ra } :=
  tryPrepare_ind s now
    (fun _ => ⟨_, _, _, _, _, rfl⟩) (fun _ _ v _ => ⟨v, _, _, _, _, beginCommit_fst _ now⟩)
    (fun _ _ v _ _ => let ⟨_, _, h⟩ := tryRebroadcast_fst { s with value := v } now; ⟨v, _, _, _, _, h⟩)
    fun _ _ v _ _ => ⟨v, _, _, _, _, rfl⟩

theorem tryPrepare_frame (s : State) (now : Int) : FrameD s (s.tryPrepare now).1 :=
  let ⟨_, _, _, _, _, h⟩ := tryPrepare_fst s now; .of_eq h ⟨rfl, rfl, rfl, rfl, rfl⟩
@[simp] theorem tryPrepare_tbl (s : State) (now : Int) : (s.tryPrepare now).1.tbl = s.tbl := (tryPrepare_frame s now).tbl
@[simp] theorem tryPrepare_cfg (s : State) (now : Int) : (s.tryPrepare now).1.cfg = s.cfg := (tryPrepare_frame s now).cfg
@[simp] theorem tryPrepare_input (s : State) (now : Int) : (s.tryPrepare now).1.input = s.input := (tryPrepare_frame s now).input
@[simp] theorem tryPrepare_decision (s : State) (now : Int) : (s.tryPrepare now).1.decision = s.decision := (tryPrepare_frame s now).decision
@[simp] theorem tryPrepare_termination (s : State) (now : Int) : (s.tryPrepare now).1.termination = s.termination := (tryPrepare_frame s now).termination
@[simp] theorem tryPrepare_rounds (s : State) (now : Int) : (s.tryPrepare now).1.rounds = s.rounds := by
  obtain ⟨_, _, _, _, _, h⟩ := tryPrepare_fst s now; rw [h]
@[simp] theorem tryPrepare_candidates (s : State) (now : Int) : (s.tryPrepare now).1.candidates = s.candidates := by
  obtain ⟨_, _, _, _, _, h⟩ := tryPrepare_fst s now; rw [h]
@[simp] theorem tryPrepare_proposal (s : State) (now : Int) : (s.tryPrepare now).1.proposal = s.proposal := by
  obtain ⟨_, _, _, _, _, h⟩ := tryPrepare_fst s now; rw [h]
@[simp] theorem tryPrepare_quality (s : State) (now : Int) : (s.tryPrepare now).1.quality = s.quality := by
  obtain ⟨_, _, _, _, _, h⟩ := tryPrepare_fst s now; rw [h]

theorem commitSway_fst (s : State) (q : Tally) :
    ∃ cs p, s.commitSway q = { s with candidates := cs, proposal := p } := by
  unfold State.commitSway
  split
  · rename_i v _
    obtain ⟨_, h⟩ := addCandidate_fst s v
    dsimp only
    rw [h]
    split <;> exact ⟨_, _, rfl⟩
  · exact ⟨_, _, rfl⟩

theorem commitSway_frame (s : State) (q : Tally) : FrameD s (s.commitSway q) :=
  let ⟨_, _, h⟩ := commitSway_fst s q; .of_eq h ⟨rfl, rfl, rfl, rfl, rfl⟩
@[simp] theorem commitSway_tbl (s : State) (q : Tally) : (s.commitSway q).tbl = s.tbl := (commitSway_frame s q).tbl
@[simp] theorem commitSway_cfg (s : State) (q : Tally) : (s.commitSway q).cfg = s.cfg := (commitSway_frame s q).cfg
@[simp] theorem commitSway_input (s : State) (q : Tally) : (s.commitSway q).input = s.input := (commitSway_frame s q).input
@[simp] theorem commitSway_decision (s : State) (q : Tally) : (s.commitSway q).decision = s.decision := (commitSway_frame s q).decision
@[simp] theorem commitSway_termination (s : State) (q : Tally) : (s.commitSway q).termination = s.termination := (commitSway_frame s q).termination
@[simp] theorem commitSway_round (s : State) (q : Tally) : (s.commitSway q).round = s.round := by
  obtain ⟨_, _, h⟩ := commitSway_fst s q; rw [h]
@[simp] theorem commitSway_phase (s : State) (q : Tally) : (s.commitSway q).phase = s.phase := by
  obtain ⟨_, _, h⟩ := commitSway_fst s q; rw [h]
@[simp] theorem commitSway_rounds (s : State) (q : Tally) : (s.commitSway q).rounds = s.rounds := by
  obtain ⟨_, _, h⟩ := commitSway_fst s q; rw [h]
@[simp] theorem commitSway_quality (s : State) (q : Tally) : (s.commitSway q).quality = s.quality := by
  obtain ⟨_, _, h⟩ := commitSway_fst s q; rw [h]

@[elab_as_elim]
theorem tryCommit_ind {P : R → Prop} (s : State) (now : Int) (round : Nat)
    (hmult : (s.getRound round).committed.findStrongQuorumValue = .multiple → P (s, [.panic .multipleStrongQuorums]))
    (hdec : ∀ c, (s.getRound round).committed.findStrongQuorumValue = .one c → c.isEmpty = false →
      P (State.beginDecide { s with value := c } round))
    (hwait : (s.round != round || s.phase != .commit) = true →
      ((s.getRound round).committed.findStrongQuorumValue = .one [] ∨
        (s.getRound round).committed.findStrongQuorumValue = .none) → P (s, []))
    (hnext : (s.round != round || s.phase != .commit) = false →
      ((s.getRound round).committed.findStrongQuorumValue = .one [] ∨
        ((s.getRound round).committed.findStrongQuorumValue = .none ∧ s.foundJustBottom round = true)) →
      P (s.beginNextRound now))
    (hsway : (s.round != round || s.phase != .commit) = false →
      (s.getRound round).committed.findStrongQuorumValue = .none → s.foundJustBottom round = false →
      (s.phaseTimeoutElapsed now && (s.getRound round).committed.fromStrong s.tbl) = true → ∀ cs p,
      s.commitSway (s.getRound round).committed = { s with candidates := cs, proposal := p } →
      P (State.beginNextRound { s with candidates := cs, proposal := p } now))
    (hreb : (s.round != round || s.phase != .commit) = false →
      (s.getRound round).committed.findStrongQuorumValue = .none → s.foundJustBottom round = false →
      (s.phaseTimeoutElapsed now && (s.getRound round).committed.fromStrong s.tbl) = false →
      s.shouldRebroadcast now = true → P (s.tryRebroadcast now))
    (hquiet : (s.round != round || s.phase != .commit) = false →
      (s.getRound round).committed.findStrongQuorumValue = .none → s.foundJustBottom round = false →
      (s.phaseTimeoutElapsed now && (s.getRound round).committed.fromStrong s.tbl) = false →
      s.shouldRebroadcast now = false → P (s, [])) :
    P (s.tryCommit now round) := by
  unfold State.tryCommit
  dsimp only
  split
  · exact hmult ‹_›
  · rename_i c hc
    cases he : c.isEmpty
    · rw [if_pos (by simp)]; exact hdec c hc he
    · rw [if_neg (by simp)]
      have hc' : (s.getRound round).committed.findStrongQuorumValue = .one [] := by
        rw [hc, List.isEmpty_iff.1 he]
      exact ite_casesB (fun hg => hwait hg (.inl hc')) fun hg => hnext hg (.inl hc')
  · rename_i hn
    refine ite_casesB (fun hg => hwait hg (.inr hn)) fun hg => ite_casesB (fun hj => hnext hg (.inr ⟨hn, hj⟩)) fun hj =>
      ite_casesB (fun ht => ?_) fun ht => ite_casesB (hreb hg hn hj ht) (hquiet hg hn hj ht)
    obtain ⟨cs, p, h⟩ := commitSway_fst s (s.getRound round).committed
    rw [h]; exact hsway hg hn hj ht cs p h

theorem tryCommit_frame (s : State) (now : Int) (r : Nat) : FrameD s (s.tryCommit now r).1 :=
  tryCommit_ind s now r (fun _ => .refl s)
    (fun c _ _ => .trans (b := { s with value := c }) ⟨rfl, rfl, rfl, rfl, rfl⟩ (beginDecide_frame _ r)) (fun _ _ => .refl s)
    (fun _ _ => beginNextRound_frame s now)
    (fun _ _ _ _ cs p _ => .trans (b := { s with candidates := cs, proposal := p }) ⟨rfl, rfl, rfl, rfl, rfl⟩
      (beginNextRound_frame _ now))
    (fun _ _ _ _ _ => tryRebroadcast_frame s now) fun _ _ _ _ _ => .refl s
@[simp] theorem tryCommit_tbl (s : State) (now : Int) (r : Nat) : (s.tryCommit now r).1.tbl = s.tbl := (tryCommit_frame s now r).tbl
@[simp] theorem tryCommit_cfg (s : State) (now : Int) (r : Nat) : (s.tryCommit now r).1.cfg = s.cfg := (tryCommit_frame s now r).cfg
@[simp] theorem tryCommit_input (s : State) (now : Int) (r : Nat) : (s.tryCommit now r).1.input = s.input := (tryCommit_frame s now r).input
@[simp] theorem tryCommit_decision (s : State) (now : Int) (r : Nat) : (s.tryCommit now r).1.decision = s.decision := (tryCommit_frame s now r).decision
@[simp] theorem tryCommit_termination (s : State) (now : Int) (r : Nat) : (s.tryCommit now r).1.termination = s.termination := (tryCommit_frame s now r).termination

@[elab_as_elim]
theorem postReceive_cases {P : R → Prop} (s : State) (now : Int) (round : Nat)
    (h0 : (round ≤ s.round ∨ s.phase = .decide ∨ (s.getRound round).prepared.fromWeak s.tbl = false ∨
      (s.getRound round).converged.findBest (fun _ => true) = none ∨
      ∃ w, (s.getRound round).converged.findBest (fun _ => true) = some w ∧ w.chain.isEmpty = true) → P (s, []))
    (h1 : s.round < round → s.phase ≠ .decide → (s.getRound round).prepared.fromWeak s.tbl = true →
      ∀ w : ConvVal, (s.getRound round).converged.findBest (fun _ => true) = some w → w.chain.isEmpty = false →
      -- QUALITY concluded early
      ∀ cs1 p1, (if s.phase == .quality then
          (State.addCandidatePrefixes { s with round := round, proposal := s.quality.longestPrefixWithQuorum s.input }
            (s.quality.longestPrefixWithQuorum s.input)).1
          else { s with round := round }) = { s with round := round, candidates := cs1, proposal := p1 } →
      -- then the winner adopted
      ∀ cs p, (if w.just.phase == .prepare then
          { (State.addCandidate { s with round := round, candidates := cs1, proposal := p1 } w.chain).1 with
            proposal := w.chain }
          else { s with round := round, candidates := cs1, proposal := p1 }) =
          { s with round := round, candidates := cs, proposal := p } →
      P (State.beginConverge { s with round := round, candidates := cs, proposal := p } now w.just)) :
    P (s.postReceive now round) := by
  unfold State.postReceive
  by_cases hg : (decide (round ≤ s.round) || s.phase == .decide) = true
  · rw [if_pos hg]
    refine h0 ?_
    simp only [Bool.or_eq_true, decide_eq_true_eq, beq_iff_eq] at hg
    exact hg.elim .inl fun h => .inr (.inl h)
  · rw [if_neg hg]
    have hg' : s.round < round ∧ s.phase ≠ .decide := by
      simpa only [Bool.or_eq_true, decide_eq_true_eq, beq_iff_eq, not_or, Nat.not_le] using hg
    cases hw : (s.getRound round).prepared.fromWeak s.tbl
    · rw [if_pos (by simp)]; exact h0 (.inr (.inr (.inl hw)))
    · rw [if_neg (by simp)]
      split
      · exact h0 (.inr (.inr (.inr (.inl ‹_›))))
      · rename_i w hfb
        refine ite_casesB (fun he => h0 (.inr (.inr (.inr (.inr ⟨w, hfb, he⟩))))) fun he => ?_
        dsimp only
        have hq : ∃ cs p, (if s.phase == .quality then
            (State.addCandidatePrefixes { s with round := round, proposal := s.quality.longestPrefixWithQuorum s.input }
              (s.quality.longestPrefixWithQuorum s.input)).1
            else { s with round := round }) = { s with round := round, candidates := cs, proposal := p } := by
          split
          · obtain ⟨cs, h⟩ := addCandidatePrefixes_fst
              { s with round := round, proposal := s.quality.longestPrefixWithQuorum s.input }
              (s.quality.longestPrefixWithQuorum s.input)
            exact ⟨cs, _, h⟩
          · exact ⟨_, _, rfl⟩
        obtain ⟨cs1, p1, hq⟩ := hq
        rw [hq]
        have hp : ∃ cs p, (if w.just.phase == .prepare then
            { (State.addCandidate { s with round := round, candidates := cs1, proposal := p1 } w.chain).1 with
              proposal := w.chain }
            else { s with round := round, candidates := cs1, proposal := p1 }) =
            { s with round := round, candidates := cs, proposal := p } := by
          split
          · obtain ⟨cs, h⟩ := addCandidate_fst { s with round := round, candidates := cs1, proposal := p1 } w.chain
            rw [h]; exact ⟨cs, _, rfl⟩
          · exact ⟨_, _, rfl⟩
        obtain ⟨cs, p, hp⟩ := hp
        rw [hp]
        exact h1 hg'.1 hg'.2 hw w hfb he cs1 p1 hq cs p hp

/-- the same, for properties that do not depend on how the state skipped to was reached -/
@[elab_as_elim]
theorem postReceive_ind {P : R → Prop} (s : State) (now : Int) (round : Nat) (h0 : P (s, []))
    (h1 : s.round < round → s.phase ≠ .decide → ∀ cs p j,
      P (State.beginConverge { s with round := round, candidates := cs, proposal := p } now j)) :
    P (s.postReceive now round) :=
  postReceive_cases s now round (fun _ => h0) fun hr hd _ w _ _ _ _ _ cs p _ => h1 hr hd cs p w.just

theorem postReceive_frame (s : State) (now : Int) (r : Nat) : FrameD s (s.postReceive now r).1 :=
  postReceive_ind s now r (.refl s) fun _ _ cs p j =>
    .trans (b := { s with round := r, candidates := cs, proposal := p }) ⟨rfl, rfl, rfl, rfl, rfl⟩
      (beginConverge_frame _ now j)
@[simp] theorem postReceive_tbl (s : State) (now : Int) (r : Nat) : (s.postReceive now r).1.tbl = s.tbl := (postReceive_frame s now r).tbl
@[simp] theorem postReceive_cfg (s : State) (now : Int) (r : Nat) : (s.postReceive now r).1.cfg = s.cfg := (postReceive_frame s now r).cfg
@[simp] theorem postReceive_input (s : State) (now : Int) (r : Nat) : (s.postReceive now r).1.input = s.input := (postReceive_frame s now r).input
@[simp] theorem postReceive_decision (s : State) (now : Int) (r : Nat) : (s.postReceive now r).1.decision = s.decision := (postReceive_frame s now r).decision
@[simp] theorem postReceive_termination (s : State) (now : Int) (r : Nat) : (s.postReceive now r).1.termination = s.termination := (postReceive_frame s now r).termination

@[elab_as_elim]
theorem tryDecide_ind {P : R → Prop} (s : State) (now : Int)
    (hpanic : ∀ p, (s.decision.findStrongQuorumValue = .multiple ∨ ∃ v, s.decision.findStrongQuorumValue = .one v ∧
      (s.decision.findStrongQuorumFor s.tbl v = .panic p ∨ s.decision.findStrongQuorumFor s.tbl v = .none)) →
      P (s, [.panic p]))
    (hterm : ∀ v sg, s.decision.findStrongQuorumValue = .one v → s.decision.findStrongQuorumFor s.tbl v = .found sg →
      P (s.terminate { round := 0, phase := .decide, value := v, signers := sg }))
    (hreb : s.decision.findStrongQuorumValue = .none → P (s.tryRebroadcast now)) :
    P (s.tryDecide now) := by
  unfold State.tryDecide
  split
  · exact hpanic _ (.inl ‹_›)
  · split
    · exact hterm _ _ ‹_› ‹_›
    · exact hpanic _ (.inr ⟨_, ‹_›, .inl ‹_›⟩)
    · exact hpanic _ (.inr ⟨_, ‹_›, .inr ‹_›⟩)
  · exact hreb ‹_›

@[elab_as_elim]
theorem tryCurrentPhase_ind {P : R → Prop} (s : State) (now : Int)
    (hquality : s.phase = .quality → P (s.tryQuality now)) (hconverge : s.phase = .converge → P (s.tryConverge now))
    (hprepare : s.phase = .prepare → P (s.tryPrepare now)) (hcommit : s.phase = .commit → P (s.tryCommit now s.round))
    (hdecide : s.phase = .decide → P (s.tryDecide now)) (hterm : s.phase = .terminated → P (s, []))
    (hinit : s.phase = .initial → P (s, [.err .unexpectedPhase])) :
    P (s.tryCurrentPhase now) := by
  unfold State.tryCurrentPhase
  split
  · exact hquality ‹_›
  · exact hconverge ‹_›
  · exact hprepare ‹_›
  · exact hcommit ‹_›
  · exact hdecide ‹_›
  · exact hterm ‹_›
  · exact hinit ‹_›

@[elab_as_elim]
theorem recvCommit_ind {P : R → Prop} (s : State) (now : Int) (m : Msg)
    (hpanic : ∀ p, ((s.getRound m.round).committed.receive s.tbl m.sender m.value = none ∨
      (!m.value.isEmpty && m.just.isNone) = true) → P (s, [.panic p]))
    (hretry : s.phase ≠ .decide → ∀ q, (s.getRound m.round).committed.receive s.tbl m.sender m.value = some q →
      (!m.value.isEmpty && m.just.isNone) = false →
      ((s.setRound m.round { s.getRound m.round with committed := storeCommitJust q m }).tryCommit now m.round).1.phase =
        .prepare →
      ((s.setRound m.round { s.getRound m.round with committed := storeCommitJust q m }).tryCommit now m.round).1.round =
        m.round →
      m.value.isEmpty = false →
      P (andThen ((s.setRound m.round { s.getRound m.round with committed := storeCommitJust q m }).tryCommit now m.round)
        fun st => st.tryCurrentPhase now))
    (hcommit : s.phase ≠ .decide → ∀ q, (s.getRound m.round).committed.receive s.tbl m.sender m.value = some q →
      (!m.value.isEmpty && m.just.isNone) = false →
      P ((s.setRound m.round { s.getRound m.round with committed := storeCommitJust q m }).tryCommit now m.round))
    (hdecide : s.phase = .decide → ∀ q, (s.getRound m.round).committed.receive s.tbl m.sender m.value = some q →
      (!m.value.isEmpty && m.just.isNone) = false →
      P ((s.setRound m.round { s.getRound m.round with committed := storeCommitJust q m }).tryCurrentPhase now)) :
    P (s.recvCommit now m) := by
  unfold State.recvCommit
  dsimp only
  split
  · exact hpanic _ (.inl ‹_›)
  · rename_i q hq
    refine ite_casesB (fun hn => hpanic _ (.inr hn)) fun hj => ?_
    split
    · rename_i hd
      split
      · rename_i hc
        simp only [Bool.and_eq_true, beq_iff_eq, Bool.not_eq_true'] at hc
        exact hretry (bne_iff_ne.1 hd) q hq hj hc.1.1 hc.1.2 hc.2
      · exact hcommit (bne_iff_ne.1 hd) q hq hj
    · rename_i hd
      exact hdecide (Decidable.of_not_not fun h => hd (bne_iff_ne.2 h)) q hq hj

@[elab_as_elim]
theorem recvDecide_ind {P : R → Prop} (s : State) (now : Int) (m : Msg)
    (hpanic : s.decision.receive s.tbl m.sender m.value = none → P (s, [.panic .duplicateMessage]))
    (hskip : s.phase ≠ .decide → ∀ q, s.decision.receive s.tbl m.sender m.value = some q →
      P (andThen (State.skipToDecide { s with decision := q } m.value m.just) fun st => st.tryCurrentPhase now))
    (hdecide : s.phase = .decide → ∀ q, s.decision.receive s.tbl m.sender m.value = some q →
      P (State.tryCurrentPhase { s with decision := q } now)) :
    P (s.recvDecide now m) := by
  unfold State.recvDecide
  split
  · exact hpanic ‹_›
  · rename_i q hq
    dsimp only
    split
    · rename_i hd; exact hskip (bne_iff_ne.1 hd) q hq
    · rename_i hd
      exact hdecide (Decidable.of_not_not fun h => hd (bne_iff_ne.2 h)) q hq

@[elab_as_elim]
theorem recvPre_ind {P : Pre → Prop} (s : State) (m : Msg)
    (hrej : ∀ k, ((k = .wrongInstance ∧ m.instOk = false) ∨ (k = .wrongSupp ∧ m.suppOk = false) ∨
      (k = .wrongBase ∧ (m.value.isEmpty || hasBase m.value s.input.head?) = false)) → P (.reject k))
    (hdrop : m.instOk = true → m.suppOk = true → (s.phase = .terminated ∨
      (decide (m.round < s.round) && (m.phase == .converge || m.phase == .prepare)) = true ∨
      (decide (m.round > s.round + s.cfg.maxLookahead) && isSpammable m) = true) → P .drop)
    (hacc : m.instOk = true → m.suppOk = true → (m.value = [] ∨ hasBase m.value s.input.head? = true) →
      s.phase ≠ .terminated → (decide (m.round < s.round) && (m.phase == .converge || m.phase == .prepare)) = false →
      (decide (m.round > s.round + s.cfg.maxLookahead) && isSpammable m) = false → P .accept) :
    P (s.recvPre m) := by
  unfold State.recvPre
  refine ite_cases (fun h1 => hrej _ (.inl ⟨rfl, by simpa using h1⟩)) fun h1 =>
    ite_cases (fun h2 => hrej _ (.inr (.inl ⟨rfl, by simpa using h2⟩))) fun h2 =>
    ite_cases (fun h3 => hrej _ (.inr (.inr ⟨rfl, by simpa using h3⟩))) fun h3 => ?_
  have h1' : m.instOk = true := by simpa using h1
  have h2' : m.suppOk = true := by simpa using h2
  refine ite_cases (fun h4 => hdrop h1' h2' (.inl (by simpa using h4))) fun h4 =>
    ite_casesB (fun h5 => hdrop h1' h2' (.inr (.inl h5))) fun h5 =>
    ite_casesB (fun h6 => hdrop h1' h2' (.inr (.inr h6))) fun h6 => hacc h1' h2' ?_ (by simpa using h4) h5 h6
  simpa only [Bool.not_eq_true', Bool.not_eq_false, Bool.or_eq_true, List.isEmpty_iff] using h3

@[elab_as_elim]
theorem receiveOne_ind {P : R × Bool → Prop} (s : State) (now : Int) (m : Msg)
    (herr : ∀ k, (s.recvPre m = .reject k ∨ (s.recvPre m = .accept ∧
      ((m.phase = .converge ∧ (m.value.isEmpty = true ∨ m.just = none)) ∨ m.phase = .initial ∨ m.phase = .terminated))) →
      P ((s, [.err k]), false))
    (hdrop : s.recvPre m = .drop → P ((s, []), false))
    (hquality : s.recvPre m = .accept → m.phase = .quality → P (s.recvQuality now m, true))
    (hconverge : s.recvPre m = .accept → m.phase = .converge → m.value.isEmpty = false → ∀ j, m.just = some j →
      P (s.recvConverge now m j, true))
    (hprepare : s.recvPre m = .accept → m.phase = .prepare → P (s.recvPrepare now m, true))
    (hcommit : s.recvPre m = .accept → m.phase = .commit → P (s.recvCommit now m, true))
    (hdecide : s.recvPre m = .accept → m.phase = .decide → P (s.recvDecide now m, true)) :
    P (s.receiveOne now m) := by
  unfold State.receiveOne
  split
  · exact herr _ (.inl ‹_›)
  · exact hdrop ‹_›
  · rename_i hacc
    split
    · exact hquality hacc ‹_›
    · rename_i hph
      refine ite_casesB (fun hv => herr _ (.inr ⟨hacc, .inl ⟨hph, .inl hv⟩⟩)) fun hv => ?_
      split
      · exact herr _ (.inr ⟨hacc, .inl ⟨hph, .inr ‹_›⟩⟩)
      · exact hconverge hacc hph hv _ ‹_›
    · exact hprepare hacc ‹_›
    · exact hcommit hacc ‹_›
    · exact hdecide hacc ‹_›
    · refine herr _ (.inr ⟨hacc, .inr ?_⟩)
      cases hp : m.phase <;> simp_all

theorem tryCurrentPhase_quality (s : State) (now : Int) (h : s.phase = .quality) :
    s.tryCurrentPhase now = s.tryQuality now := by simp only [State.tryCurrentPhase, h]
theorem tryCurrentPhase_converge (s : State) (now : Int) (h : s.phase = .converge) :
    s.tryCurrentPhase now = s.tryConverge now := by simp only [State.tryCurrentPhase, h]
theorem tryCurrentPhase_prepare (s : State) (now : Int) (h : s.phase = .prepare) :
    s.tryCurrentPhase now = s.tryPrepare now := by simp only [State.tryCurrentPhase, h]
theorem tryCurrentPhase_commit (s : State) (now : Int) (h : s.phase = .commit) :
    s.tryCurrentPhase now = s.tryCommit now s.round := by simp only [State.tryCurrentPhase, h]
theorem tryCurrentPhase_decide (s : State) (now : Int) (h : s.phase = .decide) :
    s.tryCurrentPhase now = s.tryDecide now := by simp only [State.tryCurrentPhase, h]

theorem beginQuality_eq (s : State) (now : Int) (h : s.phase = .initial) :
    s.beginQuality now =
      ({ s with phase := .quality, phaseTimeout := now + s.cfg.qualityTimeout2, rebAttempts := 0, rebTimeout := none },
       [.progress s.round .quality, .setAlarm (now + s.cfg.qualityTimeout2),
        .broadcast s.round .quality s.proposal false none]) := by
  simp [State.beginQuality, State.alarmAfter, State.resetReb, h]

theorem receiveOne_quality (s : State) (now : Int) (m : Msg) (hpre : s.recvPre m = .accept) (hph : m.phase = .quality) :
    s.receiveOne now m = (s.recvQuality now m, true) := by simp only [State.receiveOne, hpre, hph]
theorem receiveOne_converge (s : State) (now : Int) (m : Msg) (j : Just) (hpre : s.recvPre m = .accept)
    (hph : m.phase = .converge) (hv : m.value.isEmpty = false) (hj : m.just = some j) :
    s.receiveOne now m = (s.recvConverge now m j, true) := by
  simp [State.receiveOne, hpre, hph, hv, hj]
theorem receiveOne_prepare (s : State) (now : Int) (m : Msg) (hpre : s.recvPre m = .accept) (hph : m.phase = .prepare) :
    s.receiveOne now m = (s.recvPrepare now m, true) := by simp only [State.receiveOne, hpre, hph]
theorem receiveOne_commit (s : State) (now : Int) (m : Msg) (hpre : s.recvPre m = .accept) (hph : m.phase = .commit) :
    s.receiveOne now m = (s.recvCommit now m, true) := by simp only [State.receiveOne, hpre, hph]
theorem receiveOne_decide (s : State) (now : Int) (m : Msg) (hpre : s.recvPre m = .accept) (hph : m.phase = .decide) :
    s.receiveOne now m = (s.recvDecide now m, true) := by simp only [State.receiveOne, hpre, hph]

@[elab_as_elim]
theorem recvQuality_ind {P : R → Prop} (s : State) (now : Int) (m : Msg)
    (hupd : s.phase ≠ .quality → P (State.updateCandidatesFromQuality
      { s with quality := s.quality.receiveEachPrefix s.tbl m.sender m.value }, []))
    (hgo : s.phase = .quality →
      P (State.tryCurrentPhase { s with quality := s.quality.receiveEachPrefix s.tbl m.sender m.value } now)) :
    P (s.recvQuality now m) := by
  unfold State.recvQuality
  by_cases h : s.phase = .quality
  · rw [if_neg (by simp [h])]; exact hgo h
  · rw [if_pos (by simpa using h)]; exact hupd h

@[elab_as_elim]
theorem recvPrepare_ind {P : R → Prop} (s : State) (now : Int) (m : Msg)
    (hdup : (s.getRound m.round).prepared.receive s.tbl m.sender m.value = none → P (s, [.panic .duplicateMessage]))
    (hgo : ∀ q, (s.getRound m.round).prepared.receive s.tbl m.sender m.value = some q →
      P ((s.setRound m.round { s.getRound m.round with prepared := storePrepareJust q m }).tryCurrentPhase now)) :
    P (s.recvPrepare now m) := by
  unfold State.recvPrepare
  dsimp only
  split
  · exact hdup ‹_›
  · exact hgo _ ‹_›

@[elab_as_elim]
theorem step_recv_ind {P : R → Prop} (s : State) (now : Int) (m : Msg)
    (hterm : s.phase = .terminated → P (s, [.err .afterTermination]))
    (hone : s.phase ≠ .terminated → P (s.receiveOne now m).1)
    (hpost : s.phase ≠ .terminated → hasFailure (s.receiveOne now m).1.2 = false →
      P (andThen (s.receiveOne now m).1 fun st => st.postReceive now m.round)) :
    P (step s (.recv now m)) := by
  unfold step
  dsimp only
  by_cases ht : s.phase = .terminated
  · rw [if_pos (by simp [ht])]; exact hterm ht
  · rw [if_neg (by simpa using ht)]
    specialize hone ht
    specialize hpost ht
    generalize s.receiveOne now m = ro at *
    obtain ⟨r, changed⟩ := ro
    dsimp only at *
    split
    · exact hone
    · exact ite_ind (hpost (by simpa using ‹¬hasFailure r.2 = true›)) hone

end F3.Instance
