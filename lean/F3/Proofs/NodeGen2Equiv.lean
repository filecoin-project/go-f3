import F3.Model.Equiv
import F3.Gen.Equiv2
import F3.Proofs.GenTie
/-!
# The equivocation filter and the broadcast path (`equivocation.go`, `host.go`) against their regenerated definitions

`F3.Gen.Equiv2` is regenerated on every run from `tools/go2lean/targets.d/Equiv2.json`. Functions that mutate Go maps
are regenerated as a return code plus an *action trace*; the interpreters here (`receiveActs`, `bAct`) say what a code
is in the model. Core-only.
-/
namespace F3.Gen2Tie
open F3.Equiv F3.Proofs.GenTie

/-- the action traces of the regenerated `ProcessReceive` in the model: `[1, 2]` = `addSender(peerID,
true)` and store the senders back, `[3]` = remember the message with the peer as origin -/
def receiveActs (f : Filter) (p : Peer) (m : Msg) (acts : List Int) : Filter :=
  if acts = [1, 2] then
    { f with active := aset m.sender (((alookup m.sender f.active).getD ⟨[], false⟩).add p true) f.active }
  else if acts = [3] then { f with seen := f.seen ++ [(m.key, ⟨m.sig, p⟩)] }
  else f

/-- one action of the regenerated `ProcessBroadcast` on (filter, the `senders` local): 1 / 2 = the two
`make`s of a new instance, 3 = remember the signature with the local peer as origin, 40 / 41 =
`senders := activeSenders[m.Sender]; senders.addSender(localPID, false / true)`, 5 = store it back -/
def bAct (m : Msg) (st : Filter × Senders) (a : Int) : Filter × Senders :=
  if a = 1 then ({ st.1 with seen := [] }, st.2)
  else if a = 2 then ({ st.1 with active := [] }, st.2)
  else if a = 3 then ({ st.1 with seen := st.1.seen ++ [(m.key, ⟨m.sig, st.1.localPID⟩)] }, st.2)
  else if a = 40 then (st.1, ((alookup m.sender st.1.active).getD ⟨[], false⟩).add st.1.localPID false)
  else if a = 41 then (st.1, ((alookup m.sender st.1.active).getD ⟨[], false⟩).add st.1.localPID true)
  else if a = 5 then ({ st.1 with active := aset m.sender st.2 st.1.active }, st.2)
  else st

/-- what the model looks up before deciding: the filter after the new-instance reset -/
def afterReset (f : Filter) (m : Msg) : Filter :=
  if m.inst > f.cur then { f with cur := m.inst, seen := [], active := [] } else f

/-- **`ProcessBroadcast` is the source's**, for every filter and message: with `ok`, the signature
comparison and the origin test read off the model's `seen` map (after the reset of a new instance), the
model's new filter is the regenerated action trace run through `bAct` from the filter with the
regenerated `currentInstance`, and the model's verdict is the regenerated return code (0 = `false`,
1 = `true`, 2 = `senders.origins[0] == localPID`) with `senders.equivocation` read off the `senders` the
trace produced. -/
theorem processBroadcast_is_regenerated (f : Filter) (m : Msg) :
    let known := alookup m.key (afterReset f m).seen
    let ok := known.isSome
    let sigEq := match known with | some info => decide (info.sig = m.sig) | none => true
    let loc := match known with | some info => decide (info.origin = f.localPID) | none => false
    let g0 := F3.Gen.Equiv2.processBroadcast f.cur m.inst ok loc false sigEq
    let st := g0.2.2.foldl (bAct m) ({ f with cur := g0.2.1.toNat }, ⟨[], false⟩)
    let g := F3.Gen.Equiv2.processBroadcast f.cur m.inst ok loc st.2.equivocation sigEq
    (f.processBroadcast m).1 = st.1 ∧
    (f.processBroadcast m).2 =
      (if g.1 = 0 then false else if g.1 = 1 then true else st.2.origins.head? == some f.localPID) := by
  unfold Filter.processBroadcast F3.Gen.Equiv2.processBroadcast afterReset
  rw [cast_lt, cast_lt]
  by_cases h1 : m.inst < f.cur
  · simp [h1]
  by_cases h2 : m.inst > f.cur
  · -- new instance: both maps were just reset, nothing is known
    simp [h1, h2, alookup, bAct]
    cases (Senders.add ⟨[], false⟩ f.localPID false).equivocation <;> simp
  · simp only [h1, h2, if_false, decide_false]
    cases hk : alookup m.key f.seen with
    | none =>
      simp [bAct]
      cases (((alookup m.sender f.active).getD ⟨[], false⟩).add f.localPID false).equivocation <;>
        simp
    | some info =>
      by_cases e : info.sig = m.sig
      · simp [e, bAct]
        cases (((alookup m.sender f.active).getD ⟨[], false⟩).add f.localPID false).equivocation <;>
          simp
      · by_cases o : info.origin = f.localPID
        · simp [e, o]
        · simp [e, o, bAct]
          cases (((alookup m.sender f.active).getD ⟨[], false⟩).add f.localPID true).equivocation <;>
            simp

/-- **The model's crash points are in the source's order** (`ProcessBroadcast`, `Append`, `Publish`): a crash
after the first call leaves only the filter changed, after the second also the WAL, and only a run past the
third puts the message on the wire; a refused message touches neither the WAL nor the wire. -/
theorem broadcast_model_order (s : Sys) (m : Msg) (hup : s.up = true) :
    ((s.filter.processBroadcast m).2 = true →
      (step s (.broadcast m 1)).wal = s.wal ∧ (step s (.broadcast m 1)).wire = s.wire ∧
      (step s (.broadcast m 2)).wal = s.wal ++ [m] ∧ (step s (.broadcast m 2)).wire = s.wire ∧
      (step s (.broadcast m 0)).wal = s.wal ++ [m] ∧ (step s (.broadcast m 0)).wire = s.wire ++ [m]) ∧
    ((s.filter.processBroadcast m).2 = false →
      (step s (.broadcast m 0)).wal = s.wal ∧ (step s (.broadcast m 0)).wire = s.wire) := by
  constructor <;> intro h <;> simp [step, hup, h]

end F3.Gen2Tie
