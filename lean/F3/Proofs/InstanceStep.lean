import F3.Proofs.InstanceFrame
/-! What one API call of the instance is made of, as a proof rule.

`Receive` refuses the message at the door, or files it in its tally (`Filed`, a silent change of state) and then runs the
phase logic: `tryCurrentPhase`; for a COMMIT `tryCommit` of the message's round first, for a DECIDE `skipToDecide` first; a
QUALITY vote that comes late only updates the candidates. After that comes the skip check `postReceive`. The pieces are
sequenced by `andThen`. `StepRule I V T` lists the pieces as obligations for an outcome relation `T s r` ("`r` is an
acceptable result from `s`") under an invariant `I` of the states in between and an assumption `V` on the message;
`StepRule.receiveOne` and `StepRule.step₀` are the walk through `receiveOne` and `step`, done once (`StepRule.step`, in
InstanceRun, is `step₀` under the quiet-decision invariant).

A family of lemmas "every function of the model keeps X" proves its leaves (`tryCurrentPhase_X`, `tryCommit_X`,
`postReceive_X`, what filing does to X, its `andThen_X`), names them in an instance `xRule : StepRule I V T`, and reads
`receiveOne_X`, `step_X` off it. `Start` and the refusals at the door are arguments of `StepRule.step`, not fields: they are
single leaves, and failure-freedom treats them apart. -/
namespace F3.Instance

theorem recvPre_accept {s : State} {m : Msg} (h : s.recvPre m = .accept) :
    m.instOk = true ∧ m.suppOk = true ∧ (m.value = [] ∨ hasBase m.value s.input.head? = true) ∧
      s.phase ≠ .terminated :=
  recvPre_ind s m
    (fun _ _ => nofun) (fun _ _ _ => nofun) (fun a b c d _ _ _ => ⟨a, b, c, d⟩) h

theorem recvPre_accept_not_terminated (s : State) (m : Msg) (h : s.recvPre m = .accept) : s.phase ≠ .terminated :=
  (recvPre_accept h).2.2.2

theorem phase_toNat_lt_5 {p : Phase} (hd : p ≠ .decide) (ht : p ≠ .terminated) : p.toNat < 5 := by
  cases p <;> simp [Phase.toNat] at hd ht ⊢

/-- `m`, accepted by `recvPre`, is filed in its tally, giving `s1` -/
inductive Filed (s : State) (m : Msg) : State → Prop
  | quality : m.phase = .quality →
      Filed s m { s with quality := s.quality.receiveEachPrefix s.tbl m.sender m.value }
  | converge (j : Just) : m.phase = .converge → m.value.isEmpty = false → m.just = some j →
      Filed s m (s.setRound m.round { s.getRound m.round with
        converged := (s.getRound m.round).converged.receive m.sender m.value m.rank j })
  | prepare (q : Tally) : m.phase = .prepare → (s.getRound m.round).prepared.receive s.tbl m.sender m.value = some q →
      Filed s m (s.setRound m.round { s.getRound m.round with prepared := storePrepareJust q m })
  | commit (q : Tally) : m.phase = .commit → (s.getRound m.round).committed.receive s.tbl m.sender m.value = some q →
      (!m.value.isEmpty && m.just.isNone) = false →
      Filed s m (s.setRound m.round { s.getRound m.round with committed := storeCommitJust q m })
  | decide (q : Tally) : m.phase = .decide → s.decision.receive s.tbl m.sender m.value = some q →
      Filed s m { s with decision := q }

/-- the tally refuses `m` (a `panic` of the Go code) -/
def Unfiled (s : State) (m : Msg) : Prop :=
  (m.phase = .prepare ∧ (s.getRound m.round).prepared.receive s.tbl m.sender m.value = none) ∨
  (m.phase = .commit ∧ ((s.getRound m.round).committed.receive s.tbl m.sender m.value = none ∨
    (!m.value.isEmpty && m.just.isNone) = true)) ∨
  (m.phase = .decide ∧ s.decision.receive s.tbl m.sender m.value = none)

/-- filing touches tallies only -/
theorem Filed.same {s s1 : State} {m : Msg} (h : Filed s m s1) :
    s1.tbl = s.tbl ∧ s1.cfg = s.cfg ∧ s1.input = s.input ∧ s1.round = s.round ∧ s1.phase = s.phase ∧
    s1.proposal = s.proposal ∧ s1.candidates = s.candidates ∧ s1.termination = s.termination := by
  cases h <;> exact ⟨rfl, rfl, rfl, rfl, rfl, rfl, rfl, rfl⟩

/-- an accepted message that `receiveOne` still answers with an error (validation excludes these) -/
def Malformed (m : Msg) : Prop :=
  (m.phase = .converge ∧ (m.value.isEmpty = true ∨ m.just = none)) ∨ m.phase = .initial ∨ m.phase = .terminated

structure StepRule (I : State → Prop) (V : Table → Msg → Prop) (T : State → R → Prop) : Prop where
  seq : ∀ {s : State} {r : R} {f : State → R}, T s r → r.1.tbl = s.tbl → r.1.input = s.input →
    (hasFailure r.2 = false → I r.1 → T r.1 (f r.1)) → T s (andThen r f)
  skip : ∀ {s : State}, I s → T s (s, [])
  malformed : ∀ {s : State} {m : Msg} (k : ErrKind), I s → V s.tbl m → s.recvPre m = .accept → Malformed m →
    T s (s, [.err k])
  panic : ∀ {s : State} {m : Msg} (p : PanicSite), I s → V s.tbl m → s.recvPre m = .accept → Unfiled s m →
    T s (s, [.panic p])
  filed : ∀ {s s1 : State} {m : Msg}, I s → V s.tbl m → s.recvPre m = .accept → Filed s m s1 → T s (s1, [])
  phase : ∀ {s : State} (now : Int), I s → T s (s.tryCurrentPhase now)
  commit : ∀ {s : State} (now : Int) (round : Nat), I s → s.phase.toNat < 5 → T s (s.tryCommit now round)
  toDecide : ∀ {s : State} {m : Msg}, I s → V s.tbl m → m.phase = .decide → s.phase.toNat < 5 →
    T s (s.skipToDecide m.value m.just)
  late : ∀ {s : State}, I s → s.phase ≠ .quality → T s (s.updateCandidatesFromQuality, [])
  post : ∀ {s : State} (now : Int) (round : Nat), I s → s.phase ≠ .terminated → T s (s.postReceive now round)

namespace StepRule
variable {I : State → Prop} {V : Table → Msg → Prop} {T : State → R → Prop} (h : StepRule I V T)
include h

/-- a silent change of state, then `r` -/
theorem after {s s1 : State} {r : R} (ht : s1.tbl = s.tbl) (hin : s1.input = s.input) (h1 : T s (s1, []))
    (h2 : I s1 → T s1 r) : T s r :=
  h.seq (f := fun _ => r) h1 ht hin fun _ => h2

theorem afterFiled {s s1 : State} {m : Msg} {r : R} (hi : I s) (hv : V s.tbl m) (hacc : s.recvPre m = .accept)
    (hf : Filed s m s1) (h2 : I s1 → T s1 r) : T s r :=
  h.after hf.same.1 hf.same.2.2.1 (h.filed hi hv hacc hf) h2

theorem receiveOne {s : State} (now : Int) (m : Msg) (hi : I s) (hv : V s.tbl m)
    (hdoor : ∀ k, s.recvPre m = .reject k → T s (s, [.err k])) : T s (s.receiveOne now m).1 := by
  refine receiveOne_ind s now m (fun k hk => hk.elim (hdoor k) fun hk => h.malformed k hi hv hk.1 hk.2) (fun _ => h.skip hi)
    (fun hacc hph => ?_) (fun hacc hph hne j hj => ?_) (fun hacc hph => ?_) (fun hacc hph => ?_) (fun hacc hph => ?_)
  · have hf : Filed s m _ := .quality hph
    exact recvQuality_ind s now m
      (fun hnq => h.afterFiled hi hv hacc hf fun hi1 => h.after (by simp [State.updateCandidatesFromQuality])
        (by simp [State.updateCandidatesFromQuality]) (h.late hi1 hnq) h.skip)
      fun _ => h.afterFiled hi hv hacc hf (h.phase now)
  · exact h.afterFiled hi hv hacc (.converge j hph hne hj) (h.phase now)
  · exact recvPrepare_ind s now m (fun hn => h.panic _ hi hv hacc (.inl ⟨hph, hn⟩))
      fun q hq => h.afterFiled hi hv hacc (.prepare q hph hq) (h.phase now)
  · have hnt := (recvPre_accept hacc).2.2.2
    exact recvCommit_ind s now m (fun _ hp => h.panic _ hi hv hacc (.inr (.inl ⟨hph, hp⟩)))
      (fun hd q hq hj _ _ _ => h.afterFiled hi hv hacc (.commit q hph hq hj) fun hi1 =>
        h.seq (f := fun st => st.tryCurrentPhase now) (h.commit now m.round hi1 (phase_toNat_lt_5 hd hnt))
          (tryCommit_tbl _ _ _) (tryCommit_input _ _ _) fun _ => h.phase now)
      (fun hd q hq hj => h.afterFiled hi hv hacc (.commit q hph hq hj) fun hi1 =>
        h.commit now m.round hi1 (phase_toNat_lt_5 hd hnt))
      fun _ q hq hj => h.afterFiled hi hv hacc (.commit q hph hq hj) (h.phase now)
  · have hnt := (recvPre_accept hacc).2.2.2
    exact recvDecide_ind s now m (fun hn => h.panic _ hi hv hacc (.inr (.inr ⟨hph, hn⟩)))
      (fun hd q hq => h.afterFiled hi hv hacc (.decide q hph hq) fun hi1 =>
        h.seq (f := fun st => st.tryCurrentPhase now) (h.toDecide hi1 hv hph (phase_toNat_lt_5 hd hnt)) rfl rfl
          fun _ => h.phase now)
      fun _ q hq => h.afterFiled hi hv hacc (.decide q hph hq) (h.phase now)

end StepRule

/-- table and input never change: the instance of the rule that `step₀` itself needs for `seq` -/
theorem constRule : StepRule (fun _ => True) (fun _ _ => True) fun s r => r.1.tbl = s.tbl ∧ r.1.input = s.input where
  seq {s r f} h1 _ _ h2 := by
    unfold andThen
    split
    · exact h1
    · rename_i hnf
      have := h2 (by simpa using hnf) trivial
      exact ⟨this.1.trans h1.1, this.2.trans h1.2⟩
  skip _ := ⟨rfl, rfl⟩
  malformed _ _ _ _ _ := ⟨rfl, rfl⟩
  panic _ _ _ _ _ := ⟨rfl, rfl⟩
  filed _ _ _ hf := ⟨hf.same.1, hf.same.2.2.1⟩
  phase {s} now _ :=
    tryCurrentPhase_ind s now (fun _ => ⟨by simp, by simp⟩) (fun _ => ⟨by simp, by simp⟩) (fun _ => ⟨by simp, by simp⟩)
      (fun _ => ⟨by simp, by simp⟩)
      (fun _ => tryDecide_ind s now (fun _ _ => ⟨rfl, rfl⟩) (fun _ _ _ _ => ⟨rfl, rfl⟩) fun _ => ⟨by simp, by simp⟩)
      (fun _ => ⟨rfl, rfl⟩) fun _ => ⟨rfl, rfl⟩
  commit _ _ _ _ := ⟨by simp, by simp⟩
  toDecide _ _ _ _ := ⟨rfl, rfl⟩
  late _ _ := ⟨by simp [State.updateCandidatesFromQuality], by simp [State.updateCandidatesFromQuality]⟩
  post _ _ _ _ := ⟨by simp, by simp⟩

theorem tryCurrentPhase_tbl_input (st : State) (now : Int) :
    (st.tryCurrentPhase now).1.tbl = st.tbl ∧ (st.tryCurrentPhase now).1.input = st.input :=
  constRule.phase now trivial

theorem receiveOne_tbl_input (s : State) (now : Int) (m : Msg) :
    (s.receiveOne now m).1.1.tbl = s.tbl ∧ (s.receiveOne now m).1.1.input = s.input :=
  constRule.receiveOne now m trivial trivial fun _ _ => ⟨rfl, rfl⟩

namespace StepRule
variable {I : State → Prop} {V : Table → Msg → Prop} {T : State → R → Prop} (h : StepRule I V T)
include h

/-- **The walk through `step`.** `Start` and the refusals at the door are the caller's: they are single leaves, and
failure-freedom treats them apart. So is `postReceive` on an instance that the message has just terminated. -/
theorem step₀ {s : State} (op : Op) (hi : I s) (hv : ∀ now m, op = .recv now m → V s.tbl m)
    (hstart : ∀ now, op = .start now → T s (s.beginQuality now))
    (hdoor : ∀ now m k, op = .recv now m → s.phase = .terminated ∨ s.recvPre m = .reject k → T s (s, [.err k]))
    (hterm : ∀ now m, op = .recv now m → s.phase ≠ .terminated → hasFailure (s.receiveOne now m).1.2 = false →
      I (s.receiveOne now m).1.1 → (s.receiveOne now m).1.1.phase = .terminated →
      T (s.receiveOne now m).1.1 ((s.receiveOne now m).1.1.postReceive now m.round)) :
    T s (step s op) := by
  cases op with
  | start now => exact hstart now rfl
  | alarm now => exact h.phase now hi
  | recv now m =>
    have hone := h.receiveOne now m hi (hv now m rfl) fun k hk => hdoor now m k rfl (.inr hk)
    refine step_recv_ind s now m (fun ht => hdoor now m _ rfl (.inl ht)) (fun _ => hone)
      fun hnt _ => h.seq hone (receiveOne_tbl_input s now m).1 (receiveOne_tbl_input s now m).2 fun hnf hi1 => ?_
    by_cases ht1 : (s.receiveOne now m).1.1.phase = .terminated
    · exact hterm now m rfl hnt hnf hi1 ht1
    · exact h.post now m.round hi1 ht1

end StepRule
end F3.Instance
