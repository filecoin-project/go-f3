import F3.Proofs.Poll
/-! The closed loop of C20 (`F3.Poll.closedLoop`: the predictor polling an idealised steady producer). The
loop stays synchronised (`Synced`, `LInv`): what has been seen is what was produced up to an anchor, and the
next poll comes one wait after the anchor. The number found then tells, through the time `gap` from the
anchor to the next certificate, on which side of the production period the wait was (`le_produced_iff`);
`poll_cases` lists what a poll can therefore find and do. -/
namespace F3.Proofs.PollLoop
open F3.Poll F3.Spec.Poll F3.Proofs.Poll

/-- below `ph - P` the floor formula goes negative while `produced` stays 0 -/
theorem produced_eq (P ph t : Int) (hP : 0 < P) (ht : ph - P ≤ t) :
    produced P ph t = (t - ph) / P + 1 := by
  unfold produced
  split
  · rename_i h
    have h1 : (t - ph) / P < 0 := (Int.ediv_lt_iff_lt_mul hP).2 (by omega)
    have h2 : -1 ≤ (t - ph) / P := (Int.le_ediv_iff_mul_le hP).2 (by omega)
    omega
  · rfl

/-- time from `t0` to the first certificate strictly after `t0` -/
def gap (P ph t0 : Int) : Int := ph + produced P ph t0 * P - t0

theorem gap_bounds (P ph t0 : Int) (hP : 0 < P) (h0 : ph - P ≤ t0) :
    0 < gap P ph t0 ∧ gap P ph t0 ≤ P := by
  unfold gap
  rw [produced_eq P ph t0 hP h0]
  have hne : P ≠ 0 := by omega
  have a1 := Int.ediv_mul_le (t0 - ph) hne
  have a2 := Int.lt_ediv_add_one_mul_self (t0 - ph) hP
  have e : ((t0 - ph) / P + 1) * P = (t0 - ph) / P * P + P := by rw [Int.add_mul]; omega
  rw [e] at a2 ⊢
  omega

/-- **The producer in terms of the gap.** At least `j` certificates appear during a wait `W` iff the
wait reaches the `j`-th of them, which comes `gap + (j-1)·P` after the start. -/
theorem le_produced_iff (P ph t0 W j : Int) (hP : 0 < P) (h0 : ph - P ≤ t0) (hW : 0 ≤ W) :
    produced P ph t0 + j ≤ produced P ph (t0 + W) ↔ gap P ph t0 + (j - 1) * P ≤ W := by
  rw [produced_eq P ph (t0 + W) hP (by omega)]
  unfold gap
  generalize produced P ph t0 = q
  have e : (q + j - 1) * P = q * P + (j - 1) * P := by
    rw [show q + j - 1 = q + (j - 1) by omega, Int.add_mul]
  have h := Int.le_ediv_iff_mul_le (a := q + j - 1) (b := t0 + W - ph) hP
  rw [e] at h
  omega

/-- `le_produced_iff` for `j = 0 … 3` as a table: with `p` certificates found after a wait `W`,
`p - 1 < W / P < p + 1` -/
theorem truthful (P ph t0 W : Int) (hP : 0 < P) (h0 : ph - P ≤ t0) (hW : 0 ≤ W) :
    let p := produced P ph (t0 + W) - produced P ph t0
    0 ≤ p ∧ (p = 0 → W < P) ∧ (2 ≤ p → P < W) ∧ (3 ≤ p → 2 * P < W) ∧
    (W < P → p ≤ 1) ∧ (P ≤ W → 1 ≤ p) ∧ (W ≤ P → p ≤ 1) ∧ (2 * P ≤ W → 2 ≤ p) ∧ (W ≤ 2 * P → p ≤ 2) := by
  intro p
  have hg := gap_bounds P ph t0 hP h0
  have q0 := le_produced_iff P ph t0 W 0 hP h0 hW
  have q1 := le_produced_iff P ph t0 W 1 hP h0 hW
  have q2 := le_produced_iff P ph t0 W 2 hP h0 hW
  have q3 := le_produced_iff P ph t0 W 3 hP h0 hW
  show 0 ≤ produced P ph (t0 + W) - produced P ph t0 ∧ _
  omega

/-- state of the closed loop between two polls: predictor, time of the next poll, certificates seen -/
structure LState where
  s : PState
  t : Int
  seen : Int

/-- progress the next poll will report -/
def progressAt (P ph : Int) (c : LState) : Int := produced P ph c.t - c.seen

/-- the wait the next poll will return -/
def loopWait (P ph : Int) (c : LState) : Int := (update c.s (progressAt P ph c)).1

/-- one iteration of `closedLoop` on the state -/
def loopStep (P ph : Int) (c : LState) : LState :=
  ⟨(update c.s (progressAt P ph c)).2, c.t + loopWait P ph c, produced P ph c.t⟩

def loopIter (P ph : Int) : Nat → LState → LState
  | 0, c => c
  | k + 1, c => loopIter P ph k (loopStep P ph c)

/-- `closedLoop` on a packed state -/
def loopOf (P ph : Int) (n : Nat) (c : LState) : List Int := closedLoop P ph n c.s c.t c.seen

theorem loopOf_succ (P ph : Int) (n : Nat) (c : LState) :
    loopOf P ph (n + 1) c = loopWait P ph c :: loopOf P ph n (loopStep P ph c) := by
  unfold loopOf
  rw [closedLoop]
  rfl

theorem loopOf_add (P ph : Int) (k : Nat) : ∀ (n : Nat) (c : LState),
    loopOf P ph (k + n) c = loopOf P ph k c ++ loopOf P ph n (loopIter P ph k c) := by
  induction k with
  | zero => intro n c; simp [loopOf, closedLoop, loopIter]
  | succ k ih =>
    intro n c
    have : k + 1 + n = (k + n) + 1 := by omega
    rw [this, loopOf_succ, loopOf_succ, ih n (loopStep P ph c)]
    rfl

theorem loopOf_length (P ph : Int) (n : Nat) : ∀ c : LState, (loopOf P ph n c).length = n := by
  induction n with
  | zero => intro c; rfl
  | succ n ih => intro c; rw [loopOf_succ, List.length_cons, ih]

/-- a wait from the `k`-th poll on is a wait of the run that starts in the `k`-th state -/
theorem loopOf_get_shift (P ph : Int) (n k j : Nat) (c : LState) (hk : k ≤ j) (hn : k ≤ n) :
    (loopOf P ph n c)[j]? = (loopOf P ph (n - k) (loopIter P ph k c))[j - k]? := by
  rw [show n = k + (n - k) by omega, loopOf_add, List.getElem?_append_right (by rw [loopOf_length]; exact hk),
    loopOf_length, show k + (n - k) - k = n - k by omega]

theorem loopIter_add (P ph : Int) (j : Nat) : ∀ (k : Nat) (c : LState),
    loopIter P ph (j + k) c = loopIter P ph k (loopIter P ph j c) := by
  induction j with
  | zero => intro k c; simp [loopIter]
  | succ j ih =>
    intro k c
    have : j + 1 + k = (j + k) + 1 := by omega
    rw [this]
    exact ih k (loopStep P ph c)

/-- **Loop invariant.** The certificates seen are those produced up to an anchor time `t0` (not
earlier than one period before the first certificate); outside back-off the next poll is one
interval after the anchor, in back-off it is one back-off after the anchor. -/
def Synced (P ph : Int) (s : PState) (t seen : Int) : Prop :=
  ∃ t0, ph - P ≤ t0 ∧ t0 < t ∧ seen = produced P ph t0 ∧
    (s.backoff = 0 → t = t0 + s.interval) ∧ (0 < s.backoff → t = t0 + s.backoff)

theorem le_progress_iff (P ph : Int) (c : LState) (t0 j : Int) (hP : 0 < P) (h0 : ph - P ≤ t0)
    (hlt : t0 ≤ c.t) (hseen : c.seen = produced P ph t0) :
    j ≤ progressAt P ph c ↔ gap P ph t0 + (j - 1) * P ≤ c.t - t0 := by
  have := le_produced_iff P ph t0 (c.t - t0) j hP h0 (by omega)
  rw [show t0 + (c.t - t0) = c.t by omega] at this
  unfold progressAt
  omega

/-- **What the poll of a synchronised state finds**, without the anchor: with `W` the wait just slept
(the interval, in back-off the back-off) and `g ∈ (0, P]` the time from the anchor to the next
certificate, it finds at least `j` iff `g + (j-1)·P ≤ W` -/
theorem synced_gap (P ph : Int) (c : LState) (hP : 0 < P) (hS : Synced P ph c.s c.t c.seen) :
    ∃ g W, 0 < g ∧ g ≤ P ∧ 0 < W ∧ (c.s.backoff = 0 → W = c.s.interval) ∧
      (0 < c.s.backoff → W = c.s.backoff) ∧ ∀ j, j ≤ progressAt P ph c ↔ g + (j - 1) * P ≤ W := by
  obtain ⟨t0, h0, hlt, hseen, hb0, hbp⟩ := hS
  have hg := gap_bounds P ph t0 hP h0
  exact ⟨gap P ph t0, c.t - t0, hg.1, hg.2, by omega, fun h => by have := hb0 h; omega,
    fun h => by have := hbp h; omega, fun j => le_progress_iff P ph c t0 j hP h0 (by omega) hseen⟩

/-- **What the poll of a synchronised state does**, and what that says about the wait against the period: outside
back-off nothing found means the interval is below the period (`up`), two or more found that it is above (`down`; exactly
two up to twice the period), and at the period exactly one is found (`hold` is the only case left); a back-off that
finds nothing was shorter than the period. After this the producer is needed only to count polls (`live`). -/
theorem poll_cases (P ph : Int) (s : PState) (t seen : Int) (hP : 0 < P) (hI : PInv s) (hS : Synced P ph s t seen)
    {motive : Int → Int × PState → Prop}
    (up : s.backoff = 0 → s.interval < P →
      motive 0 (s.interval, { zeroEvent s with backoff := min (2 * s.interval) (10 * s.maxI) }))
    (hold : s.backoff = 0 → motive 1 (s.interval, s))
    (down : ∀ p, s.backoff = 0 → P < s.interval → 2 ≤ p → (s.interval ≤ 2 * P → p = 2) → motive p (update s p))
    (sleep : 0 < s.backoff → s.backoff < P →
      motive 0 (s.backoff, { s with backoff := min (2 * s.backoff) (10 * s.maxI) }))
    (wake : ∀ p, 0 < s.backoff → 0 < p → motive p (s.interval, { s with backoff := 0 })) :
    motive (produced P ph t - seen) (update s (produced P ph t - seen)) := by
  obtain ⟨g, W, hg0, hgP, _, hWi, hWb, hq⟩ := synced_gap P ph ⟨s, t, seen⟩ hP hS
  have q0 := hq 0
  have q1 := hq 1
  have q2 := hq 2
  have q3 := hq 3
  clear hq
  simp only [progressAt] at q0 q1 q2 q3 hWi hWb
  generalize produced P ph t - seen = p at *
  rcases hI.backoff_pos_cases with hb | ⟨hb, _⟩
  · have hW := hWi hb
    rcases (by omega : p = 0 ∨ p = 1 ∨ 2 ≤ p) with h | h | h
    · subst h; rw [update_zero s hb hI.interval_pos]; exact up hb (by omega)
    · subst h; rw [update_one s (Int.le_of_eq hb)]; exact hold hb
    · exact down p hb (by omega) h (by omega)
  · have hW := hWb hb
    rcases (by omega : p = 0 ∨ 0 < p) with h | h
    · subst h; rw [update_bo_zero s 0 hb (Int.le_refl 0)]; exact sleep hb (by omega)
    · rw [update_bo_pos s p hb h]; exact wake p hb h

/-- a poll that finds something re-anchors the loop, whatever the state was before -/
theorem synced_of_progress (P ph : Int) (c : LState) (hI : PInv c.s) (ht : ph - P ≤ c.t)
    (hp : 1 ≤ progressAt P ph c) :
    Synced P ph (loopStep P ph c).s (loopStep P ph c).t (loopStep P ph c).seen := by
  have hpos := update_pos c.s _ hI hp
  have hw := (update_wait c.s (progressAt P ph c) hI).1
  have hmn := hI.min_pos
  refine ⟨c.t, ht, ?_, rfl, fun _ => ?_, fun h => ?_⟩
  · show c.t < c.t + (update c.s (progressAt P ph c)).1; omega
  · show c.t + (update c.s (progressAt P ph c)).1 = c.t + (update c.s (progressAt P ph c)).2.interval
    rw [hpos.2]
  · have : (update c.s (progressAt P ph c)).2.backoff = 0 := hpos.1
    have h' : 0 < (update c.s (progressAt P ph c)).2.backoff := h
    omega

/-- after a poll without progress the anchor stays: the wait `W` is repeated and the back-off is `2W` -/
theorem synced_same_anchor (P ph : Int) (s' : PState) (t0 t W seen' : Int) (h0 : ph - P ≤ t0) (hW : 0 < W)
    (ht : t = t0 + W) (hseen' : seen' = produced P ph t0) (hb' : s'.backoff = 2 * W) :
    Synced P ph s' (t + W) seen' :=
  ⟨t0, h0, by omega, hseen', fun h => by omega, fun _ => by omega⟩

/-- one poll keeps the loop synchronised -/
theorem synced_step (P ph : Int) (c : LState) (hP : 0 < P) (hI : PInv c.s) (hmx : P ≤ c.s.maxI)
    (hS : Synced P ph c.s c.t c.seen) :
    Synced P ph (loopStep P ph c).s (loopStep P ph c).t (loopStep P ph c).seen := by
  obtain ⟨t0, h0, hlt, hseen, hb0, hbp⟩ := id hS
  have hg := gap_bounds P ph t0 hP h0
  have q0 := le_progress_iff P ph c t0 0 hP h0 (by omega) hseen
  have q1 := le_progress_iff P ph c t0 1 hP h0 (by omega) hseen
  by_cases hp : 1 ≤ progressAt P ph c
  · exact synced_of_progress P ph c hI (by omega) hp
  · -- nothing found: the wait `W < P ≤ max` just slept is repeated, the back-off becomes `2W`, below the cap
    have hp' : progressAt P ph c = 0 := by omega
    have hseen' : produced P ph c.t = produced P ph t0 := by unfold progressAt at hp'; omega
    have hz' : c.t - t0 < P := by omega
    clear q0 q1 hg hseen
    have hmn := hI.min_pos
    unfold loopStep loopWait
    rw [hp']
    rcases hI.backoff_cases with hb | hb
    · have ht := hb0 hb
      have hi0 := hI.interval_pos
      rw [update_zero c.s hb hi0]
      exact synced_same_anchor P ph _ t0 c.t c.s.interval _ h0 hi0 ht hseen'
        (by show min (2 * c.s.interval) (10 * c.s.maxI) = _; omega)
    · have hbpos : 0 < c.s.backoff := by omega
      have ht := hbp hbpos
      rw [update_bo_zero c.s 0 hbpos (by omega)]
      exact synced_same_anchor P ph _ t0 c.t c.s.backoff _ h0 hbpos ht hseen'
        (by show min (2 * c.s.backoff) (10 * c.s.maxI) = _; omega)

/-- `Synced` together with a sane predictor whose two constants are `mn`, `mx`: what the lemmas about
runs carry from state to state -/
structure LInv (P ph mn mx : Int) (c : LState) : Prop where
  pinv : PInv c.s
  minI : c.s.minI = mn
  maxI : c.s.maxI = mx
  synced : Synced P ph c.s c.t c.seen

theorem linv_step (P ph mn mx : Int) (hP : 0 < P) (hmx : P ≤ mx) (c : LState) (h : LInv P ph mn mx c) :
    LInv P ph mn mx (loopStep P ph c) :=
  ⟨update_pinv c.s _ h.pinv, h.minI, h.maxI, synced_step P ph c hP h.pinv (by rw [h.maxI]; exact hmx) h.synced⟩

theorem linv_iter (P ph mn mx : Int) (hP : 0 < P) (hmx : P ≤ mx) (k : Nat) : ∀ c : LState,
    LInv P ph mn mx c → LInv P ph mn mx (loopIter P ph k c) := by
  induction k with
  | zero => intro c h; exact h
  | succ k ih => intro c h; exact ih (loopStep P ph c) (linv_step P ph mn mx hP hmx c h)

/-- the start of `SettlesStatement`: a fresh predictor, first poll after the initial interval, nothing
seen. After the first poll the loop is anchored (for `phase = 0` the start itself is not: the
certificate of time 0 is "new" at the first poll although the wait began at time 0). -/
def start (mn ini mx : Int) : LState := ⟨PState.init mn ini mx, ini, 0⟩

theorem start_iter (mn ini mx P ph : Int) (h0 : 0 < mn) (h1 : mn ≤ ini) (h2 : ini ≤ mx)
    (hP : 0 < P) (hmx : P ≤ mx) (hph0 : 0 ≤ ph) (hph : ph < P) (k : Nat) :
    LInv P ph mn mx (loopIter P ph (k + 1) (start mn ini mx)) := by
  have hI := start_pinv mn ini mx h0 h1 h2
  have hU := update_pinv (start mn ini mx).s (progressAt P ph (start mn ini mx)) hI
  -- the first poll anchors the loop
  have hS : Synced P ph (loopStep P ph (start mn ini mx)).s (loopStep P ph (start mn ini mx)).t
      (loopStep P ph (start mn ini mx)).seen := by
    by_cases hz : ph = 0
    · subst hz
      apply synced_of_progress P 0 (start mn ini mx) hI (by simp only [start]; omega)
      have hpr : produced P 0 ini = ini / P + 1 := by
        rw [produced_eq P 0 ini hP (by omega)]; simp
      have : 0 ≤ ini / P := Int.ediv_nonneg (by omega) (by omega)
      simp only [progressAt, start, hpr]
      omega
    · have hS : Synced P ph (start mn ini mx).s (start mn ini mx).t (start mn ini mx).seen := by
        refine ⟨0, by omega, by simp only [start]; omega, ?_, ?_, ?_⟩
        · have : (0 : Int) < ph := by omega
          simp [start, produced, this]
        · intro _; simp [start, PState.init]
        · intro h; simp [start, PState.init] at h
      exact synced_step P ph (start mn ini mx) hP hI hmx hS
  exact linv_iter P ph mn mx hP hmx k (loopStep P ph (start mn ini mx)) ⟨hU, rfl, rfl, hS⟩

theorem hold_period (P ph : Int) (hP : 0 < P) (n : Nat) : ∀ c : LState, PInv c.s →
    Synced P ph c.s c.t c.seen → c.s.backoff = 0 → c.s.interval = P →
    loopOf P ph n c = List.replicate n P ∧ (loopIter P ph n c).s = c.s := by
  induction n with
  | zero => intro c _ _ _ _; exact ⟨rfl, rfl⟩
  | succ n ih =>
    intro c hI hS hb hi
    have hp : progressAt P ph c = 1 := by
      obtain ⟨g, W, hg0, hgP, _, hWi, _, hq⟩ := synced_gap P ph c hP hS
      have q1 := hq 1
      have q2 := hq 2
      have := hWi hb
      omega
    have hst := synced_step P ph c hP hI (by rw [← hi]; exact hI.le_max) hS
    have hs' : (loopStep P ph c).s = c.s := by
      simp only [loopStep, hp, update_one c.s (Int.le_of_eq hb)]
    have hw : loopWait P ph c = P := by
      simp only [loopWait, hp, update_one c.s (Int.le_of_eq hb), hi]
    have := ih (loopStep P ph c) (update_pinv c.s _ hI) hst (by rw [hs']; exact hb) (by rw [hs']; exact hi)
    rw [loopOf_succ, List.replicate_succ, hw, this.1]
    exact ⟨rfl, by show (loopIter P ph n (loopStep P ph c)).s = c.s; rw [this.2, hs']⟩

theorem hold_period_state (P ph : Int) (hP : 0 < P) (n : Nat) : ∀ c : LState, PInv c.s →
    Synced P ph c.s c.t c.seen → c.s.backoff = 0 → c.s.interval = P →
    (loopIter P ph n c).s = c.s :=
  fun c hI hS hb hi => (hold_period P ph hP n c hI hS hb hi).2

theorem natCast_succ_mul (k : Nat) (x : Int) : ((k + 1 : Nat) : Int) * x = (k : Int) * x + x := by
  rw [Int.natCast_succ, Int.add_mul, Int.one_mul]

/-- `k` steps of `d > 0` that stay below `B ≤ (c+1)·d` are at most `c` steps -/
theorem steps_le (k c : Nat) (d B : Int) (hd : 0 < d) (h : (k : Int) * d < B) (hB : B ≤ ((c : Int) + 1) * d) :
    k ≤ c := by
  apply Nat.le_of_lt_succ
  apply Int.ofNat_lt.mp
  apply Int.lt_of_mul_lt_mul_right (Int.lt_of_lt_of_le h _) (Int.le_of_lt hd)
  simpa using hB

/-- a poll outside back-off, one interval `i` after the anchor `t0`, when the next certificate is `g`
after the anchor with `g ≤ i < g + P`: it finds exactly one certificate; nothing moves but the anchor,
and the gap changes by `P - i` -/
theorem live_one (P ph : Int) (hP : 0 < P) (c : LState) (t0 : Int) (hb : c.s.backoff = 0)
    (hi : 0 < c.s.interval) (h0 : ph - P ≤ t0) (ht : c.t = t0 + c.s.interval) (hseen : c.seen = produced P ph t0)
    (h1 : gap P ph t0 ≤ c.s.interval) (h2 : c.s.interval < gap P ph t0 + P) :
    loopWait P ph c = c.s.interval ∧ loopStep P ph c = ⟨c.s, c.t + c.s.interval, c.seen + 1⟩ ∧
    c.seen + 1 = produced P ph c.t ∧ gap P ph c.t = gap P ph t0 + (P - c.s.interval) := by
  have q1 := le_progress_iff P ph c t0 1 hP h0 (by omega) hseen
  have q2 := le_progress_iff P ph c t0 2 hP h0 (by omega) hseen
  have hp : progressAt P ph c = 1 := by omega
  have hpr : produced P ph c.t = produced P ph t0 + 1 := by unfold progressAt at hp; omega
  have hga : gap P ph c.t = gap P ph t0 + (P - c.s.interval) := by
    unfold gap; rw [hpr, Int.add_mul]; omega
  have hw : loopWait P ph c = c.s.interval := by simp only [loopWait, hp, update_one c.s (Int.le_of_eq hb)]
  refine ⟨hw, ?_, by omega, hga⟩
  simp only [loopStep, hw, hp, update_one c.s (Int.le_of_eq hb)]
  rw [hpr, hseen]

theorem live_stop (P ph : Int) (hP : 0 < P) (c : LState) (t0 : Int) (hi : 0 < c.s.interval)
    (h0 : ph - P ≤ t0) (ht : c.t = t0 + c.s.interval) (hseen : c.seen = produced P ph t0)
    (h : ¬ (gap P ph t0 ≤ c.s.interval ∧ c.s.interval < gap P ph t0 + P)) :
    (c.s.interval < P → progressAt P ph c = 0) ∧ (P < c.s.interval → 2 ≤ progressAt P ph c) := by
  have hg := gap_bounds P ph t0 hP h0
  have q0 := le_progress_iff P ph c t0 0 hP h0 (by omega) hseen
  have q1 := le_progress_iff P ph c t0 1 hP h0 (by omega) hseen
  have q2 := le_progress_iff P ph c t0 2 hP h0 (by omega) hseen
  omega

/-- **Away from the period the loop cannot stall** (induction on the measure `m`). Outside back-off
with interval `i ≠ P`, one interval after the anchor `t0`, `g` the time from the anchor to the next
certificate: as long as `g ≤ i < g + P` a poll finds exactly one certificate and the gap moves by
`P - i`, towards the end of that window. So after `k` such polls (the gap then is `g + k·(P - i)`) a
poll finds `p = 0` (below the period) or `p ≥ 2` (above); the first `k` waits are `i`, the next is that
of `update s p`. -/
theorem live (P ph : Int) (hP : 0 < P) (m : Nat) : ∀ (c : LState) (t0 : Int), c.s.backoff = 0 →
    0 < c.s.interval → ph - P ≤ t0 → c.t = t0 + c.s.interval → c.seen = produced P ph t0 →
    (c.s.interval < P → c.s.interval - gap P ph t0 < m) →
    (P ≤ c.s.interval → P < c.s.interval ∧ gap P ph t0 ≤ m) →
    ∃ (k : Nat) (p : Int), (c.s.interval < P → p = 0) ∧ (P < c.s.interval → 2 ≤ p) ∧
      0 < gap P ph t0 + (k : Int) * (P - c.s.interval) ∧
      gap P ph t0 + (k : Int) * (P - c.s.interval) ≤ P ∧
      loopIter P ph (k + 1) c =
        ⟨(update c.s p).2, c.t + (k : Int) * c.s.interval + (update c.s p).1, c.seen + k + p⟩ ∧
      loopOf P ph (k + 1) c = List.replicate k c.s.interval ++ [(update c.s p).1] := by
  induction m with
  | zero =>
    intro c t0 hb hi h0 ht hseen hm1 hm2
    have hg := gap_bounds P ph t0 hP h0
    have hstop := live_stop P ph hP c t0 hi h0 ht hseen (by omega)
    refine ⟨0, progressAt P ph c, hstop.1, hstop.2, by omega, by omega, ?_, rfl⟩
    show loopStep P ph c = _
    simp only [loopStep, loopWait, progressAt]
    congr 1 <;> omega
  | succ m ih =>
    intro c t0 hb hi h0 ht hseen hm1 hm2
    have hg := gap_bounds P ph t0 hP h0
    by_cases hone : gap P ph t0 ≤ c.s.interval ∧ c.s.interval < gap P ph t0 + P
    · obtain ⟨hw, hs, hpr, hga⟩ := live_one P ph hP c t0 hb hi h0 ht hseen hone.1 hone.2
      obtain ⟨k, p, hp0, hp2, hk1, hk2, hit, hrun⟩ := ih ⟨c.s, c.t + c.s.interval, c.seen + 1⟩ c.t hb hi
        (by omega) rfl hpr (by simp only; omega) (by simp only; omega)
      simp only at hp0 hp2 hk1 hk2 hit hrun
      clear hm1 hm2 hone hg ht hseen hpr -- so that `omega` below sees only what it needs
      have e1 := natCast_succ_mul k (P - c.s.interval)
      refine ⟨k + 1, p, hp0, hp2, by omega, by omega, ?_, ?_⟩
      · show loopIter P ph (k + 1) (loopStep P ph c) = _
        rw [hs, hit, natCast_succ_mul k c.s.interval, Int.natCast_succ k]
        clear hp0 hp2 hk1 hk2 e1 hga
        congr 1 <;> omega
      · rw [loopOf_succ, hw, hs, hrun, List.replicate_succ, List.cons_append]
    · have hstop := live_stop P ph hP c t0 hi h0 ht hseen hone
      refine ⟨0, progressAt P ph c, hstop.1, hstop.2, by omega, by omega, ?_, rfl⟩
      show loopStep P ph c = _
      simp only [loopStep, loopWait, progressAt]
      congr 1 <;> omega

theorem live_synced (P ph : Int) (hP : 0 < P) (c : LState) (hI : PInv c.s)
    (hS : Synced P ph c.s c.t c.seen) (hb : c.s.backoff = 0) (hne : c.s.interval ≠ P) :
    ∃ (k : Nat) (p : Int), (c.s.interval < P → p = 0) ∧ (P < c.s.interval → 2 ≤ p) ∧
      (k : Int) * (P - c.s.interval) < P ∧ -P < (k : Int) * (P - c.s.interval) ∧
      loopIter P ph (k + 1) c =
        ⟨(update c.s p).2, c.t + (k : Int) * c.s.interval + (update c.s p).1, c.seen + k + p⟩ ∧
      loopOf P ph (k + 1) c = List.replicate k c.s.interval ++ [(update c.s p).1] := by
  obtain ⟨t0, h0, hlt, hseen, hb0, _⟩ := hS
  have hg := gap_bounds P ph t0 hP h0
  have hi0 := hI.interval_pos
  have hm : (((P + c.s.interval).toNat : Nat) : Int) = P + c.s.interval := Int.toNat_of_nonneg (by omega)
  obtain ⟨k, p, hp0, hp2, hk1, hk2, hrun⟩ := live P ph hP (P + c.s.interval).toNat c t0 hb hi0 h0 (hb0 hb)
    hseen (by omega) (by omega)
  exact ⟨k, p, hp0, hp2, by omega, by omega, hrun⟩

theorem leave_backoff (P ph mn mx : Int) (hP : 0 < P) (hmx : P ≤ mx) (m : Nat) : ∀ c : LState,
    LInv P ph mn mx c → 0 < c.s.backoff → P - c.s.backoff < m →
    ∃ j : Nat, (loopIter P ph j c).s = { c.s with backoff := 0 } := by
  -- a poll in back-off that finds something leaves it
  have found : ∀ c : LState, 0 < c.s.backoff → 0 < progressAt P ph c →
      (loopIter P ph 1 c).s = { c.s with backoff := 0 } := by
    intro c hb hp
    show (loopStep P ph c).s = _
    simp only [loopStep, update_bo_pos c.s _ hb hp]
  induction m with
  | zero =>
    intro c hL hb hm
    obtain ⟨g, W, hg0, hgP, _, _, hWb, hq⟩ := synced_gap P ph c hP hL.synced
    have q1 := hq 1
    have hW := hWb hb
    exact ⟨1, found c hb (by omega)⟩
  | succ m ih =>
    intro c hL hb hm
    obtain ⟨g, W, hg0, hgP, _, _, hWb, hq⟩ := synced_gap P ph c hP hL.synced
    have q0 := hq 0
    have q1 := hq 1
    have hW := hWb hb
    by_cases hp : 0 < progressAt P ph c
    · exact ⟨1, found c hb hp⟩
    · have hp' : progressAt P ph c = 0 := by omega
      have hbP : c.s.backoff < P := by omega
      clear q0 q1 hq
      have hs' : (loopStep P ph c).s = { c.s with backoff := 2 * c.s.backoff } := by
        simp only [loopStep, hp', update_bo_zero c.s 0 hb (by omega)]
        have : min (2 * c.s.backoff) (10 * c.s.maxI) = 2 * c.s.backoff := by have := hL.maxI; omega
        rw [this]
      obtain ⟨j, hj⟩ := ih (loopStep P ph c) (linv_step P ph mn mx hP hmx c hL)
        (by rw [hs']; simp only; omega) (by rw [hs']; simp only; omega)
      refine ⟨j + 1, ?_⟩
      show (loopIter P ph j (loopStep P ph c)).s = _
      rw [hj, hs']

theorem cross_up (P ph mn mx : Int) (hP : 0 < P) (hmn : 100 ≤ mn) (hmx : P ≤ mx) (m : Nat) :
    ∀ c : LState, LInv P ph mn mx c → c.s.backoff = 0 → c.s.interval < P → P - c.s.interval < m →
    ∃ K : Nat, P ≤ (loopIter P ph K c).s.interval := by
  induction m with
  | zero => intro c _ _ hi hm; omega
  | succ m ih =>
    intro c hL hb hi hm
    obtain ⟨hI, hmn', hmx', hS⟩ := id hL
    have hmm := hI.min_le_max
    have hi1 := hI.min_le
    obtain ⟨k, p, hp0, _, _, _, hit, _⟩ := live_synced P ph hP c hI hS hb (by omega)
    have hp := hp0 hi
    subst hp
    have hz := update_zero c.s hb hI.interval_pos
    have hE1 := upE_pos c.s hI (by rw [hmn']; exact hmn)
    have hgrow : c.s.interval < (update c.s 0).2.interval := by
      rw [hz]; simp only [zeroEvent]; rw [clampI_eq _ _ _ hmm]; omega
    have hb1 : 0 < (update c.s 0).2.backoff := by rw [hz]; simp only; omega
    by_cases hdone : P ≤ (update c.s 0).2.interval
    · exact ⟨k + 1, by rw [hit]; exact hdone⟩
    · -- leave back-off, then the distance to the period has shrunk
      have hs1 : (loopIter P ph (k + 1) c).s = (update c.s 0).2 := by rw [hit]
      obtain ⟨j, hj⟩ := leave_backoff P ph mn mx hP hmx P.toNat (loopIter P ph (k + 1) c)
        (linv_iter P ph mn mx hP hmx (k + 1) c hL) (by rw [hs1]; exact hb1)
        (by rw [hs1, Int.toNat_of_nonneg (by omega)]; omega)
      have hs2 : (loopIter P ph (k + 1 + j) c).s = { (update c.s 0).2 with backoff := 0 } := by
        rw [loopIter_add P ph (k + 1) j c, hj, hs1]
      obtain ⟨K, hK⟩ := ih (loopIter P ph (k + 1 + j) c) (linv_iter P ph mn mx hP hmx (k + 1 + j) c hL)
        (by rw [hs2]) (by rw [hs2]; simp only; omega) (by rw [hs2]; simp only; omega)
      exact ⟨k + 1 + j + K, by rw [loopIter_add P ph (k + 1 + j) K c]; exact hK⟩

theorem cross_dn (P ph mn mx : Int) (hP : 0 < P) (hmn : 100 ≤ mn) (hmnP : mn ≤ P) (hmx : P ≤ mx) (m : Nat) :
    ∀ c : LState, LInv P ph mn mx c → c.s.backoff = 0 → P < c.s.interval → c.s.interval - P < m →
    ∃ K : Nat, (loopIter P ph K c).s.interval ≤ P := by
  induction m with
  | zero => intro c _ _ hi hm; omega
  | succ m ih =>
    intro c hL hb hi hm
    obtain ⟨hI, hmn', hmx', hS⟩ := id hL
    obtain ⟨k, p, _, hp2, _, _, hit, _⟩ := live_synced P ph hP c hI hS hb (by omega)
    have hp := hp2 hi
    have hshrink := update_ge_two_lt c.s p hI hb hp (by rw [hmn']; exact hmn) (by omega)
    by_cases hdone : (update c.s p).2.interval ≤ P
    · exact ⟨k + 1, by rw [hit]; exact hdone⟩
    · have hs1 : (loopIter P ph (k + 1) c).s = (update c.s p).2 := by rw [hit]
      obtain ⟨K, hK⟩ := ih (loopIter P ph (k + 1) c) (linv_iter P ph mn mx hP hmx (k + 1) c hL)
        (by rw [hs1]; exact (update_pos c.s p hI (by omega)).1) (by rw [hs1]; omega) (by rw [hs1]; omega)
      exact ⟨k + 1 + K, by rw [loopIter_add P ph (k + 1) K c]; exact hK⟩

theorem straddle (P ph mn mx : Int) (hP : 0 < P) (hmn : 100 ≤ mn) (hmnP : mn ≤ P) (hmx : P ≤ mx)
    (c : LState) (hL : LInv P ph mn mx c) :
    (∃ K : Nat, P ≤ (loopIter P ph K c).s.interval) ∧ (∃ K : Nat, (loopIter P ph K c).s.interval ≤ P) := by
  have key : ∀ c : LState, LInv P ph mn mx c → c.s.backoff = 0 →
      (∃ K : Nat, P ≤ (loopIter P ph K c).s.interval) ∧ (∃ K : Nat, (loopIter P ph K c).s.interval ≤ P) := by
    intro c hL hb
    rcases Int.lt_trichotomy c.s.interval P with hi | hi | hi
    · exact ⟨cross_up P ph mn mx hP hmn hmx (P - c.s.interval).toNat.succ c hL hb hi
        (by rw [Int.natCast_succ, Int.toNat_of_nonneg (by omega)]; omega), ⟨0, by show c.s.interval ≤ P; omega⟩⟩
    · exact ⟨⟨0, by show P ≤ c.s.interval; omega⟩, ⟨0, by show c.s.interval ≤ P; omega⟩⟩
    · exact ⟨⟨0, by show P ≤ c.s.interval; omega⟩,
        cross_dn P ph mn mx hP hmn hmnP hmx (c.s.interval - P).toNat.succ c hL hb hi
          (by rw [Int.natCast_succ, Int.toNat_of_nonneg (by omega)]; omega)⟩
  rcases hL.pinv.backoff_cases with hb | hb
  · exact key c hL hb
  · -- first leave back-off
    obtain ⟨j, hj⟩ := leave_backoff P ph mn mx hP hmx P.toNat c hL (by have := hL.pinv.min_pos; omega)
      (by rw [Int.toNat_of_nonneg (by omega)]; have := hL.pinv.min_pos; omega)
    obtain ⟨⟨K1, h1⟩, ⟨K2, h2⟩⟩ := key (loopIter P ph j c) (linv_iter P ph mn mx hP hmx j c hL) (by rw [hj])
    exact ⟨⟨j + K1, by rw [loopIter_add]; exact h1⟩, ⟨j + K2, by rw [loopIter_add]; exact h2⟩⟩

/-- the configuration in which a change of direction makes overshoot and explore distance grow (by about
4/3) instead of shrinking: explore distance `e ≡ 2 (mod 3)` and the interval exactly `e - 1` beyond the
period on the side of the last move -/
def Exceptional (P : Int) (s : PState) : Prop :=
  s.explore % 3 = 2 ∧
  ((s.wasInc = false ∧ P - s.interval = s.explore - 1) ∨ (s.wasInc = true ∧ s.interval - P = s.explore - 1))

/-- "the search is near the period": just after crossing it the overshoot is less than the explore
distance `e ≤ P/2`; on the way back to it the remaining distance is at most `2e ≤ P/2`; in back-off
the back-off is at least one period (so the next poll leaves it). -/
def Near (P : Int) (s : PState) : Prop :=
  (s.backoff = 0 ∨ P ≤ s.backoff) ∧
  (s.interval < P →
    (s.wasInc = false ∧ P - s.interval < s.explore ∧ 2 * s.explore ≤ P) ∨
    (s.wasInc = true ∧ P - s.interval ≤ 2 * s.explore ∧ 4 * s.explore ≤ P)) ∧
  (P < s.interval →
    (s.wasInc = true ∧ s.interval - P < s.explore ∧ 2 * s.explore ≤ P) ∨
    (s.wasInc = false ∧ s.interval - P ≤ 2 * s.explore ∧ 4 * s.explore ≤ P))

instance (P : Int) (s : PState) : Decidable (Exceptional P s) := by unfold Exceptional; infer_instance

instance (P : Int) (s : PState) : Decidable (Near P s) := by unfold Near; infer_instance

theorem near_band (P : Int) (s : PState) (hP : 0 < P) (hN : Near P s) :
    P ≤ 2 * s.interval ∧ 2 * s.interval ≤ 3 * P := by
  obtain ⟨_, h1, h2⟩ := hN
  rcases Int.lt_trichotomy s.interval P with hi | hi | hi
  · rcases h1 hi with h | h <;> omega
  · omega
  · rcases h2 hi with h | h <;> omega

theorem near_step (P ph : Int) (c : LState) (hP : 0 < P) (hI : PInv c.s) (hmnP : 2 * c.s.minI ≤ P)
    (hmxP : 2 * P ≤ c.s.maxI) (hS : Synced P ph c.s c.t c.seen) (hN : Near P c.s)
    (hne : ¬ Exceptional P c.s) :
    Near P (loopStep P ph c).s ∧ P ≤ 2 * loopWait P ph c ∧ 2 * loopWait P ph c ≤ 3 * P := by
  have hband := near_band P c.s hP hN
  have hmn := hI.min_pos
  refine poll_cases P ph c.s c.t c.seen hP hI hS (motive := fun _ r => Near P r.2 ∧ P ≤ 2 * r.1 ∧ 2 * r.1 ≤ 3 * P)
    (fun hb hi => ?_) (fun _ => ⟨hN, hband⟩) (fun p hb hi hp hp2 => ?_) (fun hb hbP => ?_)
    (fun p hb _ => ⟨⟨Or.inl rfl, hN.2⟩, hband⟩)
  · -- nothing found: the interval is below the period and moves up; no clamp acts
    obtain ⟨hu0, h2u, hshort⟩ : 0 ≤ upE c.s ∧ 2 * upE c.s ≤ P ∧
        (upE c.s < P - c.s.interval → P - c.s.interval - upE c.s ≤ 2 * upE c.s ∧ 4 * upE c.s ≤ P) :=
      near_explore _ _ _ _ P _ hI.min_pos hI.min_le_max hI.explore_nonneg hI.explore_le hmnP hmxP
        ((hN.2.1 hi).imp
          (fun ⟨hw, hov, he⟩ => ⟨by rw [hw]; rfl, hov, he, fun h => hne ⟨h.1, Or.inl ⟨hw, h.2⟩⟩⟩)
          (fun ⟨hw, hov, he⟩ => ⟨by rw [hw]; rfl, hov, he⟩))
    simp only [zeroEvent]
    rw [clampI_id _ _ _ (by omega) (by omega)]
    refine ⟨⟨Or.inr (by simp only; omega), fun h => Or.inr ⟨rfl, ?_⟩, fun h => Or.inl ⟨rfl, ?_, h2u⟩⟩,
      hband.1, hband.2⟩
    · have := hshort (by simp only at h; omega); simp only; omega
    · simp only at h ⊢; omega
  · -- the interval is above the period, at most `3P/2`: two are found and it moves down; no clamp acts
    obtain ⟨hu0, h2u, hshort⟩ : 0 ≤ dnE c.s ∧ 2 * dnE c.s ≤ P ∧
        (dnE c.s < c.s.interval - P → c.s.interval - P - dnE c.s ≤ 2 * dnE c.s ∧ 4 * dnE c.s ≤ P) :=
      near_explore _ _ _ _ P _ hI.min_pos hI.min_le_max hI.explore_nonneg hI.explore_le hmnP hmxP
        ((hN.2.2 hi).imp
          (fun ⟨hw, hov, he⟩ => ⟨by rw [hw]; rfl, hov, he, fun h => hne ⟨h.1, Or.inr ⟨hw, h.2⟩⟩⟩)
          (fun ⟨hw, hov, he⟩ => ⟨by rw [hw]; rfl, hov, he⟩))
    rw [hp2 (by omega), update_two c.s hb]
    simp only [twoEvent]
    rw [clampI_id _ _ _ (by omega) (by omega)]
    have hnear : Near P { c.s with explore := dnE c.s, interval := c.s.interval - dnE c.s, wasInc := false } := by
      refine ⟨Or.inl hb, fun h => Or.inl ⟨rfl, ?_, h2u⟩, fun h => Or.inr ⟨rfl, ?_⟩⟩
      · simp only at h ⊢; omega
      · have := hshort (by simp only at h; omega); simp only; omega
    exact ⟨hnear, near_band P _ hP hnear⟩
  · -- a back-off that finds nothing is shorter than the period: not `Near`
    rcases hN.1 with h | h <;> omega

theorem near_iter (P ph mn mx : Int) (hP : 0 < P) (hmnP : 2 * mn ≤ P) (hmxP : 2 * P ≤ mx) (n : Nat) :
    ∀ c : LState, LInv P ph mn mx c → Near P c.s →
    (∀ j, j < n → ¬ Exceptional P (loopIter P ph j c).s) →
    Near P (loopIter P ph n c).s ∧ ∀ w ∈ loopOf P ph n c, P ≤ 2 * w ∧ 2 * w ≤ 3 * P := by
  induction n with
  | zero => intro c _ hN _; exact ⟨hN, by intro w hw; simp [loopOf, closedLoop] at hw⟩
  | succ n ih =>
    intro c hL hN hne
    have hns := near_step P ph c hP hL.pinv (by rw [hL.minI]; exact hmnP) (by rw [hL.maxI]; exact hmxP)
      hL.synced hN (hne 0 (by omega))
    have := ih (loopStep P ph c) (linv_step P ph mn mx hP (by omega) c hL) hns.1
      (fun j hj => hne (j + 1) (by omega))
    refine ⟨this.1, ?_⟩
    intro w hw
    rw [loopOf_succ, List.mem_cons] at hw
    rcases hw with hw | hw
    · rw [hw]; exact hns.2
    · exact this.2 w hw

end F3.Proofs.PollLoop
