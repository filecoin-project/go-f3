import F3.Proofs.ParticipantRun
/-!
`DecInv` and Layer B at the participant API, for every drain order. `prun_decinv` holds without a no-failure hypothesis,
which the micro-run simulation `prun_micro` needs; it is therefore carried through `ReceiveMany` directly (`receiveMany_inv`),
while `mrun_decinv` is the same invariant along a micro-run already at hand. Layer B is `mrun_guarded` along the micro-run
that `prun_micro` provides.
-/
namespace F3.Instance

section Decision
variable {V : Pid → Chain → Prop}

theorem receiveMany_decinv (s : State) (now : Int) (ms : List Msg) (hi : DecInv V s)
    (hms : ∀ m ∈ ms, MsgValidD V s.tbl m) :
    DecInv V (s.receiveMany now ms).1 ∧ (s.receiveMany now ms).1.tbl = s.tbl :=
  receiveMany_inv (I := fun st => DecInv V st ∧ st.tbl = s.tbl) now
    (fun st m h hm => ⟨receiveOne_decinv st now m h.1 (by rw [h.2]; exact hm.1) hm.2,
      (receiveOne_tbl_input st now m).1.trans h.2⟩)
    (fun st r h => ⟨DecInv_frame (postReceive_frame st now r) h.1, (postReceive_tbl st now r).trans h.2⟩)
    s ms ⟨hi, rfl⟩ hms

def POpValid (V : Pid → Chain → Prop) (t : Table) : POp → Prop
  | .recv now m => OpValid V t (.recv now m)
  | _ => True

theorem pstep_decinv (order : List Pid) (p : PState) (op : POp) (hi : DecInv V p.inst)
    (hqu : ∀ m ∈ p.queue, MsgValidD V p.inst.tbl m) (hop : POpValid V p.inst.tbl op) :
    DecInv V (pstepWith order p op).1.inst ∧ (pstepWith order p op).1.inst.tbl = p.inst.tbl ∧
    ∀ m ∈ (pstepWith order p op).1.queue, MsgValidD V p.inst.tbl m := by
  have hb : ∀ now, DecInv V (p.inst.beginQuality now).1 := fun now => DecInv_frame (beginQuality_frame p.inst now) hi
  have hbt : ∀ now, (p.inst.beginQuality now).1.tbl = p.inst.tbl := beginQuality_tbl p.inst
  refine pstepWith_ind order p op (fun _ => ⟨step_decinv p.inst op.toOp hi (by cases op <;> exact hop), step_tbl _ _, hqu⟩)
    (fun now m he _ => ⟨hi, rfl, fun x hx => ?_⟩) (fun now _ _ _ => ⟨hb now, hbt now, by simp⟩) fun now _ _ _ => ?_
  · subst he
    rcases queueAddL_mem _ _ _ x hx with h | rfl
    · exact hqu x h
    · exact ⟨hop.2.1, hop.2.2⟩
  · obtain ⟨h1, h2⟩ := receiveMany_decinv (p.inst.beginQuality now).1 now (drainWith order p.queue) (hb now)
      (fun m hm => by rw [hbt now]; exact hqu m (drainWith_mem order p.queue m hm))
    exact ⟨h1, h2.trans (hbt now), by simp⟩

theorem prun_decinv (order : List Pid) (p : PState) (ops : List POp) (hi : DecInv V p.inst)
    (hqu : ∀ m ∈ p.queue, MsgValidD V p.inst.tbl m) (hops : ∀ op ∈ ops, POpValid V p.inst.tbl op) :
    DecInv V (prun order p ops).1.inst ∧ (prun order p ops).1.inst.tbl = p.inst.tbl := by
  induction ops generalizing p with
  | nil => exact ⟨hi, rfl⟩
  | cons op ops ih =>
    rw [prun_cons]
    obtain ⟨h1, h2, h3⟩ := pstep_decinv order p op hi hqu (hops op List.mem_cons_self)
    obtain ⟨h4, h5⟩ := ih (pstepWith order p op).1 h1 (by rw [h2]; exact h3)
      (fun o ho => by rw [h2]; exact hops o (List.mem_cons_of_mem _ ho))
    exact ⟨h4, h5.trans h2⟩

end Decision

section Guards
variable {W : Votes} {me : Pid}

/-- Layer B at the participant API: the broadcasts made while the pre-start queue is drained are guarded like any
other. Refusals at the door are the only errors a call may report. -/
theorem prun_guarded (order : List Pid) (p : PState) (ops : List POp) (h : GInv W me p.inst) (hq : DQ p.inst)
    (hqu : ∀ m ∈ p.queue, foreignM m = true ∨ MsgValid W p.inst.tbl m)
    (hops : ∀ op ∈ ops, pforeign op = true ∨ POpP (MsgValid W p.inst.tbl) op)
    (hok : okRunP order p ops = true) (hown : OwnIn W me (prun order p ops).2) :
    Guarded W p.inst.tbl me p.inst.input (prun order p ops).2 ∧ GInv W me (prun order p ops).1.inst := by
  obtain ⟨mops, hmok, hnf, hst, heff⟩ :=
    prun_micro (MsgValid W p.inst.tbl) (fun _ hm => MsgValid.msgOk (W := W) hm) order p ops hq hqu hops hok
  obtain ⟨hg, hi⟩ := mrun_guarded (me := me) mops h hq hmok (by rw [heff]; exact ownIn_filter_nonErr.2 hown) hnf
  rw [hst] at hi
  rw [heff] at hg
  exact ⟨guarded_filter_nonErr.1 hg, hi⟩

end Guards

end F3.Instance
