import F3.Spec.HashInputs
import F3.Proofs.CodecMerkle
import F3.Proofs.CodecPayload
/-! Collision-extraction (C14b): equal merkle roots / chain keys / signed bytes of different inputs
*exhibit* a hash collision, a zero-digest preimage or a digest of the wrong length among the finitely
many strings hashed by the two computations. No hypothesis on the hash functions. -/
namespace F3.HashInputs
open F3.Codec F3.Merkle F3.Payload

variable (H : Bytes → Bytes)

/-- the three ways the merkle hash can fail on the two lists of hashed strings -/
def Break (X Y : List Bytes) : Prop :=
  Collision H X Y ∨ ZeroPreimage H (X ++ Y) ∨ WrongLen H (X ++ Y)

theorem Collision.mono {H : Bytes → Bytes} {X Y X' Y' : List Bytes} (hX : X ⊆ X') (hY : Y ⊆ Y') :
    Collision H X Y → Collision H X' Y' := by
  rintro ⟨a, ha, b, hb, h⟩
  exact ⟨a, hX ha, b, hY hb, h⟩

theorem ZeroPreimage.mono {H : Bytes → Bytes} {X X' : List Bytes} (hX : X ⊆ X') :
    ZeroPreimage H X → ZeroPreimage H X' := by
  rintro ⟨a, ha, h⟩
  exact ⟨a, hX ha, h⟩

theorem WrongLen.mono {H : Bytes → Bytes} {X X' : List Bytes} (hX : X ⊆ X') :
    WrongLen H X → WrongLen H X' := by
  rintro ⟨a, ha, h⟩
  exact ⟨a, hX ha, h⟩

theorem append_subset_append {X Y X' Y' : List Bytes} (hX : X ⊆ X') (hY : Y ⊆ Y') : X ++ Y ⊆ X' ++ Y' :=
  List.append_subset.mpr ⟨List.subset_append_of_subset_left _ hX, List.subset_append_of_subset_right _ hY⟩

theorem Break.mono {H : Bytes → Bytes} {X Y X' Y' : List Bytes} (hX : X ⊆ X') (hY : Y ⊆ Y') :
    Break H X Y → Break H X' Y' := by
  rintro (h | h | h)
  · exact Or.inl (h.mono hX hY)
  · exact Or.inr (Or.inl (h.mono (append_subset_append hX hY)))
  · exact Or.inr (Or.inr (h.mono (append_subset_append hX hY)))

theorem Break.swap {H : Bytes → Bytes} {X Y : List Bytes} : Break H X Y → Break H Y X := by
  have hsub : X ++ Y ⊆ Y ++ X :=
    List.append_subset.mpr ⟨List.subset_append_right _ _, List.subset_append_left _ _⟩
  rintro (⟨a, ha, b, hb, hne, he⟩ | h | h)
  · exact Or.inl ⟨b, hb, a, ha, fun e => hne e.symm, he.symm⟩
  · exact Or.inr (Or.inl (h.mono hsub))
  · exact Or.inr (Or.inr (h.mono hsub))

theorem findCollision_sound {X Y : List Bytes} {a b : Bytes} (h : findCollision H X Y = some (a, b)) :
    a ∈ X ∧ b ∈ Y ∧ a ≠ b ∧ H a = H b := by
  unfold findCollision at h
  obtain ⟨a', ha', h2⟩ := List.exists_of_findSome?_eq_some h
  rw [Option.map_eq_some_iff] at h2
  obtain ⟨b', hb', hp⟩ := h2
  have hab : a' = a ∧ b' = b := by
    have := Prod.mk.inj hp
    exact ⟨this.1, this.2⟩
  obtain ⟨rfl, rfl⟩ := hab
  have hmem := List.mem_of_find?_eq_some hb'
  have hprop := List.find?_some hb'
  simp only [Bool.and_eq_true, decide_eq_true_eq] at hprop
  exact ⟨ha', hmem, hprop.1, hprop.2⟩

/-- From the existence of a collision between the two lists to the pair the search returns. -/
theorem findCollision_of_collision {X Y : List Bytes} (h : Collision H X Y) :
    ∃ a b, findCollision H X Y = some (a, b) ∧ a ∈ X ∧ b ∈ Y ∧ a ≠ b ∧ H a = H b := by
  obtain ⟨a, ha, b, hb, hne, he⟩ := h
  have hsome : (findCollision H X Y).isSome = true := by
    unfold findCollision
    rw [List.findSome?_isSome_iff]
    refine ⟨a, ha, ?_⟩
    rw [Option.isSome_map, List.find?_isSome]
    exact ⟨b, hb, by simp [hne, he]⟩
  obtain ⟨p, hp⟩ := Option.isSome_iff_exists.mp hsome
  exact ⟨p.1, p.2, hp, findCollision_sound H hp⟩

theorem hashedAt_nil (d : Nat) : hashedAt H d [] = [] := by
  cases d <;> rfl

theorem hashedAt_succ (d : Nat) (l : List Bytes) (hl : l ≠ []) :
    hashedAt H (d + 1) l =
      (0 :: (buildTree H d (l.take (min (2 ^ d) l.length)) ++ buildTree H d (l.drop (min (2 ^ d) l.length)))) ::
        (hashedAt H d (l.take (min (2 ^ d) l.length)) ++ hashedAt H d (l.drop (min (2 ^ d) l.length))) := by
  cases l with
  | nil => exact absurd rfl hl
  | cons a l => rw [hashedAt]

/-- the digest of a non-empty subtree is the hash of the first string of its list -/
theorem buildTree_eq_hash (d : Nat) (vs : List Bytes) (hne : vs ≠ []) (hfit : vs.length ≤ 2 ^ d) :
    ∃ x ∈ hashedAt H d vs, buildTree H d vs = H x := by
  cases d with
  | zero =>
    match vs, hne, hfit with
    | [v], _, _ => exact ⟨1 :: v, by simp [hashedAt], rfl⟩
    | _ :: _ :: _, _, h => simp at h
  | succ d =>
    rw [buildTree_succ H d vs hne, hashedAt_succ H d vs hne]
    exact ⟨_, List.mem_cons_self, rfl⟩

theorem zero_of_buildTree_zero (d : Nat) (vs : List Bytes) (hne : vs ≠ []) (hfit : vs.length ≤ 2 ^ d)
    (h : buildTree H d vs = zeroDigest) : ZeroPreimage H (hashedAt H d vs) := by
  obtain ⟨x, hx, he⟩ := buildTree_eq_hash H d vs hne hfit
  exact ⟨x, hx, he ▸ h⟩

theorem buildTree_length_or (d : Nat) (vs : List Bytes) (hfit : vs.length ≤ 2 ^ d) :
    (buildTree H d vs).length = 32 ∨ WrongLen H (hashedAt H d vs) := by
  by_cases hne : vs = []
  · rw [hne, buildTree_nil]; exact Or.inl rfl
  · obtain ⟨x, hx, he⟩ := buildTree_eq_hash H d vs hne hfit
    by_cases hl : (H x).length = 32
    · exact Or.inl (he ▸ hl)
    · exact Or.inr ⟨x, hx, hl⟩

/-- a leaf digest equal to a node digest is a collision (`1 :: _ ≠ 0 :: _`) -/
theorem leaf_vs_node (v : Bytes) (d : Nat) (ws : List Bytes) (hw : ws ≠ [])
    (h : buildTree H 0 [v] = buildTree H (d + 1) ws) :
    Collision H (hashedAt H 0 [v]) (hashedAt H (d + 1) ws) := by
  rw [buildTree_succ H d ws hw] at h
  rw [hashedAt_succ H d ws hw]
  refine ⟨1 :: v, by simp [hashedAt], _, List.mem_cons_self, ?_, h⟩
  intro e
  have := List.head_eq_of_cons_eq e
  omega

/-- the empty list against any list: equal, or the zero digest has a preimage among the hashed strings -/
theorem nil_extract (d1 d2 : Nat) (ws : List Bytes) (fw : ws.length ≤ 2 ^ d2)
    (h : buildTree H d1 [] = buildTree H d2 ws) : [] = ws ∨ Break H [] (hashedAt H d2 ws) := by
  by_cases hw : ws = []
  · exact Or.inl hw.symm
  · rw [buildTree_nil] at h
    exact Or.inr (Or.inr (Or.inl (zero_of_buildTree_zero H d2 ws hw fw h.symm)))

/-- leaf view: a non-empty list fitting depth 0 is a singleton -/
theorem leaf_view {vs : List Bytes} (hv : vs ≠ []) (fv : vs.length ≤ 2 ^ 0) : ∃ v, vs = [v] := by
  match vs, hv, fv with
  | [v], _, _ => exact ⟨v, rfl⟩
  | _ :: _ :: _, _, h => simp at h

/-- node view: a non-empty list fitting depth `d + 1` splits in two parts fitting depth `d`, its digest
is the node hash of theirs, and the strings hashed are the node string, then theirs -/
theorem buildTree_node (d : Nat) (vs : List Bytes) (hv : vs ≠ []) (fv : vs.length ≤ 2 ^ (d + 1)) :
    ∃ L R, vs = L ++ R ∧ L.length ≤ 2 ^ d ∧ R.length ≤ 2 ^ d ∧
      buildTree H (d + 1) vs = H (0 :: (buildTree H d L ++ buildTree H d R)) ∧
      hashedAt H (d + 1) vs =
        (0 :: (buildTree H d L ++ buildTree H d R)) :: (hashedAt H d L ++ hashedAt H d R) := by
  have p : 2 ^ (d + 1) = 2 * 2 ^ d := by rw [Nat.pow_succ, Nat.mul_comm]
  refine ⟨vs.take (min (2 ^ d) vs.length), vs.drop (min (2 ^ d) vs.length),
    (List.take_append_drop _ _).symm, ?_, ?_, buildTree_succ H d vs hv, hashedAt_succ H d vs hv⟩
  · rw [List.length_take]; omega
  · rw [List.length_drop]; omega

/-- Core of the reduction: two value lists, each fitting the depth it is built at, with the same subtree
digest are equal, or the hash fails on the strings hashed for them. -/
theorem buildTree_extract (d1 d2 : Nat) (vs ws : List Bytes)
    (fv : vs.length ≤ 2 ^ d1) (fw : ws.length ≤ 2 ^ d2) (h : buildTree H d1 vs = buildTree H d2 ws) :
    vs = ws ∨ Break H (hashedAt H d1 vs) (hashedAt H d2 ws) := by
  by_cases hv : vs = []
  · subst hv; rw [hashedAt_nil]; exact nil_extract H d1 d2 ws fw h
  by_cases hw : ws = []
  · subst hw; rw [hashedAt_nil]; exact (nil_extract H d2 d1 vs fv h.symm).imp Eq.symm Break.swap
  match d1, d2 with
  | 0, 0 =>
    obtain ⟨v, rfl⟩ := leaf_view hv fv
    obtain ⟨w, rfl⟩ := leaf_view hw fw
    by_cases e : v = w
    · exact Or.inl (by rw [e])
    · refine Or.inr (Or.inl ⟨1 :: v, by simp [hashedAt], 1 :: w, by simp [hashedAt], ?_, h⟩)
      exact fun e' => e (List.tail_eq_of_cons_eq e')
  | 0, d2 + 1 =>
    obtain ⟨v, rfl⟩ := leaf_view hv fv
    exact Or.inr (Or.inl (leaf_vs_node H v d2 ws hw h))
  | d1 + 1, 0 =>
    obtain ⟨w, rfl⟩ := leaf_view hw fw
    exact Or.inr (Break.swap (Or.inl (leaf_vs_node H w d1 vs hv h.symm)))
  | d1 + 1, d2 + 1 =>
    obtain ⟨L1, R1, rfl, fL1, fR1, hb1, hh1⟩ := buildTree_node H d1 vs hv fv
    obtain ⟨L2, R2, rfl, fL2, fR2, hb2, hh2⟩ := buildTree_node H d2 ws hw fw
    rw [hb1, hb2] at h
    rw [hh1, hh2]
    -- the strings hashed for a part are among those hashed for the whole: the node string, then left, then right
    have inL : ∀ (x : Bytes) (A B : List Bytes), A ⊆ x :: (A ++ B) :=
      fun x A B => List.subset_cons_of_subset x (List.subset_append_left A B)
    have inR : ∀ (x : Bytes) (A B : List Bytes), B ⊆ x :: (A ++ B) :=
      fun x A B => List.subset_cons_of_subset x (List.subset_append_right A B)
    by_cases hcat : (0 :: (buildTree H d1 L1 ++ buildTree H d1 R1)) = 0 :: (buildTree H d2 L2 ++ buildTree H d2 R2)
    swap
    · exact Or.inr (Or.inl ⟨_, List.mem_cons_self, _, List.mem_cons_self, hcat, h⟩)
    -- the two left digests have the same length, so the concatenation splits
    rcases buildTree_length_or H d1 L1 fL1 with len1 | bad
    swap
    · exact Or.inr (Or.inr (Or.inr ((bad.mono (inL _ _ _)).mono (List.subset_append_left _ _))))
    rcases buildTree_length_or H d2 L2 fL2 with len2 | bad
    swap
    · exact Or.inr (Or.inr (Or.inr ((bad.mono (inL _ _ _)).mono (List.subset_append_right _ _))))
    obtain ⟨hL, hR⟩ := List.append_inj (List.tail_eq_of_cons_eq hcat) (by rw [len1, len2])
    rcases buildTree_extract d1 d2 L1 L2 fL1 fL2 hL with eL | bad
    swap
    · exact Or.inr (bad.mono (inL _ _ _) (inL _ _ _))
    rcases buildTree_extract d1 d2 R1 R2 fR1 fR2 hR with eR | bad
    · exact Or.inl (by rw [eL, eR])
    · exact Or.inr (bad.mono (inR _ _ _) (inR _ _ _))

theorem hashed_nil : hashed H [] = [] := hashedAt_nil H _

/-- **Merkle reduction.** Equal roots: equal lists, or the hash fails on the strings the two
computations hashed. -/
theorem tree_extract (vs ws : List Bytes) (h : tree H vs = tree H ws) :
    vs = ws ∨ Break H (hashed H vs) (hashed H ws) :=
  buildTree_extract H _ _ vs ws (depth_fits _) (depth_fits _) h

theorem not_collision_of_inj {H : Bytes → Bytes} (hinj : ∀ a b, H a = H b → a = b) (X Y : List Bytes) :
    ¬ Collision H X Y := by
  rintro ⟨a, _, b, _, hne, he⟩
  exact hne (hinj a b he)

theorem not_break_of_hashOK {H : Bytes → Bytes} (hH : HashOK H) (X Y : List Bytes) : ¬ Break H X Y := by
  rintro (h | ⟨a, _, h⟩ | ⟨a, _, h⟩)
  · exact not_collision_of_inj hH.inj X Y h
  · exact hH.nonzero a h
  · exact h (hH.len a)

theorem tsCid_eq (B : Bytes → Bytes) (k : Bytes) : tsCid B k = cidPrefix ++ B (tsKeyPreimage k) := rfl

/-- `TipSet.MarshalForSigning` determines epoch and commitments outright, and key and power-table CID
unless blake2b fails on the two tipset keys. -/
theorem tipset_extract (B : Bytes → Bytes) {s t : TipSet} (hs : s.WF) (ht : t.WF)
    (h : tipsetBytes B s = tipsetBytes B t) :
    s.epoch = t.epoch ∧ s.commitments = t.commitments ∧
    (s = t ∨ (tsKeyPreimage s.key ≠ tsKeyPreimage t.key ∧ B (tsKeyPreimage s.key) = B (tsKeyPreimage t.key)) ∨
      (B (tsKeyPreimage s.key)).length ≠ 32 ∨ (B (tsKeyPreimage t.key)).length ≠ 32) := by
  unfold tipsetBytes at h
  obtain ⟨h1, h⟩ := List.append_inj h (by simp [be64i_length])
  obtain ⟨h2, h⟩ := List.append_inj h (by rw [hs.commitments, ht.commitments])
  have he := be64i_inj hs.epoch ht.epoch h1
  refine ⟨he, h2, ?_⟩
  by_cases l1 : (B (tsKeyPreimage s.key)).length = 32
  swap
  · exact Or.inr (Or.inr (Or.inl l1))
  by_cases l2 : (B (tsKeyPreimage t.key)).length = 32
  swap
  · exact Or.inr (Or.inr (Or.inr l2))
  rw [tsCid_eq, tsCid_eq] at h
  obtain ⟨h3, h4⟩ := List.append_inj h (by simp [l1, l2])
  have hB := List.append_cancel_left h3
  by_cases hk : tsKeyPreimage s.key = tsKeyPreimage t.key
  · left
    have hkey : s.key = t.key := hdr_append_inj hk
    cases s; cases t; simp_all
  · exact Or.inr (Or.inl ⟨hk, hB⟩)

/-- what can go wrong with the CID hash on the tipset keys of two chains -/
def BreakB (B : Bytes → Bytes) (c d : List TipSet) : Prop :=
  Collision B (keyHashedB c) (keyHashedB d) ∨ WrongLen B (keyHashedB c ++ keyHashedB d)

theorem BreakB.cons {B : Bytes → Bytes} {c d : List TipSet} (a b : TipSet) :
    BreakB B c d → BreakB B (a :: c) (b :: d) := by
  have hc : keyHashedB c ⊆ keyHashedB (a :: c) := List.subset_cons_self _ _
  have hd : keyHashedB d ⊆ keyHashedB (b :: d) := List.subset_cons_self _ _
  rintro (h | h)
  · exact Or.inl (h.mono hc hd)
  · exact Or.inr (h.mono (append_subset_append hc hd))

theorem map_tipsetBytes_extract (B : Bytes → Bytes) :
    ∀ (c d : List TipSet), (∀ t ∈ c, t.WF) → (∀ t ∈ d, t.WF) →
      c.map (tipsetBytes B) = d.map (tipsetBytes B) → c = d ∨ BreakB B c d := by
  intro c
  induction c with
  | nil => intro d _ _ h; cases d with
    | nil => exact Or.inl rfl
    | cons _ _ => simp at h
  | cons a c ih =>
    intro d hc hd h
    cases d with
    | nil => simp at h
    | cons b d =>
      simp only [List.map_cons, List.cons.injEq] at h
      obtain ⟨_, _, hab⟩ := tipset_extract B (hc a (by simp)) (hd b (by simp)) h.1
      have ma : tsKeyPreimage a.key ∈ keyHashedB (a :: c) := by simp [keyHashedB]
      have mb : tsKeyPreimage b.key ∈ keyHashedB (b :: d) := by simp [keyHashedB]
      rcases hab with hab | ⟨hne, he⟩ | hl | hl
      · rcases ih d (fun t ht => hc t (by simp [ht])) (fun t ht => hd t (by simp [ht])) h.2 with e | bad
        · exact Or.inl (by rw [hab, e])
        · exact Or.inr (bad.cons a b)
      · exact Or.inr (Or.inl ⟨_, ma, _, mb, hne, he⟩)
      · exact Or.inr (Or.inr ⟨_, List.mem_append_left _ ma, hl⟩)
      · exact Or.inr (Or.inr ⟨_, List.mem_append_right _ mb, hl⟩)

/-- `HashBreak` is the merkle failure on the hashed merkle strings or the CID-hash failure on the tipset keys. -/
theorem hashBreak_iff (H B : Bytes → Bytes) (c d : List TipSet) :
    HashBreak H B c d ↔ Break H (keyHashedH H B c) (keyHashedH H B d) ∨ BreakB B c d := by
  constructor
  · rintro (h | h | h | h | h)
    · exact Or.inl (Or.inl h)
    · exact Or.inl (Or.inr (Or.inl h))
    · exact Or.inr (Or.inl h)
    · exact Or.inl (Or.inr (Or.inr h))
    · exact Or.inr (Or.inr h)
  · rintro ((h | h | h) | h | h)
    · exact Or.inl h
    · exact Or.inr (Or.inl h)
    · exact Or.inr (Or.inr (Or.inr (Or.inl h)))
    · exact Or.inr (Or.inr (Or.inl h))
    · exact Or.inr (Or.inr (Or.inr (Or.inr h)))

/-- **Chain-key reduction.** Equal keys: equal chains, or one of the two hashes fails on the strings
hashed by the two key computations. -/
theorem chainKey_extract (H B : Bytes → Bytes) (c d : List TipSet)
    (hc : ∀ t ∈ c, t.WF) (hd : ∀ t ∈ d, t.WF) (h : chainKey H B c = chainKey H B d) :
    c = d ∨ HashBreak H B c d := by
  rw [chainKey_eq_tree, chainKey_eq_tree] at h
  rw [hashBreak_iff]
  rcases tree_extract H _ _ h with e | bad
  · exact (map_tipsetBytes_extract B c d hc hd e).imp_right Or.inr
  · exact Or.inr (Or.inl bad)

theorem chainKey_length_or (H B : Bytes → Bytes) (c : List TipSet) :
    (chainKey H B c).length = 32 ∨ WrongLen H (keyHashedH H B c) := by
  rw [chainKey_eq_tree]; exact buildTree_length_or H _ _ (depth_fits _)

theorem chainKey_length_of_len {H : Bytes → Bytes} (hlen : ∀ a, (H a).length = 32) (B : Bytes → Bytes)
    (c : List TipSet) : (chainKey H B c).length = 32 :=
  (chainKey_length_or H B c).resolve_right fun ⟨a, _, bad⟩ => bad (hlen a)

theorem not_hashBreak_of_ok {H B : Bytes → Bytes} (hH : HashOK H) (hB : CidHashOK B) (c d : List TipSet) :
    ¬ HashBreak H B c d := by
  rw [hashBreak_iff]
  rintro (h | h | ⟨a, _, h⟩)
  · exact not_break_of_hashOK hH _ _ h
  · exact not_collision_of_inj hB.inj _ _ h
  · exact h (hB.len a)

end F3.HashInputs

/-! Under global injectivity (`HashOK`, `CidHashOK`: false of every real hash) none of the failure events
can occur, and the reductions say that root, tipset bytes and chain key determine their input. -/

namespace F3.Merkle
open F3.Codec F3.HashInputs

variable (H : Bytes → Bytes)

/-- The merkle root determines the list of values: their number, their order and each value. -/
theorem tree_inj (hH : HashOK H) (vs ws : List Bytes) (h : tree H vs = tree H ws) : vs = ws :=
  (tree_extract H vs ws h).resolve_right (not_break_of_hashOK hH _ _)

end F3.Merkle

namespace F3.Payload
open F3.Codec F3.Merkle F3.HashInputs

/-- `TipSet.MarshalForSigning` determines epoch, commitments, key (through its CID) and power-table CID. -/
theorem tipset_inj {B : Bytes → Bytes} (hB : CidHashOK B) {s t : TipSet} (hs : s.WF) (ht : t.WF)
    (h : tipsetBytes B s = tipsetBytes B t) : s = t := by
  rcases (tipset_extract B hs ht h).2.2 with e | ⟨hne, he⟩ | hl | hl
  · exact e
  · exact absurd (hB.inj _ _ he) hne
  · exact absurd (hB.len _) hl
  · exact absurd (hB.len _) hl

/-- The chain key determines the chain: its length, the order of its tipsets and every field of every
tipset (under collision-freeness of keccak-256 and blake2b-256). -/
theorem chainKey_inj {H B : Bytes → Bytes} (hH : HashOK H) (hB : CidHashOK B) (c d : List TipSet)
    (hc : ∀ t ∈ c, t.WF) (hd : ∀ t ∈ d, t.WF) (h : chainKey H B c = chainKey H B d) : c = d :=
  (chainKey_extract H B c d hc hd h).resolve_right (not_hashBreak_of_ok hH hB c d)

theorem chainKey_length {H B : Bytes → Bytes} (hH : HashOK H) (c : List TipSet) : (chainKey H B c).length = 32 :=
  chainKey_length_of_len hH.len B c

end F3.Payload
