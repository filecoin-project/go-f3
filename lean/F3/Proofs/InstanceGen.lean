import F3.Model.Participant
import F3.Proofs.GenTie
import F3.Gen.Instance
/-! Helper lemmas for the `section Regenerated` of `Props/C07.lean`: phase constants of the generated code
(`F3.Gen.Instance`, integers read from `gpbft/types.go`) against the model's `Phase`. -/
namespace F3.Proofs.InstanceGen
open F3.Instance

/-- the Go constants number the phases in the order of the model's constructors, so equal codes are equal phases -/
theorem phase_toNat_inj {p q : Phase} : p.toNat = q.toNat ↔ p = q := by
  have idx : ∀ r : Phase, r.toNat = r.ctorIdx := fun r => by cases r <;> rfl
  refine ⟨fun h => ?_, congrArg _⟩
  rw [idx, idx] at h
  rw [← Phase.ofNat_ctorIdx p, h, Phase.ofNat_ctorIdx]

/-- `==` on phases is `=` on codes -/
theorem phase_beq_code (p q : Phase) : (p == q) = decide ((p.toNat : Int) = (q.toNat : Int)) :=
  (decide_eq_decide.mpr (Int.natCast_inj.trans phase_toNat_inj)).symm

/-- `!=` on phases is `≠` on codes -/
theorem phase_bne_code (p q : Phase) : (p != q) = decide ((p.toNat : Int) ≠ (q.toNat : Int)) := by
  rw [bne, phase_beq_code, decide_not]

theorem isNone_eq_not_isSome {α : Type} (o : Option α) : o.isNone = !o.isSome := by cases o <;> rfl

end F3.Proofs.InstanceGen
