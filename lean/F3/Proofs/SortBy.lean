/-! Insertion sort, for whichever copy of it a model writes out (`F3.Certs.insertBy`, `F3.Store.insertEntry`): a function
with the two defining equations of insertion before the first element the new one does not exceed. Folding it over a list
gives a permutation of the list, ordered when the comparison is a total preorder. Core-only. -/
namespace F3.SortBy

variable {α : Type} {le : α → α → Bool} {ins : α → List α → List α}

/-- `ins x l` puts `x` before the first element `y` of `l` with `le x y`, at the end if there is none. -/
structure IsInsert (le : α → α → Bool) (ins : α → List α → List α) : Prop where
  nil : ∀ x, ins x [] = [x]
  cons : ∀ x y ys, ins x (y :: ys) = if le x y = true then x :: y :: ys else y :: ins x ys

namespace IsInsert

theorem perm (h : IsInsert le ins) (x : α) (l : List α) : (ins x l).Perm (x :: l) := by
  induction l with
  | nil => rw [h.nil]
  | cons y ys ih =>
    rw [h.cons]
    split
    · exact List.Perm.refl _
    · exact (ih.cons y).trans (List.Perm.swap x y ys)

theorem sort_perm (h : IsInsert le ins) (l : List α) : (l.foldr ins []).Perm l := by
  induction l with
  | nil => exact List.Perm.refl _
  | cons x xs ih => exact (h.perm x _).trans (ih.cons x)

theorem pairwise (h : IsInsert le ins) (htrans : ∀ a b c, le a b = true → le b c = true → le a c = true)
    (htotal : ∀ a b, (le a b || le b a) = true) (x : α) {l : List α} (hl : l.Pairwise (fun a b => le a b = true)) :
    (ins x l).Pairwise (fun a b => le a b = true) := by
  induction l with
  | nil => rw [h.nil]; exact List.pairwise_singleton _ _
  | cons y ys ih =>
    have hl' := List.pairwise_cons.mp hl
    rw [h.cons]
    split
    · next hxy =>
      refine List.pairwise_cons.mpr ⟨fun z hz => ?_, hl⟩
      rcases List.mem_cons.mp hz with rfl | hz
      · exact hxy
      · exact htrans _ _ _ hxy (hl'.1 z hz)
    · next hxy =>
      -- `x` goes further down: everything it passes is below it by totality
      have hyx : le y x = true := (Bool.or_eq_true_iff.1 (htotal x y)).resolve_left hxy
      refine List.pairwise_cons.mpr ⟨fun z hz => ?_, ih hl'.2⟩
      rcases List.mem_cons.mp ((h.perm x ys).mem_iff.mp hz) with rfl | hz
      · exact hyx
      · exact hl'.1 z hz

theorem sort_pairwise (h : IsInsert le ins) (htrans : ∀ a b c, le a b = true → le b c = true → le a c = true)
    (htotal : ∀ a b, (le a b || le b a) = true) (l : List α) : (l.foldr ins []).Pairwise (fun a b => le a b = true) := by
  induction l with
  | nil => exact List.Pairwise.nil
  | cons x xs ih => exact h.pairwise htrans htotal x ih

end IsInsert
end F3.SortBy
