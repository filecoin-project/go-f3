import F3.Model.SMap
/-! Go maps as key-sorted association lists: `insert`, `erase` and `ofList` are characterised by what `lookup`
finds afterwards, and strictly sorted lists with the same `lookup` are equal, so equality of maps is equality
of lists. -/
namespace F3.SMap

variable {α : Type} (k : α → Nat)

def SSorted (l : List α) : Prop := l.Pairwise (fun a b => k a < k b)

theorem lookup_nil (i : Nat) : lookup k ([] : List α) i = none := rfl

theorem lookup_cons (x : α) (l : List α) (i : Nat) :
    lookup k (x :: l) i = if k x = i then some x else lookup k l i := by
  unfold lookup
  rw [List.find?_cons]
  by_cases h : k x = i
  · simp [h]
  · have hb : (k x == i) = false := by simpa using h
    simp [hb, h]

theorem lookup_key {l : List α} {i : Nat} {x : α} (h : lookup k l i = some x) : k x = i := by
  unfold lookup at h
  have := List.find?_some h
  simpa using this

theorem lookup_mem {l : List α} {i : Nat} {x : α} (h : lookup k l i = some x) : x ∈ l := by
  unfold lookup at h
  exact List.mem_of_find?_eq_some h

theorem lookup_none_iff {l : List α} {i : Nat} : lookup k l i = none ↔ ∀ x ∈ l, k x ≠ i := by
  unfold lookup
  simp [List.find?_eq_none]

theorem lookup_none_iff_keys {l : List α} {i : Nat} : lookup k l i = none ↔ i ∉ l.map k := by
  rw [lookup_none_iff, List.mem_map]
  exact ⟨fun h ⟨x, hx, hxi⟩ => h x hx hxi, fun h x hx hxi => h ⟨x, hx, hxi⟩⟩

theorem insert_cons_lt {x y : α} {ys : List α} (h : k x < k y) :
    insert k x (y :: ys) = x :: y :: ys := by
  simp [insert, h]

theorem insert_cons_eq {x y : α} {ys : List α} (h : k x = k y) :
    insert k x (y :: ys) = x :: ys := by
  simp [insert, h]

theorem insert_cons_gt {x y : α} {ys : List α} (h : k y < k x) :
    insert k x (y :: ys) = y :: insert k x ys := by
  have h1 : ¬ k x < k y := by omega
  have h2 : ¬ k x = k y := by omega
  simp [insert, h1, h2]

theorem lookup_insert (x : α) (l : List α) (i : Nat) :
    lookup k (insert k x l) i = if k x = i then some x else lookup k l i := by
  induction l with
  | nil => simp [insert, lookup_cons, lookup_nil]
  | cons y ys ih =>
    rcases Nat.lt_trichotomy (k x) (k y) with h | h | h
    · rw [insert_cons_lt k h, lookup_cons]
    · rw [insert_cons_eq k h, lookup_cons, lookup_cons]
      by_cases h3 : k x = i
      · simp [h3]
      · have : k y ≠ i := by omega
        simp [h3, this]
    · rw [insert_cons_gt k h, lookup_cons, ih, lookup_cons]
      by_cases h3 : k y = i
      · have : k x ≠ i := by omega
        simp [h3, this]
      · simp [h3]

theorem erase_cons_eq {y : α} {ys : List α} {j : Nat} (h : k y = j) :
    erase k j (y :: ys) = erase k j ys := by
  simp [erase, List.filter, h]

theorem erase_cons_ne {y : α} {ys : List α} {j : Nat} (h : k y ≠ j) :
    erase k j (y :: ys) = y :: erase k j ys := by
  have hb : (k y != j) = true := by simpa using h
  simp [erase, List.filter, hb]

theorem lookup_erase (j : Nat) (l : List α) (i : Nat) :
    lookup k (erase k j l) i = if i = j then none else lookup k l i := by
  induction l with
  | nil => simp [erase, lookup_nil]
  | cons y ys ih =>
    by_cases h : k y = j
    · rw [erase_cons_eq k h, ih, lookup_cons]
      by_cases h2 : i = j
      · simp [h2]
      · have : k y ≠ i := by omega
        simp [h2, this]
    · rw [erase_cons_ne k h, lookup_cons, ih, lookup_cons]
      by_cases h2 : i = j
      · have : k y ≠ i := by omega
        rw [if_neg this, if_pos h2, if_pos h2]
      · rw [if_neg h2, if_neg h2]

theorem erase_of_lookup_none {l : List α} {i : Nat} (h : lookup k l i = none) : erase k i l = l :=
  List.filter_eq_self.mpr fun x hx => bne_iff_ne.mpr ((lookup_none_iff k).mp h x hx)

theorem ssorted_cons {x : α} {l : List α} :
    SSorted k (x :: l) ↔ (∀ y ∈ l, k x < k y) ∧ SSorted k l := by
  unfold SSorted; exact List.pairwise_cons

theorem mem_insert {x y : α} {l : List α} (h : y ∈ insert k x l) : y = x ∨ y ∈ l := by
  induction l with
  | nil => simp [insert] at h; exact Or.inl h
  | cons z zs ih =>
    rcases Nat.lt_trichotomy (k x) (k z) with h1 | h1 | h1
    · rw [insert_cons_lt k h1] at h
      rcases List.mem_cons.mp h with h | h
      · exact Or.inl h
      · exact Or.inr h
    · rw [insert_cons_eq k h1] at h
      rcases List.mem_cons.mp h with h | h
      · exact Or.inl h
      · exact Or.inr (List.mem_cons.mpr (Or.inr h))
    · rw [insert_cons_gt k h1] at h
      rcases List.mem_cons.mp h with h | h
      · exact Or.inr (List.mem_cons.mpr (Or.inl h))
      · rcases ih h with h | h
        · exact Or.inl h
        · exact Or.inr (List.mem_cons.mpr (Or.inr h))

theorem ssorted_insert (x : α) {l : List α} (h : SSorted k l) : SSorted k (insert k x l) := by
  induction l with
  | nil => simp [insert, SSorted]
  | cons y ys ih =>
    have h' := (ssorted_cons k).mp h
    rcases Nat.lt_trichotomy (k x) (k y) with h1 | h1 | h1
    · rw [insert_cons_lt k h1, ssorted_cons]
      refine ⟨?_, h⟩
      intro z hz
      rcases List.mem_cons.mp hz with hz | hz
      · rw [hz]; exact h1
      · have := h'.1 z hz; omega
    · rw [insert_cons_eq k h1, ssorted_cons]
      refine ⟨?_, h'.2⟩
      intro z hz
      have := h'.1 z hz; omega
    · rw [insert_cons_gt k h1, ssorted_cons]
      refine ⟨?_, ih h'.2⟩
      intro z hz
      rcases mem_insert k hz with hz | hz
      · rw [hz]; omega
      · exact h'.1 z hz

theorem ssorted_erase (j : Nat) {l : List α} (h : SSorted k l) : SSorted k (erase k j l) := by
  unfold erase SSorted at *
  exact List.Pairwise.filter _ h

theorem ssorted_ofList_aux (l m : List α) (h : SSorted k m) :
    SSorted k (l.foldl (fun m x => insert k x m) m) := by
  induction l generalizing m with
  | nil => exact h
  | cons x xs ih => exact ih _ (ssorted_insert k x h)

theorem ssorted_ofList (l : List α) : SSorted k (ofList k l) :=
  ssorted_ofList_aux k l [] (by simp [SSorted])

theorem lookup_of_mem_nodup {l : List α} (hnd : (l.map k).Nodup) {x : α} (hx : x ∈ l) :
    lookup k l (k x) = some x := by
  induction l with
  | nil => simp at hx
  | cons y ys ih =>
    have hnd' : k y ∉ ys.map k ∧ (ys.map k).Nodup := by
      rw [List.map_cons] at hnd; exact List.nodup_cons.mp hnd
    rw [lookup_cons]
    rcases List.mem_cons.mp hx with hx | hx
    · simp [hx]
    · have hne : k y ≠ k x := by
        intro h; apply hnd'.1; rw [List.mem_map]; exact ⟨x, hx, h.symm⟩
      rw [if_neg hne]; exact ih hnd'.2 hx

theorem nodup_of_ssorted {l : List α} (h : SSorted k l) : (l.map k).Nodup := by
  unfold SSorted at h
  unfold List.Nodup
  rw [List.pairwise_map]
  exact h.imp (fun hab => by omega)

theorem lookup_of_mem {l : List α} (h : SSorted k l) {x : α} (hx : x ∈ l) : lookup k l (k x) = some x :=
  lookup_of_mem_nodup k (nodup_of_ssorted k h) hx

theorem lookup_eq_some_iff {l : List α} (hnd : (l.map k).Nodup) {i : Nat} {x : α} :
    lookup k l i = some x ↔ x ∈ l ∧ k x = i := by
  constructor
  · intro h; exact ⟨lookup_mem k h, lookup_key k h⟩
  · rintro ⟨hm, hk⟩; rw [← hk]; exact lookup_of_mem_nodup k hnd hm

theorem lookup_perm {l₁ l₂ : List α} (hp : l₁.Perm l₂) (hnd : (l₁.map k).Nodup) (i : Nat) :
    lookup k l₁ i = lookup k l₂ i := by
  have hnd2 : (l₂.map k).Nodup := (hp.map k).nodup_iff.mp hnd
  cases h : lookup k l₁ i with
  | none =>
    symm; rw [lookup_none_iff] at *
    intro x hx; exact h x (hp.mem_iff.mpr hx)
  | some x =>
    symm
    rw [lookup_eq_some_iff k hnd] at h
    rw [lookup_eq_some_iff k hnd2]
    exact ⟨hp.mem_iff.mp h.1, h.2⟩

/-- strictly sorted lists with the same `lookup` have the same members, hence are equal -/
theorem ext {l₁ l₂ : List α} (h₁ : SSorted k l₁) (h₂ : SSorted k l₂)
    (h : ∀ i, lookup k l₁ i = lookup k l₂ i) : l₁ = l₂ := by
  have hsub : ∀ {a b : List α}, SSorted k a → (∀ i, lookup k a i = lookup k b i) → ∀ x, x ∈ a → x ∈ b :=
    fun ha h x hx => lookup_mem k (by rw [← h]; exact lookup_of_mem k ha hx)
  have hmem : ∀ x, x ∈ l₁ ↔ x ∈ l₂ := fun x => ⟨hsub h₁ h x, hsub h₂ (fun i => (h i).symm) x⟩
  have hnd : ∀ {l : List α}, SSorted k l → l.Nodup := fun h => h.imp fun hab e => by subst e; omega
  exact ((List.perm_ext_iff_of_nodup (hnd h₁) (hnd h₂)).mpr hmem).eq_of_pairwise
    (fun a b _ _ hab hba => absurd hab (by omega)) h₁ h₂

theorem insert_perm {x : α} {l : List α} (h : k x ∉ l.map k) : (insert k x l).Perm (x :: l) := by
  induction l with
  | nil => simp [insert]
  | cons y ys ih =>
    have hy : k x ≠ k y := by
      intro e; apply h; simp [e]
    have hys : k x ∉ ys.map k := by
      intro e; apply h; rw [List.map_cons]; exact List.mem_cons_of_mem _ e
    rcases Nat.lt_trichotomy (k x) (k y) with h1 | h1 | h1
    · rw [insert_cons_lt k h1]
    · exact absurd h1 hy
    · rw [insert_cons_gt k h1]
      exact ((ih hys).cons y).trans (List.Perm.swap x y ys)

theorem keys_insert_subset {x : α} {l : List α} {i : Nat} (h : i ∈ (insert k x l).map k) :
    i = k x ∨ i ∈ l.map k := by
  rw [List.mem_map] at h
  obtain ⟨y, hy, rfl⟩ := h
  rcases mem_insert k hy with h | h
  · exact Or.inl (by rw [h])
  · exact Or.inr (List.mem_map.mpr ⟨y, h, rfl⟩)

theorem ofList_perm_aux (l m : List α) (hnd : (l.map k).Nodup)
    (hdis : ∀ i ∈ l.map k, i ∉ m.map k) :
    (l.foldl (fun m x => insert k x m) m).Perm (l.reverse ++ m) := by
  induction l generalizing m with
  | nil => simp
  | cons x xs ih =>
    have hnd' : k x ∉ xs.map k ∧ (xs.map k).Nodup := by
      rw [List.map_cons] at hnd; exact List.nodup_cons.mp hnd
    simp only [List.foldl_cons, List.reverse_cons, List.append_assoc, List.singleton_append]
    have hx : k x ∉ m.map k := hdis (k x) (by simp)
    refine (ih (insert k x m) hnd'.2 ?_).trans ?_
    · intro i hi hmem
      rcases keys_insert_subset k hmem with h | h
      · rw [h] at hi; exact hnd'.1 hi
      · exact hdis i (by rw [List.map_cons]; exact List.mem_cons_of_mem _ hi) h
    · exact List.Perm.append_left _ (insert_perm k hx)

theorem ofList_perm {l : List α} (hnd : (l.map k).Nodup) : (ofList k l).Perm l := by
  unfold ofList
  have := ofList_perm_aux k l [] hnd (by simp)
  rw [List.append_nil] at this
  exact this.trans (List.reverse_perm l)

theorem lookup_ofList {l : List α} (hnd : (l.map k).Nodup) (i : Nat) :
    lookup k (ofList k l) i = lookup k l i :=
  lookup_perm k (ofList_perm k hnd) (nodup_of_ssorted k (ssorted_ofList k l)) i

end F3.SMap
