import F3.Proofs.NoFailureBridgeP
import F3.Proofs.EmittedValidBridge
import F3.Proofs.EmittedValidParticipant
/-!
# `emitted_valid` for `ValidRunP` / `NetworkVP` (participant API; the vocabulary of the end-to-end agreement theorems)

`F3.EmittedValid.emitted_valid_prun` restated over `F3.Bridge.ValidRunP`: every broadcast of an honest participant with
positive power — driven through the participant API, pre-start queue and drain included — is a message its peers'
validators accept (`MsgValid W t`), hence a delivery of it satisfies the hypothesis `valid` of every other participant's
`ValidRunP` (it is a message of this instance with the instance's supplemental data: `PMsgOK`). The same for what is
re-sent on rebroadcast requests.
-/
namespace F3.EmittedValid
open F3 F3.Instance F3.Bridge

theorem emitted_valid_runP {W : Votes} {t : Table} {p : Pid} (vr : ValidRunP W t p) (hT : 0 < t.total)
    (hpos : 0 < t.power p) :
    ∀ r ph v tk j, Eff.broadcast r ph v tk j ∈ (prun vr.order (pinit vr.cfg t vr.input) vr.ops).2 →
      MsgValid W t (msgOf p r ph v j) :=
  emitted_valid_prun vr.cfg t vr.input W p vr.order vr.ops vr.inputNe hT hpos vr.valid
    (fun r ph v tk j hm => (vr.own r ph v).2 ⟨tk, j, hm⟩)

/-- everything an honest participant puts on the wire — rebroadcast requests expanded — is valid -/
theorem wire_valid_runP {W : Votes} {t : Table} {p : Pid} (vr : ValidRunP W t p) (hT : 0 < t.total)
    (hpos : 0 < t.power p) :
    ∀ m ∈ wireOf p (prun vr.order (pinit vr.cfg t vr.input) vr.ops).2, MsgValid W t m := by
  intro m hm
  obtain ⟨r, ph, v, tk, j, he, rfl⟩ := mem_wireOf hm
  exact emitted_valid_runP vr hT hpos r ph v tk j he

/-- In a network of model participants driven through the participant API, every message an honest member with power
sends or re-sends may be delivered, at any time, before or after the receiver's instance has begun, to any participant:
the delivery satisfies the validity hypothesis of `ValidRunP`. -/
theorem emitted_deliverableP {t : Table} {F : Finset Pid} {W : Votes} (N : NetworkVP t F W) (p : Pid)
    (hp : p ∈ (ids t).toFinset) (hF : p ∉ F) (hpos : 0 < t.power p) (m : Msg)
    (hm : m ∈ wireOf p (prun (N.runs p hp hF).order (pinit (N.runs p hp hF).cfg t (N.runs p hp hF).input)
      (N.runs p hp hF).ops).2) (now : Int) :
    POpP (PMsgOK W t) (.recv now m) := by
  obtain ⟨r, ph, v, tk, j, _, hmm⟩ := mem_wireOf hm
  exact ⟨by rw [hmm]; rfl, Or.inr (wire_valid_runP (N.runs p hp hF) N.totalPos hpos m hm)⟩

/-- non-vacuity: member 1 of the participant-level example network `exNetVP` (four messages queued before the instance
begins; decides `[7,8]`) — its four broadcasts are valid w.r.t. `exW` -/
example : MsgValid exW exTbl (msgOf 1 0 .quality [7, 8] none) ∧ MsgValid exW exTbl (msgOf 1 0 .prepare [7, 8] none) ∧
    MsgValid exW exTbl (msgOf 1 0 .commit [7, 8] (some exJp)) ∧ MsgValid exW exTbl (msgOf 1 0 .decide [7, 8] (some exJc)) := by
  have h := emitted_valid_runP (exRunVP 1 (Or.inl rfl)) (by decide) (by decide)
  have hb : bcList (prun (exRunVP 1 (Or.inl rfl)).order (pinit (exRunVP 1 (Or.inl rfl)).cfg exTbl
      (exRunVP 1 (Or.inl rfl)).input) (exRunVP 1 (Or.inl rfl)).ops).2 =
      [(0, .quality, [7, 8], none), (0, .prepare, [7, 8], none), (0, .commit, [7, 8], some exJp),
       (0, .decide, [7, 8], some exJc)] := by decide +kernel
  have key := forall_bcList (P := fun r ph v j => MsgValid exW exTbl (msgOf 1 r ph v j)) h
  rw [hb] at key
  exact ⟨key (0, .quality, [7, 8], none) (by simp), key (0, .prepare, [7, 8], none) (by simp),
    key (0, .commit, [7, 8], some exJp) (by simp), key (0, .decide, [7, 8], some exJc) (by simp)⟩

end F3.EmittedValid
