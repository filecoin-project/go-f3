import F3.Proofs.RestartWire
import F3.Proofs.BridgeEx
/-!
# The hypotheses of the restart theorems are satisfiable: a network in which the filter drops a request

Four members of equal power, all honest.  Member 1 starts, sends QUALITY `[7,8]`, hears QUALITY `[7,8]` from a strong
quorum and publishes PREPARE(0, `[7,8]`) — then crashes.  Its second incarnation is rebuilt from scratch, asks for
QUALITY `[7,8]` again (a repeat: passes the filter), hears no QUALITY before the timeout and therefore *requests
PREPARE(0, `[7]`)* for the base chain — a second value for a slot already taken: the filter drops it.  It then hears
the PREPAREs for `[7,8]` of members 1 (its own first incarnation), 2 and 3, finds that its proposal `[7]` cannot reach
a quorum and publishes COMMIT(0, ⊥) — a COMMIT ⊥ whose own PREPARE never reached the wire, the case rule
`commit_bottom` of `RulesR` is weakened for.  Members 2, 3, 4 commit `[7,8]`; everybody decides `[7,8]`.
-/
namespace F3.Restart
open F3 F3.Instance F3.Bridge

section Example

def rTbl : Table := { entries := [(1, 1), (2, 1), (3, 1), (4, 1)] }
def rCfg : Cfg := { maxLookahead := 2, rebImmediateAfter := 3, timeout2 := [100], qualityTimeout2 := 100, rebAfter := [50] }
/-- PREPARE quorum for `[7,8]` by members 1, 2, 3 -/
def rJp : Just := { round := 0, phase := .prepare, value := [7,8], signers := [0,1,2] }
/-- COMMIT quorum for `[7,8]` by members 2, 3, 4 -/
def rJc : Just := { round := 0, phase := .commit, value := [7,8], signers := [1,2,3] }

/-- the votes in existence; member 1's are what its two incarnations published, in order -/
def rVotes : List Vote :=
  [(1,0,.quality,[7,8]), (1,0,.prepare,[7,8]), (1,0,.quality,[7,8]), (1,0,.commit,[]), (1,0,.decide,[7,8]),
   (2,0,.quality,[7,8]), (2,0,.prepare,[7,8]), (2,0,.commit,[7,8]), (2,0,.decide,[7,8]),
   (3,0,.quality,[7,8]), (3,0,.prepare,[7,8]), (3,0,.commit,[7,8]), (3,0,.decide,[7,8]),
   (4,0,.quality,[7,8]), (4,0,.prepare,[7,8]), (4,0,.commit,[7,8]), (4,0,.decide,[7,8])]

abbrev rW : Votes := Wof rVotes

/-- member 1, first incarnation: crashes after publishing PREPARE(0, `[7,8]`) -/
def rOps1a : List Op :=
  [.start 0,
   .recv 1 { sender := 1, round := 0, phase := .quality, value := [7,8] },
   .recv 2 { sender := 2, round := 0, phase := .quality, value := [7,8] },
   .recv 3 { sender := 3, round := 0, phase := .quality, value := [7,8] }]

/-- member 1, second incarnation -/
def rOps1b : List Op :=
  [.start 200,
   .alarm 300,
   .recv 301 { sender := 1, round := 0, phase := .prepare, value := [7,8] },
   .recv 302 { sender := 2, round := 0, phase := .prepare, value := [7,8] },
   .recv 303 { sender := 3, round := 0, phase := .prepare, value := [7,8] },
   .recv 304 { sender := 1, round := 0, phase := .commit, value := [] },
   .recv 305 { sender := 2, round := 0, phase := .commit, value := [7,8], just := some rJp },
   .recv 306 { sender := 3, round := 0, phase := .commit, value := [7,8], just := some rJp },
   .recv 307 { sender := 4, round := 0, phase := .commit, value := [7,8], just := some rJp },
   .recv 308 { sender := 2, round := 0, phase := .decide, value := [7,8], just := some rJc },
   .recv 309 { sender := 3, round := 0, phase := .decide, value := [7,8], just := some rJc },
   .recv 310 { sender := 4, round := 0, phase := .decide, value := [7,8], just := some rJc }]

/-- members 2, 3 and 4 (they happen to see the same delivery order) -/
def rOpsO : List Op :=
  [.start 0,
   .recv 1 { sender := 1, round := 0, phase := .quality, value := [7,8] },
   .recv 2 { sender := 2, round := 0, phase := .quality, value := [7,8] },
   .recv 3 { sender := 3, round := 0, phase := .quality, value := [7,8] },
   .recv 4 { sender := 4, round := 0, phase := .quality, value := [7,8] },
   .recv 11 { sender := 1, round := 0, phase := .prepare, value := [7,8] },
   .recv 12 { sender := 2, round := 0, phase := .prepare, value := [7,8] },
   .recv 13 { sender := 3, round := 0, phase := .prepare, value := [7,8] },
   .recv 14 { sender := 4, round := 0, phase := .prepare, value := [7,8] },
   .recv 15 { sender := 1, round := 0, phase := .commit, value := [] },
   .recv 16 { sender := 2, round := 0, phase := .commit, value := [7,8], just := some rJp },
   .recv 17 { sender := 3, round := 0, phase := .commit, value := [7,8], just := some rJp },
   .recv 18 { sender := 4, round := 0, phase := .commit, value := [7,8], just := some rJp },
   .recv 19 { sender := 2, round := 0, phase := .decide, value := [7,8], just := some rJc },
   .recv 20 { sender := 3, round := 0, phase := .decide, value := [7,8], just := some rJc },
   .recv 21 { sender := 1, round := 0, phase := .decide, value := [7,8], just := some rJc }]

/-- an incarnation with input `[7,8]` over `ops`, every hypothesis checked by evaluation -/
def rSeg (ops : List Op) (hv : ops.all (fun op => foreign op || opValidB rVotes rTbl op) = true)
    (hok : okRun (init rCfg rTbl [7, 8]) ops = true) : Segment rW rTbl where
  cfg := rCfg
  input := [7, 8]
  ops := ops
  inputNe := by decide
  valid := opValidB_sound rVotes rTbl ops hv
  ok := hok

/-- the three op lists, executed: no call fails other than by refusal, the decision reported, the requests -/
theorem rOps1a_run :
    okRun (init rCfg rTbl [7, 8]) rOps1a = true ∧ (run (init rCfg rTbl [7, 8]) rOps1a).1.termination = none ∧
    requests (run (init rCfg rTbl [7, 8]) rOps1a).2 = [(0, .quality, [7,8]), (0, .prepare, [7,8])] := by
  decide +kernel

theorem rOps1b_run :
    okRun (init rCfg rTbl [7, 8]) rOps1b = true ∧
    (run (init rCfg rTbl [7, 8]) rOps1b).1.termination =
      some { round := 0, phase := .decide, value := [7, 8], signers := [1, 2, 3] } ∧
    requests (run (init rCfg rTbl [7, 8]) rOps1b).2 =
      [(0, .quality, [7,8]), (0, .prepare, [7]), (0, .commit, []), (0, .decide, [7,8])] := by
  decide +kernel

theorem rOpsO_run :
    okRun (init rCfg rTbl [7, 8]) rOpsO = true ∧
    (run (init rCfg rTbl [7, 8]) rOpsO).1.termination =
      some { round := 0, phase := .decide, value := [7, 8], signers := [0, 1, 2] } ∧
    requests (run (init rCfg rTbl [7, 8]) rOpsO).2 =
      [(0, .quality, [7,8]), (0, .prepare, [7,8]), (0, .commit, [7,8]), (0, .decide, [7,8])] := by
  decide +kernel

def rSeg1a : Segment rW rTbl := rSeg rOps1a (by decide +kernel) rOps1a_run.1
def rSeg1b : Segment rW rTbl := rSeg rOps1b (by decide +kernel) rOps1b_run.1
def rSegO : Segment rW rTbl := rSeg rOpsO (by decide +kernel) rOpsO_run.1

/-- what the two incarnations of member 1 asked to broadcast -/
theorem rReq1 :
    requests rSeg1a.effs = [(0, .quality, [7,8]), (0, .prepare, [7,8])] ∧
    requests rSeg1b.effs = [(0, .quality, [7,8]), (0, .prepare, [7]), (0, .commit, []), (0, .decide, [7,8])] :=
  ⟨rOps1a_run.2.2, rOps1b_run.2.2⟩

/-- … and what passed the filter: PREPARE(0, `[7]`) of the second incarnation did not -/
theorem rPub1 : published [requests rSeg1a.effs, requests rSeg1b.effs] =
    [(0, .quality, [7,8]), (0, .prepare, [7,8]), (0, .quality, [7,8]), (0, .commit, []), (0, .decide, [7,8])] := by
  rw [rReq1.1, rReq1.2]; decide

theorem rReqO : requests rSegO.effs =
    [(0, .quality, [7,8]), (0, .prepare, [7,8]), (0, .commit, [7,8]), (0, .decide, [7,8])] := rOpsO_run.2.2

/-- member 1: two incarnations, the wire is the first-value-wins scan of their requests -/
def rRun1 : RestartingRun rW rTbl 1 :=
  RestartingRun.ofPublished 1 [rSeg1a, rSeg1b] (by
    intro r ph v
    show Wof rVotes 1 r ph v ↔ (r, ph, v) ∈ published [requests rSeg1a.effs, requests rSeg1b.effs]
    rw [votesOf_iff, rPub1]
    have : votesOf rVotes 1 =
        [(0, .quality, [7,8]), (0, .prepare, [7,8]), (0, .quality, [7,8]), (0, .commit, []), (0, .decide, [7,8])] := by
      decide
    rw [this])

/-- members 2, 3, 4: one incarnation -/
def rRunO (p : Pid) (hp : p = 2 ∨ p = 3 ∨ p = 4) : RestartingRun rW rTbl p :=
  RestartingRun.ofPublished p [rSegO] (by
    intro r ph v
    show Wof rVotes p r ph v ↔ (r, ph, v) ∈ published [requests rSegO.effs]
    rw [votesOf_iff, rReqO]
    have : votesOf rVotes p = published [[(0, .quality, [7,8]), (0, .prepare, [7,8]), (0, .commit, [7,8]), (0, .decide, [7,8])]] := by
      rcases hp with rfl | rfl | rfl <;> decide
    rw [this])

theorem r_ids : (ids rTbl).toFinset = {1, 2, 3, 4} := by decide

def rNet : NetworkR rTbl ∅ rW where
  base :=
    { idsNodup := by decide
      totalPos := by decide
      faultBound := by
        rw [total_eq rTbl ∅ rW (by decide)]
        show 3 * (∑ p ∈ (∅ : Finset Pid), rTbl.power p) < rTbl.total
        rw [Finset.sum_empty]
        decide
      nonMembers := by
        intro p hp r ph v hw
        rw [r_ids] at hp
        have hm : ∀ e ∈ rVotes, e.1 = 1 ∨ e.1 = 2 ∨ e.1 = 3 ∨ e.1 = 4 := by decide
        have := hm _ hw
        simp only [Finset.mem_insert, Finset.mem_singleton] at hp
        exact hp this }
  runs := fun p hp _ =>
    if h1 : p = 1 then h1 ▸ rRun1
    else rRunO p (by
      rw [r_ids] at hp
      simp only [Finset.mem_insert, Finset.mem_singleton] at hp
      rcases hp with h | h | h | h
      · exact absurd h h1
      · exact Or.inl h
      · exact Or.inr (Or.inl h)
      · exact Or.inr (Or.inr h))

/-- the same wire comes out of the C12 node model run on the crash-free history of the two incarnations
(signature of a vote := an injective code of its value) -/
theorem r_wire_is_c12 (sig : Req → Nat) (hsig : ∀ r ph x y, sig (r, ph, x) = sig (r, ph, y) → x = y) :
    Equiv.RunOk (fun x => x == 1) (Equiv.Sys.init 0)
      (history 5 1 sig [requests rSeg1a.effs, requests rSeg1b.effs]) ∧
    (Equiv.run (Equiv.Sys.init 0) (history 5 1 sig [requests rSeg1a.effs, requests rSeg1b.effs])).wire =
      [(0, .quality, [7,8]), (0, .prepare, [7,8]), (0, .quality, [7,8]), (0, .commit, []), (0, .decide, [7,8])].map
        (toMsg 5 1 sig) := by
  rw [← rPub1]
  exact wire_history 1 0 5 sig hsig _

end Example
end F3.Restart
