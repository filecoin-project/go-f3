import F3.Model.GoInt
/-!
The generated definitions (`F3/Gen/*.lean`) are over `Int`, compare with `decide` and wrap with the explicit
`F3.GoInt.u64`; the hand models are over `Nat` and branch on propositions. Three groups of lemmas carry one side to the
other: comparisons of casts, the wrap moved across the cast, and `if`s on a disjunction or conjunction split into one
test per `if` (the form in which the source writes its early returns). Core-only.
-/
namespace F3.Proofs.GenTie
open F3.GoInt

/-! ### comparisons of casts (`>`/`≥` are `<`/`≤` with the sides exchanged: the same lemmas apply) -/

theorem cast_lt (a b : Nat) : decide ((a : Int) < (b : Int)) = decide (a < b) := decide_eq_decide.mpr Int.ofNat_lt
theorem cast_le (a b : Nat) : decide ((a : Int) ≤ (b : Int)) = decide (a ≤ b) := decide_eq_decide.mpr Int.ofNat_le
theorem cast_eq (a b : Nat) : decide ((a : Int) = (b : Int)) = decide (a = b) := decide_eq_decide.mpr Int.natCast_inj
theorem cast_ne (a b : Nat) : decide ((a : Int) ≠ (b : Int)) = decide (a ≠ b) :=
  decide_eq_decide.mpr (not_congr Int.natCast_inj)
theorem cast_beq (a b : Nat) : decide ((a : Int) = (b : Int)) = (a == b) := (cast_eq a b).trans (Bool.beq_eq_decide_eq a b).symm
theorem cast_bne (a b : Nat) : decide ((a : Int) ≠ (b : Int)) = (a != b) := by rw [bne, ← cast_beq, decide_not]

/-! ### the `uint64` wrap -/

theorem u64_of_lt (x : Int) (h0 : 0 ≤ x) (h1 : x < 2 ^ 64) : u64 x = x := Int.emod_eq_of_lt h0 h1

theorem u64_natCast (n : Nat) : u64 (n : Int) = ((n % 18446744073709551616 : Nat) : Int) := (Int.natCast_emod n _).symm

theorem u64_natCast_pow (n : Nat) : u64 (n : Int) = ((n % 2 ^ 64 : Nat) : Int) := u64_natCast n

theorem u64_natCast_add (a b : Nat) : u64 ((a : Int) + (b : Int)) = (((a + b) % 18446744073709551616 : Nat) : Int) := by
  rw [← Int.natCast_add, u64_natCast]

theorem u64_sub_wrap (x : Int) (h0 : -(2 ^ 64) ≤ x) (h1 : x < 0) : u64 x = x + 2 ^ 64 := by
  unfold u64; omega

/-- an inner wrap under a subtraction is absorbed by the outer one -/
theorem u64_u64_sub (x y : Int) : u64 (u64 x - y) = u64 (x - y) := Int.emod_sub_emod ..

/-- `n - 1` in `uint64` for a positive `n`: no wrap below zero -/
theorem u64_natCast_pred (n : Nat) (h : 0 < n) : u64 ((n : Int) - 1) = (((n - 1) % 2 ^ 64 : Nat) : Int) := by
  rw [← u64_natCast_pow, Int.natCast_sub h]; rfl

/-! ### one test per `if` -/

theorem ite_or_chain {α : Type} (a b : Prop) [Decidable a] [Decidable b] (x y : α) :
    (if a ∨ b then x else y) = if a then x else if b then x else y := by
  by_cases ha : a <;> simp [ha]

theorem ite_and_chain {α : Type} (a b : Prop) [Decidable a] [Decidable b] (x y : α) :
    (if a ∧ b then x else y) = if a then (if b then x else y) else y := by
  by_cases ha : a <;> simp [ha]

end F3.Proofs.GenTie
