import F3.Model.EquivHost
import F3.Proofs.EquivSys
/-!
# The floor hypothesis of C12 discharged from the model of the caller

`HInv`: the purge epoch is at least six below the instance the store expects next, and the participant and
every outstanding builder are at or above the purge epoch as of the last restart (`floor`).  From it every
`Model/Equiv.lean` history induced by a host history satisfies `RunOk` under `HostOk` alone.  Core-only.
-/
namespace F3.EquivHost
open F3.Equiv

theorem run_append (s : Sys) (a b : List Op) : run s (a ++ b) = run (run s a) b := by
  induction a generalizing s with
  | nil => rfl
  | cons op a ih => exact ih (step s op)

theorem runOk_append {own : Nat → Bool} {s : Sys} {a b : List Op} :
    RunOk own s (a ++ b) ↔ RunOk own s a ∧ RunOk own (run s a) b := by
  induction a generalizing s with
  | nil => exact ⟨fun h => ⟨trivial, h⟩, fun h => h.2⟩
  | cons op a ih =>
    show OpOk own s op ∧ RunOk own (step s op) (a ++ b) ↔ (OpOk own s op ∧ RunOk own (step s op) a) ∧ _
    rw [ih]
    exact ⟨fun ⟨h1, h2, h3⟩ => ⟨⟨h1, h2⟩, h3⟩, fun ⟨⟨h1, h2⟩, h3⟩ => ⟨h1, h2, h3⟩⟩

theorem step_restart_fp (s : Sys) :
    (step s .restart).floor = s.purged ∧ (step s .restart).purged = s.purged := ⟨rfl, rfl⟩

theorem step_purge_fp (s : Sys) (k : Nat) (keep : List Msg) :
    (step s (.purge k keep)).floor = s.floor ∧
    ((step s (.purge k keep)).purged = s.purged ∨ (step s (.purge k keep)).purged = max s.purged k) := by
  simp only [step]
  split
  · exact ⟨rfl, Or.inl rfl⟩
  · exact ⟨rfl, Or.inr rfl⟩

/-- Only `restart` and `purge` touch `floor` / `purged`: every other branch of `step` is `s` itself or
`{ s with … }` on other fields. -/
theorem step_fp (s : Sys) (op : Op) (hr : op ≠ .restart) (hp : ∀ k keep, op ≠ .purge k keep) :
    (step s op).floor = s.floor ∧ (step s op).purged = s.purged := by
  cases op with
  | restart => exact absurd rfl hr
  | purge k keep => exact absurd rfl (hp k keep)
  | stop => exact ⟨rfl, rfl⟩
  | _ =>
    simp only [step]
    repeat' split
    all_goals exact ⟨rfl, rfl⟩

structure HInv (s : HState) : Prop where
  /-- the participant is at or above the purge epoch as of the last restart -/
  floor_cur : s.sys.floor ≤ s.cur
  /-- so is every outstanding builder … -/
  out_ge : ∀ b ∈ s.out, s.sys.floor ≤ b.inst
  /-- … and none is ahead of the participant -/
  out_le : ∀ b ∈ s.out, b.inst ≤ s.cur
  /-- every purge was at `k - 5` for a stored certificate `k` -/
  purged_next : s.sys.purged = 0 ∨ s.sys.purged + 6 ≤ s.next
  /-- the participant is never ahead of the instance the store expects next -/
  cur_next : s.cur ≤ s.next
  first_le : s.first ≤ s.next

theorem hinv_init (l : Peer) (first : Nat) : HInv (HState.init l first) where
  floor_cur := Nat.zero_le _
  out_ge := by intro b hb; cases hb
  out_le := by intro b hb; cases hb
  purged_next := Or.inl rfl
  cur_next := Nat.le_refl _
  first_le := Nat.le_refl _

/-- The invariant survives every step in which the store and the participant only move forward, new
builders are for the participant's instance, and `floor`/`purged` stay. -/
theorem HInv.mono {s s' : HState} (h : HInv s) (hf : s'.sys.floor = s.sys.floor) (hp : s'.sys.purged = s.sys.purged)
    (hfirst : s'.first = s.first) (hnext : s.next ≤ s'.next) (hcur : s.cur ≤ s'.cur) (hcn : s'.cur ≤ s'.next)
    (hout : ∀ b ∈ s'.out, b ∈ s.out ∨ b.inst = s.cur) : HInv s' where
  floor_cur := by rw [hf]; exact Nat.le_trans h.floor_cur hcur
  out_ge := fun b hb => by rw [hf]; exact (hout b hb).elim (h.out_ge b) (fun e => e ▸ h.floor_cur)
  out_le := fun b hb => (hout b hb).elim (fun hb => Nat.le_trans (h.out_le b hb) hcur) (fun e => e ▸ hcur)
  purged_next := by rw [hp]; exact h.purged_next.imp id (fun h0 => Nat.le_trans h0 hnext)
  cur_next := hcn
  first_le := by rw [hfirst]; exact Nat.le_trans h.first_le hnext

/-- a step that leaves everything but the `Sys` alone, and `floor`/`purged` inside it -/
theorem HInv.frame {s : HState} (h : HInv s) (sys' : Sys) (hf : sys'.floor = s.sys.floor)
    (hp : sys'.purged = s.sys.purged) : HInv { s with sys := sys' } :=
  h.mono hf hp rfl (Nat.le_refl _) (Nat.le_refl _) h.cur_next (fun _ hb => Or.inl hb)

theorem HInv.frame_one {s : HState} (h : HInv s) (op : Op) (hr : op ≠ .restart)
    (hp : ∀ k keep, op ≠ .purge k keep) : HInv { s with sys := run s.sys [op] } :=
  h.frame _ (step_fp s.sys op hr hp).1 (step_fp s.sys op hr hp).2

theorem hstep_inv {own : Nat → Bool} {s : HState} (h : HInv s) (op : HostOp) (hop : HostOpOk own op) :
    HInv (hstep s op) := by
  have hcn := h.cur_next
  cases op with
  | storePut k =>
    simp only [hstep, hstepWith]
    split
    · exact h.mono rfl rfl rfl (show s.next ≤ k + 1 by omega) (Nat.le_refl _) (show s.cur ≤ k + 1 by omega)
        (fun _ hb => Or.inl hb)
    · exact h
  | certToRunner k =>
    simp only [hstep, hstepWith]
    split
    · next hk =>
      obtain ⟨_, ⟨_, hk2⟩, hk3⟩ := hk
      exact h.mono rfl rfl rfl (Nat.le_refl _) (show s.cur ≤ k + 1 by omega) (show k + 1 ≤ s.next by omega)
        (fun _ hb => Or.inl hb)
    · exact h
  | finalizePurge k keep =>
    simp only [hstep, hstepWith, lower]
    split
    · next hk =>
      obtain ⟨⟨_, hk2⟩, hk5⟩ := hk
      obtain ⟨hf, hp⟩ := step_purge_fp s.sys (k - 5) keep
      refine { floor_cur := ?_, out_ge := ?_, out_le := h.out_le,
               purged_next := ?_, cur_next := h.cur_next, first_le := h.first_le }
      · show (step s.sys (.purge (k - 5) keep)).floor ≤ s.cur
        rw [hf]; exact h.floor_cur
      · intro b hb
        show (step s.sys (.purge (k - 5) keep)).floor ≤ b.inst
        rw [hf]; exact h.out_ge b hb
      · show (step s.sys (.purge (k - 5) keep)).purged = 0 ∨
          (step s.sys (.purge (k - 5) keep)).purged + 6 ≤ s.next
        -- the new epoch `k - 5` is six below `k + 1 ≤ next`
        rcases hp with hp | hp <;> rw [hp]
        · exact h.purged_next
        · rcases h.purged_next with h0 | h0 <;> right <;> omega
    · exact h.frame _ rfl rfl
  | finalizeTrim k =>
    simp only [hstep, hstepWith, lower]
    split
    · exact h.frame_one _ nofun (fun _ _ => nofun)
    · exact h.frame _ rfl rfl
  | decide =>
    simp only [hstep, hstepWith]
    split
    · by_cases he : s.cur = s.next
      · simp only [he, if_true]
        exact h.mono rfl rfl rfl (show s.next ≤ s.next + 1 by omega) (show s.cur ≤ s.next + 1 by omega)
          (Nat.le_refl _) (fun _ hb => Or.inl hb)
      · simp only [he, if_false]
        exact h.mono rfl rfl rfl (Nat.le_refl _) (Nat.le_succ _) (show s.cur + 1 ≤ s.next by omega)
          (fun _ hb => Or.inl hb)
    · exact h
  | request r p =>
    simp only [hstep, hstepWith]
    split
    · exact h.mono rfl rfl rfl (Nat.le_refl _) (Nat.le_refl _) hcn fun b hb =>
        (List.mem_append.mp hb).imp id fun hb => by rw [List.mem_singleton.mp hb]
    · exact h
  | sign j sender sig crash =>
    simp only [hstep, hstepWith, lower]
    split
    · exact h.frame_one _ nofun (fun _ _ => nofun)
    · exact h.frame _ rfl rfl
  | rebroadcast r p =>
    exact h.frame_one _ nofun (fun _ _ => nofun)
  | peerMsg p m =>
    exact h.frame_one _ nofun (fun _ _ => nofun)
  | stop =>
    exact h.frame_one _ nofun (fun _ _ => nofun)
  | restart keep =>
    have hk : keep = false := hop
    subst hk
    refine { floor_cur := ?_, out_ge := ?_, out_le := ?_,
             purged_next := h.purged_next, cur_next := Nat.le_refl _, first_le := h.first_le }
    · show s.sys.purged ≤ s.next
      rcases h.purged_next with h0 | h0 <;> omega
    · intro b hb; cases hb
    · intro b hb; cases hb

theorem hrun_inv {own : Nat → Bool} {s : HState} (h : HInv s) (ops : List HostOp) (hok : HostOk own ops) :
    HInv (hrun s ops) := by
  induction ops generalizing s with
  | nil => exact h
  | cons op ops ih =>
    exact ih (hstep_inv h op (hok op (List.mem_cons_self ..))) (fun o ho => hok o (List.mem_cons_of_mem _ ho))

/-- The `Model/Equiv.lean` operations of one host step are admissible: this is where `floor ≤ m.inst`
is *derived* (from `out_ge` for signed builders, from `floor_cur` for rebroadcasts). -/
theorem lower_ok {own : Nat → Bool} {s : HState} (h : HInv s) (op : HostOp) (hop : HostOpOk own op) :
    RunOk own s.sys (lower s op) := by
  cases op with
  | storePut k => exact trivial
  | certToRunner k => exact trivial
  | finalizePurge k keep =>
    simp only [lower]; split
    · exact ⟨trivial, trivial⟩
    · exact trivial
  | finalizeTrim k =>
    simp only [lower]; split
    · exact ⟨trivial, trivial⟩
    · exact trivial
  | decide => exact trivial
  | request r p => exact trivial
  | sign j sender sig crash =>
    simp only [lower]; split
    · next b hb => exact ⟨⟨h.out_ge b (List.mem_of_getElem? hb), hop⟩, trivial⟩
    · exact trivial
  | rebroadcast r p => exact ⟨h.floor_cur, trivial⟩
  | peerMsg p m => exact ⟨hop, trivial⟩
  | stop => exact ⟨trivial, trivial⟩
  | restart keep => exact ⟨trivial, trivial⟩

theorem hstep_sys (s : HState) (op : HostOp) : (hstep s op).sys = run s.sys (lower s op) := by
  cases op with
  | storePut k => simp only [hstep, hstepWith, lower]; split <;> rfl
  | certToRunner k => simp only [hstep, hstepWith, lower]; split <;> rfl
  | decide => simp only [hstep, hstepWith, lower]; split <;> rfl
  | request r p => simp only [hstep, hstepWith, lower]; split <;> rfl
  | finalizePurge k keep => rfl
  | finalizeTrim k => rfl
  | sign j sender sig crash => rfl
  | rebroadcast r p => rfl
  | peerMsg p m => rfl
  | stop => rfl
  | restart keep => rfl

theorem hrun_sys (s : HState) (ops : List HostOp) : (hrun s ops).sys = run s.sys (trace s ops) := by
  induction ops generalizing s with
  | nil => rfl
  | cons op ops ih =>
    show (hrun (hstep s op) ops).sys = run s.sys (lower s op ++ trace (hstep s op) ops)
    rw [run_append, ih, hstep_sys]

/-- **The floor hypothesis discharged.**  Whatever the host does, the induced history is admissible for
the theorems of `Props/C12.lean`; the only hypotheses left are those of `HostOk`. -/
theorem runOk_trace {own : Nat → Bool} {s : HState} (h : HInv s) (ops : List HostOp) (hok : HostOk own ops) :
    RunOk own s.sys (trace s ops) := by
  induction ops generalizing s with
  | nil => exact trivial
  | cons op ops ih =>
    have hop := hok op (List.mem_cons_self ..)
    show RunOk own s.sys (lower s op ++ trace (hstep s op) ops)
    rw [runOk_append]
    refine ⟨lower_ok h op hop, ?_⟩
    rw [← hstep_sys]
    exact ih (hstep_inv h op hop) (fun o ho => hok o (List.mem_cons_of_mem _ ho))

theorem runOk_trace_init (own : Nat → Bool) (l : Peer) (first : Nat) (ops : List HostOp) (hok : HostOk own ops) :
    RunOk own (Sys.init l) (trace (HState.init l first) ops) :=
  runOk_trace (hinv_init l first) ops hok

theorem hrun_sys_init (l : Peer) (first : Nat) (ops : List HostOp) :
    (hrun (HState.init l first) ops).sys = run (Sys.init l) (trace (HState.init l first) ops) :=
  hrun_sys _ ops

theorem sysInv_hrun (own : Nat → Bool) (l : Peer) (first : Nat) (ops : List HostOp) (hok : HostOk own ops) :
    SysInv own (hrun (HState.init l first) ops).sys := by
  rw [hrun_sys_init]
  exact inv_run (sysInv_init own l) _ (runOk_trace_init own l first ops hok)

end F3.EquivHost
