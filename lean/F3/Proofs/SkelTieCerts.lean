import F3.Gen.SkelCerts
/-!
Hand-written expectations for the REGENERATED skeletons of `F3.Gen.SkelCerts` (tools/go2lean/skel.go): the pre-order
list of the statements of a Go function as `<depth>:<kind>`. The expression-level tie theorems pin what single
conditions say; these pin that nothing was added around them (an extra early return, a cap, a dropped branch). A
structural change of the function — harmful or not — breaks the `rfl` below and with it the obligation of every
property importing this file; the check then searches for a failing input as for any broken obligation.
-/
namespace F3.SkelTie.SkelCerts
open F3.Gen.SkelCerts

/-- the structure the model of `ValidateCerts` was written against -/
def skelValidateCertsExpected : List String :=
  ["0:range", "1:if", "2:return4", "1:if", "2:return4", "1:if", "2:return4", "1:if", "2:return4", "1:if",
   "2:return4", "1:assign=", "1:if", "2:return4", "1:assign:=", "1:if", "2:return4", "1:if", "2:return4",
   "1:incdec++", "1:assign=", "1:assign=", "1:assign=", "0:return4"]

theorem skelValidateCerts_expected : skelValidateCerts = skelValidateCertsExpected := rfl

/-- the structure the model of `ApplyDiffs` was written against -/
def skelApplyDiffsExpected : List String :=
  ["0:range", "1:decl", "1:range", "2:if", "3:return2", "2:if", "3:return2", "2:assign=", "2:assign:=", "2:if",
   "3:if", "4:return2", "3:if", "4:assign=", "3:if", "4:if", "5:return2", "4:assign=", "2:else", "3:if",
   "4:return2", "3:if", "4:return2", "3:assign=", "2:switch", "3:case1", "4:call:delete", "3:case1",
   "4:assign=", "3:default", "4:return2", "0:return2"]

theorem skelApplyDiffs_expected : skelApplyDiffs = skelApplyDiffsExpected := rfl

/-- the structure the model of `DeltaIsZero` was written against -/
def skelDeltaIsZeroExpected : List String :=
  ["0:return1"]

theorem skelDeltaIsZero_expected : skelDeltaIsZero = skelDeltaIsZeroExpected := rfl

end F3.SkelTie.SkelCerts
