import F3.Proofs.WalCodec
/-! Helper lemmas for C11: directory operations and the case analysis of `step`. Core-only. -/
namespace F3.Wal
variable {α β : Type}

theorem Dir.get_eq_some_of_mem {d : Dir β} (hn : d.names.Nodup) {nm : Name} {bs : List β}
    (h : (nm, bs) ∈ d) : d.get nm = some bs := by
  induction d with
  | nil => cases h
  | cons f t ih =>
    obtain ⟨n, b⟩ := f
    simp only [Dir.names, List.map_cons, List.nodup_cons] at hn
    simp only [Dir.get]
    rcases List.mem_cons.mp h with h | h
    · cases h; simp
    · have : n ≠ nm := by
        intro heq; subst heq
        exact hn.1 (List.mem_map.mpr ⟨(n, bs), h, rfl⟩)
      simp [this]; exact ih hn.2 h

theorem Dir.mem_of_get {d : Dir β} {nm : Name} {bs : List β} (h : d.get nm = some bs) : (nm, bs) ∈ d := by
  induction d with
  | nil => simp [Dir.get] at h
  | cons f t ih =>
    obtain ⟨n, b⟩ := f
    simp only [Dir.get] at h
    split at h
    · next heq => cases h; subst heq; simp
    · exact List.mem_cons_of_mem _ (ih h)

theorem Dir.get_none_of_not_mem {d : Dir β} {nm : Name} (h : nm ∉ d.names) : d.get nm = none := by
  cases hg : d.get nm with
  | none => rfl
  | some bs => exact absurd (List.mem_map.mpr ⟨(nm, bs), Dir.mem_of_get hg, rfl⟩) h

theorem Dir.names_appendTo (d : Dir β) (nm : Name) (x : List β) : (d.appendTo nm x).names = d.names := by
  simp only [Dir.appendTo, Dir.names, List.map_map]
  apply List.map_congr_left
  intro f _; simp only [Function.comp]; split <;> rfl

theorem Dir.mem_appendTo {d : Dir β} {nm : Name} {x : List β} {n : Name} {b : List β} :
    (n, b) ∈ d.appendTo nm x ↔ ∃ b0, (n, b0) ∈ d ∧ b = if n = nm then b0 ++ x else b0 := by
  simp only [Dir.appendTo, List.mem_map]
  constructor
  · rintro ⟨⟨n', b'⟩, hm, heq⟩
    by_cases h : n' = nm
    · simp [h] at heq; obtain ⟨rfl, rfl⟩ := heq; exact ⟨b', h ▸ hm, by simp⟩
    · simp [h] at heq; obtain ⟨rfl, rfl⟩ := heq; exact ⟨b', hm, by simp [h]⟩
  · rintro ⟨b0, hm, rfl⟩
    refine ⟨(n, b0), hm, ?_⟩
    by_cases h : n = nm <;> simp [h]

theorem Dir.names_append (d : Dir β) (f : Name × List β) : Dir.names (d ++ [f]) = d.names ++ [f.1] := by
  simp [Dir.names]

theorem nodup_map_inj {γ δ : Type} {f : γ → δ} {l : List γ} (h : (l.map f).Nodup) {x y : γ}
    (hx : x ∈ l) (hy : y ∈ l) (hxy : f x = f y) : x = y := by
  induction l with
  | nil => cases hx
  | cons a t ih =>
    simp only [List.map_cons, List.nodup_cons, List.mem_map, not_exists, not_and] at h
    rcases List.mem_cons.mp hx with rfl | hx' <;> rcases List.mem_cons.mp hy with rfl | hy'
    · rfl
    · exact absurd hxy.symm (h.1 y hy')
    · exact absurd hxy (h.1 x hx')
    · exact ih h.2 hx' hy'

theorem Dir.get_append_new {d : Dir β} {nm n : Name} (hne : n ≠ nm) (x : List β) :
    Dir.get (d ++ [(nm, x)]) n = d.get n := by
  induction d with
  | nil => simp [Dir.get, hne.symm]
  | cons f t ih => obtain ⟨a, b⟩ := f; simp only [List.cons_append, Dir.get]; split <;> simp [ih]

theorem Dir.get_append_self {d : Dir β} {nm : Name} (hnm : nm ∉ d.names) (x : List β) :
    Dir.get (d ++ [(nm, x)]) nm = some x := by
  induction d with
  | nil => simp [Dir.get]
  | cons f t ih =>
    obtain ⟨a, b⟩ := f
    simp only [Dir.names, List.map_cons, List.mem_cons, not_or] at hnm
    simp only [List.cons_append, Dir.get]
    have : a ≠ nm := fun h => hnm.1 h.symm
    simp only [this, if_false]
    exact ih hnm.2

theorem Dir.mem_append_new {d : Dir β} {nm n : Name} {b : List β} (hnm : nm ∉ d.names)
    (h : (n, b) ∈ d ++ [(nm, ([] : List β))]) : ((n, b) ∈ d ∧ n ≠ nm) ∨ (n = nm ∧ b = []) := by
  rcases List.mem_append.mp h with h' | h'
  · left; refine ⟨h', ?_⟩; intro heq; subst heq; exact hnm (List.mem_map.mpr ⟨(n, b), h', rfl⟩)
  · right; simpa using h'

theorem Dir.nodup_names_append {d : Dir β} {nm : Name} (hd : d.names.Nodup) (hnm : nm ∉ d.names) (x : List β) :
    (Dir.names (d ++ [(nm, x)])).Nodup := by
  rw [Dir.names_append]
  apply List.nodup_append.mpr
  refine ⟨hd, by simp, ?_⟩
  intro a ha b hb
  simp only [List.mem_singleton] at hb
  subst hb; intro h; subst h; exact hnm ha

theorem Dir.get_some_of_mem_names {d : Dir β} {n : Name} (h : n ∈ d.names) : ∃ bs, d.get n = some bs := by
  induction d with
  | nil => simp [Dir.names] at h
  | cons f t ih =>
    obtain ⟨a, b⟩ := f
    simp only [Dir.get]
    by_cases ha : a = n
    · exact ⟨b, by simp [ha]⟩
    · simp only [ha, if_false]
      apply ih
      simp only [Dir.names, List.map_cons, List.mem_cons] at h
      rcases h with h | h
      · exact absurd h.symm ha
      · exact h

theorem Dir.get_appendTo_ne {d : Dir β} {nm n : Name} (hne : n ≠ nm) (x : List β) :
    (d.appendTo nm x).get n = d.get n := by
  induction d with
  | nil => rfl
  | cons f t ih =>
    obtain ⟨a, b⟩ := f
    simp only [Dir.appendTo, List.map_cons] at ih ⊢
    by_cases h : a = nm
    · subst h; simp only [if_true, Dir.get]; simp [Ne.symm hne]; exact ih
    · simp only [h, if_false, Dir.get]; split
      · rfl
      · exact ih

theorem Dir.get_appendTo_eq {d : Dir β} {nm : Name} {b0 : List β} (h : d.get nm = some b0) (x : List β) :
    (d.appendTo nm x).get nm = some (b0 ++ x) := by
  induction d with
  | nil => simp [Dir.get] at h
  | cons f t ih =>
    obtain ⟨a, b⟩ := f
    simp only [Dir.appendTo, List.map_cons] at ih ⊢
    simp only [Dir.get] at h
    by_cases ha : a = nm
    · subst ha; simp at h; subst h; simp [Dir.get]
    · simp only [ha, if_false] at h ⊢; simp only [Dir.get, ha, if_false]; exact ih h

theorem Dir.get_filter {d : Dir β} (p : Name → Bool) {n : Name} (hp : p n = true) :
    Dir.get (d.filter (fun f => p f.1)) n = d.get n := by
  induction d with
  | nil => rfl
  | cons f t ih =>
    obtain ⟨a, b⟩ := f
    simp only [List.filter_cons]
    by_cases ha : a = n
    · subst ha; simp [hp, Dir.get]
    · by_cases hpa : p a = true
      · simp [hpa, Dir.get, ha, ih]
      · simp [hpa, Dir.get, ha, ih]

theorem Dir.names_filter (d : Dir β) (p : Name → Bool) :
    Dir.names (d.filter (fun f => p f.1)) = d.names.filter p := by
  induction d with
  | nil => rfl
  | cons f t ih =>
    simp only [Dir.names] at ih
    simp only [List.filter_cons, Dir.names, List.map_cons]
    by_cases hp : p f.1 = true <;> simp [hp, ih]

theorem flush_files (m : Mem) : (flush m).files = m.files := by
  unfold flush Mem.files
  cases h : m.active with
  | none => simp [h]
  | some st => simp

theorem flush_active (m : Mem) : (flush m).active = none := by
  unfold flush; cases h : m.active <;> simp [h]

theorem mem_flush_logFiles {m : Mem} {st : Stat} :
    st ∈ (flush m).logFiles ↔ st ∈ m.logFiles ∨ m.active = some st := by
  unfold flush; cases h : m.active with
  | none => simp
  | some s => simp; constructor
              · rintro (h | h); exact Or.inl h; exact Or.inr h.symm
              · rintro (h | h); exact Or.inl h; exact Or.inr h.symm

/-- names deleted by `Purge k` -/
def purgeDel (m : Mem) (k : Nat) : List Name := (m.logFiles.filter (fun st => st.maxEpoch < k)).map (·.name)

theorem mem_purgeDel {m : Mem} {k : Nat} {nm : Name} :
    nm ∈ purgeDel m k ↔ ∃ st ∈ m.logFiles, st.maxEpoch < k ∧ st.name = nm := by
  simp only [purgeDel, List.mem_map, List.mem_filter, decide_eq_true_eq, and_assoc]

/-- Outcome of the shared front part of `Append`: the active file is written to while its size is within
`rotateAt`; otherwise (no active file, or one above `rotateAt`) the log rotates onto `nm`, which fails if that
name exists. -/
theorem writeRec_eq (cfg : Cfg α β) (d : Dir β) (m : Mem) (nm : Name) (bs : List β) :
    (∃ st, m.active = some st ∧ writeRec cfg d m nm bs = (d.appendTo st.name bs, m, some st)) ∨
    (nm ∉ d.names ∧ writeRec cfg d m nm bs =
      ((d ++ [(nm, [])]).appendTo nm bs, { flush m with active := some ⟨nm, 0⟩ }, some ⟨nm, 0⟩)) ∨
    (nm ∈ d.names ∧ writeRec cfg d m nm bs = (d, flush m, none)) := by
  unfold writeRec maybeRotate rotate
  cases ha : m.active with
  | none => by_cases hn : nm ∈ d.names <;> simp [hn]
  | some st =>
    by_cases hn : nm ∈ d.names <;>
      by_cases hsz : fileSize cfg ((d.get st.name).getD []) > cfg.rotateAt <;> simp [hn, hsz, ha]

/-- **What one operation can do**: the new state and the result, with the fact the branch rests on. `step_cases`
is the only place where `step` is unfolded; the invariant, the ghost lists and the acknowledgement lemmas are
eliminations of it. -/
inductive StepCase (cfg : Cfg α β) (s : State α β) : Op α → State α β × Res α → Prop
  | down (op : Op α) (hm : s.mem = none) (hop : op ≠ .open ∧ op ≠ .crash) : StepCase cfg s op (s, .down)
  | «open» : StepCase cfg s .open ({ s with mem := some (hydrate cfg s.dir) }, .ok)
  | crash : StepCase cfg s .crash ({ s with mem := none }, .ok)
  | rotate (m : Mem) (hm : s.mem = some m) : StepCase cfg s .rotate ({ s with mem := some (flush m) }, .ok)
  | close (m : Mem) (hm : s.mem = some m) : StepCase cfg s .close ({ s with mem := some (flush m) }, .ok)
  | all (m : Mem) (hm : s.mem = some m) :
      StepCase cfg s .all (s, (readAll cfg s.dir m.files).elim .err .entries)
  | purge (k : Nat) (m : Mem) (hm : s.mem = some m) :
      StepCase cfg s (.purge k)
        ({ dir := s.dir.filter (fun f => !((purgeDel m k).contains f.1))
           mem := some { m with logFiles := m.logFiles.filter (fun st => !(decide (st.maxEpoch < k))) }
           acked := s.acked.filter (fun p => !((purgeDel m k).contains p.1))
           inflight := s.inflight.filter (fun p => !((purgeDel m k).contains p.1)) }, .ok)
  | appendSame (e : α) (nm : Name) (m : Mem) (st : Stat) (hm : s.mem = some m) (ha : m.active = some st) :
      StepCase cfg s (.append e nm)
        ({ dir := s.dir.appendTo st.name (cfg.codec.enc e)
           mem := some { m with active := some { st with maxEpoch := max st.maxEpoch (cfg.epoch e) } }
           acked := s.acked ++ [(st.name, e)]
           inflight := s.inflight }, .ok)
  | appendFresh (e : α) (nm : Name) (m : Mem) (hm : s.mem = some m) (hn : nm ∉ s.dir.names) :
      StepCase cfg s (.append e nm)
        ({ dir := (s.dir ++ [(nm, [])]).appendTo nm (cfg.codec.enc e)
           mem := some { logFiles := (flush m).logFiles, active := some ⟨nm, max 0 (cfg.epoch e)⟩ }
           acked := s.acked ++ [(nm, e)]
           inflight := s.inflight }, .ok)
  | appendExists (e : α) (nm : Name) (m : Mem) (hm : s.mem = some m) (hn : nm ∈ s.dir.names) :
      StepCase cfg s (.append e nm) ({ s with mem := some (flush m) }, .err)
  | crashSame (e : α) (nm : Name) (n : Nat) (m : Mem) (st : Stat) (hm : s.mem = some m) (ha : m.active = some st) :
      StepCase cfg s (.crashAppend e nm n)
        ({ dir := s.dir.appendTo st.name ((cfg.codec.enc e).take n)
           mem := none
           acked := s.acked
           inflight := s.inflight ++ [(st.name, e)] }, .ok)
  | crashFresh (e : α) (nm : Name) (n : Nat) (m : Mem) (hm : s.mem = some m) (hn : nm ∉ s.dir.names) :
      StepCase cfg s (.crashAppend e nm n)
        ({ dir := (s.dir ++ [(nm, [])]).appendTo nm ((cfg.codec.enc e).take n)
           mem := none
           acked := s.acked
           inflight := s.inflight ++ [(nm, e)] }, .ok)
  | crashExists (e : α) (nm : Name) (n : Nat) (m : Mem) (hm : s.mem = some m) (hn : nm ∈ s.dir.names) :
      StepCase cfg s (.crashAppend e nm n) ({ s with mem := none }, .err)

theorem step_cases (cfg : Cfg α β) (s : State α β) (op : Op α) : StepCase cfg s op (step cfg s op) := by
  cases hm : s.mem with
  | none =>
    cases op <;> simp only [step, hm] <;>
      first | exact .open | exact .crash | exact .down _ hm ⟨nofun, nofun⟩
  | some m =>
    cases op with
    | «open» => exact .open
    | crash => exact .crash
    | rotate => simp only [step, hm]; exact .rotate m hm
    | close => simp only [step, hm]; exact .close m hm
    | purge k => simp only [step, hm]; exact .purge k m hm
    | all =>
      have := StepCase.all (cfg := cfg) m hm
      cases hr : readAll cfg s.dir m.files <;> simpa only [step, hm, hr, Option.elim] using this
    | append e nm =>
      rcases writeRec_eq cfg s.dir m nm (cfg.codec.enc e) with ⟨st, ha, hr⟩ | ⟨hn, hr⟩ | ⟨hn, hr⟩ <;>
        simp only [step, hm, hr] <;> constructor <;> assumption
    | crashAppend e nm n =>
      rcases writeRec_eq cfg s.dir m nm ((cfg.codec.enc e).take n) with ⟨st, ha, hr⟩ | ⟨hn, hr⟩ | ⟨hn, hr⟩ <;>
        simp only [step, hm, hr] <;> constructor <;> assumption

end F3.Wal
