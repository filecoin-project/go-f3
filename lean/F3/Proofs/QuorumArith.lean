import F3.Gen.Core
import F3.Model.Power
/-!
Closed forms behind the quorum arithmetic of C08: the regenerated `divCeil` for divisor 3, the two quorum
predicates on a non-negative total, and what `PowerEntries.Scaled` returns. Core-only.
-/
namespace F3.Proofs.QuorumArith
open F3.Gen F3.Power

/-- `divCeil a 3` for every integer: the ceiling `(a + 2) / 3` (floor division), plus one when `a` is negative and
not a multiple of 3 — Go's `/` truncates towards zero, so the quotient is already the ceiling there and the `+1` on
a non-zero remainder overshoots. -/
theorem divCeil3_eq (a : Int) :
    divCeil a 3 = (a + 2) / 3 + (if a < 0 ∧ a % 3 ≠ 0 then 1 else 0) := by
  unfold divCeil
  by_cases h : 0 ≤ a
  · simp only [Int.tdiv_eq_ediv_of_nonneg h, Int.tmod_eq_emod_of_nonneg h]
    by_cases hr : a % 3 = 0 <;> simp [hr] <;> omega
  · obtain ⟨n, rfl⟩ : ∃ n, a = -n := ⟨-a, by omega⟩
    have hn : 0 ≤ n := by omega
    simp only [Int.neg_tdiv, Int.neg_tmod, Int.tdiv_eq_ediv_of_nonneg hn, Int.tmod_eq_emod_of_nonneg hn]
    by_cases hr : n % 3 = 0 <;> simp [hr] <;> omega

theorem divCeil3_bounds (a : Int) (h : 0 ≤ a) : 3 * divCeil a 3 ≥ a ∧ 3 * divCeil a 3 < a + 3 := by
  rw [divCeil3_eq, if_neg (by omega)]
  omega

/-- `IsStrongQuorum`: at least two thirds of a non-negative total. -/
theorem isStrongQuorum_iff (p w : Int) (hw : 0 ≤ w) : isStrongQuorum p w = true ↔ 3 * p ≥ 2 * w := by
  have := divCeil3_bounds (2 * w) (by omega)
  unfold isStrongQuorum
  simp only [decide_eq_true_eq]
  omega

/-- `hasWeakQuorum`: strictly more than the ceiling of a third of a non-negative total. -/
theorem hasWeakQuorum_iff (p w : Int) (hw : 0 ≤ w) : hasWeakQuorum p w = true ↔ p > (w + 2) / 3 := by
  unfold hasWeakQuorum
  rw [divCeil3_eq, if_neg (by omega), Int.add_zero, decide_eq_true_eq]

theorem scaled_eq_some {ps : List Int} {sc : List Nat} {tot : Nat} (h : scaled ps = some (sc, tot)) :
    sc = (ps.map Int.toNat).map (fun p => scalePower p (sum (ps.map Int.toNat))) ∧ tot = sum sc := by
  unfold scaled at h
  split at h
  · simp only [Option.some.injEq, Prod.mk.injEq] at h
    exact ⟨h.1.symm, h.1 ▸ h.2.symm⟩
  · cases h

end F3.Proofs.QuorumArith
