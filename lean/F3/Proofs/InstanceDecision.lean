import F3.Proofs.InstanceRun
/-! The decision reported by the instance is built from a well-formed DECIDE tally (C03). -/
namespace F3.Instance

def sumPow (t : Table) (l : List Nat) : Nat := (l.map t.powerAt).foldl (· + ·) 0

theorem foldl_add_init (l : List Nat) (a : Nat) : l.foldl (· + ·) a = a + l.foldl (· + ·) 0 := by
  induction l generalizing a with
  | nil => simp
  | cons x xs ih => simp only [List.foldl_cons]; rw [ih (a + x), ih (0 + x)]; omega

theorem sumPow_append (t : Table) (a b : List Nat) : sumPow t (a ++ b) = sumPow t a + sumPow t b := by
  unfold sumPow
  rw [List.map_append, List.foldl_append, foldl_add_init]

theorem sumPow_single (t : Table) (i : Nat) : sumPow t [i] = t.powerAt i := by simp [sumPow]

theorem takeUntilStrong_spec (t : Table) (l : List Nat) (acc : Nat) (taken sg : List Nat)
    (h : takeUntilStrong t l acc taken = some sg) :
    ∃ k, 0 < k ∧ k ≤ l.length ∧ sg = taken ++ l.take k ∧ strongQ t (acc + sumPow t (l.take k)) = true := by
  induction l generalizing acc taken with
  | nil => simp [takeUntilStrong] at h
  | cons i is ih =>
    unfold takeUntilStrong at h
    dsimp only at h
    split at h
    · rename_i hs
      refine ⟨1, by omega, by simp, ?_, ?_⟩
      · simp at h; simp [← h]
      · simpa [sumPow_single] using hs
    · obtain ⟨k, hk, hkl, hsg, hst⟩ := ih _ _ h
      refine ⟨k + 1, by omega, by simp; omega, ?_, ?_⟩
      · simp [hsg, List.take_succ_cons]
      · rw [List.take_succ_cons, show i :: is.take k = [i] ++ is.take k from rfl, sumPow_append, sumPow_single]
        rw [Nat.add_assoc] at hst; exact hst

theorem insertSorted_mem (x : Nat) (l : List Nat) (y : Nat) : y ∈ insertSorted x l ↔ y = x ∨ y ∈ l := by
  induction l with
  | nil => simp [insertSorted]
  | cons a as ih =>
    unfold insertSorted
    split
    · simp
    · simp [ih]; constructor
      · rintro (h | h | h) <;> simp [h]
      · rintro (h | h | h) <;> simp [h]

theorem insertSorted_sorted (x : Nat) (l : List Nat) (h : l.Pairwise (· ≤ ·)) : (insertSorted x l).Pairwise (· ≤ ·) := by
  induction l with
  | nil => simp [insertSorted]
  | cons a as ih =>
    unfold insertSorted
    split
    · rename_i hxa
      simp only [List.pairwise_cons] at h ⊢
      exact ⟨fun y hy => by
        rcases List.mem_cons.1 hy with rfl | hy
        · exact hxa
        · exact Nat.le_trans hxa (h.1 y hy), h⟩
    · rename_i hxa
      simp only [List.pairwise_cons] at h ⊢
      refine ⟨fun y hy => ?_, ih h.2⟩
      rcases (insertSorted_mem x as y).1 hy with rfl | hy
      · omega
      · exact h.1 y hy

theorem sortNat_sorted (l : List Nat) : (sortNat l).Pairwise (· ≤ ·) := by
  induction l with
  | nil => simp [sortNat]
  | cons a as ih => exact insertSorted_sorted a _ ih

theorem sortNat_mem (l : List Nat) (y : Nat) : y ∈ sortNat l ↔ y ∈ l := by
  induction l with
  | nil => simp [sortNat]
  | cons a as ih => simp [sortNat, insertSorted_mem] at ih ⊢; rw [ih]

theorem insertSorted_nodup (x : Nat) (l : List Nat) (h : l.Nodup) (hx : x ∉ l) : (insertSorted x l).Nodup := by
  induction l with
  | nil => simp [insertSorted]
  | cons a as ih =>
    unfold insertSorted
    split
    · exact List.nodup_cons.2 ⟨hx, h⟩
    · have h' := List.nodup_cons.1 h
      refine List.nodup_cons.2 ⟨fun hm => ?_, ih h'.2 (fun hm => hx (List.mem_cons_of_mem _ hm))⟩
      rcases (insertSorted_mem x as a).1 hm with rfl | hm
      · exact hx (List.mem_cons_self)
      · exact h'.1 hm

theorem sortNat_nodup (l : List Nat) (h : l.Nodup) : (sortNat l).Nodup := by
  induction l with
  | nil => simp [sortNat]
  | cons a as ih =>
    have h' := List.nodup_cons.1 h
    exact insertSorted_nodup a _ (ih h'.2) (fun hm => h'.1 ((sortNat_mem as a).1 hm))

theorem sorted_nodup_lt (l : List Nat) (hs : l.Pairwise (· ≤ ·)) (hn : l.Nodup) : l.Pairwise (· < ·) := by
  induction l with
  | nil => simp
  | cons a as ih =>
    simp only [List.pairwise_cons, List.nodup_cons] at hs hn ⊢
    exact ⟨fun y hy => Nat.lt_of_le_of_ne (hs.1 y hy) (fun h => hn.1 (h ▸ hy)), ih hs.2 hn.2⟩

theorem pairwise_take {α} {R : α → α → Prop} (l : List α) (k : Nat) (h : l.Pairwise R) : (l.take k).Pairwise R :=
  h.sublist (List.take_sublist k l)

theorem mapM_spec {α β} (f : α → Option β) (l : List α) (r : List β) (h : l.mapM f = some r) :
    r.length = l.length ∧ ∀ i (hi : i < l.length) (hr : i < r.length), f l[i] = some r[i] := by
  induction l generalizing r with
  | nil => simp at h; subst h; simp
  | cons a as ih =>
    simp only [List.mapM_cons] at h
    cases hfa : f a with
    | none => simp [hfa] at h
    | some b =>
      cases hm : as.mapM f with
      | none => simp [hfa, hm] at h
      | some bs =>
        simp [hfa, hm] at h
        subst h
        obtain ⟨hl, hg⟩ := ih bs hm
        refine ⟨by simp [hl], ?_⟩
        intro i hi hr
        cases i with
        | zero => simpa using hfa
        | succ n => simpa using hg n (by simpa using hi) (by simpa using hr)

theorem index_spec (t : Table) (x : Pid) (i : Nat) (h : t.index? x = some i) :
    ∃ hi : i < t.entries.length, (t.entries[i]).1 = x ∧ t.powerAt i = t.power x := by
  unfold Table.index? at h
  rw [List.findIdx?_eq_some_iff_getElem] at h
  obtain ⟨hi, hp, hbefore⟩ := h
  refine ⟨hi, by simpa using hp, ?_⟩
  unfold Table.powerAt Table.power
  simp only [List.getElem?_eq_getElem hi]
  have : t.entries.find? (fun e => e.1 == x) = some t.entries[i] := by
    rw [List.find?_eq_some_iff_getElem]
    exact ⟨hp, i, hi, rfl, fun j hj => by simpa using hbefore j hj⟩
  rw [this]

theorem strongQ_of_le (t : Table) {a b : Nat} (h : a ≤ b) (ha : strongQ t a = true) : strongQ t b = true := by
  unfold strongQ Spec.Quorum.strong at *
  simp only [decide_eq_true_eq] at *
  omega

def sumP (t : Table) (l : List Pid) : Nat := (l.map t.power).foldl (· + ·) 0

theorem sumP_append (t : Table) (a b : List Pid) : sumP t (a ++ b) = sumP t a + sumP t b := by
  unfold sumP
  rw [List.map_append, List.foldl_append, foldl_add_init]

theorem sumP_single (t : Table) (x : Pid) : sumP t [x] = t.power x := by simp [sumP]
theorem sumP_nil (t : Table) : sumP t [] = 0 := rfl
theorem sumP_cons (t : Table) (x : Pid) (l : List Pid) : sumP t (x :: l) = t.power x + sumP t l := by
  rw [show x :: l = [x] ++ l from rfl, sumP_append, sumP_single]

theorem upsert_find_same (l : List Support) (s : Support) :
    (upsertSupport l s).find? (fun x => x.chain == s.chain) = some s := by
  induction l with
  | nil => simp [upsertSupport]
  | cons a as ih =>
    unfold upsertSupport
    split
    · simp
    · rename_i h
      rw [List.find?_cons]
      simp only [h]
      exact ih

theorem upsert_find_other (l : List Support) (s : Support) (c : Chain) (hc : c ≠ s.chain) :
    (upsertSupport l s).find? (fun x => x.chain == c) = l.find? (fun x => x.chain == c) := by
  induction l with
  | nil =>
    simp only [upsertSupport, List.find?_cons, List.find?_nil]
    have : (s.chain == c) = false := by simpa using fun h => hc h.symm
    simp [this]
  | cons a as ih =>
    unfold upsertSupport
    split
    · rename_i h
      have ha : a.chain = s.chain := by simpa using h
      simp only [List.find?_cons]
      have h1 : (s.chain == c) = false := by simpa using fun h => hc h.symm
      have h2 : (a.chain == c) = false := by rw [ha]; exact h1
      simp [h1, h2]
    · simp only [List.find?_cons]
      split
      · rfl
      · exact ih

theorem sumP_le_of_subset (t : Table) (a b : List Pid) (ha : a.Nodup) (hsub : ∀ x ∈ a, x ∈ b) : sumP t a ≤ sumP t b := by
  induction a generalizing b with
  | nil => simp [sumP]
  | cons x xs ih =>
    have hx : x ∈ b := hsub x List.mem_cons_self
    obtain ⟨b1, b2, rfl⟩ := List.append_of_mem hx
    have hnd := List.nodup_cons.1 ha
    have := ih (b1 ++ b2) hnd.2 (by
      intro y hy
      have hyb := hsub y (List.mem_cons_of_mem _ hy)
      simp only [List.mem_append, List.mem_cons] at hyb ⊢
      rcases hyb with h | h | h
      · exact Or.inl h
      · subst h; exact absurd hy hnd.1
      · exact Or.inr h)
    rw [sumP_cons, sumP_append, sumP_cons]
    rw [sumP_append] at this
    omega

theorem find_of_mem_nodup (l : List Support) (hnd : (l.map (·.chain)).Nodup) (sup : Support) (hm : sup ∈ l) :
    l.find? (fun x => x.chain == sup.chain) = some sup := by
  induction l with
  | nil => simp at hm
  | cons a as ih =>
    simp only [List.map_cons, List.nodup_cons] at hnd
    rcases List.mem_cons.1 hm with rfl | hm
    · simp
    · have hne : a.chain ≠ sup.chain := by
        intro heq
        exact hnd.1 (heq ▸ List.mem_map.2 ⟨sup, hm, rfl⟩)
      rw [List.find?_cons]
      have : (a.chain == sup.chain) = false := by simpa using hne
      simp only [this]
      exact ih hnd.2 hm

theorem upsert_mem_iff (l : List Support) (hnd : (l.map (·.chain)).Nodup) (s s' : Support) :
    s' ∈ upsertSupport l s ↔ s' = s ∨ (s' ∈ l ∧ s'.chain ≠ s.chain) := by
  induction l with
  | nil => simp [upsertSupport]
  | cons a as ih =>
    simp only [List.map_cons, List.nodup_cons] at hnd
    unfold upsertSupport
    split
    · rename_i h
      have ha : a.chain = s.chain := by simpa using h
      simp only [List.mem_cons]
      constructor
      · rintro (h | h)
        · exact Or.inl h
        · right
          refine ⟨Or.inr h, ?_⟩
          intro heq
          exact hnd.1 (by rw [ha, ← heq]; exact List.mem_map.2 ⟨s', h, rfl⟩)
      · rintro (h | ⟨h | h, hne⟩)
        · exact Or.inl h
        · subst h; exact absurd ha hne
        · exact Or.inr h
    · rename_i h
      have ha : a.chain ≠ s.chain := by simpa using h
      simp only [List.mem_cons, ih hnd.2]
      constructor
      · rintro (h | h | ⟨h, hne⟩)
        · subst h; exact Or.inr ⟨Or.inl rfl, ha⟩
        · exact Or.inl h
        · exact Or.inr ⟨Or.inr h, hne⟩
      · rintro (h | ⟨h | h, hne⟩)
        · exact Or.inr (Or.inl h)
        · exact Or.inl h
        · exact Or.inr (Or.inr ⟨h, hne⟩)

theorem upsert_chains_nodup (l : List Support) (hnd : (l.map (·.chain)).Nodup) (s : Support) :
    ((upsertSupport l s).map (·.chain)).Nodup := by
  induction l with
  | nil => simp [upsertSupport]
  | cons a as ih =>
    simp only [List.map_cons, List.nodup_cons] at hnd
    unfold upsertSupport
    split
    · rename_i h
      have ha : a.chain = s.chain := by simpa using h
      simp only [List.map_cons, List.nodup_cons]
      exact ⟨ha ▸ hnd.1, hnd.2⟩
    · rename_i h
      have ha : a.chain ≠ s.chain := by simpa using h
      simp only [List.map_cons, List.nodup_cons]
      refine ⟨?_, ih hnd.2⟩
      intro hm
      obtain ⟨x, hx, hxc⟩ := List.mem_map.1 hm
      rcases (upsert_mem_iff as hnd.2 s x).1 hx with rfl | ⟨hx', _⟩
      · exact ha hxc.symm
      · exact hnd.1 (hxc ▸ List.mem_map.2 ⟨x, hx', rfl⟩)

/-- well-formedness of a single-vote tally: stored signers are distinct senders with positive power -/
structure TallyWF (V : Pid → Chain → Prop) (t : Table) (q : Tally) : Prop where
  nodup : ∀ sup ∈ q.support, sup.signers.Nodup
  sub : ∀ sup ∈ q.support, ∀ x ∈ sup.signers, x ∈ q.senders
  pos : ∀ x ∈ q.senders, 0 < t.power x
  /-- provenance: a stored signature of `x` under chain `c` comes from a delivered vote of `x` for `c` -/
  voted : ∀ sup ∈ q.support, ∀ x ∈ sup.signers, V x sup.chain
  sendersNodup : q.senders.Nodup
  sendersPow : q.sendersPower = sumP t q.senders
  supPow : ∀ sup ∈ q.support, sup.power = sumP t sup.signers
  /-- every sender is filed under exactly one chain -/
  covered : ∀ x ∈ q.senders, ∃ sup ∈ q.support, x ∈ sup.signers
  chains : (q.support.map (·.chain)).Nodup
  strongOk : ∀ sup ∈ q.support, sup.strong = strongQ t sup.power

theorem TallyWF_empty (V : Pid → Chain → Prop) (t : Table) : TallyWF V t {} :=
  ⟨by simp, by simp, by simp, by simp, by simp, rfl, by simp, by simp, by simp, by simp⟩

theorem upsertSupport_mem (l : List Support) (s s' : Support) (h : s' ∈ upsertSupport l s) : s' = s ∨ s' ∈ l := by
  induction l with
  | nil => simp [upsertSupport] at h; exact Or.inl h
  | cons a as ih =>
    unfold upsertSupport at h
    split at h
    · rcases List.mem_cons.1 h with h | h
      · exact Or.inl h
      · exact Or.inr (List.mem_cons_of_mem _ h)
    · rcases List.mem_cons.1 h with h | h
      · exact Or.inr (h ▸ List.mem_cons_self)
      · rcases ih h with h | h
        · exact Or.inl h
        · exact Or.inr (List.mem_cons_of_mem _ h)

theorem findSupport_mem (q : Tally) (c : Chain) (s : Support) (h : q.findSupport c = some s) : s ∈ q.support :=
  List.mem_of_find?_eq_some h

theorem findSupport_chain (q : Tally) (c : Chain) (s : Support) (h : q.findSupport c = some s) : s.chain = c := by
  have := List.find?_some h
  simpa using this

theorem cand_signers {V : Pid → Chain → Prop} (t : Table) (q : Tally) (c : Chain) (hwf : TallyWF V t q) :
    ((q.findSupport c).getD { chain := c, power := 0, signers := [], strong := false }).signers.Nodup ∧
    (∀ x ∈ ((q.findSupport c).getD { chain := c, power := 0, signers := [], strong := false }).signers, x ∈ q.senders) ∧
    (∀ x ∈ ((q.findSupport c).getD { chain := c, power := 0, signers := [], strong := false }).signers, V x c) ∧
    ((q.findSupport c).getD { chain := c, power := 0, signers := [], strong := false }).power =
      sumP t ((q.findSupport c).getD { chain := c, power := 0, signers := [], strong := false }).signers := by
  cases hf : q.findSupport c with
  | none => simp [sumP]
  | some sup =>
    simp only [Option.getD_some]
    refine ⟨hwf.nodup sup (findSupport_mem q c sup hf), hwf.sub sup (findSupport_mem q c sup hf), fun x hx => ?_,
      hwf.supPow sup (findSupport_mem q c sup hf)⟩
    have := hwf.voted sup (findSupport_mem q c sup hf) x hx
    rwa [findSupport_chain q c sup hf] at this

theorem receive_wf {V : Pid → Chain → Prop} (t : Table) (q q' : Tally) (sender : Pid) (c : Chain) (hwf : TallyWF V t q)
    (hpos : 0 < t.power sender) (hv : V sender c) (h : q.receive t sender c = some q') : TallyWF V t q' := by
  unfold Tally.receive at h
  split at h
  · cases h; exact hwf
  · rename_i hns
    have hns' : sender ∉ q.senders := by simpa using hns
    unfold Tally.receiveInner at h
    dsimp only at h
    split at h
    · cases h
    · cases h
      have hc := cand_signers t q c hwf
      have hcand : ∀ x ∈ ((q.findSupport c).getD { chain := c, power := 0, signers := [], strong := false }).signers,
          x ∈ q.senders ∧ True := fun x hx => ⟨hc.2.1 x hx, trivial⟩
      have hcandnd := hc.1
      have hmem := fun s' => upsert_mem_iff q.support hwf.chains
        { chain := c, power := ((q.findSupport c).getD { chain := c, power := 0, signers := [], strong := false }).power + t.power sender,
          signers := ((q.findSupport c).getD { chain := c, power := 0, signers := [], strong := false }).signers ++ [sender],
          strong := strongQ t (((q.findSupport c).getD { chain := c, power := 0, signers := [], strong := false }).power + t.power sender) } s'
      refine ⟨?_, ?_, ?_, ?_, ?_, ?_, ?_, ?_, ?_, ?_⟩
      · intro sup hsup
        rcases upsertSupport_mem _ _ _ hsup with rfl | hsup
        · simp only [if_true]
          rw [List.nodup_append]
          refine ⟨hcandnd, by simp, ?_⟩
          intro a ha b hb
          simp at hb; subst hb
          intro heq; subst heq
          exact hns' (hcand _ ha).1
        · exact hwf.nodup sup hsup
      · intro sup hsup x hx
        rcases upsertSupport_mem _ _ _ hsup with rfl | hsup
        · simp only [if_true, List.mem_append, List.mem_singleton] at hx
          rcases hx with hx | rfl
          · exact List.mem_append_left _ (hcand x hx).1
          · simp
        · exact List.mem_append_left _ (hwf.sub sup hsup x hx)
      · intro x hx
        simp only [List.mem_append, List.mem_singleton] at hx
        rcases hx with hx | rfl
        · exact hwf.pos x hx
        · exact hpos
      · intro sup hsup x hx
        rcases upsertSupport_mem _ _ _ hsup with rfl | hsup
        · simp only [if_true, List.mem_append, List.mem_singleton] at hx
          rcases hx with hx | rfl
          · exact hc.2.2.1 x hx
          · exact hv
        · exact hwf.voted sup hsup x hx
      · -- senders nodup
        rw [List.nodup_append]
        exact ⟨hwf.sendersNodup, by simp, fun a ha b hb => by simp at hb; subst hb; intro heq; subst heq; exact hns' ha⟩
      · -- senders power
        show q.sendersPower + t.power sender = sumP t (q.senders ++ [sender])
        rw [sumP_append, sumP_single, hwf.sendersPow]
      · -- support power
        intro sup hsup
        rcases upsertSupport_mem _ _ _ hsup with rfl | hsup
        · simp only [if_true]
          rw [sumP_append, sumP_single]
          exact congrArg (· + t.power sender) hc.2.2.2
        · exact hwf.supPow sup hsup
      · -- covered
        intro x hx
        simp only [List.mem_append, List.mem_singleton] at hx
        rcases hx with hx | rfl
        · obtain ⟨sup, hsup, hxs⟩ := hwf.covered x hx
          by_cases hch : sup.chain = c
          · -- `sup` is the entry being replaced
            have hfs : q.findSupport c = some sup := by
              have := find_of_mem_nodup q.support hwf.chains sup hsup
              rw [hch] at this; exact this
            refine ⟨_, (hmem _).2 (Or.inl rfl), ?_⟩
            simp only [hfs, Option.getD_some, List.mem_append]
            exact Or.inl hxs
          · exact ⟨sup, (hmem sup).2 (Or.inr ⟨hsup, hch⟩), hxs⟩
        · refine ⟨_, (hmem _).2 (Or.inl rfl), ?_⟩
          simp
      · exact upsert_chains_nodup q.support hwf.chains _
      · intro sup hsup
        rcases upsertSupport_mem _ _ _ hsup with rfl | hsup
        · rfl
        · exact hwf.strongOk sup hsup

/-- what C03 asks of a reported decision's justification -/
structure DecisionOK (V : Pid → Chain → Prop) (t : Table) (d : Just) : Prop where
  round : d.round = 0
  phase : d.phase = .decide
  increasing : d.signers.Pairwise (· < ·)
  members : ∀ i ∈ d.signers, i < t.entries.length ∧ 0 < t.powerAt i
  strong : strongQ t (sumPow t d.signers) = true
  /-- every listed signer is a committee member from whom a DECIDE vote for exactly the decided value
  was delivered: the aggregate is over exactly the decided value -/
  signed : ∀ i ∈ d.signers, ∃ x, t.index? x = some i ∧ V x d.value

theorem findStrongQuorumFor_spec {V : Pid → Chain → Prop} (t : Table) (q : Tally) (c : Chain) (sg : List Nat) (hwf : TallyWF V t q)
    (h : q.findStrongQuorumFor t c = .found sg) :
    sg.Pairwise (· < ·) ∧ (∀ i ∈ sg, i < t.entries.length ∧ 0 < t.powerAt i) ∧ strongQ t (sumPow t sg) = true ∧
    (∀ i ∈ sg, ∃ x, t.index? x = some i ∧ V x c) := by
  unfold Tally.findStrongQuorumFor at h
  split at h
  · cases h
  · rename_i sup hsup
    split at h
    · cases h
    · split at h
      · cases h
      · rename_i idxs hidx
        split at h
        · rename_i sg' htake
          cases h
          obtain ⟨k, _, _, hsg, hst⟩ := takeUntilStrong_spec t _ 0 [] sg htake
          simp only [List.nil_append] at hsg
          obtain ⟨hlen, hget⟩ := mapM_spec _ _ _ hidx
          have hsupm := findSupport_mem q c sup hsup
          have hidx_of : ∀ i ∈ idxs, ∃ x ∈ sup.signers, t.index? x = some i := by
            intro i hi
            obtain ⟨n, hn, rfl⟩ := List.getElem_of_mem hi
            exact ⟨sup.signers[n]'(by omega), List.getElem_mem _, hget n (by omega) hn⟩
          have hnd : idxs.Nodup := by
            unfold List.Nodup
            rw [List.pairwise_iff_getElem]
            intro a b ha hb hab heq
            have h1 := hget a (by omega) ha
            have h2 := hget b (by omega) hb
            rw [heq] at h1
            obtain ⟨_, e1, _⟩ := index_spec t _ _ h1
            obtain ⟨_, e2, _⟩ := index_spec t _ _ h2
            have hsn := hwf.nodup sup hsupm
            unfold List.Nodup at hsn
            rw [List.pairwise_iff_getElem] at hsn
            exact hsn a b (by omega) (by omega) hab (by rw [← e1, ← e2])
          refine ⟨?_, ?_, ?_, ?_⟩
          · rw [hsg]
            exact pairwise_take _ k (sorted_nodup_lt _ (sortNat_sorted idxs) (sortNat_nodup idxs hnd))
          · intro i hi
            rw [hsg] at hi
            have hi' : i ∈ idxs := (sortNat_mem idxs i).1 (List.mem_of_mem_take hi)
            obtain ⟨x, hx, hix⟩ := hidx_of i hi'
            obtain ⟨hlt, _, hpw⟩ := index_spec t x i hix
            exact ⟨hlt, by rw [hpw]; exact hwf.pos x (hwf.sub sup hsupm x hx)⟩
          · rw [hsg]; simpa using hst
          · intro i hi
            rw [hsg] at hi
            have hi' : i ∈ idxs := (sortNat_mem idxs i).1 (List.mem_of_mem_take hi)
            obtain ⟨x, hx, hix⟩ := hidx_of i hi'
            refine ⟨x, hix, ?_⟩
            have := hwf.voted sup hsupm x hx
            rwa [findSupport_chain q c sup hsup] at this
        · cases h

theorem step_tbl (s : State) (op : Op) : (step s op).1.tbl = s.tbl :=
  step_stable (I := fun s' => s'.tbl = s.tbl) ⟨fun h hi => h.tbl.trans hi, fun _ _ hi => hi⟩ s op rfl
    fun _ _ _ _ _ _ _ => rfl

theorem tblInput_stable (t : Table) (i : Chain) : DecideStable fun st => st.tbl = t ∧ st.input = i :=
  ⟨fun h hi => ⟨h.tbl.trans hi.1, h.input.trans hi.2⟩, fun _ _ hi => hi⟩

theorem step_input (s : State) (op : Op) : (step s op).1.input = s.input :=
  (step_stable (tblInput_stable s.tbl s.input) s op ⟨rfl, rfl⟩ fun _ _ _ _ _ _ _ => ⟨rfl, rfl⟩).2

theorem step_cfg (s : State) (op : Op) : (step s op).1.cfg = s.cfg :=
  step_stable (I := fun s' => s'.cfg = s.cfg) ⟨fun h hi => h.cfg.trans hi, fun _ _ hi => hi⟩ s op rfl
    fun _ _ _ _ _ _ _ => rfl

def DecInv (V : Pid → Chain → Prop) (s : State) : Prop :=
  TallyWF V s.tbl s.decision ∧ ∀ d, s.termination = some d → DecisionOK V s.tbl d

variable {V : Pid → Chain → Prop}

theorem DecInv_frame {s s' : State} (h : FrameD s s') (hi : DecInv V s) : DecInv V s' := by
  unfold DecInv
  rw [h.tbl, h.decision, h.termination]; exact hi

theorem DecInv_stable : DecideStable (DecInv V) where
  frame := DecInv_frame
  terminate := by
    intro s v sg _ hsg hi
    obtain ⟨h1, h2, h3, h4⟩ := findStrongQuorumFor_spec s.tbl s.decision v sg hi.1 hsg
    refine ⟨hi.1, fun d hd => ?_⟩
    cases hd
    exact ⟨rfl, rfl, h1, h2, h3, h4⟩

theorem tryCurrentPhase_decinv (s : State) (now : Int) (hi : DecInv V s) : DecInv V (s.tryCurrentPhase now).1 :=
  tryCurrentPhase_stable DecInv_stable s now hi

theorem receiveOne_decinv (s : State) (now : Int) (m : Msg) (hi : DecInv V s) (hpos : 0 < s.tbl.power m.sender)
    (hv : m.phase = .decide → V m.sender m.value) : DecInv V (s.receiveOne now m).1.1 :=
  receiveOne_stable DecInv_stable s now m hi fun hph _ q hq =>
    ⟨receive_wf s.tbl s.decision q _ _ hi.1 hpos (hv hph) hq, hi.2⟩

/-- a delivered message is a validated one: its sender has positive scaled power, and DECIDE is for round 0 -/
def OpValid (V : Pid → Chain → Prop) (t : Table) : Op → Prop
  | .recv _ m => MsgOk m ∧ 0 < t.power m.sender ∧ (m.phase = .decide → V m.sender m.value)
  | _ => True

theorem step_decinv (s : State) (op : Op) (hi : DecInv V s) (hop : OpValid V s.tbl op) : DecInv V (step s op).1 :=
  step_stable DecInv_stable s op hi (by
    rintro now m rfl hph _ q hq
    exact ⟨receive_wf s.tbl s.decision q _ _ hi.1 hop.2.1 (hop.2.2 hph) hq, hi.2⟩)

theorem runFrom_tbl (s : State) (ops : List Op) : (runFrom s ops).1.tbl = s.tbl := by
  induction ops generalizing s with
  | nil => rfl
  | cons op ops ih => rw [runFrom_cons]; simp only; rw [ih, step_tbl]

theorem runFrom_decinv (s : State) (ops : List Op) (hi : DecInv V s) (hops : ∀ op ∈ ops, OpValid V s.tbl op) :
    DecInv V (runFrom s ops).1 := by
  induction ops generalizing s with
  | nil => exact hi
  | cons op ops ih =>
    rw [runFrom_cons]
    simp only
    apply ih _ (step_decinv s op hi (hops op (by simp)))
    intro o ho
    rw [step_tbl]
    exact hops o (by simp [ho])

theorem DecInv_init (cfg : Cfg) (tbl : Table) (input : Chain) : DecInv V (init cfg tbl input) :=
  ⟨TallyWF_empty V tbl, fun d hd => by simp [init] at hd⟩

theorem run_decisionOK (cfg : Cfg) (tbl : Table) (input : Chain) (ops : List Op)
    (hops : ∀ op ∈ ops, OpValid V tbl op) (d : Just)
    (hd : (run (init cfg tbl input) ops).1.termination = some d) : DecisionOK V tbl d := by
  have := (runFrom_decinv (init cfg tbl input) ops (DecInv_init cfg tbl input) hops).2 d hd
  rwa [runFrom_tbl] at this

/-! ### rounds and candidates of the instance state -/

theorem setAssoc_find (l : List (Nat × RoundState)) (r r' : Nat) (rs : RoundState) :
    (setAssoc l r rs).find? (·.1 == r') = if r' = r then some (r, rs) else l.find? (·.1 == r') := by
  induction l with
  | nil =>
    simp only [setAssoc, List.find?_cons, List.find?_nil]
    by_cases h : r' = r
    · simp [h]
    · have : (r == r') = false := by simpa using fun e => h e.symm
      simp [h, this]
  | cons x xs ih =>
    unfold setAssoc
    by_cases hx : x.1 = r
    · have hx' : (x.1 == r) = true := by simpa using hx
      simp only [hx', if_true, List.find?_cons]
      by_cases h : r' = r
      · simp [h]
      · have h1 : (r == r') = false := by simpa using fun e => h e.symm
        have h2 : (x.1 == r') = false := by rw [hx]; exact h1
        simp [h, h1, h2]
    · have hx' : (x.1 == r) = false := by simpa using hx
      simp only [hx', Bool.false_eq_true, if_false, List.find?_cons]
      by_cases hxr : x.1 = r'
      · have : (x.1 == r') = true := by simpa using hxr
        have hne : r' ≠ r := fun e => hx (hxr.trans e)
        simp [this, hne]
      · have : (x.1 == r') = false := by simpa using hxr
        simp only [this]
        exact ih

theorem getRound_setRound (s : State) (r r' : Nat) (rs : RoundState) :
    (s.setRound r rs).getRound r' = if r' = r then rs else s.getRound r' := by
  unfold State.getRound State.setRound
  simp only
  rw [setAssoc_find]
  by_cases h : r' = r
  · simp [h]
  · simp [h]

theorem getRound_congr {s s' : State} (h : s'.rounds = s.rounds) (r : Nat) : s'.getRound r = s.getRound r := by
  unfold State.getRound; rw [h]

theorem addCandidate_sub (s : State) (c x : Chain) (h : x ∈ s.candidates) : x ∈ (s.addCandidate c).1.candidates := by
  unfold State.addCandidate
  split
  · exact h
  · exact List.mem_append_left _ h

theorem addCandidate_self (s : State) (c : Chain) : c ∈ (s.addCandidate c).1.candidates := by
  unfold State.addCandidate
  split
  · rename_i h; simpa using h
  · simp

theorem addCandidatePrefixes_sub_aux (c : Chain) (l : List Nat) (acc : State × Bool) (x : Chain)
    (h : x ∈ acc.1.candidates) :
    x ∈ (l.foldl (fun (acc : State × Bool) l =>
        let r := acc.1.addCandidate (prefixTo c l); (r.1, acc.2 || r.2)) acc).1.candidates := by
  induction l generalizing acc with
  | nil => simpa using h
  | cons a as ih =>
    simp only [List.foldl_cons]
    exact ih _ (addCandidate_sub _ _ _ h)

theorem addCandidatePrefixes_sub (s : State) (c x : Chain) (h : x ∈ s.candidates) :
    x ∈ (s.addCandidatePrefixes c).1.candidates := by
  unfold State.addCandidatePrefixes
  exact addCandidatePrefixes_sub_aux c _ (s, false) x h

theorem addCandidatePrefixes_has_aux (c : Chain) (l : List Nat) (acc : State × Bool) (k : Nat) (hk : k ∈ l) :
    prefixTo c k ∈ (l.foldl (fun (acc : State × Bool) l =>
        let r := acc.1.addCandidate (prefixTo c l); (r.1, acc.2 || r.2)) acc).1.candidates := by
  induction l generalizing acc with
  | nil => cases hk
  | cons a as ih =>
    simp only [List.foldl_cons]
    rcases List.mem_cons.1 hk with rfl | hk
    · exact addCandidatePrefixes_sub_aux c as _ _ (addCandidate_self _ _)
    · exact ih _ hk

theorem addCandidatePrefixes_self (s : State) (c : Chain) (h : 2 ≤ c.length) :
    c ∈ (s.addCandidatePrefixes c).1.candidates := by
  have hk : c.length - 1 ∈ (List.range (c.length - 1)).reverse.map (· + 1) := by
    simp only [List.mem_map, List.mem_reverse, List.mem_range]
    exact ⟨c.length - 2, by omega, by omega⟩
  have := addCandidatePrefixes_has_aux c _ (s, false) _ hk
  unfold State.addCandidatePrefixes
  have hc : prefixTo c (c.length - 1) = c := by
    unfold prefixTo
    rw [show c.length - 1 + 1 = c.length by omega]
    exact List.take_length
  rw [hc] at this
  exact this

/-! ### the power table and `findStrongQuorumValue` -/

theorem total_cons (a : Pid) (p : Nat) (E : List (Pid × Nat)) :
    Table.total ⟨(a, p) :: E⟩ = p + Table.total ⟨E⟩ := by
  unfold Table.total
  simp only [List.map_cons, List.foldl_cons]
  rw [foldl_add_init]; omega

theorem power_cons (a : Pid) (p : Nat) (E : List (Pid × Nat)) (x : Pid) :
    Table.power ⟨(a, p) :: E⟩ x = if a = x then p else Table.power ⟨E⟩ x := by
  unfold Table.power
  simp only [List.find?_cons]
  by_cases h : a = x
  · simp [h]
  · have : (a == x) = false := by simpa using h
    simp [this, h]

theorem sumP_congr (t t' : Table) (l : List Pid) (h : ∀ x ∈ l, t.power x = t'.power x) : sumP t l = sumP t' l := by
  induction l with
  | nil => rfl
  | cons a as ih =>
    rw [sumP_cons, sumP_cons, h a List.mem_cons_self, ih (fun x hx => h x (List.mem_cons_of_mem _ hx))]

theorem sumP_le_total_aux (E : List (Pid × Nat)) : ∀ l : List Pid, l.Nodup → sumP ⟨E⟩ l ≤ Table.total ⟨E⟩ := by
  induction E with
  | nil =>
    intro l _
    have : ∀ l : List Pid, sumP ⟨[]⟩ l = 0 := by
      intro l
      induction l with
      | nil => rfl
      | cons a as ih => rw [sumP_cons, ih]; simp [Table.power]
    rw [this]; exact Nat.zero_le _
  | cons e E ih =>
    intro l hnd
    obtain ⟨a, p⟩ := e
    rw [total_cons]
    by_cases ha : a ∈ l
    · obtain ⟨l1, l2, rfl⟩ := List.append_of_mem ha
      have hnd' : (l1 ++ l2).Nodup := by
        have := hnd
        rw [List.nodup_append] at this ⊢
        refine ⟨this.1, (List.nodup_cons.1 this.2.1).2, fun x hx y hy => this.2.2 x hx y (List.mem_cons_of_mem _ hy)⟩
      have ha1 : a ∉ l1 := by
        intro h1
        rw [List.nodup_append] at hnd
        exact hnd.2.2 a h1 a List.mem_cons_self rfl
      have ha2 : a ∉ l2 := by
        rw [List.nodup_append] at hnd
        exact (List.nodup_cons.1 hnd.2.1).1
      have e1 : sumP ⟨(a, p) :: E⟩ l1 = sumP ⟨E⟩ l1 := sumP_congr _ _ _ (fun x hx => by
        rw [power_cons]; simp [show a ≠ x from fun h => ha1 (h ▸ hx)])
      have e2 : sumP ⟨(a, p) :: E⟩ l2 = sumP ⟨E⟩ l2 := sumP_congr _ _ _ (fun x hx => by
        rw [power_cons]; simp [show a ≠ x from fun h => ha2 (h ▸ hx)])
      have e3 : Table.power ⟨(a, p) :: E⟩ a = p := by rw [power_cons]; simp
      have := ih (l1 ++ l2) hnd'
      rw [sumP_append] at this
      rw [sumP_append, sumP_cons, e1, e2, e3]
      omega
    · have e1 : sumP ⟨(a, p) :: E⟩ l = sumP ⟨E⟩ l := sumP_congr _ _ _ (fun x hx => by
        rw [power_cons]; simp [show a ≠ x from fun h => ha (h ▸ hx)])
      have := ih l hnd
      rw [e1]; omega

theorem sumP_le_total (t : Table) (l : List Pid) (h : l.Nodup) : sumP t l ≤ t.total :=
  sumP_le_total_aux t.entries l h

theorem index_some (t : Table) (x : Pid) (h : 0 < t.power x) : ∃ i, t.index? x = some i := by
  unfold Table.index?
  cases hf : t.entries.findIdx? (fun e => e.1 == x) with
  | some i => exact ⟨i, rfl⟩
  | none =>
    exfalso
    rw [List.findIdx?_eq_none_iff] at hf
    have : t.entries.find? (fun e => e.1 == x) = none := by
      rw [List.find?_eq_none]; intro e he; simpa using hf e he
    unfold Table.power at h
    rw [this] at h
    exact Nat.lt_irrefl _ h

theorem strongQ_zero (t : Table) (hT : 0 < t.total) : strongQ t 0 = false := by
  unfold strongQ Spec.Quorum.strong
  simp only [decide_eq_false_iff_not]
  have : (0 : Int) < (t.total : Int) := by exact_mod_cast hT
  omega

theorem fsqv_cases (q : Tally) :
    (q.findStrongQuorumValue = .none ∧ ∀ s ∈ q.support, s.strong = false) ∨
    (∃ s, q.findStrongQuorumValue = .one s.chain ∧ s ∈ q.support ∧ s.strong = true) ∨
    (q.findStrongQuorumValue = .multiple ∧ ∃ s1 s2 rest, q.support.filter (·.strong) = s1 :: s2 :: rest) := by
  unfold Tally.findStrongQuorumValue
  cases hf : q.support.filter (·.strong) with
  | nil =>
    left
    refine ⟨rfl, fun s hs => ?_⟩
    cases hst : s.strong with
    | false => rfl
    | true =>
      have : s ∈ q.support.filter (·.strong) := List.mem_filter.2 ⟨hs, hst⟩
      rw [hf] at this; cases this
  | cons a as =>
    cases as with
    | nil =>
      right; left
      have : a ∈ q.support.filter (·.strong) := by rw [hf]; exact List.mem_cons_self
      obtain ⟨h1, h2⟩ := List.mem_filter.1 this
      exact ⟨a, rfl, h1, h2⟩
    | cons b bs =>
      right; right
      exact ⟨rfl, a, b, bs, rfl⟩

end F3.Instance

namespace F3.Liveness
open F3.Instance

theorem rankLt_irrefl (a : Option Nat) : rankLt a a = false := by
  cases a <;> simp [rankLt]

/-- one step of the fold of `Conv.findBest` -/
def fbStep (filter : ConvVal → Bool) (best : Option ConvVal) (cv : ConvVal) : Option ConvVal :=
  let better := match best with
    | none => true
    | some b => rankLt cv.rank b.rank
  if better && filter cv then some cv else best

theorem findBest_eq_foldl (c : Conv) (filter : ConvVal → Bool) :
    c.findBest filter = c.values.foldl (fbStep filter) none := rfl

end F3.Liveness
