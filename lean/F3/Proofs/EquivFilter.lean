import F3.Model.Equiv
/-! Helper lemmas for C12: association lists and the behaviour of `Filter.processBroadcast` under the
filter invariant. Core-only. -/
namespace F3.Equiv

section alist
variable {κ ν : Type} [DecidableEq κ]

theorem alookup_aset_self (k : κ) (v : ν) (l : List (κ × ν)) : alookup k (aset k v l) = some v := by
  induction l with
  | nil => simp [aset, alookup]
  | cons h t ih =>
    obtain ⟨k', v'⟩ := h
    by_cases hk : k' = k
    · simp [aset, alookup, hk]
    · simp [aset, alookup, hk, ih]

theorem alookup_aset_ne {k k' : κ} (h : k' ≠ k) (v : ν) (l : List (κ × ν)) :
    alookup k' (aset k v l) = alookup k' l := by
  induction l with
  | nil => simp [aset, alookup, Ne.symm h]
  | cons hd t ih =>
    obtain ⟨k2, v2⟩ := hd
    by_cases hk : k2 = k
    · subst hk; simp [aset, alookup, Ne.symm h]
    · by_cases hk' : k2 = k'
      · subst hk'; simp [aset, alookup, hk]
      · simp [aset, alookup, hk, hk', ih]

theorem alookup_append_single (k k' : κ) (v : ν) (l : List (κ × ν)) :
    alookup k (l ++ [(k', v)]) =
      match alookup k l with
      | some x => some x
      | none => if k' = k then some v else none := by
  induction l with
  | nil => simp [alookup]
  | cons hd t ih =>
    obtain ⟨k2, v2⟩ := hd
    by_cases hk : k2 = k
    · simp [alookup, hk]
    · simp [alookup, hk, ih]

end alist

theorem Senders.add_equivocation_false (es : Senders) (id : Peer) :
    (es.add id false).equivocation = es.equivocation := by
  simp [Senders.add]

theorem slot_eq_iff {a b : Msg} : a.slot = b.slot ↔ a.inst = b.inst ∧ a.key = b.key := by
  simp only [Msg.slot, Msg.key, Prod.mk.injEq, Key.mk.injEq]

/-- no two entries for one slot with different signatures -/
def Consistent (E : List Msg) : Prop := ∀ a ∈ E, ∀ b ∈ E, a.slot = b.slot → a.sig = b.sig

theorem consistent_iff_noEquiv (E : List Msg) : Consistent E ↔ NoEquiv E := Iff.rfl

/-- The filter invariant relative to a set `E` of recorded messages and a floor `F` below which no
request arrives any more:
* every recorded message is at or below the filter's instance (or below the floor);
* the recorded messages of the filter's instance are exactly what `seenMessages` holds, as the node's own;
* no sender is flagged as equivocating, and only own identities are tracked;
* the filter's instance is 0 or that of a recorded message (`cur_wit`: two filters for one record are then at the same
  instance). -/
structure FilterInv (own : Nat → Bool) (F : Nat) (f : Filter) (E : List Msg) : Prop where
  le : ∀ e ∈ E, e.inst ≤ f.cur ∨ e.inst < F
  seen_of : ∀ e ∈ E, e.inst = f.cur → F ≤ e.inst → alookup e.key f.seen = some ⟨e.sig, f.localPID⟩
  of_seen : ∀ k v, alookup k f.seen = some v →
    v.origin = f.localPID ∧ ∃ e ∈ E, e.inst = f.cur ∧ e.key = k ∧ e.sig = v.sig
  active_ok : ∀ sd v, alookup sd f.active = some v → v.equivocation = false ∧ own sd = true
  cur_wit : f.cur = 0 ∨ ∃ e ∈ E, e.inst = f.cur

theorem filterInv_new (own : Nat → Bool) (F : Nat) (l : Peer) : FilterInv own F (Filter.new l) [] where
  le := by intro e he; cases he
  seen_of := by intro e he; cases he
  of_seen := by intro k v h; simp [Filter.new, alookup] at h
  active_ok := by intro sd v h; simp [Filter.new, alookup] at h
  cur_wit := Or.inl rfl

/-- The record may gain messages that are below the new floor or below the filter's instance, and lose none. -/
theorem FilterInv.mono {own : Nat → Bool} {F F' : Nat} {f : Filter} {E E' : List Msg} (h : FilterInv own F f E)
    (hF : F ≤ F') (hsub : ∀ e ∈ E, e ∈ E') (hnew : ∀ e ∈ E', e ∈ E ∨ e.inst < F' ∨ e.inst < f.cur) :
    FilterInv own F' f E' where
  le e he := by
    rcases hnew e he with h1 | h1 | h1
    · rcases h.le e h1 with h2 | h2 <;> omega
    all_goals omega
  seen_of e he hc hFe := by
    rcases hnew e he with h1 | h1 | h1
    · exact h.seen_of e h1 hc (Nat.le_trans hF hFe)
    all_goals omega
  of_seen k v hk :=
    let ⟨h1, e, he, h2⟩ := h.of_seen k v hk
    ⟨h1, e, hsub e he, h2⟩
  active_ok := h.active_ok
  cur_wit := h.cur_wit.imp id (fun ⟨e, he, h2⟩ => ⟨e, hsub e he, h2⟩)

/-- The invariant only depends on which messages are recorded, not on their order or multiplicity. -/
theorem FilterInv.congr {own : Nat → Bool} {F : Nat} {f : Filter} {E E' : List Msg}
    (h : FilterInv own F f E) (hmem : ∀ e, e ∈ E ↔ e ∈ E') : FilterInv own F f E' :=
  h.mono (Nat.le_refl _) (fun e => (hmem e).1) (fun e he => Or.inl ((hmem e).2 he))

theorem FilterInv.add_past {own : Nat → Bool} {F : Nat} {f : Filter} {E : List Msg}
    (h : FilterInv own F f E) {m : Msg} (hm : m.inst < f.cur) : FilterInv own F f (E ++ [m]) :=
  h.mono (Nat.le_refl _) (fun _ => List.mem_append_left _) fun e he =>
    (List.mem_append.1 he).imp id fun he => Or.inr (by rw [List.mem_singleton.1 he]; exact hm)

/-- Recording an allowed message: the new filter is at the message's instance, holds the message's slot
as the node's own and otherwise what it held before (nothing, if the instance is new). -/
theorem FilterInv.record {own : Nat → Bool} {F : Nat} {f f' : Filter} {E : List Msg} (h : FilterInv own F f E)
    {m : Msg} (hcur : f'.cur = m.inst) (hle : f.cur ≤ m.inst) (hl : f'.localPID = f.localPID)
    (hseen : ∀ k, alookup k f'.seen =
      if m.key = k then some ⟨m.sig, f.localPID⟩ else if m.inst = f.cur then alookup k f.seen else none)
    (hact : ∀ sd v, alookup sd f'.active = some v → v.equivocation = false ∧ own sd = true)
    (hnoconf : ∀ e ∈ E, e.slot = m.slot → e.sig = m.sig) : FilterInv own F f' (E ++ [m]) where
  le := by
    intro e he
    rw [hcur]
    rcases List.mem_append.mp he with he | he
    · exact (h.le e he).imp (fun h1 => Nat.le_trans h1 hle) id
    · rw [List.mem_singleton.mp he]; exact Or.inl (Nat.le_refl _)
  seen_of := by
    intro e he hc hFe
    rw [hcur] at hc
    rw [hseen, hl]
    rcases List.mem_append.mp he with he | he
    · have hcf : m.inst = f.cur := by rcases h.le e he with h1 | h1 <;> omega
      by_cases hk : m.key = e.key
      · rw [if_pos hk, hnoconf e he (slot_eq_iff.mpr ⟨hc, hk.symm⟩)]
      · rw [if_neg hk, if_pos hcf, h.seen_of e he (hc.trans hcf) hFe]
    · rw [List.mem_singleton.mp he, if_pos rfl]
  of_seen := by
    intro k v hk
    rw [hseen] at hk
    rw [hl, hcur]
    split at hk
    · next hkk => cases hk; exact ⟨rfl, m, by simp, rfl, hkk, rfl⟩
    · split at hk
      · next hcf =>
        obtain ⟨h1, e, he, hi, h2⟩ := h.of_seen k v hk
        exact ⟨h1, e, List.mem_append_left _ he, hi.trans hcf.symm, h2⟩
      · cases hk
  active_ok := hact
  cur_wit := Or.inr ⟨m, by simp, hcur.symm⟩

/-- Outcome of `ProcessBroadcast` for an admissible request under the invariant: either it is refused
and nothing changes — and then the request is for a past instance or conflicts with a recorded
message — or it is allowed, it conflicts with nothing recorded, and the invariant holds with the
message recorded. -/
theorem FilterInv.pb_cases {own : Nat → Bool} {F : Nat} {f : Filter} {E : List Msg}
    (h : FilterInv own F f E) (m : Msg) (hF : F ≤ m.inst) (hown : own m.sender = true) :
    (f.processBroadcast m = (f, false) ∧
        (m.inst < f.cur ∨ ∃ e ∈ E, e.slot = m.slot ∧ e.sig ≠ m.sig)) ∨
    (∃ f', f.processBroadcast m = (f', true) ∧ FilterInv own F f' (E ++ [m]) ∧
        (∀ e ∈ E, e.slot = m.slot → e.sig = m.sig) ∧ f.cur ≤ m.inst ∧ f'.localPID = f.localPID ∧
        f'.cur = m.inst) := by
  rcases Nat.lt_trichotomy m.inst f.cur with hlt | heq | hgt
  · exact Or.inl ⟨by simp [Filter.processBroadcast, hlt], Or.inl hlt⟩
  · -- same instance: the sender's entry is not flagged, before or after
    have hsend : (((alookup m.sender f.active).getD ⟨[], false⟩).add f.localPID false).equivocation = false := by
      rw [Senders.add_equivocation_false]
      cases ha : alookup m.sender f.active with
      | none => rfl
      | some v => exact (h.active_ok _ v ha).1
    have hact : ∀ sd v, alookup sd (aset m.sender
        (((alookup m.sender f.active).getD ⟨[], false⟩).add f.localPID false) f.active) = some v →
        v.equivocation = false ∧ own sd = true := by
      intro sd v hv
      by_cases hsd : sd = m.sender
      · subst hsd; rw [alookup_aset_self] at hv; cases hv; exact ⟨hsend, hown⟩
      · rw [alookup_aset_ne hsd] at hv; exact h.active_ok sd v hv
    -- a recorded message in the same slot is the one `seenMessages` holds
    have hrec : ∀ e ∈ E, e.slot = m.slot → alookup m.key f.seen = some ⟨e.sig, f.localPID⟩ := by
      intro e he hslot
      obtain ⟨hi, hk⟩ := slot_eq_iff.mp hslot
      rw [← hk]; exact h.seen_of e he (hi.trans heq) (by omega)
    cases hs : alookup m.key f.seen with
    | none =>
      have hnoconf : ∀ e ∈ E, e.slot = m.slot → e.sig = m.sig := by
        intro e he hslot; have := hrec e he hslot; rw [hs] at this; cases this
      refine Or.inr ⟨_, ?_, h.record (f' := { f with seen := f.seen ++ [(m.key, ⟨m.sig, f.localPID⟩)], active :=
          (aset m.sender (((alookup m.sender f.active).getD ⟨[], false⟩).add f.localPID false) f.active) })
        heq.symm (Nat.le_of_eq heq.symm) rfl ?_ hact hnoconf, hnoconf, by omega, rfl, heq.symm⟩
      · simp [Filter.processBroadcast, heq, hs, hsend]
      · intro k
        show alookup k (f.seen ++ [(m.key, ⟨m.sig, f.localPID⟩)]) = _
        rw [alookup_append_single, if_pos heq]
        by_cases hkk : m.key = k
        · rw [← hkk, hs, if_pos rfl]
        · rw [if_neg hkk, if_neg hkk]; cases alookup k f.seen <;> rfl
    | some info =>
      obtain ⟨horig, e0, he0, hi0, hk0, hs0⟩ := h.of_seen _ info hs
      by_cases hsig : info.sig = m.sig
      · have hinfo : info = ⟨m.sig, f.localPID⟩ := by rw [← hsig, ← horig]
        have hnoconf : ∀ e ∈ E, e.slot = m.slot → e.sig = m.sig := by
          intro e he hslot; have := hrec e he hslot; rw [hs, hinfo] at this
          exact (Seen.mk.inj (Option.some.inj this)).1.symm
        refine Or.inr ⟨_, ?_, h.record (f' := { f with active :=
            (aset m.sender (((alookup m.sender f.active).getD ⟨[], false⟩).add f.localPID false) f.active) })
          heq.symm (Nat.le_of_eq heq.symm) rfl ?_ hact hnoconf, hnoconf, by omega, rfl, heq.symm⟩
        · simp [Filter.processBroadcast, heq, hs, hsig, hsend]
        · intro k
          show alookup k f.seen = _
          rw [if_pos heq]
          split
          · next hkk => rw [← hkk, hs, hinfo]
          · rfl
      · exact Or.inl ⟨by simp [Filter.processBroadcast, heq, hs, hsig, horig],
          Or.inr ⟨e0, he0, slot_eq_iff.mpr ⟨hi0.trans heq.symm, hk0⟩, by rw [hs0]; exact hsig⟩⟩
  · -- a newer instance: both maps start afresh
    have hnoconf : ∀ e ∈ E, e.slot = m.slot → e.sig = m.sig := by
      intro e he hslot
      obtain ⟨hi, _⟩ := slot_eq_iff.mp hslot
      rcases h.le e he with h1 | h1 <;> omega
    -- the filter literal is what `processBroadcast` evaluates to here: instance `m.inst`, one entry in each map
    refine Or.inr ⟨⟨f.localPID, m.inst, [(m.key, ⟨m.sig, f.localPID⟩)], [(m.sender, ⟨[f.localPID], false⟩)]⟩,
      by simp [Filter.processBroadcast, Nat.not_lt.2 (Nat.le_of_lt hgt), hgt, alookup, Senders.add, sortPeers, insertPeer, aset],
      h.record rfl (Nat.le_of_lt hgt) rfl ?_ ?_ hnoconf, hnoconf, by omega, rfl, rfl⟩
    · intro k
      rw [if_neg (show ¬ m.inst = f.cur by omega)]; rfl
    · intro sd v hv
      simp only [alookup] at hv
      split at hv
      · next hsd => cases hv; exact ⟨rfl, hsd ▸ hown⟩
      · cases hv

theorem Consistent.of_append_left {E R : List Msg} (h : Consistent (E ++ R)) : Consistent E :=
  fun a ha b hb => h a (List.mem_append_left _ ha) b (List.mem_append_left _ hb)

theorem Consistent.sub {E E' : List Msg} (h : Consistent E) (hs : ∀ e ∈ E', e ∈ E) : Consistent E' :=
  fun a ha b hb => h a (hs a ha) b (hs b hb)

theorem Consistent.snoc {E : List Msg} {m : Msg} (h : Consistent E)
    (hm : ∀ e ∈ E, e.slot = m.slot → e.sig = m.sig) : Consistent (E ++ [m]) := by
  intro a ha b hb hslot
  rcases List.mem_append.mp ha with ha1 | ha1 <;> rcases List.mem_append.mp hb with hb1 | hb1
  · exact h a ha1 b hb1 hslot
  · simp only [List.mem_singleton] at hb1; rw [hb1] at hslot ⊢; exact hm a ha1 hslot
  · simp only [List.mem_singleton] at ha1; rw [ha1] at hslot ⊢; exact (hm b hb1 hslot.symm).symm
  · simp only [List.mem_singleton] at ha1 hb1; rw [ha1, hb1]

/-- Feeding a consistent list of own messages through `ProcessBroadcast` (the WAL replay of
`newRunner`) establishes the invariant for that list, with floor 0. -/
theorem fold_inv {own : Nat → Bool} (R : List Msg) (f : Filter) (E : List Msg)
    (h : FilterInv own 0 f E) (hc : Consistent (E ++ R)) (hown : ∀ e ∈ R, own e.sender = true) :
    FilterInv own 0 (R.foldl (fun f m => (f.processBroadcast m).1) f) (E ++ R) ∧
    (R.foldl (fun f m => (f.processBroadcast m).1) f).localPID = f.localPID := by
  induction R generalizing f E with
  | nil => simpa using h
  | cons m R ih =>
    simp only [List.foldl_cons]
    have hc' : Consistent ((E ++ [m]) ++ R) := by simpa using hc
    have hown' : ∀ e ∈ R, own e.sender = true := fun e he => hown e (List.mem_cons_of_mem _ he)
    rcases h.pb_cases m (Nat.zero_le _) (hown m (by simp)) with ⟨hrej, hwhy⟩ | ⟨f', hacc, hinv, _, _, hl, _⟩
    · rw [hrej]
      rcases hwhy with hpast | ⟨e, he, hslot, hne⟩
      · have := ih f (E ++ [m]) (h.add_past hpast) hc' hown'
        simpa using this
      · exfalso
        exact hne (hc e (List.mem_append_left _ he) m (by simp) hslot)
    · rw [hacc]
      have := ih f' (E ++ [m]) hinv hc' hown'
      rw [hl] at this
      simpa using this

theorem rearm_inv {own : Nat → Bool} (l : Peer) (wal : List Msg) (hc : Consistent wal)
    (hown : ∀ e ∈ wal, own e.sender = true) :
    FilterInv own 0 (rearm l wal) wal ∧ (rearm l wal).localPID = l := by
  have := fold_inv (own := own) wal (Filter.new l) [] (filterInv_new own 0 l) (by simpa using hc) hown
  simpa [rearm, Filter.new] using this

theorem FilterInv.receive_noop {own : Nat → Bool} {F : Nat} {f : Filter} {E : List Msg}
    (h : FilterInv own F f E) (p : Peer) (m : Msg) (hm : own m.sender = false) :
    f.processReceive p m = f := by
  unfold Filter.processReceive
  split
  · rfl
  · cases ha : alookup m.sender f.active with
    | none => rfl
    | some v => have := (h.active_ok _ v ha).2; rw [hm] at this; cases this

theorem purgeWal_sub (k : Nat) (wal keep : List Msg) : ∀ e ∈ purgeWal k wal keep, e ∈ wal := by
  induction wal generalizing keep with
  | nil => intro e he; simp [purgeWal] at he
  | cons a t ih =>
    intro e he
    simp only [purgeWal] at he
    split at he
    · rcases List.mem_cons.mp he with rfl | he
      · simp
      · exact List.mem_cons_of_mem _ (ih _ e he)
    · split at he
      · rcases List.mem_cons.mp he with rfl | he
        · simp
        · exact List.mem_cons_of_mem _ (ih _ e he)
      · exact List.mem_cons_of_mem _ (ih _ e he)

theorem mem_purgeWal_of_ge (k : Nat) (wal keep : List Msg) (e : Msg) (he : e ∈ wal) (hk : k ≤ e.inst) :
    e ∈ purgeWal k wal keep := by
  induction wal generalizing keep with
  | nil => cases he
  | cons a t ih =>
    simp only [purgeWal]
    rcases List.mem_cons.mp he with rfl | he
    · simp [hk]
    · split
      · exact List.mem_cons_of_mem _ (ih _ he)
      · split
        · exact List.mem_cons_of_mem _ (ih _ he)
        · exact ih _ he

end F3.Equiv
