import F3.Model.NetTimed
import F3.Proofs.SyncGeneralTally
/-!
# Concrete executions of the network of honest participants (`F3/Model/Net.lean`, `F3/Model/NetTimed.lean`)

The executions behind the non-vacuity examples of C02 (sections `Sync`, `Timed`) and C06 (section `GeneralInputs`). The
kernel evaluates a run once per declaration that mentions it, so everything the property files state about one execution
is collected here into one statement per run (`sy_run`, `sy_base_runs`, `ty_run`, `gi_run`) and projected there.
-/
namespace F3.Props.C02
open F3.Instance F3.Net

def syTbl : Table := { entries := [(1, 10), (2, 10), (3, 10)] }
def syCfg : Cfg := { maxLookahead := 2, rebImmediateAfter := 3, timeout2 := [100], qualityTimeout2 := 100, rebAfter := [50] }
def syNet (c : Chain) : Net := initNet syTbl [1, 2, 3] (fun _ => syCfg) (fun _ => c)
def syQ (c : Chain) (p : Pid) : Msg := { sender := p, round := 0, phase := .quality, value := c }
def syP (c : Chain) (p : Pid) : Msg := { sender := p, round := 0, phase := .prepare, value := c }
def syC (c : Chain) (p : Pid) : Msg :=
  { sender := p, round := 0, phase := .commit, value := c,
    just := some { round := 0, phase := .prepare, value := c, signers := [0, 1] } }
def syD (c : Chain) (p : Pid) : Msg :=
  { sender := p, round := 0, phase := .decide, value := c,
    just := some { round := 0, phase := .commit, value := c, signers := [0, 1] } }

/-- three equal members, input `[7, 8]`. Reorderings: node 2 is handed a PREPARE before any QUALITY, node 3 a
PREPARE between two QUALITYs and a DECIDE before any COMMIT; `alarm 3 10` is a non-expired alarm; DECIDEs arrive
at nodes that have already terminated. -/
def syOps : List NetOp :=
  let c := [7, 8]
  [.start 1 0, .start 2 0, .start 3 0,
   .deliver 1 1 (syQ c 1), .deliver 1 2 (syQ c 2),
   .deliver 2 3 (syP c 1), .deliver 2 4 (syQ c 1), .deliver 2 5 (syQ c 2),
   .alarm 3 10,
   .deliver 3 11 (syQ c 3), .deliver 3 12 (syP c 2), .deliver 3 13 (syQ c 1),
   .deliver 1 14 (syQ c 3), .deliver 2 15 (syQ c 3), .deliver 3 16 (syQ c 2),
   .deliver 1 20 (syP c 1), .deliver 1 21 (syP c 2),
   .deliver 2 22 (syP c 2), .deliver 2 23 (syP c 3),
   .deliver 3 24 (syP c 1), .deliver 3 25 (syP c 3),
   .deliver 1 26 (syP c 3),
   .deliver 1 30 (syC c 1), .deliver 1 31 (syC c 2),
   .deliver 2 32 (syC c 1), .deliver 2 33 (syC c 2),
   .deliver 3 34 (syD c 1), .deliver 3 35 (syC c 1), .deliver 3 36 (syC c 2), .deliver 3 37 (syC c 3),
   .deliver 1 38 (syC c 3), .deliver 2 39 (syC c 3),
   .deliver 1 40 (syD c 1), .deliver 1 41 (syD c 2), .deliver 1 42 (syD c 3),
   .deliver 2 43 (syD c 1), .deliver 2 44 (syD c 2), .deliver 2 45 (syD c 3),
   .deliver 3 46 (syD c 2), .deliver 3 47 (syD c 3)]

theorem sy_run :
    [1, 2, 3].Nodup ∧ (∀ p ∈ [1, 2, 3], p ∈ syTbl.entries.map (·.1)) ∧
    strongQ syTbl (([1, 2, 3].map syTbl.power).sum) = true ∧
    execOk (syNet [7, 8]) syOps = true ∧ SyncOrdered (syNet [7, 8]) syOps ∧
    complete (runNet (syNet [7, 8]) syOps) = true ∧
    (runNet (syNet [7, 8]) syOps).fails = [] ∧
    (runNet (syNet [7, 8]) syOps).nodes.map (fun e => (e.1, e.2.phase, e.2.termination.map (·.value))) =
      [(1, .terminated, some [7, 8]), (2, .terminated, some [7, 8]), (3, .terminated, some [7, 8])] := by
  unfold SyncOrdered
  decide +kernel

def syAll (now : Int) (m : Msg) : List NetOp := [.deliver 1 now m, .deliver 2 now m, .deliver 3 now m]

/-- base-only input `[7]`: everybody starts and is handed every QUALITY message — and nothing more happens
until a QUALITY timer fires -/
def syOpsBaseQ : List NetOp :=
  [.start 1 0, .start 2 0, .start 3 0] ++ syAll 1 (syQ [7] 1) ++ syAll 2 (syQ [7] 2) ++ syAll 3 (syQ [7] 3)

/-- ... the timers fire (`alarm 1 50` is a non-expired alarm, the next three are expired and admitted by
`SyncOrdered` because every QUALITY message has been handed over), and the run completes -/
def syOpsBase : List NetOp :=
  syOpsBaseQ ++ [.alarm 1 50, .alarm 1 100, .alarm 2 100, .alarm 3 101] ++
  syAll 110 (syP [7] 1) ++ syAll 111 (syP [7] 2) ++ syAll 112 (syP [7] 3) ++
  syAll 120 (syC [7] 1) ++ syAll 121 (syC [7] 2) ++ syAll 122 (syC [7] 3) ++
  syAll 130 (syD [7] 1) ++ syAll 131 (syD [7] 2) ++ syAll 132 (syD [7] 3)

/-- the base-only run, and its prefix that stops before any QUALITY timer -/
theorem sy_base_runs :
    (execOk (syNet [7]) syOpsBase = true ∧ SyncOrdered (syNet [7]) syOpsBase ∧
    complete (runNet (syNet [7]) syOpsBase) = true ∧ timersFired (runNet (syNet [7]) syOpsBase) = true ∧
    (runNet (syNet [7]) syOpsBase).nodes.map (fun e => (e.1, e.2.phase, e.2.termination.map (·.value))) =
      [(1, .terminated, some [7]), (2, .terminated, some [7]), (3, .terminated, some [7])]) ∧
    (execOk (syNet [7]) syOpsBaseQ = true ∧ SyncOrdered (syNet [7]) syOpsBaseQ ∧
    complete (runNet (syNet [7]) syOpsBaseQ) = true ∧
    (runNet (syNet [7]) syOpsBaseQ).nodes.map (fun e => (e.1, e.2.phase)) =
      [(1, .quality), (2, .quality), (3, .quality)]) := by
  unfold SyncOrdered
  decide +kernel

def tyTbl : Table := { entries := [(1, 10), (2, 10), (3, 10)] }
/-- `Δ = 10` below; both timeouts are exactly `2Δ` -/
def tyCfg : Cfg := { maxLookahead := 2, rebImmediateAfter := 3, timeout2 := [20], qualityTimeout2 := 20, rebAfter := [50] }
def tyNet (c : Chain) : Net := initNet tyTbl [1, 2, 3] (fun _ => tyCfg) (fun _ => c)

/-- `Δ = 10`, three equal members (any two are a strong quorum), input `[7, 8]`. Node 2 starts at 3 and node 3
at 10 (exactly `Δ` after node 1), when nodes 1 and 2 are already in PREPARE; every message is handed over less than
10 after `max (broadcast, start of the receiver)`; `alarm 2 8`, `alarm 3 20` are non-expired alarms, `alarm 1 60` an
alarm after termination; the last DECIDE reaches instances that have terminated. -/
def tyOps : List NetOp :=
  let c := [7, 8]
  [.start 1 0, .start 2 3,
   .deliver 1 4 (syQ c 1), .deliver 1 5 (syQ c 2),
   .deliver 2 6 (syQ c 1), .deliver 2 7 (syQ c 2), .alarm 2 8,
   .start 3 10,
   .deliver 1 11 (syP c 1), .deliver 1 12 (syP c 2),
   .deliver 2 13 (syP c 1), .deliver 2 14 (syP c 2),
   .deliver 3 15 (syQ c 1), .deliver 3 16 (syQ c 2), .deliver 3 17 (syQ c 3),
   .deliver 1 18 (syQ c 3), .deliver 2 19 (syQ c 3),
   .deliver 3 19 (syP c 1), .deliver 3 19 (syP c 2),
   .deliver 1 20 (syC c 1), .deliver 1 20 (syC c 2), .alarm 3 20,
   .deliver 2 21 (syC c 1), .deliver 2 21 (syC c 2),
   .deliver 3 21 (syC c 1), .deliver 3 21 (syC c 2)] ++
  syAll 22 (syP c 3) ++ syAll 23 (syC c 3) ++
  [.deliver 1 24 (syD c 1), .deliver 1 24 (syD c 2),
   .deliver 2 25 (syD c 1), .deliver 2 25 (syD c 2),
   .deliver 3 26 (syD c 1), .deliver 3 26 (syD c 2)] ++ syAll 27 (syD c 3) ++ [.alarm 1 60]

/-- the hypotheses of the timed theorems, the outcome, and the timestamps the ghost fields record -/
theorem ty_run :
    ([1, 2, 3].Nodup ∧ (∀ p ∈ [1, 2, 3], p ∈ tyTbl.entries.map (·.1)) ∧
    strongQ tyTbl (([1, 2, 3].map tyTbl.power).sum) = true ∧ 2 ≤ [7, 8].length ∧
    execOk (tyNet [7, 8]) tyOps = true ∧ TimedSync 10 (tyNet [7, 8]) tyOps) ∧
    complete (runNet (tyNet [7, 8]) tyOps) = true ∧
    (runNet (tyNet [7, 8]) tyOps).nodes.map (fun e => (e.1, e.2.phase, e.2.termination.map (·.value))) =
      [(1, .terminated, some [7, 8]), (2, .terminated, some [7, 8]), (3, .terminated, some [7, 8])] ∧
    (trun (initT (tyNet [7, 8]) tyOps) tyOps).stamps.map (fun e => (e.1.sender, e.1.phase, e.2)) =
    [(1, .quality, 0), (2, .quality, 3), (1, .prepare, 5), (2, .prepare, 7), (3, .quality, 10), (1, .commit, 12),
     (2, .commit, 14), (3, .prepare, 16), (3, .commit, 19), (1, .decide, 20), (2, .decide, 21), (3, .decide, 21)] := by
  decide +kernel

end F3.Props.C02

namespace F3.Props.C06
open F3.Instance F3.Net F3.SyncGeneral

def giTbl : Table := { entries := [(1, 40), (2, 30), (3, 20), (4, 10)] }
def giCfg : Cfg := { maxLookahead := 2, rebImmediateAfter := 3, timeout2 := [100], qualityTimeout2 := 100, rebAfter := [50] }
/-- inputs `0.1.2.5`, `0.1.2.6`, `0.1.3`, `0.4`: `0.1.2` is supported by 70 of 100, `0.1` by 90, `0` by all;
no input is itself quorum-supported, so QUALITY ends by the timers -/
def giInp : Pid → Chain := fun p => match p with | 1 => [0, 1, 2, 5] | 2 => [0, 1, 2, 6] | 3 => [0, 1, 3] | _ => [0, 4]
def giNet : Net := initNet giTbl [1, 2, 3, 4] (fun _ => giCfg) giInp
def giQ (p : Pid) : Msg := { sender := p, round := 0, phase := .quality, value := giInp p }
def giP (p : Pid) (v : Chain) : Msg := { sender := p, round := 0, phase := .prepare, value := v }
def giC (p : Pid) : Msg :=
  { sender := p, round := 0, phase := .commit, value := [0, 1, 2],
    just := some { round := 0, phase := .prepare, value := [0, 1, 2], signers := [0, 1] } }
def giC0 (p : Pid) : Msg := { sender := p, round := 0, phase := .commit, value := [] }
def giD (p : Pid) : Msg :=
  { sender := p, round := 0, phase := .decide, value := [0, 1, 2],
    just := some { round := 0, phase := .commit, value := [0, 1, 2], signers := [0, 1] } }
def giAll (now : Int) (m : Msg) : List NetOp := [.deliver 1 now m, .deliver 2 now m, .deliver 3 now m, .deliver 4 now m]

/-- everybody starts, all QUALITY votes are handed over, the QUALITY timers fire (`alarm 1 50` is a non-expired
alarm); members 1 and 2 PREPARE `0.1.2`, member 3 `0.1`, member 4 the base; 3 and 4 find their proposals impossible
and COMMIT bottom, 1 and 2 COMMIT `0.1.2`; everybody DECIDEs `0.1.2` -/
def giOps : List NetOp :=
  [.start 1 0, .start 2 0, .start 3 0, .start 4 0] ++
  giAll 1 (giQ 1) ++ giAll 2 (giQ 2) ++ giAll 3 (giQ 3) ++ giAll 4 (giQ 4) ++
  [.alarm 1 50, .alarm 1 100, .alarm 2 100, .alarm 3 101, .alarm 4 102] ++
  giAll 110 (giP 1 [0, 1, 2]) ++ giAll 111 (giP 3 [0, 1]) ++ giAll 112 (giP 4 [0]) ++ giAll 113 (giP 2 [0, 1, 2]) ++
  giAll 120 (giC0 3) ++ giAll 121 (giC 1) ++ giAll 122 (giC0 4) ++ giAll 123 (giC 2) ++
  giAll 130 (giD 1) ++ giAll 131 (giD 2) ++ giAll 132 (giD 3) ++ giAll 133 (giD 4)

/-- the hypotheses of the general-input theorems, the outcome, and the longest quorum-supported prefix with the proposals -/
theorem gi_run :
    (giTbl.entries.map (·.1) = [1, 2, 3, 4] ∧ [1, 2, 3, 4].Nodup ∧ 0 < giTbl.total ∧
    (∀ p ∈ [1, 2, 3, 4], (giInp p).head? = some 0) ∧
    execOk giNet giOps = true ∧ SyncOrdered giNet giOps ∧ complete (runNet giNet giOps) = true ∧
    (∀ p ∈ [1, 2, 3, 4], p ∈ (runNet giNet giOps).fired ∨
      (2 ≤ (giInp p).length ∧ SQ giTbl [1, 2, 3, 4] giInp (giInp p) = true))) ∧
    ((runNet giNet giOps).fails = [] ∧
    (runNet giNet giOps).nodes.map (fun e => (e.1, e.2.phase, e.2.round, e.2.termination.map (·.value))) =
      [(1, .terminated, 0, some [0, 1, 2]), (2, .terminated, 0, some [0, 1, 2]),
       (3, .terminated, 0, some [0, 1, 2]), (4, .terminated, 0, some [0, 1, 2])] ∧
    ((runNet giNet giOps).pool.filter (fun m => m.phase == .commit)).map (fun m => (m.sender, m.value)) =
      [(3, []), (4, []), (1, [0, 1, 2]), (2, [0, 1, 2])]) ∧
    (longestQuorumPrefix giTbl [1, 2, 3, 4] giInp = [0, 1, 2] ∧
    [1, 2, 3, 4].map (propOf giTbl [1, 2, 3, 4] giInp) = [[0, 1, 2], [0, 1, 2], [0, 1], [0]]) := by
  unfold SyncOrdered
  decide +kernel

end F3.Props.C06
