import F3.Proofs.MultiParticipantProj
/-!
A concrete two-instance execution of the multi-instance participant, four members of equal power (no Mathlib;
`F3.Proofs.MultiParticipantNet` turns it into a `MultiNetwork`; table, configuration and the calls of instance 0 are
those of `F3.Proofs.BridgeEx`: `F3.Bridge.ex_same`). The run is checked by evaluation; `ex_projection` is `instance_projection` on it.
-/
namespace F3.Instance

deriving instance DecidableEq for POp
deriving instance DecidableEq for Table

def mxTbl : Table := { entries := [(1, 1), (2, 1), (3, 1), (4, 1)] }
def mxCfg : Cfg := { maxLookahead := 2, rebImmediateAfter := 3, timeout2 := [100], qualityTimeout2 := 100, rebAfter := [50] }
def mxOrder : List Pid := [2, 4, 1]
def mxJp : Just := { round := 0, phase := .prepare, value := [7,8], signers := [0,1,2] }
def mxJc : Just := { round := 0, phase := .commit, value := [7,8], signers := [0,1,2] }
def mxJp1 : Just := { round := 0, phase := .prepare, value := [8,5], signers := [0,1,2] }
def mxJc1 : Just := { round := 0, phase := .commit, value := [8,5], signers := [0,1,2] }

/-- Two consecutive instances at one participant. Instance 0 : four messages queued, begun by the alarm at
5, decides `[7,8]` at 21. Meanwhile a QUALITY vote for instance 1 arrives at 7 and is queued; a DECIDE for instance 0
arrives at 22, after it finished, and is dropped; two more messages for instance 1 are queued before the alarm at 30
begins instance 1 (proposal `[8,5]`) and drains its queue; instance 1 decides `[8,5]` at 41. -/
def exMOps : List MPOp :=
  [.recv 1 ⟨0, { sender := 4, round := 0, phase := .prepare, value := [7,9] }⟩,
   .recv 2 ⟨0, { sender := 3, round := 0, phase := .prepare, value := [9,9], suppOk := false }⟩,
   .recv 3 ⟨0, { sender := 1, round := 0, phase := .quality, value := [7,8] }⟩,
   .recv 4 ⟨0, { sender := 2, round := 0, phase := .quality, value := [7,8] }⟩,
   .alarm 5 mxTbl [7,8] mxOrder,
   .recv 6 ⟨0, { sender := 3, round := 0, phase := .quality, value := [7,8] }⟩,
   .recv 7 ⟨1, { sender := 2, round := 0, phase := .quality, value := [8,5] }⟩,
   .recv 12 ⟨0, { sender := 4, round := 0, phase := .prepare, value := [7,8] }⟩,
   .recv 13 ⟨0, { sender := 1, round := 0, phase := .prepare, value := [7,8] }⟩,
   .recv 14 ⟨0, { sender := 2, round := 0, phase := .prepare, value := [7,8] }⟩,
   .recv 15 ⟨0, { sender := 3, round := 0, phase := .prepare, value := [7,8] }⟩,
   .recv 16 ⟨0, { sender := 1, round := 0, phase := .commit, value := [7,8], just := some mxJp }⟩,
   .recv 17 ⟨0, { sender := 2, round := 0, phase := .commit, value := [7,8], just := some mxJp }⟩,
   .recv 18 ⟨0, { sender := 3, round := 0, phase := .commit, value := [7,8], just := some mxJp }⟩,
   .recv 19 ⟨0, { sender := 1, round := 0, phase := .decide, value := [7,8], just := some mxJc }⟩,
   .recv 20 ⟨0, { sender := 2, round := 0, phase := .decide, value := [7,8], just := some mxJc }⟩,
   .recv 21 ⟨0, { sender := 3, round := 0, phase := .decide, value := [7,8], just := some mxJc }⟩,
   .recv 22 ⟨0, { sender := 1, round := 0, phase := .decide, value := [7,8], just := some mxJc }⟩,
   .recv 23 ⟨1, { sender := 1, round := 0, phase := .quality, value := [8,5] }⟩,
   .recv 24 ⟨1, { sender := 4, round := 0, phase := .prepare, value := [8,6] }⟩,
   .alarm 30 mxTbl [8,5] [1, 4, 2],
   .recv 31 ⟨1, { sender := 3, round := 0, phase := .quality, value := [8,5] }⟩,
   .recv 32 ⟨1, { sender := 4, round := 0, phase := .prepare, value := [8,5] }⟩,
   .recv 33 ⟨1, { sender := 1, round := 0, phase := .prepare, value := [8,5] }⟩,
   .recv 34 ⟨1, { sender := 2, round := 0, phase := .prepare, value := [8,5] }⟩,
   .recv 35 ⟨1, { sender := 3, round := 0, phase := .prepare, value := [8,5] }⟩,
   .recv 36 ⟨1, { sender := 1, round := 0, phase := .commit, value := [8,5], just := some mxJp1 }⟩,
   .recv 37 ⟨1, { sender := 2, round := 0, phase := .commit, value := [8,5], just := some mxJp1 }⟩,
   .recv 38 ⟨1, { sender := 3, round := 0, phase := .commit, value := [8,5], just := some mxJp1 }⟩,
   .recv 39 ⟨1, { sender := 1, round := 0, phase := .decide, value := [8,5], just := some mxJc1 }⟩,
   .recv 40 ⟨1, { sender := 2, round := 0, phase := .decide, value := [8,5], just := some mxJc1 }⟩,
   .recv 41 ⟨1, { sender := 3, round := 0, phase := .decide, value := [8,5], just := some mxJc1 }⟩]

/-- the calls of `exMOps` that concern instance 1 -/
def exPOps1 : List POp :=
  [.recv 7 { sender := 2, round := 0, phase := .quality, value := [8,5] },
   .recv 23 { sender := 1, round := 0, phase := .quality, value := [8,5] },
   .recv 24 { sender := 4, round := 0, phase := .prepare, value := [8,6] },
   .alarm 30,
   .recv 31 { sender := 3, round := 0, phase := .quality, value := [8,5] },
   .recv 32 { sender := 4, round := 0, phase := .prepare, value := [8,5] },
   .recv 33 { sender := 1, round := 0, phase := .prepare, value := [8,5] },
   .recv 34 { sender := 2, round := 0, phase := .prepare, value := [8,5] },
   .recv 35 { sender := 3, round := 0, phase := .prepare, value := [8,5] },
   .recv 36 { sender := 1, round := 0, phase := .commit, value := [8,5], just := some mxJp1 },
   .recv 37 { sender := 2, round := 0, phase := .commit, value := [8,5], just := some mxJp1 },
   .recv 38 { sender := 3, round := 0, phase := .commit, value := [8,5], just := some mxJp1 },
   .recv 39 { sender := 1, round := 0, phase := .decide, value := [8,5], just := some mxJc1 },
   .recv 40 { sender := 2, round := 0, phase := .decide, value := [8,5], just := some mxJc1 },
   .recv 41 { sender := 3, round := 0, phase := .decide, value := [8,5], just := some mxJc1 }]

/-- the calls of `exMOps` that concern instance 0: everything for instance 0 but the DECIDE that came too late -/
def exPOps0 : List POp :=
  [.recv 1 { sender := 4, round := 0, phase := .prepare, value := [7,9] },
   .recv 2 { sender := 3, round := 0, phase := .prepare, value := [9,9], suppOk := false },
   .recv 3 { sender := 1, round := 0, phase := .quality, value := [7,8] },
   .recv 4 { sender := 2, round := 0, phase := .quality, value := [7,8] },
   .alarm 5,
   .recv 6 { sender := 3, round := 0, phase := .quality, value := [7,8] },
   .recv 12 { sender := 4, round := 0, phase := .prepare, value := [7,8] },
   .recv 13 { sender := 1, round := 0, phase := .prepare, value := [7,8] },
   .recv 14 { sender := 2, round := 0, phase := .prepare, value := [7,8] },
   .recv 15 { sender := 3, round := 0, phase := .prepare, value := [7,8] },
   .recv 16 { sender := 1, round := 0, phase := .commit, value := [7,8], just := some mxJp },
   .recv 17 { sender := 2, round := 0, phase := .commit, value := [7,8], just := some mxJp },
   .recv 18 { sender := 3, round := 0, phase := .commit, value := [7,8], just := some mxJp },
   .recv 19 { sender := 1, round := 0, phase := .decide, value := [7,8], just := some mxJc },
   .recv 20 { sender := 2, round := 0, phase := .decide, value := [7,8], just := some mxJc },
   .recv 21 { sender := 3, round := 0, phase := .decide, value := [7,8], just := some mxJc }]

theorem ex_forward : noStartAt exMOps = true ∧ noBackward (minit mxCfg) exMOps = true ∧
    forwardOnly (minit mxCfg) exMOps = true := by
  decide +kernel

theorem ex_opsOf :
    opsOf mxCfg 0 0 exMOps = exPOps0 ∧ opsOf mxCfg 0 1 exMOps = exPOps1 ∧
    begunWith mxCfg 0 0 exMOps = some (mxTbl, [7, 8], mxOrder) ∧
    begunWith mxCfg 0 1 exMOps = some (mxTbl, [8, 5], [1, 4, 2]) ∧ begunWith mxCfg 0 2 exMOps = none := by
  decide +kernel

theorem ex_two_instances :
    -- while instance 0 is running, the message for instance 1 is queued, and only that
    (mprun (minit mxCfg) (exMOps.take 7)).1.cur = 0 ∧
    (mprun (minit mxCfg) (exMOps.take 7)).1.active.isSome = true ∧
    (mprun (minit mxCfg) (exMOps.take 7)).1.queues =
      [(1, [{ sender := 2, round := 0, phase := .quality, value := [8,5] }])] ∧
    (mprun (minit mxCfg) (exMOps.take 6)).2 = (mprun (minit mxCfg) (exMOps.take 7)).2 ∧
    -- instance 0 decides at the 17th call: recorded, instance 1 current and not begun, its queue kept
    (mprun (minit mxCfg) (exMOps.take 17)).1.cur = 1 ∧
    (mprun (minit mxCfg) (exMOps.take 17)).1.active.isNone = true ∧
    (mprun (minit mxCfg) (exMOps.take 17)).1.decisions =
      [(0, { round := 0, phase := .decide, value := [7,8], signers := [0,1,2] })] ∧
    (queueOf (mprun (minit mxCfg) (exMOps.take 17)).1.queues 1).length = 1 ∧
    -- the late message for instance 0 is dropped: no queue, no effect
    (mprun (minit mxCfg) (exMOps.take 18)).1.queues = (mprun (minit mxCfg) (exMOps.take 17)).1.queues ∧
    (mprun (minit mxCfg) (exMOps.take 18)).2 = (mprun (minit mxCfg) (exMOps.take 17)).2 ∧
    -- three messages are queued for instance 1 when it begins; the alarm drains them
    (queueOf (mprun (minit mxCfg) (exMOps.take 20)).1.queues 1).map (·.sender) = [2, 1, 4] ∧
    (mprun (minit mxCfg) (exMOps.take 21)).1.queues = [] ∧
    (mprun (minit mxCfg) (exMOps.take 21)).1.active.isSome = true ∧
    (effsOf 1 (mprun (minit mxCfg) (exMOps.take 21)).2).length = 3 ∧
    -- instance 1 decides
    (mprun (minit mxCfg) exMOps).1.cur = 2 ∧
    (mprun (minit mxCfg) exMOps).1.decisions =
      [(0, { round := 0, phase := .decide, value := [7,8], signers := [0,1,2] }),
       (1, { round := 0, phase := .decide, value := [8,5], signers := [0,1,2] })] := by
  decide +kernel

theorem ex_decisions :
    (mprun (minit mxCfg) exMOps).1.decisions =
      [(0, { round := 0, phase := .decide, value := [7,8], signers := [0,1,2] }),
       (1, { round := 0, phase := .decide, value := [8,5], signers := [0,1,2] })] :=
  ex_two_instances.2.2.2.2.2.2.2.2.2.2.2.2.2.2.2

/-- `instance_projection` on the example; no call reported a failure -/
theorem ex_projection :
    effsOf 0 (mprun (minit mxCfg) exMOps).2 = (prun mxOrder (pinit mxCfg mxTbl [7, 8]) (opsOf mxCfg 0 0 exMOps)).2 ∧
    effsOf 1 (mprun (minit mxCfg) exMOps).2 = (prun [1, 4, 2] (pinit mxCfg mxTbl [8, 5]) (opsOf mxCfg 0 1 exMOps)).2 ∧
    (prun mxOrder (pinit mxCfg mxTbl [7, 8]) (opsOf mxCfg 0 0 exMOps)).1.inst.termination =
      some { round := 0, phase := .decide, value := [7,8], signers := [0,1,2] } ∧
    (prun [1, 4, 2] (pinit mxCfg mxTbl [8, 5]) (opsOf mxCfg 0 1 exMOps)).1.inst.termination =
      some { round := 0, phase := .decide, value := [8,5], signers := [0,1,2] } ∧
    hasFailure ((mprun (minit mxCfg) exMOps).2.map (·.2)) = false := by
  have h0 := instance_projection mxCfg 0 exMOps 0 mxTbl [7, 8] mxOrder ex_forward.2.2 ex_opsOf.2.2.1
  have h1 := instance_projection mxCfg 0 exMOps 1 mxTbl [8, 5] [1, 4, 2] ex_forward.2.2 ex_opsOf.2.2.2.1
  refine ⟨h0.1, h1.1, (h0.2.1 _).1 ?_, (h1.2.1 _).1 ?_, by decide +kernel⟩
  · rw [ex_decisions]; exact List.mem_cons_self
  · rw [ex_decisions]; exact List.mem_cons_of_mem _ List.mem_cons_self

/-- `StartInstanceAt 0` after instance 0 was decided (the Go code accepts any instance): instance 0 runs again —
here with another proposal — and decides again -/
def exBackOps : List MPOp :=
  exMOps.take 17 ++ [.startAt 0] ++
    exPOps1.map (fun op => match op with
      | .recv now m => MPOp.recv now ⟨0, m⟩
      | .alarm now => MPOp.alarm now mxTbl [8, 5] [1, 4, 2])

/-- … so two decisions, for different values, are recorded for instance 0: with a backward `StartInstanceAt` the
recorded ids are not increasing and a participant may hand the host several decisions for one instance. (The
message for instance 1 queued during the first incarnation of instance 0 was discarded when instance 0 finished.) -/
theorem ex_backward :
    noBackward (minit mxCfg) exBackOps = false ∧
    (mprun (minit mxCfg) exBackOps).1.decisions.map (fun e => (e.1, e.2.value)) = [(0, [7, 8]), (0, [8, 5])] ∧
    (mprun (minit mxCfg) exBackOps).1.cur = 1 := by
  decide +kernel

/-- `StartInstanceAt 0` while instance 0 is running (not backwards, but a restart — excluded by `forwardOnly`): the
running instance is dropped and the next alarm begins instance 0 afresh, here with another proposal -/
def exRestartOps : List MPOp :=
  exMOps.take 6 ++ [.startAt 0, .alarm 8 mxTbl [7, 9] []]

/-- … so the participant broadcasts QUALITY twice for instance 0, for two different chains: the effects tagged 0 are
not those of one single-instance run -/
theorem ex_restart :
    noBackward (minit mxCfg) exRestartOps = true ∧ forwardOnly (minit mxCfg) exRestartOps = false ∧
    (effsOf 0 (mprun (minit mxCfg) exRestartOps).2).filter (fun e => match e with | .broadcast .. => true | _ => false) =
      [.broadcast 0 .quality [7, 8] false none, .broadcast 0 .prepare [7, 8] false none,
       .broadcast 0 .quality [7, 9] false none] := by
  decide +kernel

/-- every message of the example is for round 0, hence `MsgOk` -/
theorem ex_msgs_ok : ∀ op ∈ exMOps, MPOpP MsgOk op := by
  have h : exMOps.all (fun op => match op with | .recv _ m => m.msg.round == 0 | _ => true) = true := by
    decide +kernel
  intro op hop
  have := List.all_eq_true.1 h op hop
  cases op with
  | recv now m => exact fun _ => by simpa using this
  | alarm _ _ _ _ => trivial
  | startAt _ => trivial

end F3.Instance
