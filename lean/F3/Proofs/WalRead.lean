import F3.Proofs.WalInv
/-! What `All()` returns on a state satisfying the invariant, and how the ghost lists move along a history
(C11). Core-only. -/
namespace F3.Wal
variable {α β : Type}
variable {cfg : Cfg α β} {s : State α β} {m : Mem}

/-- What `readLogFile` returns for a file of a reachable directory: its acknowledged records in order, then
at most the one record of a crashed append (when all of its bytes reached the file). -/
theorem Inv.read_file (hc : cfg.codec.Ok) (h : Inv cfg s) {nm : Name} (hn : nm ∈ s.dir.names) :
    ∃ t, readFile cfg.codec ((s.dir.get nm).getD []) = ackedOf s nm ++ t ∧ t.length ≤ 1 ∧
      ∀ e ∈ t, (nm, e) ∈ s.inflight := by
  obtain ⟨bs, hg⟩ := Dir.get_some_of_mem_names hn
  rw [hg, Option.getD_some]
  rcases h.content nm bs (Dir.mem_of_get hg) with h1 | ⟨_, e, k, hin, h2⟩
  · exact ⟨[], by rw [h1, readFile_encAll hc, List.append_nil], Nat.zero_le _, fun _ h => nomatch h⟩
  · rw [h2, readFile_encAll_take hc]
    split
    · exact ⟨[], (List.append_nil _).symm, Nat.zero_le _, fun _ h => nomatch h⟩
    · exact ⟨[e], rfl, Nat.le_refl _, fun _ h => List.mem_singleton.mp h ▸ hin⟩

theorem Inv.acked_decodable (hc : cfg.codec.Ok) (h : Inv cfg s)
    {p : Name × α} (hp : p ∈ s.acked) : p.2 ∈ readFile cfg.codec ((s.dir.get p.1).getD []) := by
  obtain ⟨t, ht, _⟩ := h.read_file hc (h.ackedNames p hp)
  exact ht ▸ List.mem_append_left _ (mem_ackedOf.mpr hp)

/-- tagged content of the files `names`, in that order -/
def readSpec (cfg : Cfg α β) (d : Dir β) (names : List Name) : List (Name × α) :=
  names.flatMap (fun n => (readFile cfg.codec ((d.get n).getD [])).map (fun e => (n, e)))

theorem readAll_eq {d : Dir β} (names : List Name) (hsub : ∀ n ∈ names, n ∈ d.names) :
    readAll cfg d names = some (readSpec cfg d names) := by
  induction names with
  | nil => rfl
  | cons n t ih =>
    obtain ⟨bs, hg⟩ := Dir.get_some_of_mem_names (hsub n (by simp))
    simp only [readAll, hg, ih (fun n' hn' => hsub n' (List.mem_cons_of_mem _ hn'))]
    simp [readSpec, hg]

theorem mem_readSpec {d : Dir β} {names : List Name} {p : Name × α} :
    p ∈ readSpec cfg d names ↔ p.1 ∈ names ∧ p.2 ∈ readFile cfg.codec ((d.get p.1).getD []) := by
  obtain ⟨n, e⟩ := p
  simp only [readSpec, List.mem_flatMap, List.mem_map, Prod.mk.injEq]
  constructor
  · rintro ⟨n', hn', e', he', rfl, rfl⟩; exact ⟨hn', he'⟩
  · rintro ⟨hn, he⟩; exact ⟨n, hn, e, he, rfl, rfl⟩

/-- The records returned for one file are that file's decodable records, in file order. -/
theorem readSpec_filter {d : Dir β} {names : List Name} (hnd : names.Nodup) {nm : Name}
    (hnm : nm ∈ names) :
    ((readSpec cfg d names).filter (fun p => p.1 = nm)).map (·.2) = readFile cfg.codec ((d.get nm).getD []) := by
  induction names with
  | nil => cases hnm
  | cons n t ih =>
    obtain ⟨hnt, hndt⟩ := List.nodup_cons.mp hnd
    have hcons : readSpec cfg d (n :: t) =
        (readFile cfg.codec ((d.get n).getD [])).map (fun e => (n, e)) ++ readSpec cfg d t := rfl
    rw [hcons, List.filter_append, List.map_append, List.filter_map, List.map_map]
    by_cases hn : n = nm
    · -- the entries of file `n` all pass, no later file has that name
      subst hn
      have ht : (readSpec cfg d t).filter (fun p => p.1 = n) = [] :=
        List.filter_eq_nil_iff.mpr fun p hp heq => hnt (of_decide_eq_true heq ▸ (mem_readSpec.mp hp).1)
      rw [ht]
      simp [Function.comp_def]
    · rw [ih hndt ((List.mem_cons.mp hnm).resolve_left (Ne.symm hn))]
      simp [Function.comp_def, hn]

theorem Inv.all_eq (h : Inv cfg s) (hm : s.mem = some m) :
    (step cfg s .all).2 = .entries (readSpec cfg s.dir m.files) := by
  have := readAll_eq (cfg := cfg) (d := s.dir) m.files (fun n hn => (h.file_mem hm).mp hn)
  simp [step, hm, this]

theorem all_entries_open {r : List (Name × α)}
    (hr : (step cfg s .all).2 = .entries r) : ∃ m, s.mem = some m := by
  cases hm : s.mem with
  | none => simp [step, hm] at hr
  | some m => exact ⟨m, rfl⟩

theorem Inv.all_spec (h : Inv cfg s) {r : List (Name × α)}
    (hr : (step cfg s .all).2 = .entries r) : ∃ m, s.mem = some m ∧ r = readSpec cfg s.dir m.files := by
  obtain ⟨m, hm⟩ := all_entries_open hr
  rw [h.all_eq hm] at hr
  exact ⟨m, hm, (Res.entries.inj hr).symm⟩

/-- **What `All()` returns**: per file the acknowledged entries in order and then at most one entry of a
crashed append; nothing else. -/
theorem Inv.all_char (hc : cfg.codec.Ok) (h : Inv cfg s) {r : List (Name × α)}
    (hr : (step cfg s .all).2 = .entries r) :
    (∀ p ∈ r, p ∈ s.acked ∨ p ∈ s.inflight) ∧ (∀ p ∈ s.acked, p ∈ r) ∧
    ∀ nm ∈ s.dir.names, ∃ t, (r.filter (fun p => p.1 = nm)).map (·.2) = ackedOf s nm ++ t ∧ t.length ≤ 1 := by
  obtain ⟨m, hm, rfl⟩ := h.all_spec hr
  refine ⟨fun p hp => ?_, fun p hp => ?_, fun nm hnm => ?_⟩
  · obtain ⟨hn, he⟩ := mem_readSpec.mp hp
    obtain ⟨t, ht, _, hin⟩ := h.read_file hc ((h.file_mem hm).mp hn)
    rcases List.mem_append.mp (ht ▸ he) with he | he
    · exact Or.inl (mem_ackedOf.mp he)
    · exact Or.inr (hin _ he)
  · exact mem_readSpec.mpr ⟨(h.file_mem hm).mpr (h.ackedNames p hp), h.acked_decodable hc hp⟩
  · obtain ⟨t, ht, hl, _⟩ := h.read_file hc hnm
    exact ⟨t, by rw [readSpec_filter (h.files_nodup hm) ((h.file_mem hm).mpr hnm), ht], hl⟩

theorem append_ok_acked {e : α} {nm : Name}
    (h : (step cfg s (.append e nm)).2 = .ok) : ∃ f, (f, e) ∈ (step cfg s (.append e nm)).1.acked := by
  have hs := step_cases cfg s (.append e nm)
  generalize step cfg s (.append e nm) = r at hs h ⊢
  cases hs with
  | appendSame _ _ m st _ _ => exact ⟨st.name, by simp⟩
  | appendFresh _ _ m _ _ => exact ⟨nm, by simp⟩
  | down _ _ _ => cases h
  | appendExists _ _ _ _ _ => cases h

/-- What one step does to the ghost lists: nothing; or an acknowledged append adds its entry to `acked`;
or a cut append adds its entry to `inflight`; or a purge filters both by the names of the deleted files. -/
inductive GhostStep (s : State α β) (op : Op α) (s' : State α β) : Prop
  | same (ha : s'.acked = s.acked) (hi : s'.inflight = s.inflight)
  | acked (e : α) (nm f : Name) (hop : op = .append e nm) (ha : s'.acked = s.acked ++ [(f, e)])
      (hi : s'.inflight = s.inflight)
  | inflight (e : α) (nm : Name) (n : Nat) (f : Name) (hop : op = .crashAppend e nm n) (ha : s'.acked = s.acked)
      (hi : s'.inflight = s.inflight ++ [(f, e)])
  | purge (k : Nat) (m : Mem) (hop : op = .purge k) (hm : s.mem = some m)
      (ha : s'.acked = s.acked.filter (fun p => !((purgeDel m k).contains p.1)))
      (hi : s'.inflight = s.inflight.filter (fun p => !((purgeDel m k).contains p.1)))

theorem ghost_step (cfg : Cfg α β) (s : State α β) (op : Op α) : GhostStep s op (step cfg s op).1 := by
  have hs := step_cases cfg s op
  generalize step cfg s op = r at hs ⊢
  cases hs with
  | purge k m hm => exact .purge k m rfl hm rfl rfl
  | appendSame e nm m st _ _ => exact .acked e nm st.name rfl rfl rfl
  | appendFresh e nm m _ _ => exact .acked e nm nm rfl rfl rfl
  | crashSame e nm n m st _ _ => exact .inflight e nm n st.name rfl rfl rfl
  | crashFresh e nm n m _ _ => exact .inflight e nm n nm rfl rfl rfl
  | _ => exact .same rfl rfl

theorem acked_source (op : Op α) {p : Name × α}
    (hp : p ∈ (step cfg s op).1.acked) : p ∈ s.acked ∨ ∃ nm, op = .append p.2 nm := by
  cases ghost_step cfg s op with
  | same ha _ => exact Or.inl (ha ▸ hp)
  | acked e nm f hop ha _ =>
    rcases List.mem_append.mp (ha ▸ hp) with h | h
    · exact Or.inl h
    · cases List.mem_singleton.mp h; exact Or.inr ⟨nm, hop⟩
  | inflight e nm n f _ ha _ => exact Or.inl (ha ▸ hp)
  | purge k m _ _ ha _ => exact Or.inl (List.mem_filter.mp (ha ▸ hp)).1

theorem inflight_source (op : Op α) {p : Name × α}
    (hp : p ∈ (step cfg s op).1.inflight) : p ∈ s.inflight ∨ ∃ nm n, op = .crashAppend p.2 nm n := by
  cases ghost_step cfg s op with
  | same _ hi => exact Or.inl (hi ▸ hp)
  | acked e nm f _ _ hi => exact Or.inl (hi ▸ hp)
  | inflight e nm n f hop _ hi =>
    rcases List.mem_append.mp (hi ▸ hp) with h | h
    · exact Or.inl h
    · cases List.mem_singleton.mp h; exact Or.inr ⟨nm, n, hop⟩
  | purge k m _ _ _ hi => exact Or.inl (List.mem_filter.mp (hi ▸ hp)).1

theorem step_purge_names (hm : s.mem = some m) (k : Nat) :
    (step cfg s (.purge k)).1.dir.names = s.dir.names.filter (fun n => !((purgeDel m k).contains n)) := by
  rw [step_purge_eq hm]
  exact Dir.names_filter s.dir (fun n => !((purgeDel m k).contains n))

theorem Inv.purge_deleted_lt (h : Inv cfg s) (hm : s.mem = some m)
    {k : Nat} {nm : Name} (hd : nm ∈ purgeDel m k) :
    ∀ e ∈ readFile cfg.codec ((s.dir.get nm).getD []), cfg.epoch e < k := by
  obtain ⟨st, hst, hlt, rfl⟩ := mem_purgeDel.mp hd
  intro e he
  have := h.stats m hm st (Or.inl hst)
  exact Nat.lt_of_le_of_lt (this ▸ le_maxEpochOf cfg _ e he) hlt

/-- An acknowledged entry stays acknowledged (hence readable) across every operation except a purge
above its epoch. -/
theorem Inv.acked_persists (hc : cfg.codec.Ok) (h : Inv cfg s) (op : Op α)
    {p : Name × α} (hp : p ∈ s.acked) :
    p ∈ (step cfg s op).1.acked ∨ ∃ k, op = .purge k ∧ cfg.epoch p.2 < k := by
  cases ghost_step cfg s op with
  | same ha _ => exact Or.inl (ha ▸ hp)
  | acked e nm f _ ha _ => exact Or.inl (ha ▸ List.mem_append_left _ hp)
  | inflight e nm n f _ ha _ => exact Or.inl (ha ▸ hp)
  | purge k m hop hm ha _ =>
    by_cases hd : p.1 ∈ purgeDel m k
    · exact Or.inr ⟨k, hop, h.purge_deleted_lt hm hd p.2 (h.acked_decodable hc hp)⟩
    · exact Or.inl (ha ▸ List.mem_filter.mpr ⟨hp, by simpa using hd⟩)

/-- `Purge` never deletes the active file. -/
theorem Inv.purge_keeps_active {cfg : Cfg α β} {s : State α β} (h : Inv cfg s) {m : Mem} (hm : s.mem = some m)
    (k : Nat) {st : Stat} (ha : m.active = some st) :
    st.name ∈ (step cfg s (.purge k)).1.dir.names := by
  rw [step_purge_names hm]
  exact List.mem_filter.mpr ⟨h.active_name_mem hm ha, by simpa using h.active_not_del hm ha⟩

/-- A crash followed by a restart does not change what `All()` returns, up to the order of the files. -/
theorem Inv.restart_preserves_content {cfg : Cfg α β} (hc : cfg.codec.Ok) {s : State α β} (h : Inv cfg s)
    {r : List (Name × α)} (hr : (step cfg s .all).2 = .entries r) :
    ∃ r', (step cfg (step cfg (step cfg s .crash).1 .open).1 .all).2 = .entries r' ∧ r'.Perm r := by
  obtain ⟨m, hm, rfl⟩ := h.all_spec hr
  have h2 := inv_step hc (inv_step hc h .crash) .open
  have hm2 : (step cfg (step cfg s .crash).1 .open).1.mem = some (hydrate cfg s.dir) := rfl
  refine ⟨_, h2.all_eq hm2, ?_⟩
  have hp : (hydrate cfg s.dir).files.Perm m.files := (hydrate_files cfg s.dir).trans (h.files m hm).symm
  exact hp.flatMap_right _

theorem run_cons (cfg : Cfg α β) (s : State α β) (op : Op α) (ops : List (Op α)) :
    run cfg s (op :: ops) = run cfg (step cfg s op).1 ops := rfl

theorem run_append (cfg : Cfg α β) (s : State α β) (a b : List (Op α)) :
    run cfg s (a ++ b) = run cfg (run cfg s a) b := by
  induction a generalizing s with
  | nil => rfl
  | cons op a ih => exact ih _

theorem acked_from_history (cfg : Cfg α β) (ops : List (Op α)) (s : State α β) (p : Name × α)
    (hp : p ∈ (run cfg s ops).acked) : p ∈ s.acked ∨ ∃ nm, Op.append p.2 nm ∈ ops := by
  induction ops generalizing s with
  | nil => exact Or.inl hp
  | cons op ops ih =>
    rcases ih _ hp with h | ⟨nm, h⟩
    · rcases acked_source op h with h' | ⟨nm, rfl⟩
      · exact Or.inl h'
      · exact Or.inr ⟨nm, by simp⟩
    · exact Or.inr ⟨nm, List.mem_cons_of_mem _ h⟩

theorem inflight_from_history (cfg : Cfg α β) (ops : List (Op α)) (s : State α β) (p : Name × α)
    (hp : p ∈ (run cfg s ops).inflight) : p ∈ s.inflight ∨ ∃ nm n, Op.crashAppend p.2 nm n ∈ ops := by
  induction ops generalizing s with
  | nil => exact Or.inl hp
  | cons op ops ih =>
    rcases ih _ hp with h | ⟨nm, n, h⟩
    · rcases inflight_source op h with h' | ⟨nm, n, rfl⟩
      · exact Or.inl h'
      · exact Or.inr ⟨nm, n, by simp⟩
    · exact Or.inr ⟨nm, n, List.mem_cons_of_mem _ h⟩

theorem persists_run (cfg : Cfg α β) (hc : cfg.codec.Ok) (ops : List (Op α)) (s : State α β) (hs : Inv cfg s)
    (p : Name × α) (hp : p ∈ s.acked) :
    p ∈ (run cfg s ops).acked ∨ ∃ k, Op.purge k ∈ ops ∧ cfg.epoch p.2 < k := by
  induction ops generalizing s with
  | nil => exact Or.inl hp
  | cons op ops ih =>
    rcases hs.acked_persists hc op hp with h | ⟨k, rfl, hk⟩
    · rcases ih _ (inv_step hc hs op) h with h' | ⟨k, hk, hlt⟩
      · exact Or.inl h'
      · exact Or.inr ⟨k, List.mem_cons_of_mem _ hk, hlt⟩
    · exact Or.inr ⟨k, by simp, hk⟩

end F3.Wal
