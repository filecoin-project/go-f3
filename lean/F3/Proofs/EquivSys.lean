import F3.Proofs.EquivFilter
/-! Helper lemmas for C12: `step` by cases on `up`, the system invariant and its preservation by every operation. Core-only. -/
namespace F3.Equiv

/-! ### `step` by cases on `up` -/

/-- A node that is down ignores everything but a restart. -/
theorem step_of_down {s : Sys} (h : s.up = false) {op : Op} (hop : op ≠ .restart) : step s op = s := by
  cases op with
  | restart => exact absurd rfl hop
  | stop => cases s; cases h; rfl
  | _ => simp [step, h]

theorem step_receive_up {s : Sys} (hu : s.up = true) (p : Peer) (m : Msg) :
    step s (.receive p m) = { s with filter := s.filter.processReceive p m } := by simp [step, hu]

theorem step_purge_up {s : Sys} (hu : s.up = true) (k : Nat) (keep : List Msg) :
    step s (.purge k keep) = { s with wal := purgeWal k s.wal keep, purged := max s.purged k } := by simp [step, hu]

theorem step_trim_up {s : Sys} (hu : s.up = true) (c : Nat) :
    step s (.trim c) = { s with self := s.self.filter (fun m => decide (c ≤ m.inst)) } := by simp [step, hu]

theorem step_rebroadcast_up {s : Sys} (hu : s.up = true) (i r p : Nat) :
    step s (.rebroadcast i r p) =
      { s with
        filter := ((s.self.filter (fun m => m.inst == i && m.round == r && m.phase == p)).foldl rebroadcastOne
          (s.filter, s.wire)).1
        wire := ((s.self.filter (fun m => m.inst == i && m.round == r && m.phase == p)).foldl rebroadcastOne
          (s.filter, s.wire)).2 } := by
  simp [step, hu]

/-- `BroadcastMessage` of a running node whose filter refuses. -/
theorem step_broadcast_refused {s : Sys} (hu : s.up = true) {m : Msg} {f1 : Filter} (h : s.filter.processBroadcast m = (f1, false))
    (c : Nat) : step s (.broadcast m c) = { s with filter := f1, up := c == 0 } := by simp [step, hu, h]

/-- … and whose filter allows: the three effects in order, cut at the crash point. -/
theorem step_broadcast_allowed {s : Sys} (hu : s.up = true) {m : Msg} {f1 : Filter} (h : s.filter.processBroadcast m = (f1, true))
    (c : Nat) : step s (.broadcast m c) =
      if c = 1 then { s with filter := f1, up := false }
      else if c = 2 then { s with filter := f1, wal := s.wal ++ [m], ever := s.ever ++ [m], self := s.self ++ [m], up := false }
      else { s with filter := f1, wal := s.wal ++ [m], ever := s.ever ++ [m], self := s.self ++ [m], wire := s.wire ++ [m],
                    up := c == 0 } := by
  simp only [step, hu, h, Bool.not_true, Bool.false_eq_true, if_false, beq_iff_eq]

structure SysInv (own : Nat → Bool) (s : Sys) : Prop where
  cons : Consistent s.ever
  wire_sub : ∀ w ∈ s.wire, w ∈ s.ever
  wal_sub : ∀ w ∈ s.wal, w ∈ s.ever
  self_sub : ∀ w ∈ s.self, w ∈ s.ever
  wal_ge : ∀ e ∈ s.ever, s.purged ≤ e.inst → e ∈ s.wal
  floor_le : s.floor ≤ s.purged
  own_ever : ∀ e ∈ s.ever, own e.sender = true
  finv : s.up = true → FilterInv own s.floor s.filter s.ever
  mono : InstMonotone s.wire

theorem sysInv_init (own : Nat → Bool) (l : Peer) : SysInv own (Sys.init l) where
  cons := by intro a ha; simp [Sys.init] at ha
  wire_sub := by intro w hw; simp [Sys.init] at hw
  wal_sub := by intro w hw; simp [Sys.init] at hw
  self_sub := by intro w hw; simp [Sys.init] at hw
  wal_ge := by intro e he; simp [Sys.init] at he
  floor_le := Nat.le_refl _
  own_ever := by intro e he; simp [Sys.init] at he
  finv := fun _ => filterInv_new own 0 l
  mono := List.Pairwise.nil

theorem instMonotone_snoc {w : List Msg} {m : Msg} (h : InstMonotone w) (hm : ∀ x ∈ w, x.inst ≤ m.inst) :
    InstMonotone (w ++ [m]) := by
  unfold InstMonotone
  rw [List.pairwise_append]
  refine ⟨h, List.pairwise_singleton _ _, ?_⟩
  intro a ha b hb
  simp only [List.mem_singleton] at hb; subst hb; exact hm a ha

theorem FilterInv.le_of_allowed {own : Nat → Bool} {F : Nat} {f : Filter} {E : List Msg}
    (h : FilterInv own F f E) {m : Msg} (hF : F ≤ m.inst) (hc : f.cur ≤ m.inst) : ∀ e ∈ E, e.inst ≤ m.inst := by
  intro e he
  rcases h.le e he with h1 | h1 <;> omega

theorem mem_snoc_of_sub {A E : List Msg} (h : ∀ w ∈ A, w ∈ E) (m : Msg) : ∀ w ∈ A ++ [m], w ∈ E ++ [m] :=
  fun w hw => (List.mem_append.mp hw).elim (fun hw => List.mem_append_left _ (h w hw)) (List.mem_append_right _)

theorem rb_fold {own : Nat → Bool} {F : Nat} {E : List Msg} (sel : List Msg) (f : Filter) (w : List Msg)
    (hsel : ∀ m ∈ sel, m ∈ E ∧ F ≤ m.inst ∧ own m.sender = true)
    (hf : FilterInv own F f E) (hw : ∀ x ∈ w, x ∈ E) (hm : InstMonotone w) :
    FilterInv own F (sel.foldl rebroadcastOne (f, w)).1 E ∧
    (∀ x ∈ (sel.foldl rebroadcastOne (f, w)).2, x ∈ E) ∧
    InstMonotone (sel.foldl rebroadcastOne (f, w)).2 ∧
    (sel.foldl rebroadcastOne (f, w)).1.localPID = f.localPID := by
  induction sel generalizing f w with
  | nil => exact ⟨hf, hw, hm, rfl⟩
  | cons m sel ih =>
    simp only [List.foldl_cons]
    obtain ⟨hmE, hmF, hmo⟩ := hsel m (by simp)
    have hsel' : ∀ m' ∈ sel, m' ∈ E ∧ F ≤ m'.inst ∧ own m'.sender = true :=
      fun m' h' => hsel m' (List.mem_cons_of_mem _ h')
    rcases hf.pb_cases m hmF hmo with ⟨hrej, _⟩ | ⟨f', hacc, hinv, _, hcur, hl, _⟩
    · have : rebroadcastOne (f, w) m = (f, w) := by simp [rebroadcastOne, hrej]
      rw [this]; exact ih f w hsel' hf hw hm
    · have : rebroadcastOne (f, w) m = (f', w ++ [m]) := by simp [rebroadcastOne, hacc]
      rw [this]
      have hinv' : FilterInv own F f' E := hinv.congr (by
        intro e; simp only [List.mem_append, List.mem_singleton]
        constructor
        · rintro (h | rfl); exact h; exact hmE
        · exact Or.inl)
      have hw' : ∀ x ∈ w ++ [m], x ∈ E := fun x hx =>
        (List.mem_append.mp hx).elim (hw x) fun hx => List.mem_singleton.mp hx ▸ hmE
      have hm' : InstMonotone (w ++ [m]) :=
        instMonotone_snoc hm (fun x hx => hf.le_of_allowed hmF hcur x (hw x hx))
      have := ih f' (w ++ [m]) hsel' hinv' hw' hm'
      rw [hl] at this; exact this

theorem inv_down {own : Nat → Bool} {s : Sys} (h : SysInv own s) : SysInv own { s with up := false } :=
  { h with finv := by intro hu; cases hu }

theorem SysInv.of_down {own : Nat → Bool} {s : Sys} (h : SysInv own s) (hu : s.up = false) {op : Op} (hop : op ≠ .restart) :
    SysInv own (step s op) := by
  rw [step_of_down hu hop]; exact h

theorem inv_restart {own : Nat → Bool} {s : Sys} (h : SysInv own s) : SysInv own (step s .restart) := by
  have hc : Consistent s.wal := h.cons.sub h.wal_sub
  have ho : ∀ e ∈ s.wal, own e.sender = true := fun e he => h.own_ever e (h.wal_sub e he)
  obtain ⟨hr, _⟩ := rearm_inv (own := own) s.filter.localPID s.wal hc ho
  exact
    { cons := h.cons, wire_sub := h.wire_sub, wal_sub := h.wal_sub, wal_ge := h.wal_ge,
      own_ever := h.own_ever, mono := h.mono, floor_le := Nat.le_refl _,
      self_sub := fun w hw => h.wal_sub w (List.mem_filter.mp hw).1
      -- what the WAL has lost is below the purge epoch, the new floor
      finv := fun _ => hr.mono (Nat.zero_le _) h.wal_sub fun e he =>
        (Nat.lt_or_ge e.inst s.purged).elim (fun hlt => Or.inr (Or.inl hlt)) (fun hge => Or.inl (h.wal_ge e he hge)) }

theorem inv_purge {own : Nat → Bool} {s : Sys} (h : SysInv own s) (k : Nat) (keep : List Msg) :
    SysInv own (step s (.purge k keep)) := by
  cases hu : s.up with
  | false => exact h.of_down hu nofun
  | true =>
    rw [step_purge_up hu]
    exact
      { cons := h.cons, wire_sub := h.wire_sub, self_sub := h.self_sub, own_ever := h.own_ever, mono := h.mono,
        finv := h.finv,
        wal_sub := fun w hw => h.wal_sub w (purgeWal_sub k s.wal keep w hw),
        wal_ge := fun e he hp =>
          mem_purgeWal_of_ge k s.wal keep e (h.wal_ge e he (Nat.le_trans (Nat.le_max_left _ _) hp))
            (Nat.le_trans (Nat.le_max_right _ _) hp),
        floor_le := Nat.le_trans h.floor_le (Nat.le_max_left _ _) }

theorem inv_trim {own : Nat → Bool} {s : Sys} (h : SysInv own s) (c : Nat) : SysInv own (step s (.trim c)) := by
  cases hu : s.up with
  | false => exact h.of_down hu nofun
  | true =>
    rw [step_trim_up hu]
    exact { h with self_sub := fun w hw => h.self_sub w (List.mem_filter.mp hw).1 }

theorem inv_receive {own : Nat → Bool} {s : Sys} (h : SysInv own s) (p : Peer) (m : Msg)
    (hm : own m.sender = false) : SysInv own (step s (.receive p m)) := by
  cases hu : s.up with
  | false => exact h.of_down hu nofun
  | true =>
    rw [step_receive_up hu, (h.finv hu).receive_noop p m hm]
    exact h

theorem inv_rebroadcast {own : Nat → Bool} {s : Sys} (h : SysInv own s) (i r p : Nat) (hi : s.floor ≤ i) :
    SysInv own (step s (.rebroadcast i r p)) := by
  cases hu : s.up with
  | false => exact h.of_down hu nofun
  | true =>
    rw [step_rebroadcast_up hu]
    have hsel : ∀ m ∈ s.self.filter (fun m => m.inst == i && m.round == r && m.phase == p),
        m ∈ s.ever ∧ s.floor ≤ m.inst ∧ own m.sender = true := by
      intro m hm
      obtain ⟨h1, h2⟩ := List.mem_filter.mp hm
      have hmi : m.inst = i := by
        simp only [Bool.and_eq_true, beq_iff_eq] at h2; exact h2.1.1
      exact ⟨h.self_sub m h1, by omega, h.own_ever m (h.self_sub m h1)⟩
    obtain ⟨hf, hw, hmono, _⟩ := rb_fold _ s.filter s.wire hsel (h.finv hu) h.wire_sub h.mono
    exact
      { cons := h.cons, wal_sub := h.wal_sub, self_sub := h.self_sub, wal_ge := h.wal_ge,
        floor_le := h.floor_le, own_ever := h.own_ever,
        wire_sub := hw, mono := hmono, finv := fun _ => hf }

theorem inv_broadcast {own : Nat → Bool} {s : Sys} (h : SysInv own s) (m : Msg) (c : Nat)
    (hF : s.floor ≤ m.inst) (hown : own m.sender = true) : SysInv own (step s (.broadcast m c)) := by
  cases hu : s.up with
  | false => exact h.of_down hu nofun
  | true =>
    rcases (h.finv hu).pb_cases m hF hown with ⟨hrej, _⟩ | ⟨f', hacc, hinv, hnc, hcur, _, _⟩
    · -- refused: nothing but possibly the crash
      rw [step_broadcast_refused hu hrej]
      exact { h with finv := fun _ => h.finv hu }
    · rw [step_broadcast_allowed hu hacc]
      -- the record is durable once the WAL append is through
      have base : SysInv own { s with filter := f', wal := s.wal ++ [m], ever := s.ever ++ [m],
                                      self := s.self ++ [m], up := false } :=
        { cons := h.cons.snoc hnc
          wire_sub := fun w hw => List.mem_append_left _ (h.wire_sub w hw)
          wal_sub := mem_snoc_of_sub h.wal_sub m
          self_sub := mem_snoc_of_sub h.self_sub m
          wal_ge := fun e he hp => (List.mem_append.mp he).elim
            (fun he => List.mem_append_left _ (h.wal_ge e he hp)) (List.mem_append_right _)
          floor_le := h.floor_le
          own_ever := fun e he => (List.mem_append.mp he).elim (h.own_ever e) fun he => List.mem_singleton.1 he ▸ hown
          finv := nofun
          mono := h.mono }
      split
      · exact { h with finv := nofun }
      split
      · exact base
      · exact { base with
          wire_sub := mem_snoc_of_sub h.wire_sub m
          mono := instMonotone_snoc h.mono fun x hx => (h.finv hu).le_of_allowed hF hcur x (h.wire_sub x hx)
          finv := fun _ => hinv }

theorem inv_step {own : Nat → Bool} {s : Sys} (h : SysInv own s) (op : Op) (hop : OpOk own s op) :
    SysInv own (step s op) := by
  cases op with
  | broadcast m c => exact inv_broadcast h m c hop.1 hop.2
  | rebroadcast i r p => exact inv_rebroadcast h i r p hop
  | receive p m => exact inv_receive h p m hop
  | restart => exact inv_restart h
  | stop => exact inv_down h
  | purge k keep => exact inv_purge h k keep
  | trim c => exact inv_trim h c

theorem inv_run {own : Nat → Bool} {s : Sys} (h : SysInv own s) (ops : List Op) (hok : RunOk own s ops) :
    SysInv own (run s ops) := by
  induction ops generalizing s with
  | nil => exact h
  | cons op ops ih => exact ih (inv_step h op hok.1) hok.2

/-- Under the invariant, an admissible request is allowed exactly when it is not for a past instance
and conflicts with nothing recorded. -/
theorem FilterInv.allow_iff {own : Nat → Bool} {F : Nat} {f : Filter} {E : List Msg}
    (h : FilterInv own F f E) (m : Msg) (hF : F ≤ m.inst) (hown : own m.sender = true) :
    (f.processBroadcast m).2 = true ↔ f.cur ≤ m.inst ∧ ∀ e ∈ E, e.slot = m.slot → e.sig = m.sig := by
  rcases h.pb_cases m hF hown with ⟨hrej, hwhy⟩ | ⟨f', hacc, _, hnc, hcur, _, _⟩
  · rw [hrej]
    constructor
    · intro hf; cases hf
    · rintro ⟨hc, hall⟩
      rcases hwhy with hlt | ⟨e, he, hslot, hne⟩
      · omega
      · exact absurd (hall e he hslot) hne
  · rw [hacc]; exact ⟨fun _ => ⟨hcur, hnc⟩, fun _ => rfl⟩

theorem FilterInv.holds {own : Nat → Bool} {F : Nat} {f : Filter} {E : List Msg} (h : FilterInv own F f E)
    {e : Msg} (he : e ∈ E) (hF : F ≤ e.inst) :
    e.inst ≤ f.cur ∧ (e.inst = f.cur → alookup e.key f.seen = some ⟨e.sig, f.localPID⟩) :=
  ⟨(h.le e he).resolve_right (Nat.not_lt.2 hF), fun hc => h.seen_of e he hc hF⟩

/-- Two filters that satisfy the invariant for the same record are at the same instance, as long as the
higher floor has not passed it … -/
theorem FilterInv.cur_eq {own : Nat → Bool} {F₁ F₂ : Nat} {f₁ f₂ : Filter} {E : List Msg}
    (h1 : FilterInv own F₁ f₁ E) (h2 : FilterInv own F₂ f₂ E) (hF : F₁ ≤ F₂) (hc : F₂ ≤ f₁.cur) : f₂.cur = f₁.cur := by
  apply Nat.le_antisymm
  · rcases h2.cur_wit with h0 | ⟨e, he, hce⟩
    · omega
    · rcases h1.le e he with h3 | h3 <;> omega
  · rcases h1.cur_wit with h0 | ⟨e, he, hce⟩
    · omega
    · rcases h2.le e he with h3 | h3 <;> omega

/-- … and then allow the same requests at or above that floor. -/
theorem FilterInv.allow_eq {own : Nat → Bool} {F₁ F₂ : Nat} {f₁ f₂ : Filter} {E : List Msg}
    (h1 : FilterInv own F₁ f₁ E) (h2 : FilterInv own F₂ f₂ E) (hF : F₁ ≤ F₂) (hc : F₂ ≤ f₁.cur)
    (m : Msg) (hm : F₂ ≤ m.inst) (hown : own m.sender = true) :
    (f₂.processBroadcast m).2 = (f₁.processBroadcast m).2 := by
  rw [Bool.eq_iff_iff, h1.allow_iff m (Nat.le_trans hF hm) hown, h2.allow_iff m hm hown, h1.cur_eq h2 hF hc]

end F3.Equiv
