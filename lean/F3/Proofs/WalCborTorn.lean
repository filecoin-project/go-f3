import F3.Model.WalCbor
import F3.Proofs.CodecWire
/-! A torn cbor-gen record never decodes (C11 × C14): on every strict prefix of an encoding the generated
decoder fails with *end of input* — a head announces a length and the payload is cut, or the head itself
is cut. This is not `encode_prefix_free`: the decoders accept inputs no encoder writes (`0xf6` for an empty
chain, non-minimal big-integer magnitudes). It is a fact about the reader alone (`Wire.reads`: what the decoder
accepts it reads off a prefix of its input, and on that prefix cut short it runs out of input), applied to
what the encoder writes. -/
namespace F3.Cbor
open F3.Codec

/-- **A torn record is detected.** On a strict prefix of an encoding the decoder runs out of input. -/
theorem decode_torn : ∀ (s : Schema), s.wf = true → ∀ (v : Value) (b : Bytes),
    encode s v = some b → ∀ p, SPrefix p b → decode s p = .error .eof :=
  fun s hwf v b he => (encode_wire s hwf v b he).reads.torn

/-- On the empty input every Go type's decoder reports end of input. -/
theorem decode_nil (s : Schema) (hr : s.isRecord = true) : decode s [] = .error .eof := by
  cases s with
  | tnil => simp [Schema.isRecord] at hr
  | tcons _ _ => simp [Schema.isRecord] at hr
  | _ => simp [decode, readHdr]

/-- A Go type's encoding is never empty (every one starts with a CBOR head, `0xf6`, or a simple value). -/
theorem encode_ne_nil (s : Schema) (hwf : s.wf = true) (hr : s.isRecord = true) (v : Value) (b : Bytes)
    (he : encode s v = some b) : b ≠ [] :=
  (encode_wire s hwf v b he).reads.ne_nil ⟨.eof, decode_nil s hr⟩

end F3.Cbor
