import F3.Proofs.StoreOps
/-! `Put`: refinement of `Spec.put`, exact write sequence, and what every prefix of it leaves behind. -/
namespace F3.Store

/-- What `Put` and the snapshot importer write for one certificate before the latest pointer. -/
def stageWrites (freq : Nat) (c : Cert) (t : Table) : List W :=
  [W.put (.cert c.inst) (.cert c)] ++ (if (c.inst + 1) % freq = 0 then [W.put (.power (c.inst + 1)) (.tbl t)] else [])

def putWrites (freq : Nat) (c : Cert) (t : Table) : List W :=
  stageWrites freq c t ++ [W.put .latest (.num c.inst)]

theorem notifyAll_ok (subs : List (Nat × List Cert)) (c : Cert) (h : ∀ s ∈ subs, s.2.length ≤ 1) :
    notifyAll subs c = some (subs.map (fun s => (s.1, [c]))) := by
  induction subs with
  | nil => rfl
  | cons s r ih =>
    have hsend : chanSend (chanDrain s.2) c = some [c] := by
      simp [chanSend, chanDrain, List.drop_eq_nil_of_le (h s (List.mem_cons_self ..))]
    unfold notifyAll
    rw [hsend, ih (fun s hs => h s (List.mem_cons_of_mem _ hs))]
    rfl

/-- `Put` of the successor instance, after the admission comparisons. -/
def putNext (cfg : Cfg) (m : Mem) (c : Cert) : Out Mem :=
  match tableStep m.latestTable c.delta with
  | .error _ => ⟨[], .error .applyDelta⟩
  | .ok t =>
    if c.commit ≠ Commit.known t then ⟨[], .error .cidMismatch⟩
    else if t = [] then ⟨[], .error .emptyTable⟩
    else match notifyAll m.subs c with
      | none => ⟨putWrites cfg.freq c t, .error .wouldBlock⟩
      | some subs => ⟨putWrites cfg.freq c t, .ok { m with latest := some c, latestTable := t, subs := subs }⟩

theorem put_eq (cfg : Cfg) (m : Mem) (c : Cert) :
    put cfg m c =
      if c.inst < m.first then ⟨[], .error .beforeFirst⟩
      else if c.chain = .zero then ⟨[], .error .bottom⟩
      else if c.chain = .invalid then ⟨[], .error .invalidChain⟩
      else if c.inst > m.next then ⟨[], .error .gap⟩
      else if c.inst < m.next then ⟨[], .ok m⟩
      else putNext cfg m c := rfl

variable {freq : Nat} {ds : DS} {sp : Spec}

theorem put_of_next (cfg : Cfg) {m : Mem} (hm : MemOk m sp) (hf : sp.Facts) {c : Cert}
    (hinst : c.inst = sp.next) (hchain : c.chain = .ok) : put cfg m c = putNext cfg m c := by
  have hnext : m.next = sp.next := mem_next_eq hm.first hm.latest hf
  rw [put_eq, if_neg (by rw [hinst, hm.first]; unfold Spec.next; omega), if_neg (by rw [hchain]; decide),
    if_neg (by rw [hchain]; decide), if_neg (by omega), if_neg (by omega)]

theorem put_admitted (cfg : Cfg) {m : Mem} (hm : MemOk m sp) (hf : sp.Facts) (hs : SubsOk m) {c : Cert}
    (hadm : sp.admits c = true) :
    ∃ t', (sp.push c).tbl (sp.certs.length + 1) = some t' ∧ t' ≠ [] ∧
      put cfg m c = ⟨putWrites cfg.freq c t',
        .ok { m with latest := some c, latestTable := t', subs := m.subs.map (fun s => (s.1, [c])) }⟩ := by
  obtain ⟨hinst, hchain, t, t', hfold, hstep, hcm, hne⟩ := (Spec.admits_iff sp c).1 hadm
  refine ⟨t', Spec.tbl_push_last sp c hfold hstep, hne, ?_⟩
  have hlt : m.latestTable = t := by
    have := hm.table; rw [Spec.tbl_len, hfold] at this; exact Option.some.inj this
  rw [put_of_next cfg hm hf hinst hchain, putNext, hlt, hstep]
  simp only [hcm, ne_eq, not_true_eq_false, hne, if_false, notifyAll_ok m.subs c hs]

theorem put_stale (cfg : Cfg) {m : Mem} (hm : MemOk m sp) (hf : sp.Facts) {c : Cert}
    (h1 : sp.first ≤ c.inst) (h2 : c.inst < sp.next) (h3 : c.chain = .ok) :
    put cfg m c = ⟨[], .ok m⟩ := by
  have hnext : m.next = sp.next := mem_next_eq hm.first hm.latest hf
  rw [put_eq, if_neg (by rw [hm.first]; omega), if_neg (by rw [h3]; decide), if_neg (by rw [h3]; decide),
    if_neg (by omega), if_pos (by omega)]

theorem put_rejected (cfg : Cfg) {m : Mem} (hm : MemOk m sp) (hf : sp.Facts) {c : Cert}
    (hadm : sp.admits c = false) (hstale : ¬ (sp.first ≤ c.inst ∧ c.inst < sp.next ∧ c.chain = .ok)) :
    ∃ e, put cfg m c = ⟨[], .error e⟩ ∧ e ≠ .wouldBlock := by
  have hnext : m.next = sp.next := mem_next_eq hm.first hm.latest hf
  rw [put_eq]
  split; · exact ⟨_, rfl, by decide⟩
  split; · exact ⟨_, rfl, by decide⟩
  split; · exact ⟨_, rfl, by decide⟩
  split; · exact ⟨_, rfl, by decide⟩
  have hok : c.chain = .ok := by cases hc : c.chain <;> simp_all
  split
  · exact absurd ⟨by rw [← hm.first]; omega, by omega, hok⟩ hstale
  · -- the successor: only a failing delta, commitment or empty table is left
    obtain ⟨T, hT, _⟩ := hf.tbls sp.certs.length (Nat.le_refl _)
    have hlt : m.latestTable = T := by
      have := hm.table; rw [hT] at this; exact Option.some.inj this
    rw [putNext, hlt]
    cases hstep : tableStep T c.delta with
    | error e => exact ⟨_, rfl, by decide⟩
    | ok t' =>
      dsimp only
      split; · exact ⟨_, rfl, by decide⟩
      split; · exact ⟨_, rfl, by decide⟩
      have : sp.admits c = true :=
        (Spec.admits_iff sp c).2 ⟨by omega, hok, T, t', by rw [← Spec.tbl_len]; exact hT, hstep, by simp_all, by assumption⟩
      rw [this] at hadm; cases hadm

/-- The three outcomes of `Put` on a represented store: the admitted successor is written, a stale re-put and a
rejected certificate write nothing. -/
theorem put_cases (cfg : Cfg) {m : Mem} (hm : MemOk m sp) (hf : sp.Facts) (hs : SubsOk m) (c : Cert) :
    (sp.admits c = true ∧ ∃ t', (sp.push c).tbl (sp.certs.length + 1) = some t' ∧ t' ≠ [] ∧
      put cfg m c = ⟨putWrites cfg.freq c t',
        .ok { m with latest := some c, latestTable := t', subs := m.subs.map (fun s => (s.1, [c])) }⟩) ∨
    (sp.admits c = false ∧ (put cfg m c = ⟨[], .ok m⟩ ∨ ∃ e, put cfg m c = ⟨[], .error e⟩ ∧ e ≠ .wouldBlock)) := by
  by_cases hadm : sp.admits c = true
  · exact Or.inl ⟨hadm, put_admitted cfg hm hf hs hadm⟩
  · have hadm' : sp.admits c = false := by simpa using hadm
    by_cases hst : sp.first ≤ c.inst ∧ c.inst < sp.next ∧ c.chain = .ok
    · exact Or.inr ⟨hadm', Or.inl (put_stale cfg hm hf hst.1 hst.2.1 hst.2.2)⟩
    · exact Or.inr ⟨hadm', Or.inr (put_rejected cfg hm hf hadm' hst)⟩

theorem stageWrites_keys (freq : Nat) (c : Cert) (t : Table) :
    ∀ w ∈ stageWrites freq c t, w.key = .cert c.inst ∨ w.key = .power (c.inst + 1) := by
  intro w hw
  rcases List.mem_append.1 hw with h | h
  · rw [List.mem_singleton.1 h]; exact Or.inl rfl
  · split at h
    · rw [List.mem_singleton.1 h]; exact Or.inr rfl
    · cases h

theorem relevant_ne_next {k : Key} (h : Relevant sp k ∨ k = .latest) :
    k ≠ .cert (sp.first + sp.certs.length) ∧ k ≠ .power (sp.first + sp.certs.length + 1) := by
  rcases h with (rfl | rfl | rfl | rfl | ⟨j, hj, rfl⟩ | ⟨j, hj1, hj2, rfl⟩) | rfl <;> simp <;> omega

/-- Writes to the next certificate slot and the next checkpoint slot leave every key the history
constrains as it was. -/
theorem dsGet_stage_other (ds : DS) {c : Cert} (hinst : c.inst = sp.next) {ws : List W}
    (hws : ∀ w ∈ ws, w.key = .cert c.inst ∨ w.key = .power (c.inst + 1)) {k : Key}
    (hrel : Relevant sp k ∨ k = .latest) :
    dsGet (applyWs ds ws) k = dsGet ds k := by
  refine dsGet_applyWs_other ds _ fun w hw => ?_
  rcases hws w hw with e | e <;> rw [e, hinst]
  · exact (relevant_ne_next hrel).1
  · exact (relevant_ne_next hrel).2

theorem dsGet_stageWrites (ds : DS) (freq : Nat) (c : Cert) (t : Table) :
    dsGet (applyWs ds (stageWrites freq c t)) (.cert c.inst) = some (.cert c) ∧
    ((c.inst + 1) % freq = 0 → dsGet (applyWs ds (stageWrites freq c t)) (.power (c.inst + 1)) = some (.tbl t)) := by
  unfold stageWrites
  by_cases hmod : (c.inst + 1) % freq = 0 <;>
    simp [hmod, applyW, dsGet_dsPut]

theorem staged_put (h : Staged freq ds sp) {c : Cert} (hadm : sp.admits c = true) {t' : Table}
    (ht' : (sp.push c).tbl (sp.certs.length + 1) = some t') (hsmall : sp.certs.length + 1 < maxInt) :
    Staged freq (applyWs ds (stageWrites freq c t')) (sp.push c) := by
  obtain ⟨hinst, _, _⟩ := (Spec.admits_iff sp c).1 hadm
  have hlen := Spec.push_length sp c
  -- the old history's keys are untouched; the two new slots hold `c` and `t'`
  have h' := h.congr fun _ hrel => dsGet_stage_other ds hinst (stageWrites_keys freq c t') (Or.inl hrel)
  obtain ⟨hcert, hpow⟩ := dsGet_stageWrites ds freq c t'
  unfold Spec.next at hinst
  refine ⟨h'.noTomb, h'.noRootTomb, h'.first, h'.init, ?_, ?_, h.facts.push hadm, h.canon, by rw [hlen]; exact hsmall⟩
  · intro k hk
    rw [hlen] at hk
    by_cases hlt : k < sp.certs.length
    · simp only [Spec.push_certs, Spec.push_first, List.getElem_append_left hlt]
      exact h'.certs k hlt
    · have : k = sp.certs.length := by omega
      subst this
      simpa [Spec.push_certs, Spec.push_first, ← hinst] using hcert
  · intro k hk1 hk2 hk3
    rw [hlen] at hk2
    rw [Spec.push_first] at hk3 ⊢
    by_cases hle : k ≤ sp.certs.length
    · obtain ⟨t, ht1, ht2⟩ := h'.ckpt k hk1 hle hk3
      exact ⟨t, by rw [Spec.tbl_push_le sp c hle]; exact ht1, ht2⟩
    · have : k = sp.certs.length + 1 := by omega
      subst this
      rw [← Nat.add_assoc, ← hinst] at hk3 ⊢
      exact ⟨t', ht', hpow hk3⟩

theorem staged_put_latest (h : Staged freq ds sp) (v : Val) : Staged freq (dsPut ds .latest v) sp :=
  h.congr fun k hrel => dsGet_dsPut_other ds v (by
    rcases hrel with rfl | rfl | rfl | rfl | ⟨j, hj, rfl⟩ | ⟨j, hj1, hj2, rfl⟩ <;> simp)

theorem repr_put (h : Repr freq ds sp) {c : Cert} (hadm : sp.admits c = true) {t' : Table}
    (ht' : (sp.push c).tbl (sp.certs.length + 1) = some t') (hsmall : sp.certs.length + 1 < maxInt) :
    Repr freq (applyWs ds (putWrites freq c t')) (sp.push c) := by
  rw [putWrites, applyWs_append]
  refine (staged_put_latest (staged_put h.staged hadm ht' hsmall) _).repr ?_
  rw [dsGet_dsPut_same]
  simp [Spec.latest, Spec.push_certs]

/-- `Put`: the old history at every crash point, `sp.put c` at the end; the latest pointer is the commit point. -/
theorem put_crash {cfg : Cfg} (hr : Repr cfg.freq ds sp) {m : Mem} (hm : MemOk m sp) (hs : SubsOk m)
    (hsmall : sp.certs.length + 1 < maxInt) (c : Cert) :
    Crash (Repr cfg.freq · sp) (Repr cfg.freq · (sp.put c)) ds (put cfg m c).ws := by
  rcases put_cases cfg hm hr.facts hs c with ⟨hadm, t', ht', _, hput⟩ | ⟨hadm, hput⟩
  · obtain ⟨hinst, _⟩ := (Spec.admits_iff sp c).1 hadm
    rw [hput, Spec.put, if_pos hadm]
    refine Crash.commit (fun x hx d hd => hd.applyW fun hrel => ?_) hr (repr_put hr hadm ht' hsmall)
    have := relevant_ne_next hrel
    rcases stageWrites_keys _ c t' x hx with e | e <;> rw [e, hinst] at this
    · exact this.1 rfl
    · exact this.2 rfl
  · have hws : (put cfg m c).ws = [] := by
      rcases hput with hput | ⟨e, hput, _⟩ <;> rw [hput]
    rw [hws, Spec.put, if_neg (by simp [hadm])]
    exact Crash.nil hr

variable {m : Mem}

theorem memOk_after_put (hm : MemOk m sp) {c : Cert} {t' : Table}
    (ht' : (sp.push c).tbl (sp.certs.length + 1) = some t') (subs : List (Nat × List Cert)) :
    MemOk { m with latest := some c, latestTable := t', subs := subs } (sp.push c) := by
  refine ⟨hm.first, ?_, ?_⟩
  · simp [Spec.latest, Spec.push_certs]
  · rw [Spec.push_length]; exact ht'.symm

theorem put_refines' (cfg : Cfg) {ds : DS} {sp : Spec} {m : Mem} (hr : Repr cfg.freq ds sp) (hm : MemOk m sp) (hs : SubsOk m)
    (hsmall : sp.certs.length + 1 < maxInt) (c : Cert) :
    Repr cfg.freq (applyWs ds (put cfg m c).ws) (sp.put c) ∧
    (match (put cfg m c).res with
     | .ok m' => MemOk m' (sp.put c) ∧ SubsOk m'
     | .error _ => sp.put c = sp) := by
  rcases put_cases cfg hm hr.facts hs c with ⟨hadm, t', ht', _, hput⟩ | ⟨hadm, hput⟩
  · rw [hput, Spec.put, if_pos hadm]
    refine ⟨repr_put hr hadm ht' hsmall, memOk_after_put hm ht' _, ?_⟩
    intro s hs'
    simp only [List.mem_map] at hs'
    obtain ⟨s0, _, rfl⟩ := hs'
    simp
  · rw [Spec.put, if_neg (by simp [hadm])]
    rcases hput with hput | ⟨e, hput, _⟩ <;> rw [hput]
    · exact ⟨hr, hm, hs⟩
    · exact ⟨hr, rfl⟩

end F3.Store
