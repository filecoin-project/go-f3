import F3.Proofs.RoundNetTally
import F3.Proofs.SyncNode
import F3.Proofs.RoundNetDefs
/-!
# One honest node in a round `r ≥ 1` whose best ticket's value is admissible everywhere (node level of `round_r_decides`)

The architecture is that of `F3/Proofs/SyncNode.lean` (round 0, unanimous input), with CONVERGE in the place of QUALITY:
`RInv` is the phase-independent shape of a member's state when every *relevant* message it has been handed since the
start of round `r` is a CONVERGE of round `r` of a member `q` (value `val q`, ticket `rk q`, justification `jst q`) or a
PREPARE / COMMIT of round `r` / DECIDE for `v = val w`, `w` the strictly best ticket holder; `PIR` the phase-dependent
part ("had the node held a strong quorum it would have moved on", and in CONVERGE: `v` is still admissible); `GoodR`
what every API call then guarantees; `TransR` the phase changes and what they put on the wire.
-/
namespace F3.Liveness
open F3.Instance F3.Net F3.NetRanked F3.Sync

/-- the standing data and hypotheses of round `r` -/
structure RCtx where
  rankOf : Pid → Nat → Nat
  t : Table
  H : List Pid
  r : Nat
  b : Nat
  val : Pid → Chain
  jst : Pid → Just
  w : Pid
  rpos : 1 ≤ r
  tpos : 0 < t.total
  nodup : H.Nodup
  inTbl : ∀ x ∈ H, ∃ i, t.index? x = some i
  strong : strongQ t (sumP t H) = true
  wH : w ∈ H
  best : ∀ q ∈ H, q = w ∨ rankOf w r < rankOf q r
  base : ∀ q ∈ H, (val q).head? = some b

namespace RCtx
/-- the value of the best ticket holder -/
def v (g : RCtx) : Chain := g.val g.w
def rk (g : RCtx) (q : Pid) : Nat := g.rankOf q g.r

theorem val_ne (g : RCtx) {q : Pid} (hq : q ∈ g.H) : g.val q ≠ [] := by
  intro h
  have := g.base q hq
  rw [h] at this
  cases this

theorem vne (g : RCtx) : g.v ≠ [] := g.val_ne g.wH
theorem vbase (g : RCtx) : g.v.head? = some g.b := g.base g.w g.wH
theorem ctx (g : RCtx) : Ctx g.t g.v g.H := ⟨g.vne, g.nodup, g.inTbl, g.strong⟩
theorem Hne (g : RCtx) : g.H ≠ [] := List.ne_nil_of_mem g.wH
end RCtx

/-- CONVERGE(r) of a member with its own value, ticket and justification; PREPARE(r) / COMMIT(r) / DECIDE for `v` -/
def ShapeR (g : RCtx) (m : Msg) : Prop :=
  m.suppOk = true ∧ m.instOk = true ∧ m.sender ∈ g.H ∧
  match m.phase with
  | .converge => m.round = g.r ∧ m.value = g.val m.sender ∧ m.rank = g.rk m.sender ∧ m.just = some (g.jst m.sender)
  | .prepare => m.round = g.r ∧ m.value = g.v
  | .commit => m.round = g.r ∧ m.value = g.v ∧ ∃ j, m.just = some j
  | .decide => m.round = 0 ∧ m.value = g.v
  | _ => False

def mkR (g : RCtx) (p : Pid) (rd : Nat) (ph : Phase) (j : Option Just) : Msg :=
  { sender := p, round := rd, phase := ph, value := g.v, rank := 0, just := j }

/-- what a single API call does to the phase, and what it puts on the wire -/
inductive TransR (g : RCtx) (p : Pid) : Phase → Phase → List Msg → Prop
  | same (a : Phase) : TransR g p a a []
  | c2p (j : Just) : TransR g p .converge .prepare [mkR g p g.r .prepare (some j)]
  | p2c (j : Just) : TransR g p .prepare .commit [mkR g p g.r .commit (some j)]
  | x2d (a b : Phase) (ha : a = .converge ∨ a = .prepare ∨ a = .commit) (hb : b = .decide ∨ b = .terminated)
      (j : Option Just) : TransR g p a b [mkR g p 0 .decide j]
  | d2t : TransR g p .decide .terminated []

theorem sentR_append (rankOf : Pid → Nat → Nat) (p : Pid) (a b : List Eff) :
    sentR rankOf p (a ++ b) = sentR rankOf p a ++ sentR rankOf p b := by
  unfold sentR; simp

theorem sentR_of_evs_nil (rankOf : Pid → Nat → Nat) (p : Pid) (es : List Eff) (h : evs es = []) :
    sentR rankOf p es = [] := by
  rw [evs, List.filterMap_eq_nil_iff] at h
  rw [sentR, List.filterMap_eq_nil_iff]
  intro e he
  have := h e he
  cases e <;> first | rfl | cases this

def sendersR (g : RCtx) (s : State) : Phase → List Pid
  | .converge => (s.getRound g.r).converged.senders
  | .prepare => (s.getRound g.r).prepared.senders
  | .commit => (s.getRound g.r).committed.senders
  | .decide => s.decision.senders
  | _ => []

theorem sendersR_core (g : RCtx) {s s' : State} (h : Core s s') (ph : Phase) : sendersR g s' ph = sendersR g s ph := by
  obtain ⟨_, _, _, _, _, hd, _⟩ := h.fields
  cases ph <;> simp only [sendersR, h.getRound, hd]

/-- phase-independent shape of the state -/
structure RInv (g : RCtx) (s : State) : Prop where
  tbl : s.tbl = g.t
  base : s.input.head? = some g.b
  round : s.round = g.r
  next : s.getRound (g.r + 1) = {}
  conv : ConvOK g.val g.rk (s.getRound g.r).converged
  convSub : ∀ x ∈ (s.getRound g.r).converged.senders, x ∈ g.H
  convJust : ∀ cv ∈ (s.getRound g.r).converged.values, ∃ q ∈ g.H, cv.chain = g.val q ∧ cv.just = g.jst q
  prep : UTally g.t g.v g.H (s.getRound g.r).prepared
  comm : UTally g.t g.v g.H (s.getRound g.r).committed
  dec : UTally g.t g.v g.H s.decision
  term : ∀ d, s.termination = some d → d.value = g.v

theorem RInv.core {g : RCtx} {s s' : State} (h : RInv g s) (hc : Core s s') : RInv g s' := by
  obtain ⟨h1, h2, h3, _, _, h6, h7⟩ := hc.fields
  have hg := hc.getRound g.r
  have hn := hc.getRound (g.r + 1)
  exact ⟨h1 ▸ h.tbl, h2 ▸ h.base, h3 ▸ h.round, hn ▸ h.next, hg ▸ h.conv, hg ▸ h.convSub, hg ▸ h.convJust,
    hg ▸ h.prep, hg ▸ h.comm, h6 ▸ h.dec, h7 ▸ h.term⟩

/-! the phase-dependent facts: a node that holds a strong quorum has moved on -/
def B2 (g : RCtx) (p : Pid) (s : State) : Prop := p ∉ (s.getRound g.r).prepared.senders
def B2' (g : RCtx) (p : Pid) (s : State) : Prop :=
  p ∈ (s.getRound g.r).prepared.senders → (s.getRound g.r).prepared.hasStrongFor g.v = false
def B3 (g : RCtx) (s : State) : Prop := (s.getRound g.r).committed.hasStrongFor g.v = false
def B4 (s : State) : Prop := s.decision.senders = []
def B5 (g : RCtx) (s : State) : Prop := s.decision.hasStrongFor g.v = false
/-- `v` passes the filter of `tryConverge` under the justification of every member that sends it -/
def Adm (g : RCtx) (s : State) : Prop := ∀ q ∈ g.H, g.val q = g.v → admAt s g.v (g.jst q) = true

def PIR (g : RCtx) (p : Pid) (s : State) : Phase → Prop
  | .converge => B2 g p s ∧ B3 g s ∧ B4 s ∧ Adm g s
  | .prepare => s.proposal = g.v ∧ B2' g p s ∧ B3 g s ∧ B4 s
  | .commit => B3 g s ∧ B4 s
  | .decide => B5 g s
  | .terminated => ∃ d, s.termination = some d
  | _ => False

theorem B2.core {g : RCtx} {p : Pid} {s s' : State} (h : B2 g p s) (hc : Core s s') : B2 g p s' := by
  unfold B2; rw [hc.getRound]; exact h
theorem B2'.core {g : RCtx} {p : Pid} {s s' : State} (h : B2' g p s) (hc : Core s s') : B2' g p s' := by
  unfold B2'; rw [hc.getRound]; exact h
theorem B3.core {g : RCtx} {s s' : State} (h : B3 g s) (hc : Core s s') : B3 g s' := by
  unfold B3; rw [hc.getRound]; exact h
theorem B4.core {s s' : State} (h : B4 s) (hc : Core s s') : B4 s' := by
  unfold B4; rw [hc.fields.2.2.2.2.2.1]; exact h
theorem B5.core {g : RCtx} {s s' : State} (h : B5 g s) (hc : Core s s') : B5 g s' := by
  unfold B5; rw [hc.fields.2.2.2.2.2.1]; exact h

theorem Adm.of_eq {g : RCtx} {s s' : State} (h : Adm g s) (hcand : s'.candidates = s.candidates)
    (htbl : s'.tbl = s.tbl) (hround : s'.round = s.round) (hprev : s'.getRound (s.round - 1) = s.getRound (s.round - 1)) :
    Adm g s' := by
  intro q hq hv
  have := h q hq hv
  unfold admAt State.isCandidate at this ⊢
  rw [hcand, htbl, hround, hprev]
  exact this

theorem Adm.core {g : RCtx} {s s' : State} (h : Adm g s) (hc : Core s s') (hcand : s'.candidates = s.candidates) :
    Adm g s' :=
  h.of_eq hcand hc.fields.1 hc.fields.2.2.1 (hc.getRound _)

theorem PIR.working {g : RCtx} {p : Pid} {s : State} (h : PIR g p s s.phase) (hd : s.phase ≠ .decide)
    (ht : s.phase ≠ .terminated) : s.phase = .converge ∨ s.phase = .prepare ∨ s.phase = .commit := by
  cases hp : s.phase <;> rw [hp] at h
  · exact h.elim
  · exact h.elim
  · exact Or.inl rfl
  · exact Or.inr (Or.inl rfl)
  · exact Or.inr (Or.inr rfl)
  · exact absurd hp hd
  · exact absurd hp ht

/-- a call that leaves everything but timers / rebroadcast bookkeeping alone -/
theorem PIR.core_stay {g : RCtx} {p : Pid} {s s' : State} {ph : Phase} (h : PIR g p s ph) (hc : Core s s')
    (hcand : s'.candidates = s.candidates) (hprop : s'.proposal = s.proposal) : PIR g p s' ph := by
  cases ph
  · exact h
  · exact h
  · exact ⟨h.1.core hc, h.2.1.core hc, h.2.2.1.core hc, h.2.2.2.core hc hcand⟩
  · exact ⟨hprop ▸ h.1, h.2.1.core hc, h.2.2.1.core hc, h.2.2.2.core hc⟩
  · exact ⟨h.1.core hc, h.2.core hc⟩
  · exact B5.core h hc
  · obtain ⟨d, hd⟩ := h
    exact ⟨d, by rw [hc.fields.2.2.2.2.2.2]; exact hd⟩

/-- what one call of a model function guarantees -/
structure GoodR (g : RCtx) (p : Pid) (s : State) (r : R) : Prop where
  nofail : hasFailure r.2 = false
  inv : RInv g r.1
  pi : PIR g p r.1 r.1.phase
  mono : ∀ ph x, x ∈ sendersR g s ph → x ∈ sendersR g r.1 ph
  trans : TransR g p s.phase r.1.phase (sentR g.rankOf p r.2)

section
variable {g : RCtx}

theorem GoodR.of_core {p : Pid} {s s' : State} {es : List Eff} (hs : RInv g s) (hc : Core s s')
    (hpi : PIR g p s' s'.phase) (hnf : hasFailure es = false)
    (htr : TransR g p s.phase s'.phase (sentR g.rankOf p es)) : GoodR g p s (s', es) :=
  ⟨hnf, hs.core hc, hpi, fun ph x hx => by rw [sendersR_core g hc]; exact hx, htr⟩

theorem GoodR.pre {p : Pid} {s s1 : State} {r : R} (hph : s.phase = s1.phase)
    (hm : ∀ ph x, x ∈ sendersR g s ph → x ∈ sendersR g s1 ph) (gd : GoodR g p s1 r) : GoodR g p s r :=
  ⟨gd.nofail, gd.inv, gd.pi, fun ph x hx => gd.mono ph x (hm ph x hx), hph ▸ gd.trans⟩

theorem GoodR.stay {p : Pid} {s : State} (hs : RInv g s) (hpi : PIR g p s s.phase) : GoodR g p s (s, []) :=
  GoodR.of_core hs (Core.refl s) hpi rfl (TransR.same _)

theorem GoodR.reb {p : Pid} {s : State} (now : Int) (hs : RInv g s) (hpi : PIR g p s s.phase) :
    GoodR g p s (s.tryRebroadcast now) := by
  have hph := tryRebroadcast_phase s now
  refine GoodR.of_core (s' := (s.tryRebroadcast now).1) (es := (s.tryRebroadcast now).2) hs
    (tryRebroadcast_core s now) ?_ (tryRebroadcast_nofail s now) ?_
  · rw [hph]
    exact hpi.core_stay (tryRebroadcast_core s now) (tryRebroadcast_candidates s now) (tryRebroadcast_proposal s now)
  · rw [sentR_of_evs_nil _ p _ (tryRebroadcast_evs s now), hph]
    exact TransR.same _

theorem tryConverge_good {p : Pid} {s : State} (now : Int) (hs : RInv g s)
    (hph : s.phase = .converge) (hpi : PIR g p s .converge)
    (hsync : s.phaseTimeoutElapsed now = true → ∀ h ∈ g.H, h ∈ (s.getRound g.r).converged.senders) :
    GoodR g p s (s.tryConverge now) := by
  -- with the timer expired every CONVERGE is in, and the lowest admissible ticket is that of `w`
  have hfb : s.phaseTimeoutElapsed now = true →
      ∃ cvw, (s.getRound s.round).converged.findBest (admissible s) = some cvw ∧ cvw.chain = g.v := by
    intro hel
    have hw : g.w ∈ (s.getRound g.r).converged.senders := hsync hel g.w g.wH
    obtain ⟨cvw, hcvw, hch, _, hlow⟩ := hs.conv.best g.w hw (fun q hq => g.best q (hs.convSub q hq))
    have hadm : admissible s cvw = true := by
      obtain ⟨q, hq, h1, h2⟩ := hs.convJust cvw hcvw
      rw [admissible_eq, h2, hch]
      exact hpi.2.2.2 q hq (h1.symm.trans hch)
    refine ⟨cvw, ?_, hch⟩
    rw [hs.round]
    exact findBest_lowest _ _ cvw hcvw hadm (fun cv hcv => (hlow cv hcv).imp id Or.inr)
  refine tryConverge_ind s now (fun h => absurd hph h)
    (fun _ _ _ => GoodR.reb now hs (by rw [hph]; exact hpi)) (fun _ _ _ => GoodR.stay hs (by rw [hph]; exact hpi))
    (fun _ hel hn => ?_) (fun _ hel w hw _ cs _ => ?_)
  · obtain ⟨cvw, hb, hch⟩ := hfb hel
    exfalso
    rcases hn with hn | ⟨w, hw, he⟩
    · cases hb.symm.trans hn
    · rw [← Option.some.inj (hb.symm.trans hw), hch, isEmpty_false_of_ne g.vne] at he
      cases he
  · obtain ⟨cvw, hb, hch⟩ := hfb hel
    rw [Option.some.inj (hw.symm.trans hb), hch]
    show GoodR g p s (_, [_, _, Eff.broadcast s.round .prepare g.v false (some cvw.just)])
    refine GoodR.of_core hs (by core_rfl) ?_ rfl ?_
    · exact ⟨rfl, fun h => absurd h (hpi.1.core (by core_rfl)), hpi.2.1.core (by core_rfl), hpi.2.2.1.core (by core_rfl)⟩
    · show TransR g p s.phase .prepare (sentR g.rankOf p [_, _, Eff.broadcast s.round .prepare g.v false (some cvw.just)])
      rw [hph, hs.round]
      exact TransR.c2p _

theorem RInv.led {s : State} (hs : RInv g s) : Led g.v g.r s :=
  ⟨g.vne, hs.round, hs.next, by rw [hs.tbl]; exact hs.comm.led g.ctx, by rw [hs.tbl]; exact hs.dec.led g.ctx⟩

theorem commitJust_okR {s : State} (hs : RInv g s) (hprop : s.proposal = g.v) (hv : s.value = g.v)
    (h : (s.prepFoundQuorum || s.prepFoundJust) = true) : ∃ j, s.commitJust = .ok j := by
  obtain ⟨j, hj, _⟩ := commitJust_led hs.round hs.next hprop hv (fun hq => by rw [hs.tbl]; exact hs.prep.fsqf g.ctx hq) h
  exact ⟨j, hj⟩

theorem tryPrepare_goodR {p : Pid} {s : State} (now : Int) (hs : RInv g s)
    (hph : s.phase = .prepare) (hprop : s.proposal = g.v) (h3 : B3 g s) (h4 : B4 s) :
    GoodR g p s (s.tryPrepare now) := by
  have hnp : s.prepNotPossible = false := by
    unfold State.prepNotPossible
    rw [hs.round, hs.tbl, hprop, hs.prep.couldReach]; rfl
  have hfq : s.prepFoundQuorum = (s.getRound g.r).prepared.hasStrongFor g.v := by
    unfold State.prepFoundQuorum; rw [hs.round, hprop]
  by_cases hfound : (s.prepFoundQuorum || s.prepFoundJust) = true
  · have hcond : (s.prepFoundQuorum || s.prepFoundJust || s.prepNotPossible || s.prepComplete now) = true := by
      rw [hfound]; rfl
    rw [tryPrepare_go s now hph hcond, prepareValue_found s now hfound]
    have hs' : RInv g ({ s with value := s.proposal } : State) := hs.core (by core_rfl)
    obtain ⟨j, hj⟩ := commitJust_okR hs' hprop hprop hfound
    rw [beginCommit_eq _ now j (by show s.proposal.isEmpty = false; rw [hprop]; exact isEmpty_false_of_ne g.vne) hj]
    refine GoodR.of_core hs (by core_rfl) ⟨h3.core (by core_rfl), h4.core (by core_rfl)⟩ rfl ?_
    show TransR g p s.phase .commit (sentR g.rankOf p [_, _, Eff.broadcast s.round .commit s.proposal false (some j)])
    rw [hph, hs.round, hprop]
    exact TransR.p2c j
  · have hfound' : (s.prepFoundQuorum || s.prepFoundJust) = false := by simpa using hfound
    have hnq : (s.getRound g.r).prepared.hasStrongFor g.v = false := by
      rw [← hfq]
      cases hx : s.prepFoundQuorum
      · rfl
      · rw [hx] at hfound'; simp at hfound'
    have hpc : s.prepComplete now = false := by
      cases hx : s.prepComplete now
      · rfl
      · exfalso
        unfold State.prepComplete at hx
        simp only [Bool.and_eq_true] at hx
        have h2 := hx.2
        rw [hs.round, hs.tbl] at h2
        have := hs.prep.strong_of_fromStrong g.tpos h2
        rw [hnq] at this; cases this
    have hcond : (s.prepFoundQuorum || s.prepFoundJust || s.prepNotPossible || s.prepComplete now) = false := by
      rw [hfound', hnp, hpc]; rfl
    rw [tryPrepare_stay s now hph hcond]
    have hpi : PIR g p s s.phase := by rw [hph]; exact ⟨hprop, fun _ => hnq, h3, h4⟩
    split
    · exact GoodR.reb now hs hpi
    · exact GoodR.stay hs hpi

theorem B5_of_B4 {s : State} (hs : RInv g s) (h4 : B4 s) : B5 g s := by
  unfold B5
  rw [hs.dec.hasStrongFor]
  unfold B4 at h4
  simp [h4]

/-- `tryCommit` for round `r`, from CONVERGE, PREPARE or COMMIT; `hpi`: the rest of the phase invariant -/
theorem tryCommit_goodR {p : Pid} {s : State} (now : Int) (hs : RInv g s)
    (hph : s.phase = .converge ∨ s.phase = .prepare ∨ s.phase = .commit) (h4 : B4 s)
    (hpi : B3 g s → PIR g p s s.phase) :
    GoodR g p s (s.tryCommit now g.r) ∧
      ((s.tryCommit now g.r = (s, []) ∧ B3 g s) ∨ s.phase = .commit ∨ (s.tryCommit now g.r).1.phase = .decide) :=
  tryCommit_led (P := fun r => GoodR g p s r ∧ ((r = (s, []) ∧ B3 g s) ∨ s.phase = .commit ∨ r.1.phase = .decide))
    (RInv.led hs) now (fun _ _ hy => hs.comm.strong_of_fromStrong g.tpos (hs.tbl ▸ hy))
    (fun _ _ => ⟨GoodR.of_core hs (by core_rfl) ((B5_of_B4 hs h4).core (by core_rfl)) rfl
      (TransR.x2d _ _ hph (Or.inl rfl) _), Or.inr (Or.inr rfl)⟩)
    (fun hq => ⟨GoodR.stay hs (hpi hq), Or.inl ⟨rfl, hq⟩⟩)
    (fun hq hc => ⟨GoodR.reb now hs (hpi hq), Or.inr (Or.inl hc)⟩)

theorem tryDecide_goodR {p : Pid} {s : State} (now : Int) (hs : RInv g s)
    (hph : s.phase = .decide) : GoodR g p s (s.tryDecide now) := by
  refine tryDecide_led (RInv.led hs) now (fun sg _ => ?_) (fun hq => GoodR.reb now hs (by rw [hph]; exact hq))
  refine ⟨rfl, ⟨hs.tbl, hs.base, hs.round, hs.next, hs.conv, hs.convSub, hs.convJust, hs.prep, hs.comm, hs.dec, ?_⟩,
    ⟨_, rfl⟩, fun _ _ hx => hx, ?_⟩
  · intro d hd
    cases hd
    rfl
  · show TransR g p s.phase .terminated []
    rw [hph]; exact TransR.d2t

/-- what `tryCurrentPhase` needs of the phase invariant (the rest it re-establishes itself) -/
def WPIR (g : RCtx) (p : Pid) (s : State) : Phase → Prop
  | .converge => B2 g p s ∧ B3 g s ∧ B4 s ∧ Adm g s
  | .prepare => s.proposal = g.v ∧ B3 g s ∧ B4 s
  | .commit => B4 s
  | .decide => True
  | .terminated => ∃ d, s.termination = some d
  | _ => False

theorem PIR.weak {p : Pid} {s : State} {ph : Phase} (h : PIR g p s ph) : WPIR g p s ph := by
  cases ph
  · exact h
  · exact h
  · exact h
  · exact ⟨h.1, h.2.2⟩
  · exact h.2
  · trivial
  · exact h

def SyncedR (g : RCtx) (s : State) (now : Int) : Prop :=
  s.phase = .converge → s.phaseTimeoutElapsed now = true → ∀ h ∈ g.H, h ∈ sendersR g s .converge

theorem tryCurrentPhase_goodR {p : Pid} {s : State} (now : Int) (hs : RInv g s)
    (hw : WPIR g p s s.phase) (hsync : SyncedR g s now) : GoodR g p s (s.tryCurrentPhase now) := by
  unfold SyncedR at hsync
  unfold State.tryCurrentPhase
  cases hph : s.phase <;> rw [hph] at hw <;> dsimp only
  · exact hw.elim
  · exact hw.elim
  · exact tryConverge_good now hs hph hw (hsync hph)
  · exact tryPrepare_goodR now hs hph hw.1 hw.2.1 hw.2.2
  · rw [hs.round]
    exact (tryCommit_goodR now hs (Or.inr (Or.inr hph)) hw (fun h3 => by rw [hph]; exact ⟨h3, hw⟩)).1
  · exact tryDecide_goodR now hs hph
  · exact GoodR.stay hs (by rw [hph]; exact hw)

theorem ShapeR.conv {m : Msg} (hm : ShapeR g m) (hp : m.phase = .converge) :
    m.round = g.r ∧ m.value = g.val m.sender ∧ m.rank = g.rk m.sender ∧ m.just = some (g.jst m.sender) := by
  have h := hm.2.2.2; rw [hp] at h; exact h
theorem ShapeR.prep {m : Msg} (hm : ShapeR g m) (hp : m.phase = .prepare) : m.round = g.r ∧ m.value = g.v := by
  have h := hm.2.2.2; rw [hp] at h; exact h
theorem ShapeR.comm {m : Msg} (hm : ShapeR g m) (hp : m.phase = .commit) :
    m.round = g.r ∧ m.value = g.v ∧ ∃ j, m.just = some j := by
  have h := hm.2.2.2; rw [hp] at h; exact h
theorem ShapeR.dec {m : Msg} (hm : ShapeR g m) (hp : m.phase = .decide) : m.round = 0 ∧ m.value = g.v := by
  have h := hm.2.2.2; rw [hp] at h; exact h
theorem ShapeR.phases {m : Msg} (hm : ShapeR g m) :
    m.phase = .converge ∨ m.phase = .prepare ∨ m.phase = .commit ∨ m.phase = .decide := by
  have h := hm.2.2.2
  cases hp : m.phase <;> rw [hp] at h <;> simp_all

theorem conv_receive_senders_sub (c : Conv) (q : Pid) (v : Chain) (rk : Nat) (j : Just) :
    ∀ x ∈ (c.receive q v rk j).senders, x ∈ c.senders ∨ x = q := by
  intro x hx
  unfold Conv.receive at hx
  split at hx
  · exact Or.inl hx
  · dsimp only at hx
    split at hx
    · have hx' : x ∈ c.senders ++ [q] := hx
      simpa using hx'
    · have hx' : x ∈ c.senders ++ [q] := hx
      simpa using hx'

theorem conv_receive_values (c : Conv) (q : Pid) (v : Chain) (rk : Nat) (j : Just) :
    ∀ cv ∈ (c.receive q v rk j).values,
      (∃ cv0 ∈ c.values, cv.chain = cv0.chain ∧ cv.just = cv0.just) ∨ (cv.chain = v ∧ cv.just = j) := by
  intro cv hcv
  unfold Conv.receive at hcv
  split at hcv
  · exact Or.inl ⟨cv, hcv, rfl, rfl⟩
  · dsimp only at hcv
    split at hcv
    · have hcv' : cv ∈ updRank c.values v rk := hcv
      unfold updRank at hcv'
      obtain ⟨cv0, hcv0, rfl⟩ := List.mem_map.1 hcv'
      left
      refine ⟨cv0, hcv0, ?_⟩
      split <;> exact ⟨rfl, rfl⟩
    · have hcv' : cv ∈ c.values ++ [{ chain := v, just := j, rank := some rk }] := hcv
      rcases List.mem_append.1 hcv' with h | h
      · exact Or.inl ⟨cv, h, rfl, rfl⟩
      · simp only [List.mem_singleton] at h
        subst h
        exact Or.inr ⟨rfl, rfl⟩

theorem UTally.receiveJust {t : Table} {c : Chain} {H : List Pid} {T : Tally} (h : UTally t c H T) (k : Chain) (j : Just) :
    UTally t c H (T.receiveJust k j) := by
  unfold Tally.receiveJust
  split
  · exact h
  · exact ⟨h.nodup, h.sub, h.pow, h.sup⟩

theorem storePrepareJust_facts {t : Table} {c : Chain} {H : List Pid} {T : Tally} (h : UTally t c H T) (m : Msg) :
    UTally t c H (storePrepareJust T m) ∧ (storePrepareJust T m).senders = T.senders ∧
    (storePrepareJust T m).hasStrongFor c = T.hasStrongFor c := by
  unfold storePrepareJust
  split
  · exact ⟨h.receiveJust _ _, receiveJust_senders _ _ _, receiveJust_hasStrongFor _ _ _ _⟩
  · exact ⟨h, rfl, rfl⟩

theorem storeCommitJust_facts {t : Table} {c : Chain} {H : List Pid} {T : Tally} (h : UTally t c H T) (m : Msg) :
    UTally t c H (storeCommitJust T m) ∧ (storeCommitJust T m).senders = T.senders ∧
    (storeCommitJust T m).hasStrongFor c = T.hasStrongFor c := by
  unfold storeCommitJust
  split
  · split
    · exact ⟨h, rfl, rfl⟩
    · exact ⟨h.receiveJust _ _, receiveJust_senders _ _ _, receiveJust_hasStrongFor _ _ _ _⟩
  · exact ⟨h, rfl, rfl⟩

theorem RInv.setRound {s : State} (hs : RInv g s) (rs' : RoundState)
    (h1 : ConvOK g.val g.rk rs'.converged) (h2 : ∀ x ∈ rs'.converged.senders, x ∈ g.H)
    (h3 : ∀ cv ∈ rs'.converged.values, ∃ q ∈ g.H, cv.chain = g.val q ∧ cv.just = g.jst q)
    (h4 : UTally g.t g.v g.H rs'.prepared) (h5 : UTally g.t g.v g.H rs'.committed) :
    RInv g (s.setRound g.r rs') ∧ (s.setRound g.r rs').getRound g.r = rs' := by
  have hg : (s.setRound g.r rs').getRound g.r = rs' := by rw [getRound_setRound, if_pos rfl]
  have hn : (s.setRound g.r rs').getRound (g.r + 1) = {} := by
    rw [getRound_setRound, if_neg (by omega)]; exact hs.next
  exact ⟨⟨hs.tbl, hs.base, hs.round, hn, by rw [hg]; exact h1, by rw [hg]; exact h2, by rw [hg]; exact h3,
    by rw [hg]; exact h4, by rw [hg]; exact h5, hs.dec, hs.term⟩, hg⟩

theorem Adm.setRound {s : State} (h : Adm g s) (hs : RInv g s) (rs' : RoundState) : Adm g (s.setRound g.r rs') := by
  refine h.of_eq rfl rfl rfl ?_
  rw [getRound_setRound, if_neg]
  have := g.rpos
  rw [hs.round]
  omega

/-- the weak phase invariant of the state `s1` obtained by tallying a message in `s` -/
theorem WPIR.transfer {p : Pid} {s s1 : State} {ph : Phase} (h : PIR g p s ph)
    (h2 : ph = .converge → B2 g p s1) (h3 : B3 g s → B3 g s1) (h4 : B4 s → B4 s1) (hadm : Adm g s → Adm g s1)
    (hprop : s1.proposal = s.proposal) (hterm : s1.termination = s.termination) : WPIR g p s1 ph := by
  cases ph
  · exact h.elim
  · exact h.elim
  · exact ⟨h2 rfl, h3 h.2.1, h4 h.2.2.1, hadm h.2.2.2⟩
  · exact ⟨hprop ▸ h.1, h3 h.2.2.1, h4 h.2.2.2⟩
  · exact h4 h.2
  · trivial
  · obtain ⟨d, hd⟩ := h
    exact ⟨d, by rw [hterm]; exact hd⟩

/-- the message-dependent part of the synchrony hypothesis, before the message is tallied -/
def SyncedMR (g : RCtx) (s : State) (now : Int) (m : Msg) : Prop :=
  s.phase = .converge → s.phaseTimeoutElapsed now = true →
    ∀ h ∈ g.H, h ∈ sendersR g s .converge ∨ (m.phase = .converge ∧ m.sender = h)

theorem after_tallyR {p : Pid} {s s1 : State} (now : Int) (m : Msg)
    (hs1 : RInv g s1) (hph : s1.phase = s.phase) (hto : s1.phaseTimeout = s.phaseTimeout)
    (hmono : ∀ ph x, x ∈ sendersR g s ph → x ∈ sendersR g s1 ph) (hx : m.sender ∈ sendersR g s1 m.phase)
    (hw : WPIR g p s1 s1.phase) (hsync : SyncedMR g s now m) :
    GoodR g p s (s1.tryCurrentPhase now) ∧ m.sender ∈ sendersR g (s1.tryCurrentPhase now).1 m.phase := by
  have hsy : SyncedR g s1 now := by
    intro hc hel h hh
    rw [hph] at hc
    have hel' : s.phaseTimeoutElapsed now = true := by
      unfold State.phaseTimeoutElapsed at hel ⊢
      rw [← hto]; exact hel
    rcases hsync hc hel' h hh with h1 | ⟨h1, h2⟩
    · exact hmono _ _ h1
    · rw [← h2, ← h1]; exact hx
  have gd := tryCurrentPhase_goodR now hs1 hw hsy
  exact ⟨GoodR.pre hph.symm hmono gd, gd.mono _ _ hx⟩

theorem recvConverge_goodR {p : Pid} {s : State} (now : Int) (m : Msg)
    (hs : RInv g s) (hpi : PIR g p s s.phase) (hm : ShapeR g m) (hmp : m.phase = .converge)
    (hsync : SyncedMR g s now m) :
    GoodR g p s (s.recvConverge now m (g.jst m.sender)) ∧
      m.sender ∈ sendersR g (s.recvConverge now m (g.jst m.sender)).1 m.phase := by
  obtain ⟨hr, hv, hrk, _⟩ := hm.conv hmp
  obtain ⟨hok', hin, hsub⟩ := hs.conv.receive m.sender (g.jst m.sender)
  unfold State.recvConverge
  dsimp only
  rw [hr, hv, hrk]
  obtain ⟨hs1, hg1⟩ := hs.setRound
    { s.getRound g.r with converged := (s.getRound g.r).converged.receive m.sender (g.val m.sender) (g.rk m.sender) (g.jst m.sender) }
    hok'
    (fun x hx => by
      rcases conv_receive_senders_sub _ _ _ _ _ x hx with h | h
      · exact hs.convSub x h
      · exact h ▸ hm.2.2.1)
    (fun cv hcv => by
      rcases conv_receive_values _ _ _ _ _ cv hcv with ⟨cv0, h0, h1, h2⟩ | ⟨h1, h2⟩
      · obtain ⟨q, hq, h3, h4⟩ := hs.convJust cv0 h0
        exact ⟨q, hq, h1.trans h3, h2.trans h4⟩
      · exact ⟨m.sender, hm.2.2.1, h1, h2⟩)
    hs.prep hs.comm
  refine after_tallyR now m hs1 rfl rfl ?_ ?_ ?_ hsync
  · intro ph x hx
    cases ph
    case converge => show x ∈ (State.getRound _ g.r).converged.senders; rw [hg1]; exact hsub x hx
    case prepare => show x ∈ (State.getRound _ g.r).prepared.senders; rw [hg1]; exact hx
    case commit => show x ∈ (State.getRound _ g.r).committed.senders; rw [hg1]; exact hx
    all_goals exact hx
  · rw [hmp]; show m.sender ∈ (State.getRound _ g.r).converged.senders; rw [hg1]; exact hin
  · show WPIR g p _ s.phase
    refine WPIR.transfer hpi ?_ ?_ (fun h => h) (fun h => h.setRound hs _) rfl rfl
    · intro hc
      rw [hc] at hpi
      show p ∉ (State.getRound _ g.r).prepared.senders
      rw [hg1]; exact hpi.1
    · intro h3
      show (State.getRound _ g.r).committed.hasStrongFor g.v = false
      rw [hg1]; exact h3

theorem recvPrepare_goodR {p : Pid} {s : State} (now : Int) (m : Msg)
    (hs : RInv g s) (hpi : PIR g p s s.phase) (hm : ShapeR g m)
    (hmp : m.phase = .prepare) (hself : m.sender = p → s.phase ≠ .converge) (hsync : SyncedMR g s now m) :
    GoodR g p s (s.recvPrepare now m) ∧ m.sender ∈ sendersR g (s.recvPrepare now m).1 m.phase := by
  obtain ⟨hr, hv⟩ := hm.prep hmp
  obtain ⟨P', hrecv, hP', hxin, hsub, hsup, _⟩ := hs.prep.receive m.sender hm.2.2.1
  have e1 : (s.getRound g.r).prepared.receive s.tbl m.sender m.value = some P' := by
    rw [hs.tbl, hv]; exact hrecv
  obtain ⟨hP'', hsnd, _⟩ := storePrepareJust_facts hP' m
  unfold State.recvPrepare
  dsimp only
  rw [hr, e1]
  dsimp only
  obtain ⟨hs1, hg1⟩ := hs.setRound { s.getRound g.r with prepared := storePrepareJust P' m } hs.conv hs.convSub
    hs.convJust hP'' hs.comm
  refine after_tallyR now m hs1 rfl rfl ?_ ?_ ?_ hsync
  · intro ph x hx
    cases ph
    case converge => show x ∈ (State.getRound _ g.r).converged.senders; rw [hg1]; exact hx
    case prepare => show x ∈ (State.getRound _ g.r).prepared.senders; rw [hg1]; show x ∈ (storePrepareJust P' m).senders; rw [hsnd]; exact hsub x hx
    case commit => show x ∈ (State.getRound _ g.r).committed.senders; rw [hg1]; exact hx
    all_goals exact hx
  · rw [hmp]; show m.sender ∈ (State.getRound _ g.r).prepared.senders; rw [hg1]
    show m.sender ∈ (storePrepareJust P' m).senders; rw [hsnd]; exact hxin
  · show WPIR g p _ s.phase
    refine WPIR.transfer hpi ?_ ?_ (fun h => h) (fun h => h.setRound hs _) rfl rfl
    · intro hc
      rw [hc] at hpi
      show p ∉ (State.getRound _ g.r).prepared.senders
      rw [hg1]
      show p ∉ (storePrepareJust P' m).senders
      rw [hsnd]
      intro hin
      rcases hsup p hin with h | h
      · exact hpi.1 h
      · exact hself h.symm hc
    · intro h3
      show (State.getRound _ g.r).committed.hasStrongFor g.v = false
      rw [hg1]; exact h3

theorem TransR.from_commit {p : Pid} {b : Phase} {ms : List Msg} (h : TransR g p .commit b ms) :
    b = .commit ∨ b = .decide ∨ b = .terminated := by
  cases h with
  | same => exact Or.inl rfl
  | x2d _ _ _ hb _ => exact Or.inr hb

theorem TransR.from_decide {p : Pid} {b : Phase} {ms : List Msg} (h : TransR g p .decide b ms) :
    (b = .decide ∨ b = .terminated) ∧ ms = [] := by
  cases h with
  | same => exact ⟨Or.inl rfl, rfl⟩
  | x2d _ _ ha _ _ => rcases ha with ha | ha | ha <;> cases ha
  | d2t => exact ⟨Or.inr rfl, rfl⟩

theorem recvCommit_goodR {p : Pid} {s : State} (now : Int) (m : Msg)
    (hs : RInv g s) (hpi : PIR g p s s.phase) (hnt : s.phase ≠ .terminated)
    (hm : ShapeR g m) (hmp : m.phase = .commit) (hsync : SyncedMR g s now m) :
    GoodR g p s (s.recvCommit now m) ∧ m.sender ∈ sendersR g (s.recvCommit now m).1 m.phase := by
  obtain ⟨hr, hv, j, hj⟩ := hm.comm hmp
  obtain ⟨C', hrecv, hC', hxin, hsub, hsup, _⟩ := hs.comm.receive m.sender hm.2.2.1
  have e1 : (s.getRound g.r).committed.receive s.tbl m.sender m.value = some C' := by
    rw [hs.tbl, hv]; exact hrecv
  have hve : m.value.isEmpty = false := by rw [hv]; exact isEmpty_false_of_ne g.vne
  obtain ⟨hC'', hsnd, _⟩ := storeCommitJust_facts hC' m
  unfold State.recvCommit
  dsimp only
  rw [hr, e1]
  dsimp only
  rw [if_neg (by simp [hj])]
  obtain ⟨hs1, hg1⟩ := hs.setRound { s.getRound g.r with committed := storeCommitJust C' m } hs.conv hs.convSub
    hs.convJust hs.prep hC''
  have hph1 : (s.setRound g.r { s.getRound g.r with committed := storeCommitJust C' m }).phase = s.phase := rfl
  have hto1 : (s.setRound g.r { s.getRound g.r with committed := storeCommitJust C' m }).phaseTimeout = s.phaseTimeout := rfl
  have hdec1 : (s.setRound g.r { s.getRound g.r with committed := storeCommitJust C' m }).decision = s.decision := rfl
  have hprop1 : (s.setRound g.r { s.getRound g.r with committed := storeCommitJust C' m }).proposal = s.proposal := rfl
  have hterm1 : (s.setRound g.r { s.getRound g.r with committed := storeCommitJust C' m }).termination = s.termination := rfl
  have hadm1 : Adm g s → Adm g (s.setRound g.r { s.getRound g.r with committed := storeCommitJust C' m }) :=
    fun h => h.setRound hs _
  generalize s.setRound g.r { s.getRound g.r with committed := storeCommitJust C' m } = s1 at *
  have hP1 : (s1.getRound g.r).prepared = (s.getRound g.r).prepared := by rw [hg1]
  have hV1 : (s1.getRound g.r).converged = (s.getRound g.r).converged := by rw [hg1]
  have hC1 : (s1.getRound g.r).committed.senders = C'.senders := by rw [hg1]; exact hsnd
  have hmono : ∀ ph x, x ∈ sendersR g s ph → x ∈ sendersR g s1 ph := by
    intro ph x hx
    cases ph
    case converge => show x ∈ (s1.getRound g.r).converged.senders; rw [hV1]; exact hx
    case prepare => show x ∈ (s1.getRound g.r).prepared.senders; rw [hP1]; exact hx
    case commit => show x ∈ (s1.getRound g.r).committed.senders; rw [hC1]; exact hsub x hx
    case decide => show x ∈ s1.decision.senders; rw [hdec1]; exact hx
    all_goals exact hx
  have hx1 : m.sender ∈ sendersR g s1 m.phase := by
    rw [hmp]; show m.sender ∈ (s1.getRound g.r).committed.senders; rw [hC1]; exact hxin
  by_cases hd : s.phase = .decide
  · rw [if_neg (by simp [hph1, hd])]
    refine after_tallyR now m hs1 hph1 hto1 hmono hx1 ?_ hsync
    rw [hph1, hd]; trivial
  · rw [if_pos (by simp [hph1, hd])]
    have hph' : s1.phase = .converge ∨ s1.phase = .prepare ∨ s1.phase = .commit := by
      rw [hph1]
      exact hpi.working hd hnt
    have h4 : B4 s1 := by
      show s1.decision.senders = []
      rw [hdec1]
      cases hp : s.phase <;> rw [hp] at hpi
      · exact hpi.elim
      · exact hpi.elim
      · exact hpi.2.2.1
      · exact hpi.2.2.2
      · exact hpi.2
      · exact absurd hp hd
      · exact absurd hp hnt
    have hpi' : B3 g s1 → PIR g p s1 s1.phase := by
      intro h3
      rw [hph1]
      cases hp : s.phase <;> rw [hp] at hpi
      · exact hpi.elim
      · exact hpi.elim
      · refine ⟨?_, h3, h4, hadm1 hpi.2.2.2⟩
        show p ∉ (s1.getRound g.r).prepared.senders
        rw [hP1]; exact hpi.1
      · refine ⟨hprop1 ▸ hpi.1, ?_, h3, h4⟩
        show p ∈ (s1.getRound g.r).prepared.senders → (s1.getRound g.r).prepared.hasStrongFor g.v = false
        rw [hP1]; exact hpi.2.1
      · exact ⟨h3, h4⟩
      · exact absurd hp hd
      · exact absurd hp hnt
    obtain ⟨gd, hcase⟩ := tryCommit_goodR now hs1 hph' h4 hpi'
    rcases hcase with ⟨heq, h3⟩ | hc | hdc
    · rw [heq]
      dsimp only
      by_cases hp : s.phase = .prepare
      · rw [if_pos (by simp [hph1, hp, hs1.round, hve])]
        rw [andThen_nil]
        refine after_tallyR now m hs1 hph1 hto1 hmono hx1 ?_ hsync
        have := hpi' h3
        rw [hph1, hp] at this ⊢
        exact ⟨this.1, h3, h4⟩
      · rw [if_neg (by simp [hph1, hp])]
        have g0 : GoodR g p s1 (s1, []) := GoodR.stay hs1 (hpi' h3)
        exact ⟨GoodR.pre hph1.symm hmono g0, hx1⟩
    · have hne : (s1.tryCommit now g.r).1.phase ≠ .prepare := by
        have := gd.trans
        rw [hc] at this
        rcases this.from_commit with h | h | h <;> rw [h] <;> simp
      rw [if_neg (by simp [hne])]
      exact ⟨GoodR.pre hph1.symm hmono gd, gd.mono _ _ hx1⟩
    · rw [if_neg (by simp [hdc])]
      exact ⟨GoodR.pre hph1.symm hmono gd, gd.mono _ _ hx1⟩

theorem recvDecide_goodR {p : Pid} {s : State} (now : Int) (m : Msg)
    (hs : RInv g s) (hpi : PIR g p s s.phase) (hnt : s.phase ≠ .terminated)
    (hm : ShapeR g m) (hmp : m.phase = .decide) (hsync : SyncedMR g s now m) :
    GoodR g p s (s.recvDecide now m) ∧ m.sender ∈ sendersR g (s.recvDecide now m).1 m.phase := by
  obtain ⟨_, hv⟩ := hm.dec hmp
  obtain ⟨D', hrecv, hD', hxin, hsub, hsup, _⟩ := hs.dec.receive m.sender hm.2.2.1
  have e1 : s.decision.receive s.tbl m.sender m.value = some D' := by
    rw [hs.tbl, hv]; exact hrecv
  unfold State.recvDecide
  rw [e1]
  dsimp only
  have hs1 : RInv g ({ s with decision := D' } : State) :=
    ⟨hs.tbl, hs.base, hs.round, hs.next, hs.conv, hs.convSub, hs.convJust, hs.prep, hs.comm, hD', hs.term⟩
  have hmono : ∀ ph x, x ∈ sendersR g s ph → x ∈ sendersR g ({ s with decision := D' } : State) ph := by
    intro ph x hx
    cases ph
    case decide => exact hsub x hx
    all_goals exact hx
  have hx1 : m.sender ∈ sendersR g ({ s with decision := D' } : State) m.phase := by
    rw [hmp]; exact hxin
  by_cases hd : s.phase = .decide
  · rw [if_neg (by simp [hd])]
    refine after_tallyR now m hs1 rfl rfl hmono hx1 ?_ hsync
    show WPIR g p _ s.phase
    rw [hd]; trivial
  · rw [if_pos (by simp [hd])]
    have hph' := hpi.working hd hnt
    rw [hv]
    have hsk : State.skipToDecide ({ s with decision := D' } : State) g.v m.just =
        (afterSkip s D' g.v, [.progress s.round .decide, .broadcast 0 .decide g.v false m.just]) := rfl
    rw [hsk, andThen_ok _ _ rfl]
    dsimp only
    have hs2 : RInv g (afterSkip s D' g.v) := hs1.core (by core_rfl)
    have htc : State.tryCurrentPhase (afterSkip s D' g.v) now = State.tryDecide (afterSkip s D' g.v) now := rfl
    rw [htc]
    have g2 := tryDecide_goodR (p := p) now hs2 rfl
    generalize State.tryDecide (afterSkip s D' g.v) now = r2 at g2 ⊢
    obtain ⟨hb, hms⟩ := g2.trans.from_decide
    refine ⟨⟨?_, g2.inv, g2.pi, fun ph x hx => g2.mono ph x (hmono ph x hx), ?_⟩, g2.mono _ _ hx1⟩
    · show hasFailure ([Eff.progress s.round .decide, .broadcast 0 .decide g.v false m.just] ++ r2.2) = false
      rw [hasFailure_append, g2.nofail]; rfl
    · show TransR g p s.phase r2.1.phase
        (sentR g.rankOf p ([Eff.progress s.round .decide, .broadcast 0 .decide g.v false m.just] ++ r2.2))
      rw [sentR_append, hms, List.append_nil]
      exact TransR.x2d _ _ hph' hb m.just

theorem ShapeR.round_le {m : Msg} (hm : ShapeR g m) : m.round ≤ g.r := by
  rcases hm.phases with hp | hp | hp | hp
  · exact Nat.le_of_eq (hm.conv hp).1
  · exact Nat.le_of_eq (hm.prep hp).1
  · exact Nat.le_of_eq (hm.comm hp).1
  · rw [(hm.dec hp).1]; exact Nat.zero_le _

theorem recvPre_acceptR {s : State} (hs : RInv g s) (hnt : s.phase ≠ .terminated) {m : Msg}
    (hm : ShapeR g m) : s.recvPre m = .accept := by
  have hhead : m.value.head? = some g.b := by
    rcases hm.phases with hp | hp | hp | hp
    · rw [(hm.conv hp).2.1]; exact g.base _ hm.2.2.1
    · rw [(hm.prep hp).2]; exact g.vbase
    · rw [(hm.comm hp).2.1]; exact g.vbase
    · rw [(hm.dec hp).2]; exact g.vbase
  have hvb : (m.value.isEmpty || hasBase m.value s.input.head?) = true := by
    rw [hs.base]
    cases hv : m.value with
    | nil => rfl
    | cons a as =>
      rw [hv] at hhead
      simp only [List.head?_cons, Option.some.injEq] at hhead
      simp [hasBase, hhead]
  have hlt : (decide (m.round < s.round) && (m.phase == .converge || m.phase == .prepare)) = false := by
    rw [hs.round]
    rcases hm.phases with hp | hp | hp | hp
    · simp [(hm.conv hp).1]
    · simp [(hm.prep hp).1]
    · simp [hp]
    · simp [hp]
  have hrd : m.round ≤ s.round := hs.round ▸ hm.round_le
  have hla : (decide (m.round > s.round + s.cfg.maxLookahead) && isSpammable m) = false := by
    have : ¬ (m.round > s.round + s.cfg.maxLookahead) := by omega
    simp [this]
  unfold State.recvPre
  rw [if_neg (by simp [hm.2.1]), if_neg (by simp [hm.1]), if_neg (by simp [hvb]), if_neg (by simp [hnt]),
    if_neg (by simp [hlt]), if_neg (by simp [hla])]

theorem step_recv_goodR {p : Pid} {s : State} (now : Int) (m : Msg)
    (hs : RInv g s) (hpi : PIR g p s s.phase) (hnt : s.phase ≠ .terminated)
    (hm : ShapeR g m) (hself : m.phase = .prepare → m.sender = p → s.phase ≠ .converge)
    (hsync : SyncedMR g s now m) :
    GoodR g p s (step s (.recv now m)) ∧ m.sender ∈ sendersR g (step s (.recv now m)).1 m.phase := by
  have hpre := recvPre_acceptR hs hnt hm
  have key : ∀ r : R, (s.receiveOne now m).1 = r →
      (GoodR g p s r ∧ m.sender ∈ sendersR g r.1 m.phase) →
      GoodR g p s (step s (.recv now m)) ∧ m.sender ∈ sendersR g (step s (.recv now m)).1 m.phase := by
    intro r hr hg
    have : step s (.recv now m) = r := by
      rw [step_recv_eq s now m hnt (by rw [hr]; exact hg.1.nofail)
        (by rw [hr, hg.1.inv.round]; exact hm.round_le), hr]
    rw [this]; exact hg
  rcases hm.phases with hmp | hmp | hmp | hmp
  · have hve : m.value.isEmpty = false := by
      rw [(hm.conv hmp).2.1]; exact isEmpty_false_of_ne (g.val_ne hm.2.2.1)
    exact key _ (congrArg Prod.fst (receiveOne_converge s now m _ hpre hmp hve (hm.conv hmp).2.2.2))
      (recvConverge_goodR now m hs hpi hm hmp hsync)
  · exact key _ (congrArg Prod.fst (receiveOne_prepare s now m hpre hmp))
      (recvPrepare_goodR now m hs hpi hm hmp (hself hmp) hsync)
  · exact key _ (congrArg Prod.fst (receiveOne_commit s now m hpre hmp))
      (recvCommit_goodR now m hs hpi hnt hm hmp hsync)
  · exact key _ (congrArg Prod.fst (receiveOne_decide s now m hpre hmp))
      (recvDecide_goodR now m hs hpi hnt hm hmp hsync)

theorem step_alarm_goodR {p : Pid} {s : State} (now : Int)
    (hs : RInv g s) (hpi : PIR g p s s.phase) (hsync : SyncedR g s now) :
    GoodR g p s (step s (.alarm now)) :=
  tryCurrentPhase_goodR now hs hpi.weak hsync

end

end F3.Liveness
