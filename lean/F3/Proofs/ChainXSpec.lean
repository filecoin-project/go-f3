import F3.Spec.ChainX
import F3.Proofs.ChainXLocal
import F3.Proofs.EarlyReturn
/-!
The model satisfies the history specification `F3.ChainX.Spec`: `RelAt t i w d` ties the tracker's view of instance `i`
to the two caches of that instance, one half per cache (`RelW`, `RelD`); it is kept by every operation (`tinv_step`)
and implies that `judgeLookup` never complains about the model's own answers (`judge_ok`). `history o ops` is the
state and the tracker of a node after `ops`.
-/
namespace F3.ChainX
open F3.Lru Spec F3.Proofs

structure WOk (cap : Nat) (c : PCache) : Prop where
  wf : WF c
  cap_eq : c.cap = cap
  vals : ∀ k p, c.peek k = some p → p = .placeholder ∨ p = .chain k

structure DOk (cap : Nat) (c : PCache) : Prop where
  wf : WF c
  cap_eq : c.cap = cap
  vals : ∀ k p, c.peek k = some p → p = .chain k

theorem peek_empty (cap : Nat) (k : Key) : (Lru.empty cap : PCache).peek k = none := rfl

theorem wok_empty {cap : Nat} (h : 0 < cap) : WOk cap (Lru.empty cap) :=
  ⟨wf_empty h, rfl, fun k p hp => by simp [peek_empty] at hp⟩

theorem dok_empty {cap : Nat} (h : 0 < cap) : DOk cap (Lru.empty cap) :=
  ⟨wf_empty h, rfl, fun k p hp => by simp [peek_empty] at hp⟩

theorem wok_get {cap : Nat} {c : PCache} (k : Key) (h : WOk cap c) : WOk cap (c.get k).1 :=
  ⟨wf_get k h.wf, by simp [h.cap_eq], fun k' p hp => h.vals k' p (by rwa [peek_get] at hp)⟩

theorem dok_get {cap : Nat} {c : PCache} (k : Key) (h : DOk cap c) : DOk cap (c.get k).1 :=
  ⟨wf_get k h.wf, by simp [h.cap_eq], fun k' p hp => h.vals k' p (by rwa [peek_get] at hp)⟩

theorem wok_add {cap : Nat} {c : PCache} (k : Key) {v : Portion} (h : WOk cap c)
    (hv : v = .placeholder ∨ v = .chain k) : WOk cap (c.add k v).1 := by
  refine ⟨wf_add k v h.wf, by simp [h.cap_eq], fun k' p hp => ?_⟩
  rcases peek_add_origin h.wf k k' v p hp with ⟨rfl, rfl⟩ | h'
  · exact hv
  · exact h.vals k' p h'

theorem dok_add {cap : Nat} {c : PCache} (k : Key) (h : DOk cap c) : DOk cap (c.add k (.chain k)).1 := by
  refine ⟨wf_add k _ h.wf, by simp [h.cap_eq], fun k' p hp => ?_⟩
  rcases peek_add_origin h.wf k k' _ p hp with ⟨rfl, rfl⟩ | h'
  · rfl
  · exact h.vals k' p h'

theorem wok_containsOrAdd {cap : Nat} {c : PCache} (k : Key) {v : Portion} (h : WOk cap c)
    (hv : v = .placeholder ∨ v = .chain k) : WOk cap (c.containsOrAdd k v).1 := by
  unfold Cache.containsOrAdd
  by_cases hc : c.contains k = true
  · simp [hc, h]
  · simp only [hc]; exact wok_add k h hv

theorem dok_containsOrAdd {cap : Nat} {c : PCache} (k : Key) (h : DOk cap c) :
    DOk cap (c.containsOrAdd k (.chain k)).1 := by
  unfold Cache.containsOrAdd
  by_cases hc : c.contains k = true
  · simp [hc, h]
  · simp only [hc]; exact dok_add k h

theorem dok_remove {cap : Nat} {c : PCache} (k : Key) (h : DOk cap c) : DOk cap (c.remove k).1 := by
  refine ⟨wf_remove k h.wf, by simp [h.cap_eq], fun k' p hp => ?_⟩
  rw [peek_remove] at hp
  by_cases hk : k' = k
  · simp [hk] at hp
  · simp only [hk, if_false] at hp; exact h.vals k' p hp

@[simp] theorem touchW_capW (t : Tracker) (i : Nat) (x : Key) : (touchW t i x).capW = t.capW := rfl
@[simp] theorem touchW_capD (t : Tracker) (i : Nat) (x : Key) : (touchW t i x).capD = t.capD := rfl
@[simp] theorem touchW_d (t : Tracker) (i : Nat) (x : Key) : (touchW t i x).d = t.d := rfl
@[simp] theorem touchW_delivered (t : Tracker) (i : Nat) (x : Key) : (touchW t i x).delivered = t.delivered := rfl
@[simp] theorem touchD_capW (t : Tracker) (i : Nat) (x : Key) : (touchD t i x).capW = t.capW := rfl
@[simp] theorem touchD_capD (t : Tracker) (i : Nat) (x : Key) : (touchD t i x).capD = t.capD := rfl
@[simp] theorem touchD_w (t : Tracker) (i : Nat) (x : Key) : (touchD t i x).w = t.w := rfl
@[simp] theorem touchD_delivered (t : Tracker) (i : Nat) (x : Key) : (touchD t i x).delivered = t.delivered := rfl
@[simp] theorem setW_capW (t : Tracker) (i : Nat) (k : Key) (v) : (setW t i k v).capW = t.capW := rfl
@[simp] theorem setW_capD (t : Tracker) (i : Nat) (k : Key) (v) : (setW t i k v).capD = t.capD := rfl
@[simp] theorem setW_d (t : Tracker) (i : Nat) (k : Key) (v) : (setW t i k v).d = t.d := rfl
@[simp] theorem setW_delivered (t : Tracker) (i : Nat) (k : Key) (v) : (setW t i k v).delivered = t.delivered := rfl
@[simp] theorem setD_capW (t : Tracker) (i : Nat) (k : Key) (v) : (setD t i k v).capW = t.capW := rfl
@[simp] theorem setD_capD (t : Tracker) (i : Nat) (k : Key) (v) : (setD t i k v).capD = t.capD := rfl
@[simp] theorem setD_w (t : Tracker) (i : Nat) (k : Key) (v) : (setD t i k v).w = t.w := rfl
@[simp] theorem setD_delivered (t : Tracker) (i : Nat) (k : Key) (v) : (setD t i k v).delivered = t.delivered := rfl
@[simp] theorem setDelivered_capW (t : Tracker) (i : Nat) (k : Key) : (setDelivered t i k).capW = t.capW := rfl
@[simp] theorem setDelivered_capD (t : Tracker) (i : Nat) (k : Key) : (setDelivered t i k).capD = t.capD := rfl
@[simp] theorem setDelivered_w (t : Tracker) (i : Nat) (k : Key) : (setDelivered t i k).w = t.w := rfl
@[simp] theorem setDelivered_d (t : Tracker) (i : Nat) (k : Key) : (setDelivered t i k).d = t.d := rfl

theorem touchW_w_same (t : Tracker) (i : Nat) (x K : Key) :
    (touchW t i x).w i K = if K = x then t.w i K else (t.w i K).map (fun wt => { wt with since := ins x wt.since }) := by
  by_cases h : K = x <;> simp [touchW, h]

theorem touchD_d_same (t : Tracker) (i : Nat) (x K : Key) :
    (touchD t i x).d i K = if K = x then t.d i K else (t.d i K).map (ins x) := by
  by_cases h : K = x <;> simp [touchD, h]

theorem setW_w_same (t : Tracker) (i : Nat) (k K : Key) (v) :
    (setW t i k v).w i K = if K = k then v else t.w i K := by
  by_cases h : K = k <;> simp [setW, h]

theorem setD_d_same (t : Tracker) (i : Nat) (k K : Key) (v) :
    (setD t i k v).d i K = if K = k then v else t.d i K := by
  by_cases h : K = k <;> simp [setD, h]

theorem setDelivered_same (t : Tracker) (i : Nat) (k K : Key) :
    (setDelivered t i k).delivered i K = if K = k then true else t.delivered i K := by
  by_cases h : K = k <;> simp [setDelivered, h]

/-- the entry of a tracked key whose chain arrives: content is certain again if the key is certainly still cached -/
def admNw (t : Tracker) (wt : WTrack) : WTrack :=
  if wt.since.length < t.capW then { wt with hasContent := true } else wt

def ownNw (t : Tracker) (i : Nat) (p : Key) : WTrack :=
  match t.w i p with
  | none => ⟨[], true⟩
  | some wt => admNw t wt

theorem admNw_since (t : Tracker) (wt : WTrack) : (admNw t wt).since = wt.since := by
  unfold admNw; split <;> rfl

theorem onOwnPrefix_eq (t : Tracker) (i : Nat) (p : Key) :
    onOwnPrefix i t p = setDelivered (setD (setW (touchW t i p) i p (some (ownNw t i p))) i p none) i p := rfl

theorem onAdmittedPrefix_some (t : Tracker) (i : Nat) (p : Key) (wt : WTrack) (h : t.w i p = some wt) :
    onAdmittedPrefix i t p = setDelivered (setW (touchD (touchW t i p) i p) i p (some (admNw t wt))) i p := by
  unfold onAdmittedPrefix admNw; simp [h]

theorem onAdmittedPrefix_none (t : Tracker) (i : Nat) (p : Key) (h : t.w i p = none) :
    onAdmittedPrefix i t p = setDelivered (setD (touchD t i p) i p (some ((t.d i p).getD []))) i p := by
  unfold onAdmittedPrefix; simp [h]

/-! What each observer does to the entries of instance `i`, key by key. -/

theorem solicit_w (t : Tracker) (i : Nat) (p : Key) (nw : WTrack) (K : Key) :
    (setW (touchW t i p) i p (some nw)).w i K =
      if K = p then some nw else (t.w i K).map (fun wt => { wt with since := ins p wt.since }) := by
  rw [setW_w_same, touchW_w_same]
  by_cases hK : K = p <;> simp [hK]

theorem onGet_w (t : Tracker) (i : Nat) (k : Key) (hit : Bool) (K : Key) :
    (onGet t i k hit).w i K =
      if K = k then some ⟨[], hit⟩ else (t.w i K).map (fun wt => { wt with since := ins k wt.since }) :=
  solicit_w t i k _ K

theorem onGet_d (t : Tracker) (i : Nat) (k : Key) (hit : Bool) {K : Key} (hK : K ≠ k) :
    (onGet t i k hit).d i K = t.d i K := by
  unfold onGet; rw [setD_d_same, if_neg hK]; rfl

theorem onOwnPrefix_w (t : Tracker) (i : Nat) (p K : Key) :
    (onOwnPrefix i t p).w i K =
      if K = p then some (ownNw t i p) else (t.w i K).map (fun wt => { wt with since := ins p wt.since }) := by
  rw [onOwnPrefix_eq]; exact solicit_w t i p _ K

theorem onOwnPrefix_d (t : Tracker) (i : Nat) (p : Key) {K : Key} (hK : K ≠ p) :
    (onOwnPrefix i t p).d i K = t.d i K := by
  rw [onOwnPrefix_eq, setDelivered_d, setD_d_same, if_neg hK]; rfl

theorem onOwnPrefix_delivered (t : Tracker) (i : Nat) (p K : Key) :
    (onOwnPrefix i t p).delivered i K = if K = p then true else t.delivered i K := by
  rw [onOwnPrefix_eq]; exact setDelivered_same _ i p K

theorem onAdmittedPrefix_delivered (t : Tracker) (i : Nat) (p K : Key) :
    (onAdmittedPrefix i t p).delivered i K = if K = p then true else t.delivered i K := by
  unfold onAdmittedPrefix
  split <;> exact setDelivered_same _ i p K

theorem onAdmittedPrefix_some_w {t : Tracker} {i : Nat} {p : Key} {wt : WTrack} (h : t.w i p = some wt) (K : Key) :
    (onAdmittedPrefix i t p).w i K =
      if K = p then some (admNw t wt) else (t.w i K).map (fun wt => { wt with since := ins p wt.since }) := by
  rw [onAdmittedPrefix_some t i p wt h]; exact solicit_w t i p _ K

theorem onAdmittedPrefix_some_d {t : Tracker} {i : Nat} {p : Key} {wt : WTrack} (h : t.w i p = some wt) {K : Key}
    (hK : K ≠ p) : (onAdmittedPrefix i t p).d i K = (t.d i K).map (ins p) := by
  rw [onAdmittedPrefix_some t i p wt h, setDelivered_d, setW_d, touchD_d_same, if_neg hK]; rfl

theorem onAdmittedPrefix_none_w {t : Tracker} {i : Nat} {p : Key} (h : t.w i p = none) :
    (onAdmittedPrefix i t p).w = t.w := by
  rw [onAdmittedPrefix_none t i p h]; rfl

theorem onAdmittedPrefix_none_d {t : Tracker} {i : Nat} {p : Key} (h : t.w i p = none) (K : Key) :
    (onAdmittedPrefix i t p).d i K = if K = p then some ((t.d i p).getD []) else (t.d i K).map (ins p) := by
  rw [onAdmittedPrefix_none t i p h, setDelivered_d, setD_d_same, touchD_d_same]
  by_cases hK : K = p <;> simp [hK]

/-- what the tracker's wanted entries of instance `i` promise about the wanted cache -/
structure RelW (t : Tracker) (i : Nat) (w : PCache) : Prop where
  ok : WOk t.capW w
  absent : ∀ K, t.w i K = none → w.peek K = none
  kept : ∀ K wt, t.w i K = some wt → wt.since.length < t.capW →
    Holds w K wt.since ∧ (wt.hasContent = true → w.peek K = some (.chain K))
  delivered : ∀ K c, w.peek K = some (.chain c) → t.delivered i K = true

/-- what the tracker's discovered entries of instance `i` promise about the discovered cache; of the wanted
entries only whether there is one matters -/
structure RelD (t : Tracker) (i : Nat) (d : PCache) : Prop where
  ok : DOk t.capD d
  kept : ∀ K ds, t.w i K = none → t.d i K = some ds → ds.length < t.capD → Holds d K ds
  absent : ∀ K, t.w i K = none → t.d i K = none → d.peek K = none
  delivered : ∀ K p, d.peek K = some p → t.delivered i K = true

structure RelAt (t : Tracker) (i : Nat) (w d : PCache) : Prop where
  w : RelW t i w
  d : RelD t i d

theorem relAt_empty {t : Tracker} {i : Nat} (hw : 0 < t.capW) (hd : 0 < t.capD)
    (hnw : ∀ K, t.w i K = none) (hnd : ∀ K, t.d i K = none) :
    RelAt t i (Lru.empty t.capW) (Lru.empty t.capD) :=
  ⟨⟨wok_empty hw, fun _ _ => rfl, fun K wt h => (by rw [hnw] at h; cases h), fun K c h => nomatch h⟩,
   ⟨dok_empty hd, fun K ds _ h => (by rw [hnd] at h; cases h), fun _ _ _ => rfl, fun K p h => nomatch h⟩⟩

theorem RelW.congr {t t' : Tracker} {i : Nat} {w : PCache} (h : RelW t i w) (hcap : t'.capW = t.capW)
    (hw : t'.w i = t.w i) (hdel : ∀ K, t.delivered i K = true → t'.delivered i K = true) : RelW t' i w :=
  ⟨hcap ▸ h.ok, fun K hK => h.absent K (hw ▸ hK), fun K wt hK hl => h.kept K wt (hw ▸ hK) (hcap ▸ hl),
   fun K c hc => hdel K (h.delivered K c hc)⟩

theorem RelD.congr {t t' : Tracker} {i : Nat} {d : PCache} (h : RelD t i d) (hcap : t'.capD = t.capD)
    (hw : t'.w i = t.w i) (hd : t'.d i = t.d i) (hdel : ∀ K, t.delivered i K = true → t'.delivered i K = true) :
    RelD t' i d :=
  ⟨hcap ▸ h.ok, fun K ds hK hd' hl => h.kept K ds (hw ▸ hK) (hd ▸ hd') (hcap ▸ hl),
   fun K hK hd' => h.absent K (hw ▸ hK) (hd ▸ hd'), fun K p hp => hdel K (h.delivered K p hp)⟩

/-! Every operation works on one key `p` of one instance: the caches change by operations on `p` alone (`Access`), the
tracker gives `p` a new entry and records `p` as possibly in front of every other key. So the relation for the
other keys is kept for one and the same reason, and each operation has to justify the entry of `p` only. -/

/-- The wanted side when `p` is solicited or re-announced: `p` gets the entry `nw`, every other tracked key gets `p`
into its `since`. -/
theorem relW_access {t t' : Tracker} {i : Nat} {w w' : PCache} {p : Key} {nw : WTrack}
    (h : RelW t i w) (ha : Access w w' p) (hok : WOk t.capW w') (hcap : t'.capW = t.capW)
    (hw : ∀ K, t'.w i K = if K = p then some nw else (t.w i K).map (fun wt => { wt with since := ins p wt.since }))
    (hdel : ∀ K, K ≠ p → t'.delivered i K = t.delivered i K)
    (hkept : nw.since.length < t.capW → Holds w' p nw.since ∧ (nw.hasContent = true → w'.peek p = some (.chain p)))
    (hdelp : ∀ c, w'.peek p = some (.chain c) → t'.delivered i p = true) : RelW t' i w' := by
  refine ⟨hcap ▸ hok, fun K hK => ?_, fun K wt hK hl => ?_, fun K c hc => ?_⟩
  · rw [hw] at hK
    by_cases hKp : K = p
    · rw [if_pos hKp] at hK; cases hK
    · rw [if_neg hKp, Option.map_eq_none_iff] at hK
      cases hq : w'.peek K with
      | none => rfl
      | some q => have := ha.origin K q hKp hq; rw [h.absent K hK] at this; cases this
  · rw [hw] at hK; rw [hcap] at hl
    by_cases hKp : K = p
    · subst hKp; rw [if_pos rfl] at hK; cases hK; exact hkept hl
    · rw [if_neg hKp] at hK
      obtain ⟨wt0, h0, rfl⟩ := Option.map_eq_some_iff.mp hK
      obtain ⟨hh, hc⟩ := h.kept K wt0 h0 (Nat.lt_of_le_of_lt (length_le_insNew p wt0.since) hl)
      obtain ⟨hh', hp'⟩ := ha.holds K _ hKp hh (by rw [h.ok.cap_eq]; exact hl)
      exact ⟨hh', fun e => by rw [hp']; exact hc e⟩
  · by_cases hKp : K = p
    · subst hKp; exact hdelp c hc
    · rw [hdel K hKp]; exact h.delivered K c (ha.origin K _ hKp hc)

/-- The discovered side when `p` is admitted: `p` is delivered, every other tracked key gets `p` into its list. -/
theorem relD_access {t t' : Tracker} {i : Nat} {d d' : PCache} {p : Key}
    (h : RelD t i d) (ha : Access d d' p) (hok : DOk t.capD d') (hcap : t'.capD = t.capD)
    (hw : ∀ K, K ≠ p → t'.w i K = none → t.w i K = none)
    (hd : ∀ K, K ≠ p → t'.d i K = (t.d i K).map (ins p))
    (hdel : ∀ K, t'.delivered i K = if K = p then true else t.delivered i K)
    (hkept : ∀ ds, t'.w i p = none → t'.d i p = some ds → ds.length < t.capD → Holds d' p ds)
    (habs : t'.w i p = none → t'.d i p = none → d'.peek p = none) : RelD t' i d' := by
  refine ⟨hcap ▸ hok, fun K ds hK hdK hl => ?_, fun K hK hdK => ?_, fun K q hq => ?_⟩
  · rw [hcap] at hl
    by_cases hKp : K = p
    · subst hKp; exact hkept ds hK hdK hl
    · rw [hd K hKp] at hdK
      obtain ⟨ds0, h0, rfl⟩ := Option.map_eq_some_iff.mp hdK
      have hh := h.kept K ds0 (hw K hKp hK) h0 (Nat.lt_of_le_of_lt (length_le_insNew p ds0) hl)
      exact (ha.holds K _ hKp hh (by rw [h.ok.cap_eq]; exact hl)).1
  · by_cases hKp : K = p
    · subst hKp; exact habs hK hdK
    · rw [hd K hKp, Option.map_eq_none_iff] at hdK
      cases hq : d'.peek K with
      | none => rfl
      | some q => have := ha.origin K q hKp hq; rw [h.absent K (hw K hKp hK) hdK] at this; cases this
  · rw [hdel]
    by_cases hKp : K = p
    · rw [if_pos hKp]
    · rw [if_neg hKp]; exact h.delivered K q (ha.origin K q hKp hq)

/-- The discovered side when `p` is solicited: `p` gets a wanted entry, which ends every promise about it here, and the
cache at most loses `p`; nothing changes for the other keys. -/
theorem relD_solicited {t t' : Tracker} {i : Nat} {d d' : PCache} {p : Key} {nw : WTrack}
    (h : RelD t i d) (hd' : d' = d ∨ d' = (d.remove p).1) (hcap : t'.capD = t.capD)
    (hw : ∀ K, t'.w i K = if K = p then some nw else (t.w i K).map (fun wt => { wt with since := ins p wt.since }))
    (hd : ∀ K, K ≠ p → t'.d i K = t.d i K)
    (hdel : ∀ K, t.delivered i K = true → t'.delivered i K = true) : RelD t' i d' := by
  have hwn : ∀ K, t'.w i K = none → K ≠ p ∧ t.w i K = none := fun K hK => by
    rw [hw] at hK
    by_cases hKp : K = p
    · rw [if_pos hKp] at hK; cases hK
    · rw [if_neg hKp, Option.map_eq_none_iff] at hK; exact ⟨hKp, hK⟩
  rcases hd' with rfl | rfl
  · exact ⟨hcap ▸ h.ok, fun K ds hK hdK hl => h.kept K ds (hwn K hK).2 (hd K (hwn K hK).1 ▸ hdK) (hcap ▸ hl),
      fun K hK hdK => h.absent K (hwn K hK).2 (hd K (hwn K hK).1 ▸ hdK), fun K q hq => hdel K (h.delivered K q hq)⟩
  · refine ⟨hcap ▸ dok_remove p h.ok, fun K ds hK hdK hl => ?_, fun K hK hdK => ?_, fun K q hq => ?_⟩
    · obtain ⟨hKp, hK⟩ := hwn K hK
      exact holds_remove_other (h.kept K ds hK (hd K hKp ▸ hdK) (hcap ▸ hl)) (Ne.symm hKp)
    · obtain ⟨hKp, hK⟩ := hwn K hK
      rw [peek_remove, if_neg hKp]; exact h.absent K hK (hd K hKp ▸ hdK)
    · rw [peek_remove] at hq
      by_cases hKp : K = p
      · rw [if_pos hKp] at hq; cases hq
      · rw [if_neg hKp] at hq; exact hdel K (h.delivered K q hq)

structure FrameAt (t t' : Tracker) (i : Nat) : Prop where
  capW : t'.capW = t.capW
  capD : t'.capD = t.capD
  w : ∀ j, j ≠ i → t'.w j = t.w j
  d : ∀ j, j ≠ i → t'.d j = t.d j
  delivered : ∀ j, j ≠ i → t'.delivered j = t.delivered j

theorem FrameAt.refl (t : Tracker) (i : Nat) : FrameAt t t i :=
  ⟨rfl, rfl, fun _ _ => rfl, fun _ _ => rfl, fun _ _ => rfl⟩

theorem FrameAt.trans {t t' t'' : Tracker} {i : Nat} (h1 : FrameAt t t' i) (h2 : FrameAt t' t'' i) : FrameAt t t'' i :=
  ⟨h2.capW.trans h1.capW, h2.capD.trans h1.capD, fun j hj => (h2.w j hj).trans (h1.w j hj),
   fun j hj => (h2.d j hj).trans (h1.d j hj), fun j hj => (h2.delivered j hj).trans (h1.delivered j hj)⟩

theorem frame_touchW (t : Tracker) (i : Nat) (x : Key) : FrameAt t (touchW t i x) i :=
  ⟨rfl, rfl, fun j hj => by funext K; simp [touchW, hj], fun _ _ => rfl, fun _ _ => rfl⟩

theorem frame_touchD (t : Tracker) (i : Nat) (x : Key) : FrameAt t (touchD t i x) i :=
  ⟨rfl, rfl, fun _ _ => rfl, fun j hj => by funext K; simp [touchD, hj], fun _ _ => rfl⟩

theorem frame_setW (t : Tracker) (i : Nat) (k : Key) (v) : FrameAt t (setW t i k v) i :=
  ⟨rfl, rfl, fun j hj => by funext K; simp [setW, hj], fun _ _ => rfl, fun _ _ => rfl⟩

theorem frame_setD (t : Tracker) (i : Nat) (k : Key) (v) : FrameAt t (setD t i k v) i :=
  ⟨rfl, rfl, fun _ _ => rfl, fun j hj => by funext K; simp [setD, hj], fun _ _ => rfl⟩

theorem frame_setDelivered (t : Tracker) (i : Nat) (k : Key) : FrameAt t (setDelivered t i k) i :=
  ⟨rfl, rfl, fun _ _ => rfl, fun _ _ => rfl, fun j hj => by funext K; simp [setDelivered, hj]⟩

theorem frame_onGet (t : Tracker) (i : Nat) (k : Key) (hit : Bool) : FrameAt t (onGet t i k hit) i :=
  ((frame_touchW t i k).trans (frame_setW _ i k _)).trans (frame_setD _ i k _)

theorem frame_onOwnPrefix (t : Tracker) (i : Nat) (p : Key) : FrameAt t (onOwnPrefix i t p) i :=
  (((frame_touchW t i p).trans (frame_setW _ i p _)).trans (frame_setD _ i p _)).trans (frame_setDelivered _ i p)

theorem frame_onAdmittedPrefix (t : Tracker) (i : Nat) (p : Key) : FrameAt t (onAdmittedPrefix i t p) i := by
  unfold onAdmittedPrefix
  split
  · exact (((frame_touchW t i p).trans (frame_touchD _ i p)).trans (frame_setW _ i p _)).trans (frame_setDelivered _ i p)
  · exact ((frame_touchD t i p).trans (frame_setD _ i p _)).trans (frame_setDelivered _ i p)

theorem frame_foldl {f : Tracker → Key → Tracker} {i : Nat} (hf : ∀ t p, FrameAt t (f t p) i) (ps : List Key)
    (t : Tracker) : FrameAt t (ps.foldl f t) i := by
  induction ps generalizing t with
  | nil => exact FrameAt.refl t i
  | cons p ps ih => exact (hf t p).trans (ih (f t p))

theorem RelAt.frame {t t' : Tracker} {i j : Nat} {w d : PCache} (h : RelAt t j w d) (hf : FrameAt t t' i)
    (hj : j ≠ i) : RelAt t' j w d :=
  have hdel : ∀ K, t.delivered j K = true → t'.delivered j K = true := fun K hK => by rw [hf.delivered j hj]; exact hK
  ⟨h.w.congr hf.capW (hf.w j hj) hdel, h.d.congr hf.capD (hf.w j hj) (hf.d j hj) hdel⟩

/-- A tracked key `p` whose chain arrives (own broadcast or admitted one): the chain is stored under `p` afterwards —
it was there, or a placeholder or nothing was and it is added now. -/
theorem relW_announced {t t' : Tracker} {i : Nat} {w w' : PCache} {p : Key} {wt : WTrack}
    (h : RelW t i w) (htw : t.w i p = some wt)
    (hw' : (w' = w ∧ ∃ c, w.peek p = some (.chain c)) ∨ w' = (w.add p (.chain p)).1) (hcap : t'.capW = t.capW)
    (hw : ∀ K, t'.w i K = if K = p then some (admNw t wt) else (t.w i K).map (fun wt => { wt with since := ins p wt.since }))
    (hdel : ∀ K, t'.delivered i K = if K = p then true else t.delivered i K) : RelW t' i w' := by
  have hdel' : ∀ K, K ≠ p → t'.delivered i K = t.delivered i K := fun K hK => by rw [hdel, if_neg hK]
  have hdelp : ∀ c, w'.peek p = some (.chain c) → t'.delivered i p = true := fun _ _ => by rw [hdel, if_pos rfl]
  rcases hw' with ⟨rfl, c, hc⟩ | rfl
  · refine relW_access h (Access.refl h.ok.wf p) h.ok hcap hw hdel' (fun hl => ?_) hdelp
    rw [admNw_since] at hl ⊢
    refine ⟨(h.kept p wt htw hl).1, fun _ => ?_⟩
    rcases h.ok.vals p _ hc with e | e
    · cases e
    · rw [hc, e]
  · exact relW_access h (Access.add h.ok.wf p _) (wok_add p h.ok (Or.inr rfl)) hcap hw hdel'
      (fun _ => ⟨holds_add_self p _ h.ok.wf _, fun _ => peek_add_self p _ h.ok.wf⟩) hdelp

theorem wantStep_fst (w : PCache) (n : List Chain) (p : Key) :
    ((wantStep (w, n) p).1 = w ∧ ∃ c, w.peek p = some (.chain c)) ∨
    ((wantStep (w, n) p).1 = (w.add p (.chain p)).1 ∧ ∀ c, w.peek p ≠ some (.chain c)) := by
  unfold wantStep
  cases hp : w.peek p with
  | none => right; simp
  | some q =>
    cases q with
    | placeholder => right; simp
    | chain c => left; simp

theorem relAt_want {t : Tracker} {i : Nat} {w d : PCache} (n : List Chain) (p : Key) (h : RelAt t i w d) :
    RelAt (onOwnPrefix i t p) i (wantStep (w, n) p).1 d := by
  have hf := frame_onOwnPrefix t i p
  have hw := onOwnPrefix_w t i p
  have hdel := onOwnPrefix_delivered t i p
  refine ⟨?_, relD_solicited h.d (Or.inl rfl) hf.capD hw (fun _ => onOwnPrefix_d t i p)
    (fun K hK => by rw [hdel, hK, ite_self])⟩
  have hstep : ((wantStep (w, n) p).1 = w ∧ ∃ c, w.peek p = some (.chain c)) ∨
      (wantStep (w, n) p).1 = (w.add p (.chain p)).1 := (wantStep_fst w n p).imp id And.left
  cases htw : t.w i p with
  | some wt =>
    simp only [ownNw, htw] at hw
    exact relW_announced h.w htw hstep hf.capW hw hdel
  | none =>
    -- first time: nothing is cached under `p`, so the chain is added
    simp only [ownNw, htw] at hw
    have hadd : (wantStep (w, n) p).1 = (w.add p (.chain p)).1 := by
      rcases hstep with ⟨_, c, hc⟩ | e
      · rw [h.w.absent p htw] at hc; cases hc
      · exact e
    rw [hadd]
    exact relW_access h.w (Access.add h.w.ok.wf p _) (wok_add p h.w.ok (Or.inr rfl)) hf.capW hw
      (fun K hK => by rw [hdel, if_neg hK])
      (fun _ => ⟨holds_add_self p _ h.w.ok.wf _, fun _ => peek_add_self p _ h.w.ok.wf⟩)
      (fun _ _ => by rw [hdel, if_pos rfl])

theorem discStep_cases (w d : PCache) (p : Key) :
    (w.peek p = none ∧ discStep (w, d) p = (w, (d.containsOrAdd p (.chain p)).1)) ∨
    (w.peek p = some .placeholder ∧ discStep (w, d) p = ((w.add p (.chain p)).1, d)) ∨
    (∃ c, w.peek p = some (.chain c) ∧ discStep (w, d) p = (w, d)) := by
  unfold discStep
  cases hp : w.peek p with
  | none => left; simp
  | some q =>
    cases q with
    | placeholder => right; left; simp
    | chain c => right; right; exact ⟨c, rfl, by simp⟩

theorem relAt_disc {t : Tracker} {i : Nat} {w d : PCache} (p : Key) (h : RelAt t i w d) :
    RelAt (onAdmittedPrefix i t p) i (discStep (w, d) p).1 (discStep (w, d) p).2 := by
  have hdA := Access.containsOrAdd h.d.ok.wf p (.chain p)
  have hdok := dok_containsOrAdd p h.d.ok
  have hf := frame_onAdmittedPrefix t i p
  have hdel := onAdmittedPrefix_delivered t i p
  cases htw : t.w i p with
  | none =>
    -- never solicited: the wanted cache holds nothing under `p` and is not involved
    have e : discStep (w, d) p = (w, (d.containsOrAdd p (.chain p)).1) := by
      unfold discStep; rw [h.w.absent p htw]
    have hwn := onAdmittedPrefix_none_w htw
    have hd := onAdmittedPrefix_none_d htw
    rw [e]
    refine ⟨h.w.congr hf.capW (by rw [hwn]) (fun K hK => by rw [hdel, hK, ite_self]),
      relD_access h.d hdA hdok hf.capD (fun K _ hK => by rw [hwn] at hK; exact hK)
        (fun K hK => by rw [hd, if_neg hK]) hdel (fun ds _ hds hl => ?_)
        (fun _ hdn => by rw [hd, if_pos rfl] at hdn; cases hdn)⟩
    rw [hd, if_pos rfl] at hds
    cases hds
    unfold Cache.containsOrAdd
    cases htd : t.d i p with
    | none =>
      -- first admission: `p` is not cached and is added
      have hnc : ¬ d.contains p = true := fun hc => by
        have : (d.peek p).isSome = true := hc
        rw [h.d.absent p htw htd] at this; cases this
      rw [if_neg hnc]; exact holds_add_self p _ h.d.ok.wf _
    | some ds =>
      -- admitted before and certainly still cached: `ContainsOrAdd` finds it and changes nothing
      rw [htd] at hl
      have hh := h.d.kept p ds htw htd hl
      rw [if_pos (contains_iff.mpr hh.1)]; exact hh
  | some wt =>
    have hw := onAdmittedPrefix_some_w htw
    -- `p` has a wanted entry, so nothing is promised about it on the discovered side
    have hD : ∀ d', Access d d' p → DOk t.capD d' → RelD (onAdmittedPrefix i t p) i d' := fun d' ha hok =>
      relD_access h.d ha hok hf.capD
        (fun K hK hn => by rw [hw, if_neg hK, Option.map_eq_none_iff] at hn; exact hn)
        (fun _ => onAdmittedPrefix_some_d htw) hdel
        (fun _ hn => by rw [hw, if_pos rfl] at hn; cases hn) (fun hn => by rw [hw, if_pos rfl] at hn; cases hn)
    rcases discStep_cases w d p with ⟨hp, e⟩ | ⟨hp, e⟩ | ⟨c, hp, e⟩ <;> rw [e]
    · -- evicted from the wanted cache meanwhile (so no promise is left): the chain goes to the discovered cache
      refine ⟨relW_access h.w (Access.refl h.w.ok.wf p) h.w.ok hf.capW hw (fun K hK => by rw [hdel, if_neg hK])
        (fun hl => ?_) (fun _ _ => by rw [hdel, if_pos rfl]), hD _ hdA hdok⟩
      rw [admNw_since] at hl
      have := holds_peek_isSome (h.w.kept p wt htw hl).1
      rw [hp] at this; cases this
    · exact ⟨relW_announced h.w htw (Or.inr rfl) hf.capW hw hdel, hD _ (Access.refl h.d.ok.wf p) h.d.ok⟩
    · exact ⟨relW_announced h.w htw (Or.inl ⟨rfl, c, hp⟩) hf.capW hw hdel, hD _ (Access.refl h.d.ok.wf p) h.d.ok⟩

theorem getLocal_cases (w d : PCache) (k : Key) :
    (∃ c, w.peek k = some (.chain c) ∧ getLocal w d k = ((w.get k).1, d, some c)) ∨
    ((∀ c, w.peek k ≠ some (.chain c)) ∧ ∃ q, d.peek k = some q ∧
        getLocal w d k = (((w.get k).1.add k q).1, (d.remove k).1, some q.chainOf)) ∨
    ((∀ c, w.peek k ≠ some (.chain c)) ∧ d.peek k = none ∧
        getLocal w d k = (((w.get k).1.containsOrAdd k .placeholder).1, d, none)) := by
  unfold getLocal
  rw [get_snd w k, get_snd d k]
  have hd : ∀ (hq : d.peek k = none), (d.get k).1 = d := fun hq => get_absent hq
  cases hw : w.peek k with
  | some pw =>
    cases pw with
    | chain c => left; exact ⟨c, rfl, rfl⟩
    | placeholder =>
      right
      cases hq : d.peek k with
      | some q => left; exact ⟨fun c hc => (by cases hc), q, rfl, (by simp [get_remove])⟩
      | none => right; exact ⟨fun c hc => (by cases hc), rfl, (by simp [hd hq])⟩
  | none =>
    right
    cases hq : d.peek k with
    | some q => left; exact ⟨fun c hc => (by cases hc), q, rfl, (by simp [get_remove])⟩
    | none => right; exact ⟨fun c hc => (by cases hc), rfl, (by simp [hd hq])⟩

theorem relAt_get {t : Tracker} {i : Nat} {w d : PCache} (k : Key) (h : RelAt t i w d) :
    RelAt (onGet t i k (getLocal w d k).2.2.isSome) i (getLocal w d k).1 (getLocal w d k).2.1 := by
  have hw := onGet_w t i k
  have hd := fun hit K => onGet_d t i k hit (K := K)
  have hf := fun hit => frame_onGet t i k hit
  have hwf := h.w.ok.wf
  have hg := Access.get hwf k
  have hgok := wok_get k h.w.ok
  rcases getLocal_cases w d k with ⟨c, hc, e⟩ | ⟨hnc, q, hq, e⟩ | ⟨hnc, hq, e⟩ <;> rw [e]
  · -- found in the wanted cache
    have hck : Portion.chain c = .chain k := (h.w.ok.vals k _ hc).resolve_left (fun e => by cases e)
    exact ⟨relW_access h.w hg hgok (hf _).capW (hw _) (fun _ _ => rfl)
        (fun _ => ⟨holds_get_self (peek_isSome_iff.mp (by rw [hc]; rfl)) _, fun _ => by rw [peek_get, hc, hck]⟩)
        (fun _ _ => h.w.delivered k c hc),
      relD_solicited h.d (Or.inl rfl) (hf _).capD (hw _) (hd _) (fun _ hK => hK)⟩
  · -- found in the discovered cache: moved to the wanted cache
    have hqk : q = .chain k := h.d.ok.vals k q hq
    exact ⟨relW_access h.w (hg.trans (Access.add hg.wf k q)) (wok_add k hgok (Or.inr hqk)) (hf _).capW (hw _) (fun _ _ => rfl)
        (fun _ => ⟨holds_add_self k q hg.wf _, fun _ => by rw [peek_add_self k q hg.wf, hqk]⟩)
        (fun _ _ => h.d.delivered k q hq),
      relD_solicited h.d (Or.inr rfl) (hf _).capD (hw _) (hd _) (fun _ hK => hK)⟩
  · -- not found: a placeholder is left unless one is there
    refine ⟨relW_access h.w (hg.trans (Access.containsOrAdd hg.wf k _)) (wok_containsOrAdd k hgok (Or.inl rfl)) (hf _).capW
        (hw _) (fun _ _ => rfl) (fun _ => ⟨?_, fun hh => by cases hh⟩) (fun c hp => ?_),
      relD_solicited h.d (Or.inl rfl) (hf _).capD (hw _) (hd _) (fun _ hK => hK)⟩
    · unfold Cache.containsOrAdd
      by_cases hc : (w.get k).1.contains k = true
      · rw [if_pos hc]
        have hk : ((w.get k).1.peek k).isSome = true := hc
        rw [peek_get] at hk
        exact holds_get_self (peek_isSome_iff.mp hk) _
      · rw [if_neg hc]; exact holds_add_self k _ hg.wf _
    · rw [peek_containsOrAdd_self k _ hg.wf] at hp
      split at hp
      · rw [peek_get] at hp; exact absurd hp (hnc c)
      · cases hp

theorem relAt_discFold {i : Nat} (ps : List Key) {t : Tracker} {w d : PCache} (h : RelAt t i w d) :
    RelAt (ps.foldl (onAdmittedPrefix i) t) i (ps.foldl discStep (w, d)).1 (ps.foldl discStep (w, d)).2 := by
  induction ps generalizing t w d with
  | nil => exact h
  | cons p ps ih => exact ih (relAt_disc p h)

theorem wantFold_snd_irrelevant (ps : List Key) (w : PCache) (n n' : List Chain) :
    (ps.foldl wantStep (w, n)).1 = (ps.foldl wantStep (w, n')).1 := by
  induction ps generalizing w n n' with
  | nil => rfl
  | cons p ps ih =>
    simp only [List.foldl_cons]
    have h1 : (wantStep (w, n) p).1 = (wantStep (w, n') p).1 := by
      unfold wantStep
      cases hp : w.peek p with
      | none => simp
      | some q => cases q <;> simp
    have e1 : wantStep (w, n) p = ((wantStep (w, n) p).1, (wantStep (w, n) p).2) := rfl
    have e2 : wantStep (w, n') p = ((wantStep (w, n') p).1, (wantStep (w, n') p).2) := rfl
    rw [e1, e2, h1]
    exact ih _ _ _

theorem relAt_wantFold {i : Nat} (ps : List Key) {t : Tracker} {w d : PCache} (n : List Chain) (h : RelAt t i w d) :
    RelAt (ps.foldl (onOwnPrefix i) t) i (ps.foldl wantStep (w, n)).1 d := by
  induction ps generalizing t w n with
  | nil => exact h
  | cons p ps ih => exact ih (wantStep (w, n) p).2 (relAt_want n p h)

structure TInv (t : Tracker) (s : State) : Prop where
  capW : t.capW = s.opts.maxWanted
  capD : t.capD = s.opts.maxDiscovered
  posW : 0 < t.capW
  posD : 0 < t.capD
  rel : ∀ i, RelAt t i (W s i) (D s i)

theorem tinv_init (o : Opts) (hw : 0 < o.maxWanted) (hd : 0 < o.maxDiscovered) :
    TInv (Tracker.init o.maxWanted o.maxDiscovered) (init o) :=
  ⟨rfl, rfl, hw, hd, fun _ => relAt_empty (t := Tracker.init o.maxWanted o.maxDiscovered) hw hd (fun _ => rfl) (fun _ => rfl)⟩

/-- an operation on instance `i`: the relation is re-established there and inherited everywhere else -/
theorem tinv_at {t t' : Tracker} {s s' : State} {i : Nat} {w' d' : PCache} (h : TInv t s) (hf : FrameAt t t' i)
    (hop : s'.opts = s.opts) (hW : ∀ j, W s' j = if j = i then w' else W s j)
    (hD : ∀ j, D s' j = if j = i then d' else D s j) (hr : RelAt t' i w' d') : TInv t' s' := by
  refine ⟨by rw [hf.capW, hop]; exact h.capW, by rw [hf.capD, hop]; exact h.capD, hf.capW ▸ h.posW,
    hf.capD ▸ h.posD, fun j => ?_⟩
  rw [hW j, hD j]
  by_cases hj : j = i
  · subst hj; rw [if_pos rfl, if_pos rfl]; exact hr
  · rw [if_neg hj, if_neg hj]; exact (h.rel j).frame hf hj

theorem tinv_get {t : Tracker} {s : State} (i : Nat) (k : Key) (h : TInv t s) :
    TInv (observe t (.get i k) (step s (.get i k)).2) (step s (.get i k)).1 := by
  by_cases hk : k = []
  · subst hk
    simp only [step, observe, getChain_zero, if_true]
    exact h
  · obtain ⟨hr, hW, hD⟩ := getChain_local s i hk
    simp only [step, observe, hk, if_false]
    rw [hr]
    exact tinv_at h (frame_onGet t i k _) (getChain_opts s i k) hW hD (relAt_get k (h.rel i))

theorem tinv_cacheAsDiscovered {t : Tracker} {s : State} (i : Nat) (c : Chain) (h : TInv t s) :
    TInv ((prefixes c).foldl (onAdmittedPrefix i) t) (cacheAsDiscovered s i c) :=
  have ⟨hop, hW, hD⟩ := cacheAsDiscovered_local s i c
  tinv_at h (frame_foldl (fun t p => frame_onAdmittedPrefix t i p) _ t) hop hW hD (relAt_discFold _ (h.rel i))

theorem tinv_cacheAsWanted {t : Tracker} {s : State} (i : Nat) (c : Chain) (h : TInv t s) :
    TInv ((prefixes c).foldl (onOwnPrefix i) t) (cacheAsWanted s i c).1 :=
  have ⟨hop, hW, hD⟩ := cacheAsWanted_local s i c
  tinv_at h (frame_foldl (fun t p => frame_onOwnPrefix t i p) _ t) hop hW
    (fun j => by rw [hD j, ite_self_eq j i (D s)]) (relAt_wantFold _ [] (h.rel i))

theorem tinv_prune {t : Tracker} {s : State} (n : Nat) (h : TInv t s) : TInv (onPrune t n) (prune s n) := by
  obtain ⟨hop, hW, hD⟩ := prune_local s n
  refine ⟨by rw [hop]; exact h.capW, by rw [hop]; exact h.capD, h.posW, h.posD, fun j => ?_⟩
  rw [hW j, hD j]
  by_cases hj : j < n
  · rw [if_pos hj, if_pos hj, ← h.capW, ← h.capD]
    exact relAt_empty (t := onPrune t n) h.posW h.posD (fun _ => if_pos hj) (fun _ => if_pos hj)
  · rw [if_neg hj, if_neg hj]
    exact ⟨(h.rel j).w.congr rfl (funext fun _ => if_neg hj) (fun K hK => (if_neg hj).trans hK),
      (h.rel j).d.congr rfl (funext fun _ => if_neg hj) (funext fun _ => if_neg hj) (fun K hK => (if_neg hj).trans hK)⟩

theorem feed_cases (s : State) (p : Progress) (now : Int) (m : Option Msg) :
    (∃ msg, m = some msg ∧ feed s p now m = (cacheAsDiscovered s msg.inst (chainIds msg.chain), .accept)) ∨
    ((feed s p now m).1 = s ∧ (feed s p now m).2 ≠ .accept) := by
  unfold feed
  cases m with
  | none => exact Or.inr ⟨rfl, nofun⟩
  | some msg =>
    cases hv : validate s.opts p now (some msg) with
    | accept => exact Or.inl ⟨msg, rfl, rfl⟩
    | reject r => exact Or.inr ⟨rfl, nofun⟩
    | ignore r => exact Or.inr ⟨rfl, nofun⟩

/-- a delivery that is not accepted leaves no trace in the history -/
theorem observe_feed_of_ne_accept (t : Tracker) (p : Progress) (now : Int) (m : Option Msg) {v : Verdict}
    (hv : v ≠ .accept) : observe t (.feed p now m) (.verdict v) = t := by
  cases m <;> cases v <;> first | rfl | exact absurd rfl hv

theorem tinv_step {t : Tracker} {s : State} (op : Op) (h : TInv t s) :
    TInv (observe t op (step s op).2) (step s op).1 := by
  cases op with
  | get i k => exact tinv_get i k h
  | feed p now m =>
    rcases feed_cases s p now m with ⟨msg, rfl, e⟩ | ⟨e1, e2⟩
    · simp only [step, e, observe]
      exact tinv_cacheAsDiscovered msg.inst (chainIds msg.chain) h
    · simp only [step]
      rw [e1, observe_feed_of_ne_accept t p now m e2]
      exact h
  | bcast i c =>
    simp only [step, observe]
    exact tinv_cacheAsWanted i c h
  | prune n =>
    simp only [step, observe]
    exact tinv_prune n h

theorem judge_some_ok {t : Tracker} {i : Nat} {k : Key} {c : Chain} (h : judgeLookup t i k (some c) = .ok) :
    c = k ∧ k ≠ [] ∧ mayFind t i k = true := by
  simp only [judgeLookup] at h
  rw [ite_eq_iff_of_ne (by decide), ite_eq_iff_of_ne (by decide), ite_eq_iff_of_ne (by decide)] at h
  exact ⟨Decidable.not_not.mp h.1, h.2.1, by simpa using h.2.2.1⟩

theorem found_of_must {t : Tracker} {i : Nat} {k : Key} {r : Option Chain} (hk : k ≠ [])
    (h : judgeLookup t i k r = .ok) (hm : mustFindW t i k = true ∨ mustFindD t i k = true) : r = some k := by
  cases r with
  | some c => rw [(judge_some_ok h).1]
  | none =>
    simp only [judgeLookup] at h
    rw [if_neg hk, ite_eq_iff_of_ne (by decide), ite_eq_iff_of_ne (by decide)] at h
    rcases hm with hm | hm
    · exact absurd hm h.1
    · exact absurd hm h.2.1

/-- model and tracker in lockstep: the tracker sees the model's own outputs -/
def runBoth (s : State) (t : Tracker) : List Op → State × Tracker
  | [] => (s, t)
  | o :: os => runBoth (step s o).1 (observe t o (step s o).2) os

theorem tinv_run {t : Tracker} {s : State} (ops : List Op) (h : TInv t s) :
    TInv (runBoth s t ops).2 (runBoth s t ops).1 := by
  induction ops generalizing s t with
  | nil => exact h
  | cons o os ih => exact ih (tinv_step o h)

theorem runBoth_fst (s : State) (t : Tracker) (ops : List Op) : (runBoth s t ops).1 = run s ops := by
  induction ops generalizing s t with
  | nil => rfl
  | cons o os ih => exact ih _ _

theorem runBoth_append (s : State) (t : Tracker) (a b : List Op) :
    runBoth s t (a ++ b) = runBoth (runBoth s t a).1 (runBoth s t a).2 b := by
  induction a generalizing s t with
  | nil => rfl
  | cons o os ih => exact ih _ _

theorem runBoth_prune_snd (s : State) (t : Tracker) (n : Nat) : (runBoth s t [.prune n]).2 = onPrune t n := rfl

/-- the history of a node configured with `o` after `ops`: model state and specification tracker -/
def history (o : Opts) (ops : List Op) : State × Tracker :=
  runBoth (init o) (Tracker.init o.maxWanted o.maxDiscovered) ops

theorem history_tinv (o : Opts) (hw : 0 < o.maxWanted) (hd : 0 < o.maxDiscovered) (ops : List Op) :
    TInv (history o ops).2 (history o ops).1 :=
  tinv_run ops (tinv_init o hw hd)

theorem history_state (o : Opts) (ops : List Op) : (history o ops).1 = run (init o) ops :=
  runBoth_fst _ _ _

theorem step_opts (s : State) (op : Op) : (step s op).1.opts = s.opts := by
  cases op with
  | get i k => exact getChain_opts s i k
  | feed p now m =>
    rcases feed_cases s p now m with ⟨msg, _, e⟩ | ⟨e1, _⟩
    · simp only [step, e]; rfl
    · simp only [step, e1]
  | bcast i c => exact (cacheAsWanted_local s i c).1
  | prune n => rfl

theorem run_opts (s : State) (ops : List Op) : (run s ops).opts = s.opts := by
  induction ops generalizing s with
  | nil => rfl
  | cons o os ih => exact (ih _).trans (step_opts s o)

theorem history_opts (o : Opts) (ops : List Op) : (history o ops).1.opts = o := by
  rw [history_state, run_opts]; rfl

/-- In every state related to its history, no lookup violates the specification. -/
theorem judge_ok {t : Tracker} {s : State} (h : TInv t s) (i : Nat) (k : Key) :
    judgeLookup t i k (getChain s i k).2.1 = .ok := by
  by_cases hk : k = []
  · subst hk; simp [getChain_zero, judgeLookup]
  · obtain ⟨hr, _, _⟩ := getChain_local s i hk
    rw [hr]
    have hrel := h.rel i
    rcases getLocal_cases (W s i) (D s i) k with ⟨c, hc, e⟩ | ⟨hnc, q, hq, e⟩ | ⟨hnc, hq, e⟩
    · rw [e]
      have hck : c = k := by
        rcases hrel.w.ok.vals k _ hc with h1 | h1
        · cases h1
        · exact (Portion.chain.inj h1)
      subst hck
      have hdel := hrel.w.delivered c c hc
      simp [judgeLookup, hk, mayFind, hdel]
    · rw [e]
      have hqk : q = .chain k := hrel.d.ok.vals k q hq
      subst hqk
      have hdel := hrel.d.delivered k _ hq
      simp [judgeLookup, hk, mayFind, hdel, Portion.chainOf]
    · rw [e]
      have hW : mustFindW t i k = false := by
        unfold mustFindW
        cases htw : t.w i k with
        | none => rfl
        | some wt =>
          by_cases hc : wt.hasContent = true
          · by_cases hl : wt.since.length < t.capW
            · exact absurd (hrel.w.kept k wt htw hl).2 (fun hh => hnc k (hh hc))
            · simp [hl]
          · simp [hc]
      have hD : mustFindD t i k = false := by
        unfold mustFindD
        cases htw : t.w i k with
        | some wt => rfl
        | none =>
          cases htd : t.d i k with
          | none => rfl
          | some ds =>
            by_cases hl : ds.length < t.capD
            · have := holds_peek_isSome (hrel.d.kept k ds htw htd hl)
              rw [hq] at this; cases this
            · simp [hl]
      simp [judgeLookup, hk, hW, hD]

end F3.ChainX
