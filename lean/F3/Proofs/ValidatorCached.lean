import F3.Proofs.ValidatorBasic
import F3.Proofs.ValidatorCache
/-!
The cached validator computes the cache-free check (`checkMsg`) on every cache whose keys are *sound*,
and keeps the cache sound — through hits, misses, inserts, flip/flop rotation, group eviction and
pruning. This is the engine of `validate_history_independent` (C05) and of the shared-cache clause of C13.
-/
namespace F3.Validator
open F3.Msg F3.Cache

/-- What a key in group `g` of the validation cache stands for: a message (partial message) of
instance `g` that passes the cache-free check under the committee function, resp. a justification
whose signers/quorum/aggregate check passes for the recorded expected key under `g`'s committee. -/
def keyOK (cfg : Cfg) (comt : Nat → Option Committee) (g : Nat) : CKey → Prop
  | .msg m => m.vote.inst = g ∧ checkMsg cfg comt none m = .accept
  | .pmsg k m => m.vote.inst = g ∧ checkMsg cfg comt (some k) m = .accept
  | .just j ek => ∃ c, comt g = some c ∧ sigJust cfg c j ek = true
  | .pjust j ek => ∃ c, comt g = some c ∧ sigJust cfg c j ek = true

def CacheSound (cfg : Cfg) (comt : Nat → Option Committee) (cache : VCache) : Prop :=
  ∀ g k, cache.mem g k → keyOK cfg comt g k

theorem cacheSound_new (cfg : Cfg) (comt : Nat → Option Committee) (a b : Nat) :
    CacheSound cfg comt (GroupedSet.new a b) :=
  fun g k h => absurd h (not_mem_new a b g k)

/-- An invariant of the validation cache that implies soundness of its keys and that every cache operation of the
validator keeps: look-ups, inserts of keys that are `keyOK`, pruning. -/
structure SoundInv (cfg : Cfg) (comt : Nat → Option Committee) (I : VCache → Prop) : Prop where
  sound : ∀ c, I c → CacheSound cfg comt c
  contains : ∀ c g k, I c → I (GroupedSet.contains c g k).2
  add : ∀ c g k, I c → keyOK cfg comt g k → I (GroupedSet.add c g k).2
  prune : ∀ c n, I c → I (GroupedSet.removeLessThan c n)

/-- Rotation, LRU eviction and pruning only ever drop keys; an insert adds the one key. -/
theorem soundInv_cacheSound (cfg : Cfg) (comt : Nat → Option Committee) :
    SoundInv cfg comt (CacheSound cfg comt) where
  sound _ h := h
  contains _ _ _ h g' k' hm := h g' k' (mem_after_contains hm)
  add _ _ _ h hk g' k' hm := by
    rcases mem_after_add hm with h1 | ⟨rfl, rfl⟩
    · exact h g' k' h1
    · exact hk
  prune _ _ h g k hm := h g k (mem_after_removeLessThan hm)

/-- Look-ups, inserts and pruning keep the cache within its configured size as well. -/
theorem soundInv_bounded (cfg : Cfg) (comt : Nat → Option Committee) :
    SoundInv cfg comt (fun c => CacheSound cfg comt c ∧ c.bounded) where
  sound _ h := h.1
  contains c g k h := ⟨(soundInv_cacheSound cfg comt).contains c g k h.1, bounded_contains h.2 g k⟩
  add c g k h hk := ⟨(soundInv_cacheSound cfg comt).add c g k h.1 hk, bounded_add h.2 g k⟩
  prune c n h := ⟨(soundInv_cacheSound cfg comt).prune c n h.1, bounded_removeLessThan h.2 n⟩

theorem keyOK_justCKey {cfg : Cfg} {comt : Nat → Option Committee} {g : Nat} {vk : Option VKey}
    {j : Just} {ek : VKey} {key : CKey} (hk : justCKey vk j ek = some key) :
    keyOK cfg comt g key ↔ ∃ c, comt g = some c ∧ sigJust cfg c j ek = true := by
  unfold justCKey at hk
  split at hk
  · cases hk
    split <;> simp [keyOK]
  · cases hk

theorem keyOK_msgCKey {cfg : Cfg} {comt : Nat → Option Committee} {g : Nat} {vk : Option VKey}
    {m : Msg} {key : CKey} (hk : msgCKey vk m = some key) :
    keyOK cfg comt g key ↔ (m.vote.inst = g ∧ checkMsg cfg comt vk m = .accept) := by
  unfold msgCKey at hk
  split at hk
  · cases hk
    cases vk <;> simp [keyOK]
  · cases hk

section
variable {cfg : Cfg} {comt : Nat → Option Committee} {I : VCache → Prop} (hI : SoundInv cfg comt I)
include hI

theorem validateJust_eq {cache : VCache} (h : I cache) {c : Committee} (vk : Option VKey) (m : Msg)
    (hc : comt m.vote.inst = some c) :
    (validateJust cfg c cache vk m).1 = checkJust cfg c vk m ∧ I (validateJust cfg c cache vk m).2 := by
  unfold validateJust checkJust
  cases hp : preJust vk m with
  | none => exact ⟨rfl, h⟩
  | some p =>
    obtain ⟨j, ek⟩ := p
    dsimp only
    cases hk : justCKey vk j ek with
    | none => exact ⟨rfl, h⟩
    | some key =>
      have h1 := hI.contains cache m.vote.inst key h
      dsimp only
      by_cases hit : (cache.contains m.vote.inst key).1 = true
      · -- a hit: the key stands for a justification that passed the signature check under this committee
        obtain ⟨c', hc', hsig⟩ := (keyOK_justCKey hk).mp (hI.sound _ h _ _ (mem_of_contains hit))
        rw [hc] at hc'; cases hc'
        rw [if_pos hit]
        exact ⟨hsig.symm, h1⟩
      · rw [if_neg hit]
        by_cases hsig : sigJust cfg c j ek = true
        · rw [if_pos hsig]
          exact ⟨hsig.symm, hI.add _ _ _ h1 ((keyOK_justCKey hk).mpr ⟨c, hc, hsig⟩)⟩
        · rw [if_neg hsig]
          exact ⟨(Bool.eq_false_iff.mpr hsig).symm, h1⟩

theorem validateBody_eq {cache : VCache} (h : I cache) {c : Committee} (vk : Option VKey) (m : Msg)
    (hc : comt m.vote.inst = some c) :
    (validateBody cfg c cache vk m).1 = checkBody cfg c vk m ∧ I (validateBody cfg c cache vk m).2 := by
  unfold validateBody checkBody
  cases preMsg cfg c vk m with
  | none => exact ⟨rfl, h⟩
  | some b =>
    cases b with
    | true => exact validateJust_eq hI h vk m hc
    | false => exact ⟨rfl, h⟩

/-- **Cache transparency.** `validateMessageWithVoteValueKey` under the invariant returns exactly the
cache-free verdict, and keeps the invariant. -/
theorem validateMsgK_eq {cache : VCache} (h : I cache) (vk : Option VKey) (m : Msg) :
    (validateMsgK cfg comt cache vk m).1 = checkMsg cfg comt vk m ∧ I (validateMsgK cfg comt cache vk m).2 := by
  -- after the first look-up: the committee look-up and the body, then `final` (the insert, if there is a key)
  have tail : ∀ (cache' : VCache) (final : VCache → VCache), I cache' →
      (∀ c', I c' → checkMsg cfg comt vk m = .accept → I (final c')) →
      ∀ r : Verdict × VCache,
        r = (match comt m.vote.inst with
          | none => (Verdict.noCommittee, cache')
          | some c =>
            if (validateBody cfg c cache' vk m).1 then (.accept, final (validateBody cfg c cache' vk m).2)
            else (.invalid, (validateBody cfg c cache' vk m).2)) →
        r.1 = checkMsg cfg comt vk m ∧ I r.2 := by
    intro cache' final h' hfinal r hr
    subst hr
    rw [checkMsg_eq]
    cases hc : comt m.vote.inst with
    | none => exact ⟨rfl, h'⟩
    | some c =>
      obtain ⟨hv, hi⟩ := validateBody_eq hI h' vk m hc
      have hacc : checkBody cfg c vk m = true → checkMsg cfg comt vk m = .accept := fun hb =>
        (checkMsg_accept_iff_body cfg comt vk m).mpr ⟨c, hc, hb⟩
      dsimp only [Option.elim]
      rw [← hv] at hacc ⊢
      cases hb : (validateBody cfg c cache' vk m).1 with
      | true => exact ⟨rfl, hfinal _ hi (hacc hb)⟩
      | false => exact ⟨rfl, hi⟩
  unfold validateMsgK
  cases hk : msgCKey vk m with
  | none => exact tail cache id h (fun _ h' _ => h') _ rfl
  | some key =>
    dsimp only
    by_cases hit : (cache.contains m.vote.inst key).1 = true
    · rw [if_pos hit]
      exact ⟨((keyOK_msgCKey hk).mp (hI.sound _ h _ _ (mem_of_contains hit))).2.symm, hI.contains _ _ _ h⟩
    · rw [if_neg hit]
      exact tail _ (fun c' => (c'.add m.vote.inst key).2) (hI.contains _ _ _ h)
        (fun c' h' hacc => hI.add _ _ _ h' ((keyOK_msgCKey hk).mpr ⟨rfl, hacc⟩)) _ rfl

end

/-- The verdict of `validateByProgress` followed by `validateMessageWithVoteValueKey`, as a function of message,
committee function, progress and mode (`none`: `ValidateMessage`, `some key`: `PartiallyValidateMessage`) only. -/
def pureVerdict (cfg : Cfg) (comt : Nat → Option Committee) (prog : Progress) (vk : Option VKey) (m : Msg) :
    Verdict :=
  (byProgress cfg prog m.vote).getD (checkMsg cfg comt vk m)

theorem pureVerdict_of_some {cfg : Cfg} {comt : Nat → Option Committee} {p : Progress} {vk : Option VKey}
    {m : Msg} {e : Verdict} (h : byProgress cfg p m.vote = some e) : pureVerdict cfg comt p vk m = e := by
  unfold pureVerdict; rw [h]; rfl

theorem pureVerdict_of_none {cfg : Cfg} {comt : Nat → Option Committee} {p : Progress} {vk : Option VKey}
    {m : Msg} (h : byProgress cfg p m.vote = none) :
    pureVerdict cfg comt p vk m = checkMsg cfg comt vk m := by
  unfold pureVerdict; rw [h]; rfl

/-- `accept` and `invalid` come from validation proper, never from the progress check. -/
theorem pureVerdict_eq_iff (cfg : Cfg) (comt : Nat → Option Committee) (p : Progress) (vk : Option VKey)
    (m : Msg) {r : Verdict} (hr : r = .accept ∨ r = .invalid) :
    pureVerdict cfg comt p vk m = r ↔ (byProgress cfg p m.vote = none ∧ checkMsg cfg comt vk m = r) := by
  have hne : byProgress cfg p m.vote ≠ some r := fun h => by
    rcases hr with rfl | rfl <;> simpa using byProgress_sentinel cfg p m.vote _ h
  unfold pureVerdict
  rw [Option.getD_eq_iff]
  simp only [hne, false_or]

theorem pureVerdict_accept_iff (cfg : Cfg) (comt : Nat → Option Committee) (p : Progress) (vk : Option VKey)
    (m : Msg) :
    pureVerdict cfg comt p vk m = .accept ↔
      (byProgress cfg p m.vote = none ∧ ∃ c, comt m.vote.inst = some c ∧ checkBody cfg c vk m = true) := by
  rw [pureVerdict_eq_iff cfg comt p vk m (.inl rfl), checkMsg_accept_iff_body]

section
variable {cfg : Cfg} {comt : Nat → Option Committee} {I : VCache → Prop} (hI : SoundInv cfg comt I)
include hI

/-- Both entry points are the progress check followed by `validateMessageWithVoteValueKey`. -/
theorem gated_eq {cache : VCache} (h : I cache) (prog : Progress) (vk : Option VKey) (m : Msg) :
    (match byProgress cfg prog m.vote with
      | some e => (e, cache)
      | none => validateMsgK cfg comt cache vk m).1 = pureVerdict cfg comt prog vk m ∧
    I (match byProgress cfg prog m.vote with
      | some e => (e, cache)
      | none => validateMsgK cfg comt cache vk m).2 := by
  unfold pureVerdict
  cases byProgress cfg prog m.vote with
  | some e => exact ⟨rfl, h⟩
  | none => exact validateMsgK_eq hI h vk m

theorem applyOp_inv {cache : VCache} (h : I cache) (op : CacheOp) : I (applyOp cfg comt cache op) := by
  cases op with
  | validate p m => exact (gated_eq hI h p none m).2
  | partially p pm => exact (gated_eq hI h p (some pm.key) pm.msg).2
  | prune n => exact hI.prune _ n h

theorem runOps_inv (ops : List CacheOp) {cache : VCache} (h : I cache) : I (runOps cfg comt cache ops) := by
  induction ops generalizing cache with
  | nil => exact h
  | cons op t ih => exact ih (applyOp_inv hI h op)

end

theorem validate_eq {cfg : Cfg} {comt : Nat → Option Committee} {cache : VCache}
    (hs : CacheSound cfg comt cache) (prog : Progress) (m : Msg) :
    (validate cfg comt prog cache m).1 = pureVerdict cfg comt prog none m :=
  (gated_eq (soundInv_cacheSound cfg comt) hs prog none m).1

theorem partially_eq {cfg : Cfg} {comt : Nat → Option Committee} {cache : VCache}
    (hs : CacheSound cfg comt cache) (prog : Progress) (pm : PMsg) :
    (partially cfg comt prog cache pm).1 = pureVerdict cfg comt prog (some pm.key) pm.msg :=
  (gated_eq (soundInv_cacheSound cfg comt) hs prog (some pm.key) pm.msg).1

end F3.Validator
