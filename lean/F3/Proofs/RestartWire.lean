import F3.Proofs.Restart
import F3.Proofs.EquivHost
/-!
# Discharging `PublishedOK` — the interface `F3.Restart` takes from C12

The two fields of `PublishedOK` are obtained

* from the vote-level scan `published` (first value per slot wins): `RestartingRun.ofPublished`;
* from **any** history of the C12 node model `F3.Equiv` (requests with crash points after the filter / the WAL append /
  the publish, rebroadcasts, receives, stops, restarts, purges, trims) satisfying C12's `RunOk`, whose broadcast
  requests for this instance are requests of the incarnations, with "a vote exists" read as "recorded in the WAL at
  some time": `publishedOK_of_ever`. Field `single` is the invariant behind `F3.Props.C12.wire_no_equivocation` (the
  record never holds two signatures for one slot), field `requested` is `ever_requested` (what was appended to the WAL
  was the argument of a `BroadcastMessage` call);
* the same with "exists" read as "on the wire", a part of the record (`Equiv.SysInv.wire_sub`, the content of
  `F3.Props.C12.record_before_publish`): `publishedOK_of_wire`, `RestartingRun.ofWire`.

`wire_history` ties the first to the others: the scan *is* the wire of the C12 model on the crash-free history of the
incarnations.
-/
namespace F3.Restart
open F3 F3.Instance F3.Bridge

/-- at most one value per slot -/
def Single (l : List Req) : Prop := ∀ a ∈ l, ∀ b ∈ l, a.1 = b.1 → a.2.1 = b.2.1 → a.2.2 = b.2.2

theorem allowed_iff (seen : List Req) (q : Req) :
    allowed seen q = true ↔ ∀ s ∈ seen, s.1 = q.1 → s.2.1 = q.2.1 → s.2.2 = q.2.2 := by
  unfold allowed
  rw [List.all_eq_true]
  constructor
  · intro h s hs h1 h2
    have := h s hs
    simp only [sameSlot, h1, h2, beq_self_eq_true, Bool.and_self, Bool.not_true, Bool.false_or, beq_iff_eq] at this
    exact this
  · intro h s hs
    by_cases hc : sameSlot s q = true
    · have hc' := hc
      simp only [sameSlot, Bool.and_eq_true, beq_iff_eq] at hc'
      simp [hc, h s hs hc'.1 hc'.2]
    · simp [hc]

theorem single_nil : Single [] := by intro a ha; cases ha

theorem single_snoc {seen : List Req} {q : Req} (h : Single seen) (ha : allowed seen q = true) :
    Single (seen ++ [q]) := by
  rw [allowed_iff] at ha
  intro a hm b hb h1 h2
  rcases List.mem_append.1 hm with ha1 | ha1 <;> rcases List.mem_append.1 hb with hb1 | hb1
  · exact h a ha1 b hb1 h1 h2
  · have hbq : b = q := by simpa using hb1
    rw [hbq] at h1 h2 ⊢; exact ha a ha1 h1 h2
  · have haq : a = q := by simpa using ha1
    rw [haq] at h1 h2 ⊢; exact (ha b hb1 h1.symm h2.symm).symm
  · have hbq : b = q := by simpa using hb1
    have haq : a = q := by simpa using ha1
    rw [haq, hbq]

theorem scan_single : ∀ (qs seen : List Req), Single seen → Single (scan seen qs)
  | [], _, h => h
  | q :: qs, seen, h => by
    unfold scan
    by_cases ha : allowed seen q = true
    · rw [if_pos ha]; exact scan_single qs _ (single_snoc h ha)
    · rw [if_neg ha]; exact scan_single qs _ h

theorem scan_mono : ∀ (qs seen : List Req) (x : Req), x ∈ seen → x ∈ scan seen qs
  | [], _, _, h => h
  | q :: qs, seen, x, h => by
    unfold scan
    apply scan_mono qs
    split
    · exact List.mem_append_left _ h
    · exact h

theorem scan_append (a b seen : List Req) : scan seen (a ++ b) = scan (scan seen a) b := by
  induction a generalizing seen with
  | nil => rfl
  | cons q a ih => simp only [List.cons_append, scan]; exact ih _

/-- **The scan is first-value-wins**: a request is published iff it was allowed against everything published
before it was made. -/
theorem mem_scan_iff (qs seen : List Req) (x : Req) :
    x ∈ scan seen qs ↔ x ∈ seen ∨ ∃ pre post, qs = pre ++ x :: post ∧ allowed (scan seen pre) x = true := by
  constructor
  · induction qs generalizing seen with
    | nil => exact Or.inl
    | cons q qs ih =>
      intro h
      unfold scan at h
      rcases ih _ h with h' | ⟨pre, post, he, ha⟩
      · by_cases hq : allowed seen q = true
        · rw [if_pos hq] at h'
          rcases List.mem_append.1 h' with h'' | h''
          · exact Or.inl h''
          · simp only [List.mem_singleton] at h''; subst h''
            exact Or.inr ⟨[], qs, rfl, hq⟩
        · rw [if_neg hq] at h'; exact Or.inl h'
      · exact Or.inr ⟨q :: pre, post, by rw [he]; rfl, by simpa only [scan] using ha⟩
  · rintro (h | ⟨pre, post, rfl, ha⟩)
    · exact scan_mono _ _ _ h
    · rw [scan_append]
      unfold scan
      rw [if_pos ha]
      exact scan_mono _ _ _ (List.mem_append_right _ (List.mem_singleton.2 rfl))

variable {W : Votes} {t : Table}

theorem publishedOK_of_published (p : Pid) (segs : List (Segment W t))
    (hown : ∀ r ph v, W p r ph v ↔ (r, ph, v) ∈ published (segs.map (fun s => requests s.effs))) :
    PublishedOK W t p segs where
  single := by
    intro r ph x y hx hy
    exact scan_single _ _ single_nil _ ((hown r ph x).1 hx) _ ((hown r ph y).1 hy) rfl rfl
  requested := by
    intro r ph v hv
    rcases (mem_scan_iff _ _ _).1 ((hown r ph v).1 hv) with h | ⟨pre, post, he, _⟩
    · cases h
    · obtain ⟨l, hl, hq⟩ := List.mem_flatten.1 (he ▸ List.mem_append_right pre List.mem_cons_self)
      obtain ⟨s, hs, rfl⟩ := List.mem_map.1 hl
      exact ⟨s, hs, (requested_iff s r ph v).2 hq⟩

/-- a restarting participant whose wire is the first-value-wins scan of its incarnations' requests -/
def RestartingRun.ofPublished (p : Pid) (segs : List (Segment W t))
    (hown : ∀ r ph v, W p r ph v ↔ (r, ph, v) ∈ published (segs.map (fun s => requests s.effs))) :
    RestartingRun W t p := ⟨segs, publishedOK_of_published p segs hown⟩

theorem toMsg_inj (inst sender : Nat) (sig : Req → Nat)
    (hsig : ∀ r ph x y, sig (r, ph, x) = sig (r, ph, y) → x = y) {a b : Req}
    (h : toMsg inst sender sig a = toMsg inst sender sig b) : a = b := by
  obtain ⟨r, ph, x⟩ := a
  obtain ⟨r', ph', y⟩ := b
  simp only [toMsg, Equiv.Msg.mk.injEq, true_and] at h
  obtain ⟨h1, h2, h3⟩ := h
  have hp := Phase.toNat_inj h2
  subst h1; subst hp
  rw [hsig r ph x y h3]

theorem step_ever (s : Equiv.Sys) (op : Equiv.Op) :
    ∀ e ∈ (Equiv.step s op).ever, e ∈ s.ever ∨ ∃ c, op = .broadcast e c := by
  intro e he
  cases op with
  | broadcast m c =>
    unfold Equiv.step at he
    dsimp only at he
    split_ifs at he
    all_goals first
      | exact Or.inl he
      | exact (List.mem_append.1 he).imp id fun h => ⟨c, by rw [List.mem_singleton.1 h]⟩
  | restart => exact Or.inl he
  | stop => exact Or.inl he
  | _ =>
    unfold Equiv.step at he
    dsimp only at he
    split_ifs at he <;> exact Or.inl he

/-- whatever was appended to the WAL was the argument of a `BroadcastMessage` call -/
theorem ever_requested (ops : List Equiv.Op) (s : Equiv.Sys) :
    ∀ e ∈ (Equiv.run s ops).ever, e ∈ s.ever ∨ ∃ c, Equiv.Op.broadcast e c ∈ ops := by
  induction ops generalizing s with
  | nil => intro e he; exact Or.inl he
  | cons op ops ih =>
    intro e he
    rcases ih (Equiv.step s op) e he with h | ⟨c, h⟩
    · rcases step_ever s op e h with h' | ⟨c, h'⟩
      · exact Or.inl h'
      · exact Or.inr ⟨c, by rw [h']; exact List.mem_cons_self⟩
    · exact Or.inr ⟨c, List.mem_cons_of_mem _ h⟩

/-- **`PublishedOK` from C12**, "in existence" read as *recorded in the WAL at some time* (`ever`).  `hist` is the
whole life of the node's broadcast path (any `F3.Equiv` history admissible for C12); `sig` is the signature of a vote
under `p`'s key, which determines the value (`hsig`); `hreq`: the node calls `BroadcastMessage` for a vote of `p` in
this instance only on request of an incarnation; `hown`: the votes of `p` in existence are in the node's record.
This is the reading to use when a recorded-but-not-yet-published message counts as existing: `startInstanceAt`
replays the WAL's own messages to the rebuilt participant, including one whose publish was cut off by the crash.
Field `single` is the invariant behind `wire_no_equivocation` (`SysInv.cons`: the record itself never holds two
signatures for one slot), field `requested` is `ever_requested`. -/
theorem publishedOK_of_ever (p : Pid) (segs : List (Segment W t))
    (own : Nat → Bool) (l : Equiv.Peer) (hist : List Equiv.Op) (hok : Equiv.RunOk own (Equiv.Sys.init l) hist)
    (inst : Nat) (sig : Req → Nat) (hsig : ∀ r ph x y, sig (r, ph, x) = sig (r, ph, y) → x = y)
    (hreq : ∀ m c, Equiv.Op.broadcast m c ∈ hist → m.inst = inst → m.sender = p →
      ∃ s ∈ segs, ∃ q ∈ requests s.effs, m = toMsg inst p sig q)
    (hown : ∀ r ph v, W p r ph v → toMsg inst p sig (r, ph, v) ∈ (Equiv.run (Equiv.Sys.init l) hist).ever) :
    PublishedOK W t p segs where
  single := fun r ph x y hx hy =>
    hsig r ph x y ((Equiv.inv_run (Equiv.sysInv_init own l) hist hok).cons _ (hown r ph x hx) _ (hown r ph y hy) rfl)
  requested := by
    intro r ph v hv
    rcases ever_requested hist _ _ (hown r ph v hv) with h | ⟨c, hc⟩
    · cases h
    · obtain ⟨s, hs, q, hq, he⟩ := hreq _ c hc rfl rfl
      cases toMsg_inj inst p sig hsig he
      exact ⟨s, hs, (requested_iff s r ph v).2 hq⟩

/-- The same with "in existence" read as *on the wire*, a part of the record (`Equiv.SysInv.wire_sub`). -/
theorem publishedOK_of_wire (p : Pid) (segs : List (Segment W t))
    (own : Nat → Bool) (l : Equiv.Peer) (hist : List Equiv.Op) (hok : Equiv.RunOk own (Equiv.Sys.init l) hist)
    (inst : Nat) (sig : Req → Nat) (hsig : ∀ r ph x y, sig (r, ph, x) = sig (r, ph, y) → x = y)
    (hreq : ∀ m c, Equiv.Op.broadcast m c ∈ hist → m.inst = inst → m.sender = p →
      ∃ s ∈ segs, ∃ q ∈ requests s.effs, m = toMsg inst p sig q)
    (hown : ∀ r ph v, W p r ph v → toMsg inst p sig (r, ph, v) ∈ (Equiv.run (Equiv.Sys.init l) hist).wire) :
    PublishedOK W t p segs :=
  publishedOK_of_ever p segs own l hist hok inst sig hsig hreq
    fun r ph v hv => (Equiv.inv_run (Equiv.sysInv_init own l) hist hok).wire_sub _ (hown r ph v hv)

def RestartingRun.ofWire (p : Pid) (segs : List (Segment W t))
    (own : Nat → Bool) (l : Equiv.Peer) (hist : List Equiv.Op) (hok : Equiv.RunOk own (Equiv.Sys.init l) hist)
    (inst : Nat) (sig : Req → Nat) (hsig : ∀ r ph x y, sig (r, ph, x) = sig (r, ph, y) → x = y)
    (hreq : ∀ m c, Equiv.Op.broadcast m c ∈ hist → m.inst = inst → m.sender = p →
      ∃ s ∈ segs, ∃ q ∈ requests s.effs, m = toMsg inst p sig q)
    (hown : ∀ r ph v, W p r ph v → toMsg inst p sig (r, ph, v) ∈ (Equiv.run (Equiv.Sys.init l) hist).wire) :
    RestartingRun W t p := ⟨segs, publishedOK_of_wire p segs own l hist hok inst sig hsig hreq hown⟩

/-- invariant of the crash-free history: the node is up, nothing was purged, WAL record and wire coincide and
are the scan so far -/
structure HInv (own : Nat → Bool) (inst sender : Nat) (sig : Req → Nat) (s : Equiv.Sys) (seen : List Req) : Prop where
  inv : Equiv.SysInv own s
  up : s.up = true
  floor : s.floor = 0
  purged : s.purged = 0
  wire : s.wire = seen.map (toMsg inst sender sig)
  ever : s.ever = s.wire

variable {own : Nat → Bool} {inst sender : Nat} {sig : Req → Nat}

theorem HInv.restart {s : Equiv.Sys} {seen : List Req} (inv : Equiv.SysInv own s) (floor : s.purged = 0)
    (wire : s.wire = seen.map (toMsg inst sender sig)) (ever : s.ever = s.wire) :
    HInv own inst sender sig (Equiv.step s .restart) seen :=
  ⟨Equiv.inv_restart inv, rfl, floor, floor, wire, ever⟩

theorem slot_toMsg (a b : Req) :
    (toMsg inst sender sig a).slot = (toMsg inst sender sig b).slot ↔ a.1 = b.1 ∧ a.2.1 = b.2.1 := by
  simp only [Equiv.Msg.slot, toMsg, Prod.mk.injEq, true_and]
  constructor
  · rintro ⟨h1, h2⟩; exact ⟨h1, Phase.toNat_inj h2⟩
  · rintro ⟨h1, h2⟩; exact ⟨h1, by rw [h2]⟩

theorem HInv.broadcast (hown : own sender = true) (hsig : ∀ r ph x y, sig (r, ph, x) = sig (r, ph, y) → x = y)
    {s : Equiv.Sys} {seen : List Req} (h : HInv own inst sender sig s seen) (q : Req) :
    Equiv.OpOk own s (.broadcast (toMsg inst sender sig q) 0) ∧
    HInv own inst sender sig (Equiv.step s (.broadcast (toMsg inst sender sig q) 0))
      (if allowed seen q then seen ++ [q] else seen) := by
  have hF : s.floor ≤ (toMsg inst sender sig q).inst := by rw [h.floor]; exact Nat.zero_le _
  have hop : Equiv.OpOk own s (.broadcast (toMsg inst sender sig q) 0) := ⟨hF, hown⟩
  refine ⟨hop, ?_⟩
  have hinv' := Equiv.inv_broadcast h.inv (toMsg inst sender sig q) 0 hF hown
  have hfi := h.inv.finv h.up
  have hall : (∀ e ∈ s.ever, e.slot = (toMsg inst sender sig q).slot → e.sig = (toMsg inst sender sig q).sig) ↔
      allowed seen q = true := by
    rw [allowed_iff, h.ever, h.wire]
    constructor
    · intro hh a ha h1 h2
      have := hh _ (List.mem_map.2 ⟨a, ha, rfl⟩) ((slot_toMsg a q).2 ⟨h1, h2⟩)
      obtain ⟨r, ph, x⟩ := a
      obtain ⟨r', ph', y⟩ := q
      simp only at h1 h2; subst h1; subst h2
      exact hsig r ph x y this
    · intro hh e he hs
      obtain ⟨a, ha, rfl⟩ := List.mem_map.1 he
      obtain ⟨h1, h2⟩ := (slot_toMsg a q).1 hs
      have h3 := hh a ha h1 h2
      obtain ⟨r, ph, x⟩ := a
      obtain ⟨r', ph', y⟩ := q
      simp only at h1 h2 h3; subst h1; subst h2; subst h3; rfl
  rcases hfi.pb_cases (toMsg inst sender sig q) hF hown with ⟨hrej, hwhy⟩ | ⟨f', hacc, _, hnc, _, _, _⟩
  · have hna : allowed seen q = false := by
      rcases hwhy with hlt | ⟨e, he, hs, hne⟩
      · exfalso
        rcases hfi.cur_wit with h0 | ⟨e, he, hc⟩
        · omega
        · rw [h.ever, h.wire] at he
          obtain ⟨a, _, rfl⟩ := List.mem_map.1 he
          have : (toMsg inst sender sig a).inst = (toMsg inst sender sig q).inst := rfl
          omega
      · cases hq : allowed seen q with
        | false => rfl
        | true => exact absurd (hall.2 hq e he hs) hne
    have hst : Equiv.step s (.broadcast (toMsg inst sender sig q) 0) = { s with up := true } :=
      Equiv.step_broadcast_refused h.up hrej 0
    rw [hna]
    simp only [Bool.false_eq_true, if_false]
    refine ⟨hinv', ?_, ?_, ?_, ?_, ?_⟩ <;> rw [hst]
    · exact h.floor
    · exact h.purged
    · exact h.wire
    · exact h.ever
  · have hya : allowed seen q = true := hall.1 hnc
    have hst : Equiv.step s (.broadcast (toMsg inst sender sig q) 0) =
        { s with filter := f', wal := s.wal ++ [toMsg inst sender sig q], ever := s.ever ++ [toMsg inst sender sig q],
                 self := s.self ++ [toMsg inst sender sig q], wire := s.wire ++ [toMsg inst sender sig q], up := true } :=
      Equiv.step_broadcast_allowed h.up hacc 0
    rw [hya]
    simp only [if_true]
    refine ⟨hinv', ?_, ?_, ?_, ?_, ?_⟩ <;> rw [hst]
    · exact h.floor
    · exact h.purged
    · show s.wire ++ _ = _
      rw [h.wire, List.map_append]; rfl
    · show s.ever ++ _ = s.wire ++ _
      rw [h.ever]

/-- the requests of one incarnation, all completing -/
theorem run_requests (hown : own sender = true) (hsig : ∀ r ph x y, sig (r, ph, x) = sig (r, ph, y) → x = y)
    (qs : List Req) {s : Equiv.Sys} {seen : List Req} (h : HInv own inst sender sig s seen) :
    Equiv.RunOk own s (qs.map (fun q => Equiv.Op.broadcast (toMsg inst sender sig q) 0)) ∧
    HInv own inst sender sig (Equiv.run s (qs.map (fun q => Equiv.Op.broadcast (toMsg inst sender sig q) 0)))
      (scan seen qs) := by
  induction qs generalizing s seen with
  | nil => exact ⟨trivial, h⟩
  | cons q qs ih =>
    obtain ⟨h1, h2⟩ := h.broadcast hown hsig q
    obtain ⟨h3, h4⟩ := ih h2
    exact ⟨⟨h1, h3⟩, h4⟩

theorem run_history (hown : own sender = true) (hsig : ∀ r ph x y, sig (r, ph, x) = sig (r, ph, y) → x = y)
    (segs : List (List Req)) {s : Equiv.Sys} {seen : List Req} (inv : Equiv.SysInv own s) (purged : s.purged = 0)
    (wire : s.wire = seen.map (toMsg inst sender sig)) (ever : s.ever = s.wire) :
    Equiv.RunOk own s (history inst sender sig segs) ∧
    Equiv.SysInv own (Equiv.run s (history inst sender sig segs)) ∧
    (Equiv.run s (history inst sender sig segs)).purged = 0 ∧
    (Equiv.run s (history inst sender sig segs)).wire = (scan seen segs.flatten).map (toMsg inst sender sig) ∧
    (Equiv.run s (history inst sender sig segs)).ever = (Equiv.run s (history inst sender sig segs)).wire := by
  induction segs generalizing s seen with
  | nil => exact ⟨trivial, inv, purged, wire, ever⟩
  | cons qs segs ih =>
    have h0 : HInv own inst sender sig (Equiv.step s .restart) seen := HInv.restart inv purged wire ever
    obtain ⟨h1, h2⟩ := run_requests hown hsig qs h0
    obtain ⟨h3, h4⟩ := ih h2.inv h2.purged h2.wire h2.ever
    have hh : history inst sender sig (qs :: segs) =
        (Equiv.Op.restart :: qs.map (fun q => Equiv.Op.broadcast (toMsg inst sender sig q) 0)) ++
          history inst sender sig segs := by
      simp [history]
    rw [hh, EquivHost.runOk_append, EquivHost.run_append, List.flatten_cons, scan_append]
    exact ⟨⟨⟨trivial, h1⟩, h3⟩, h4⟩

/-- **The vote-level scan is the wire of the C12 node model** on the crash-free history of the incarnations
(each starts by re-arming the filter from the WAL, then makes its requests): the history is admissible for
C12, and what it publishes is `published`. -/
theorem wire_history (sender l : Nat) (inst : Nat) (sig : Req → Nat)
    (hsig : ∀ r ph x y, sig (r, ph, x) = sig (r, ph, y) → x = y) (segs : List (List Req)) :
    Equiv.RunOk (fun x => x == sender) (Equiv.Sys.init l) (history inst sender sig segs) ∧
    (Equiv.run (Equiv.Sys.init l) (history inst sender sig segs)).wire =
      (published segs).map (toMsg inst sender sig) := by
  have h := run_history (own := fun x => x == sender) (inst := inst) (sender := sender) (sig := sig)
    (by simp) hsig segs (s := Equiv.Sys.init l) (seen := []) (Equiv.sysInv_init _ l) rfl rfl rfl
  exact ⟨h.1, h.2.2.2.1⟩

end F3.Restart
