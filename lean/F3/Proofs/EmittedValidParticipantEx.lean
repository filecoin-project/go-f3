import F3.Proofs.EmittedValidMulti
import F3.Proofs.EmittedValidEx
import F3.Proofs.MultiParticipantEx
/-!
# Non-vacuity of the participant-level and multi-instance run-level theorems of `F3.EmittedValid`

* `p2Ops`: the two-round run `r2Ops` of member 1 (`F3.Proofs.EmittedValidEx`) driven through the participant API. Six
  messages arrive before the instance has begun: the four QUALITY votes, a second (equivocating) QUALITY vote of
  member 2 — dropped by the queue (one message per sender, round and phase) — and a COMMIT for bottom of round 3 —
  dropped by the queue (spammable, beyond the look-ahead). The alarm at 0 begins the instance and drains the queue in
  the order 3, 1, 2, 4: the third vote ends QUALITY, the fourth is tallied late and **not** counted.
* `rbOps`: a run with rebroadcast requests.
* the two-instance run `exMOps` of `F3.Proofs.MultiParticipantEx`, with the votes in existence per instance.
-/
namespace F3.EmittedValid
open F3.Instance

/-- executable `PMsgOK` (`F3.Bridge.pmsgOKB`, core-only) -/
def pmsgOKB' (votes : List Vote) (t : Table) : POp → Bool
  | .recv _ m => m.instOk && (!m.suppOk || msgValidB votes t m)
  | _ => true

theorem pmsgOKB_sound' (votes : List Vote) (t : Table) (ops : List POp)
    (h : ops.all (pmsgOKB' votes t) = true) : ∀ op ∈ ops, POpP (PMsgOK (WofL votes) t) op := by
  intro op hop
  have := List.all_eq_true.1 h op hop
  cases op with
  | recv now m =>
    simp only [pmsgOKB', Bool.and_eq_true, Bool.or_eq_true, Bool.not_eq_true'] at this
    exact ⟨this.1, this.2.imp id (msgValidB_sound' votes t m)⟩
  | alarm _ => trivial

/-- executable `MPOpK k (PMsgOK …)` -/
def mpmsgOKB (k : Nat) (votes : List Vote) (t : Table) : MPOp → Bool
  | .recv _ m => m.inst != k || (m.msg.instOk && (!m.msg.suppOk || msgValidB votes t m.msg))
  | _ => true

theorem mpmsgOKB_sound (k : Nat) (votes : List Vote) (t : Table) (ops : List MPOp)
    (h : ops.all (mpmsgOKB k votes t) = true) : ∀ op ∈ ops, MPOpK k (PMsgOK (WofL votes) t) op := by
  intro op hop
  have := List.all_eq_true.1 h op hop
  cases op with
  | recv now m =>
    intro hk
    simp only [mpmsgOKB, hk, bne_self_eq_false, Bool.false_or, Bool.and_eq_true, Bool.or_eq_true,
      Bool.not_eq_true'] at this
    exact ⟨this.1, this.2.imp id (msgValidB_sound' votes t m.msg)⟩
  | alarm _ _ _ _ => trivial
  | startAt _ => trivial

def toP : Op → POp
  | .recv now m => .recv now m
  | .alarm now => .alarm now
  | .start now => .alarm now

/-- the votes in existence: those of `r2Votes`, member 2's second QUALITY vote and a COMMIT for bottom of round 3 -/
def p2Votes : List Vote := (2, 0, .quality, [7, 9]) :: (3, 3, .commit, []) :: r2Votes

abbrev p2W : Votes := WofL p2Votes

def p2Ops : List POp :=
  [.recv 0 { sender := 1, round := 0, phase := .quality, value := [7, 8] },
   .recv 0 { sender := 2, round := 0, phase := .quality, value := [7, 8] },
   .recv 0 { sender := 2, round := 0, phase := .quality, value := [7, 9] },   -- same sender, round, phase: not queued
   .recv 0 { sender := 3, round := 3, phase := .commit, value := [] },        -- spammable beyond look-ahead: not queued
   .recv 0 { sender := 3, round := 0, phase := .quality, value := [7, 8] },
   .recv 0 { sender := 4, round := 0, phase := .quality, value := [7, 9] },
   .alarm 0] ++ (r2Ops.drop 4).map toP

/-- the drain order (Go: map order): member 3's messages first, then member 1's, the others in arrival order -/
def p2Order : List Pid := [3, 1]

abbrev p2Run : PState × List Eff := prun p2Order (pinit r2Cfg r2Tbl [7, 8]) p2Ops

theorem p2_valid : ∀ op ∈ p2Ops, POpP (PMsgOK p2W r2Tbl) op :=
  pmsgOKB_sound' p2Votes r2Tbl p2Ops (by decide +kernel)

/-- the same seven broadcasts as in the instance-level run, with the same justifications -/
theorem p2_broadcasts : bcList p2Run.2 =
    [(0, .quality, [7, 8], none), (0, .prepare, [7, 8], none), (0, .commit, [], none),
     (1, .converge, [7, 8], some jB), (1, .prepare, [7], some jB), (1, .commit, [7], some jP),
     (0, .decide, [7], some jC)] := by decide +kernel

theorem p2_own : ∀ r ph v tk j, Eff.broadcast r ph v tk j ∈ p2Run.2 → p2W 1 r ph v := by
  intro r ph v tk j hm
  have hall : ∀ x ∈ bcList p2Run.2, ((1 : Pid), x.1, x.2.1, x.2.2.1) ∈ p2Votes := by
    rw [p2_broadcasts]; decide
  exact hall _ (mem_bcList hm)

/-- what happened to the six early messages, and which QUALITY votes count -/
theorem p2_quality :
    ((prun p2Order (pinit r2Cfg r2Tbl [7, 8]) (p2Ops.take 6)).1.queue.map (fun m => (m.sender, m.round, m.phase, m.value)) =
      [(1, 0, .quality, [7, 8]), (2, 0, .quality, [7, 8]), (3, 0, .quality, [7, 8]), (4, 0, .quality, [7, 9])]) ∧
    (drainWith p2Order (prun p2Order (pinit r2Cfg r2Tbl [7, 8]) (p2Ops.take 6)).1.queue).map (·.sender) = [3, 1, 2, 4] ∧
    pvotesQ p2Order (pinit r2Cfg r2Tbl [7, 8]) p2Ops = [(3, [7, 8]), (1, [7, 8]), (2, [7, 8])] ∧
    pvotesQ p2Order (pinit r2Cfg r2Tbl [7, 8]) (p2Ops.take 7) = [(3, [7, 8]), (1, [7, 8]), (2, [7, 8])] ∧
    p2Run.1.inst.quality.senders = [3, 1, 2, 4] ∧
    Eff.broadcast 0 .prepare [7, 8] false none ∈ (prun p2Order (pinit r2Cfg r2Tbl [7, 8]) (p2Ops.take 7)).2 ∧
    (qTally r2Tbl [(3, [7, 8]), (1, [7, 8]), (2, [7, 8])]).longestPrefixWithQuorum [7, 8] = [7, 8] := by
  decide +kernel

/-- before the alarm at 400 (19 calls) the instance is in CONVERGE of round 1 with the timeout elapsed, the best ticket
overall is member 3's `[7]`, a proper prefix of the QUALITY proposal; the alarm PREPAREs it -/
theorem p2_converge :
    let p := (prun p2Order (pinit r2Cfg r2Tbl [7, 8]) (p2Ops.take 19)).1
    p.inst.phase = .converge ∧ p.inst.round = 1 ∧ p.inst.phaseTimeoutElapsed 400 = true ∧
    ((p.inst.getRound p.inst.round).converged.findBest (fun _ => true)).map (fun b => (b.chain, b.rank, b.just)) =
      some ([7], some 1, jB) ∧
    p.inst.quality.longestPrefixWithQuorum [7, 8] = [7, 8] ∧ p.inst.isCandidate [7] = true ∧
    p.inst.isCandidate [7, 8] = true ∧
    Eff.broadcast 1 .prepare [7] false (some jB) ∈ (pstepWith p2Order p (.alarm 400)).2 := by
  decide +kernel

/-- three QUALITY votes queued, the instance begun at 0 (PREPARE `[7,8]` during the drain), no PREPARE arrives: the
alarm at 200 arms the rebroadcast timer, the alarm at 300 requests the rebroadcast of QUALITY, COMMIT, PREPARE and
CONVERGE of round 0 -/
def rbOps : List POp :=
  [.recv 0 { sender := 1, round := 0, phase := .quality, value := [7, 8] },
   .recv 0 { sender := 2, round := 0, phase := .quality, value := [7, 8] },
   .recv 0 { sender := 3, round := 0, phase := .quality, value := [7, 8] },
   .alarm 0, .alarm 200, .alarm 300]

theorem rb_valid : ∀ op ∈ rbOps, POpP (PMsgOK r2W r2Tbl) op :=
  pmsgOKB_sound' r2Votes r2Tbl rbOps (by decide +kernel)

/-- the four requests; only QUALITY and PREPARE were broadcast before, so exactly those two are re-sent -/
theorem rb_wire :
    (prun [] (pinit r2Cfg r2Tbl [7, 8]) rbOps).2.filter (fun e => match e with | .rebroadcast .. => true | _ => false) =
      [.rebroadcast 0 .quality, .rebroadcast 0 .commit, .rebroadcast 0 .prepare, .rebroadcast 0 .converge] ∧
    wireOf 1 (prun [] (pinit r2Cfg r2Tbl [7, 8]) rbOps).2 =
      [msgOf 1 0 .quality [7, 8] none, msgOf 1 0 .prepare [7, 8] none,
       msgOf 1 0 .quality [7, 8] none, msgOf 1 0 .prepare [7, 8] none] := by
  decide +kernel

theorem rb_own : ∀ r ph v tk j, Eff.broadcast r ph v tk j ∈ (prun [] (pinit r2Cfg r2Tbl [7, 8]) rbOps).2 →
    r2W 1 r ph v := by
  intro r ph v tk j hm
  have hb : bcList (prun [] (pinit r2Cfg r2Tbl [7, 8]) rbOps).2 =
      [(0, .quality, [7, 8], none), (0, .prepare, [7, 8], none)] := by decide +kernel
  have hall : ∀ x ∈ bcList (prun [] (pinit r2Cfg r2Tbl [7, 8]) rbOps).2, ((1 : Pid), x.1, x.2.1, x.2.2.1) ∈ r2Votes := by
    rw [hb]; decide
  exact hall _ (mem_bcList hm)

/-- the votes in existence in instance 0 -/
def mx0Votes : List Vote :=
  [(1, 0, .quality, [7, 8]), (2, 0, .quality, [7, 8]), (3, 0, .quality, [7, 8]),
   (4, 0, .prepare, [7, 9]), (4, 0, .prepare, [7, 8]), (1, 0, .prepare, [7, 8]), (2, 0, .prepare, [7, 8]),
   (3, 0, .prepare, [7, 8]), (1, 0, .commit, [7, 8]), (2, 0, .commit, [7, 8]), (3, 0, .commit, [7, 8]),
   (1, 0, .decide, [7, 8]), (2, 0, .decide, [7, 8]), (3, 0, .decide, [7, 8])]

/-- the votes in existence in instance 1 -/
def mx1Votes : List Vote :=
  [(1, 0, .quality, [8, 5]), (2, 0, .quality, [8, 5]), (3, 0, .quality, [8, 5]),
   (4, 0, .prepare, [8, 6]), (4, 0, .prepare, [8, 5]), (1, 0, .prepare, [8, 5]), (2, 0, .prepare, [8, 5]),
   (3, 0, .prepare, [8, 5]), (1, 0, .commit, [8, 5]), (2, 0, .commit, [8, 5]), (3, 0, .commit, [8, 5]),
   (1, 0, .decide, [8, 5]), (2, 0, .decide, [8, 5]), (3, 0, .decide, [8, 5])]

theorem mx_valid0 : ∀ op ∈ exMOps, MPOpK 0 (PMsgOK (WofL mx0Votes) mxTbl) op :=
  mpmsgOKB_sound 0 mx0Votes mxTbl exMOps (by decide +kernel)

theorem mx_valid1 : ∀ op ∈ exMOps, MPOpK 1 (PMsgOK (WofL mx1Votes) mxTbl) op :=
  mpmsgOKB_sound 1 mx1Votes mxTbl exMOps (by decide +kernel)

theorem mx_broadcasts :
    bcList (effsOf 0 (mprun (minit mxCfg) exMOps).2) =
      [(0, .quality, [7, 8], none), (0, .prepare, [7, 8], none), (0, .commit, [7, 8], some mxJp),
       (0, .decide, [7, 8], some mxJc)] ∧
    bcList (effsOf 1 (mprun (minit mxCfg) exMOps).2) =
      [(0, .quality, [8, 5], none), (0, .prepare, [8, 5], none), (0, .commit, [8, 5], some mxJp1),
       (0, .decide, [8, 5], some mxJc1)] := by
  decide +kernel

theorem mx_own0 : ∀ r ph v tk j, (0, Eff.broadcast r ph v tk j) ∈ (mprun (minit mxCfg) exMOps).2 →
    WofL mx0Votes 1 r ph v := by
  intro r ph v tk j hm
  have hall : ∀ x ∈ bcList (effsOf 0 (mprun (minit mxCfg) exMOps).2), ((1 : Pid), x.1, x.2.1, x.2.2.1) ∈ mx0Votes := by
    rw [mx_broadcasts.1]; decide
  exact hall _ (mem_bcList ((mem_effsOf 0 _ _).2 hm))

theorem mx_own1 : ∀ r ph v tk j, (1, Eff.broadcast r ph v tk j) ∈ (mprun (minit mxCfg) exMOps).2 →
    WofL mx1Votes 1 r ph v := by
  intro r ph v tk j hm
  have hall : ∀ x ∈ bcList (effsOf 1 (mprun (minit mxCfg) exMOps).2), ((1 : Pid), x.1, x.2.1, x.2.2.1) ∈ mx1Votes := by
    rw [mx_broadcasts.2]; decide
  exact hall _ (mem_bcList ((mem_effsOf 1 _ _).2 hm))

/-- the QUALITY votes counted per instance: instance 0 drains the votes of members 2 and 1 (drain order `[2,4,1]`) and
hears member 3's afterwards; instance 1 drains those of members 1 and 2 (drain order `[1,4,2]`; queued while instance 0
was still running, resp. before instance 1 began) and hears member 3's afterwards -/
theorem mx_quality :
    pvotesQ mxOrder (pinit mxCfg mxTbl [7, 8]) (opsOf mxCfg 0 0 exMOps) = [(2, [7, 8]), (1, [7, 8]), (3, [7, 8])] ∧
    pvotesQ [1, 4, 2] (pinit mxCfg mxTbl [8, 5]) (opsOf mxCfg 0 1 exMOps) = [(1, [8, 5]), (2, [8, 5]), (3, [8, 5])] := by
  decide +kernel

end F3.EmittedValid
