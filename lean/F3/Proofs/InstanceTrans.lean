import F3.Model.Instance
/-!
# Transition skeleton of the instance model: progress points and broadcasts

Every `begin*` function of `gpbft.go` notifies progress and then broadcasts for the slot it entered.
`WP c evs d`: the (progress, broadcast) skeleton `evs` of an effect list is a sequence of entries into
strictly increasing progress points starting above `c` and ending at `d`, each optionally followed by
the broadcast for that point (DECIDE is labelled round 0); once DECIDE is reached the round is frozen.
-/
namespace F3.Instance

inductive Ev
  | prog (r : Nat) (ph : Phase)
  | bc (r : Nat) (ph : Phase)
  deriving DecidableEq, Repr

def Eff.ev? : Eff → Option Ev
  | .progress r ph => some (.prog r ph)
  | .broadcast r ph _ _ _ => some (.bc r ph)
  | _ => none

def evs (es : List Eff) : List Ev := es.filterMap Eff.ev?

@[simp] theorem evs_nil : evs [] = [] := rfl
@[simp] theorem evs_append (a b : List Eff) : evs (a ++ b) = evs a ++ evs b := by
  simp [evs, List.filterMap_append]

abbrev Pt := Nat × Nat
def State.pt (s : State) : Pt := (s.round, s.phase.toNat)

/-- strict lexicographic order, with the round frozen once DECIDE (5) has been reached -/
def ptLt (c d : Pt) : Prop := (c.1 < d.1 ∨ (c.1 = d.1 ∧ c.2 < d.2)) ∧ (5 ≤ c.2 → d.1 = c.1)

def ptLe (c d : Pt) : Prop := c = d ∨ ptLt c d

theorem ptLt_trans {a b c : Pt} (h1 : ptLt a b) (h2 : ptLt b c) : ptLt a c := by
  unfold ptLt at *
  obtain ⟨h1a, h1b⟩ := h1
  obtain ⟨h2a, h2b⟩ := h2
  refine ⟨by omega, ?_⟩
  intro h5
  have := h1b h5
  have hb : 5 ≤ b.2 := by omega
  have := h2b hb
  omega

theorem ptLe_trans {a b c : Pt} (h1 : ptLe a b) (h2 : ptLe b c) : ptLe a c := by
  rcases h1 with rfl | h1
  · exact h2
  · rcases h2 with rfl | h2
    · exact Or.inr h1
    · exact Or.inr (ptLt_trans h1 h2)

theorem ptLt_of_le_of_lt {a b c : Pt} (h1 : ptLe a b) (h2 : ptLt b c) : ptLt a c := by
  rcases h1 with rfl | h1
  · exact h2
  · exact ptLt_trans h1 h2

inductive WP : Pt → List Ev → Pt → Prop
  | nil (c : Pt) : WP c [] c
  | enter (c : Pt) (r : Nat) (ph : Phase) (rest : List Ev) (d : Pt) :
      ptLt c (r, ph.toNat) → WP (r, ph.toNat) rest d → WP c (.prog r ph :: rest) d
  | enterB (c : Pt) (r : Nat) (ph : Phase) (r' : Nat) (rest : List Ev) (d : Pt) :
      ptLt c (r, ph.toNat) → (r' = r ∨ (ph = .decide ∧ r' = 0)) → WP (r, ph.toNat) rest d →
      WP c (.prog r ph :: .bc r' ph :: rest) d

theorem WP.append {a b c : Pt} {x y : List Ev} (h1 : WP a x b) (h2 : WP b y c) : WP a (x ++ y) c := by
  induction h1 with
  | nil _ => simpa using h2
  | enter c r ph rest d hlt _ ih => exact WP.enter c r ph _ _ hlt (ih h2)
  | enterB c r ph r' rest d hlt hr _ ih => exact WP.enterB c r ph r' _ _ hlt hr (ih h2)

theorem WP.le {a b : Pt} {x : List Ev} (h : WP a x b) : ptLe a b := by
  induction h with
  | nil _ => exact Or.inl rfl
  | enter c r ph rest d hlt _ ih => exact Or.inr (by
      rcases ih with h | h
      · rw [← h]; exact hlt
      · exact ptLt_trans hlt h)
  | enterB c r ph r' rest d hlt _ _ ih => exact Or.inr (by
      rcases ih with h | h
      · rw [← h]; exact hlt
      · exact ptLt_trans hlt h)

theorem WP.weaken {a a' b : Pt} {x : List Ev} (hle : ptLe a' a) (h : WP a x b) : WP a' x b ∨ (x = [] ∧ a = b) := by
  cases h with
  | nil _ => exact Or.inr ⟨rfl, rfl⟩
  | enter c r ph rest d hlt h' => exact Or.inl (WP.enter _ r ph _ _ (ptLt_of_le_of_lt hle hlt) h')
  | enterB c r ph r' rest d hlt hr h' => exact Or.inl (WP.enterB _ r ph r' _ _ (ptLt_of_le_of_lt hle hlt) hr h')

end F3.Instance
