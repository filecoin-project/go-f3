import F3.Proofs.StoreDS
import F3.Proofs.StoreSpec
/-! The refinement relation between a datastore and the abstract history it represents, and what
every read of the store returns in a represented state. -/
namespace F3.Store

/-- Datastore `ds` (checkpoint period `freq`) represents history `sp`. Keys not mentioned are
unconstrained: stray `/power/*` keys of an interrupted create, a certificate / checkpoint written by
an interrupted `Put` above the latest pointer, keys outside the namespace. -/
structure Repr (freq : Nat) (ds : DS) (sp : Spec) : Prop where
  noTomb : dsGet ds .tomb = none
  noRootTomb : dsGet ds .rootTomb = none
  first : dsGet ds .first = some (.num sp.first)
  init : dsGet ds (.power sp.first) = some (.tbl sp.init)
  latest : dsGet ds .latest = sp.latest.map (fun c => Val.num c.inst)
  certs : ∀ k (h : k < sp.certs.length), dsGet ds (.cert (sp.first + k)) = some (.cert sp.certs[k])
  ckpt : ∀ k, 0 < k → k ≤ sp.certs.length → (sp.first + k) % freq = 0 →
    ∃ t, sp.tbl k = some t ∧ dsGet ds (.power (sp.first + k)) = some (.tbl t)
  facts : sp.Facts
  canon : Canon sp.init
  small : sp.certs.length < maxInt

/-- A store under construction (the snapshot importer, an interrupted `Put`): everything `Repr` asks
for except the latest pointer. -/
structure Staged (freq : Nat) (ds : DS) (sp : Spec) : Prop where
  noTomb : dsGet ds .tomb = none
  noRootTomb : dsGet ds .rootTomb = none
  first : dsGet ds .first = some (.num sp.first)
  init : dsGet ds (.power sp.first) = some (.tbl sp.init)
  certs : ∀ k (h : k < sp.certs.length), dsGet ds (.cert (sp.first + k)) = some (.cert sp.certs[k])
  ckpt : ∀ k, 0 < k → k ≤ sp.certs.length → (sp.first + k) % freq = 0 →
    ∃ t, sp.tbl k = some t ∧ dsGet ds (.power (sp.first + k)) = some (.tbl t)
  facts : sp.Facts
  canon : Canon sp.init
  small : sp.certs.length < maxInt

theorem Repr.staged {freq : Nat} {ds : DS} {sp : Spec} (h : Repr freq ds sp) : Staged freq ds sp :=
  ⟨h.noTomb, h.noRootTomb, h.first, h.init, h.certs, h.ckpt, h.facts, h.canon, h.small⟩

theorem Staged.repr {freq : Nat} {ds : DS} {sp : Spec} (h : Staged freq ds sp)
    (hl : dsGet ds .latest = sp.latest.map (fun c => Val.num c.inst)) : Repr freq ds sp :=
  ⟨h.noTomb, h.noRootTomb, h.first, h.init, hl, h.certs, h.ckpt, h.facts, h.canon, h.small⟩

/-- The keys `Staged` constrains (`Repr`: these and the latest pointer). -/
def Relevant (sp : Spec) (k : Key) : Prop :=
  k = .tomb ∨ k = .rootTomb ∨ k = .first ∨ k = .power sp.first ∨
  (∃ j, j < sp.certs.length ∧ k = .cert (sp.first + j)) ∨
  (∃ j, 0 < j ∧ j ≤ sp.certs.length ∧ k = .power (sp.first + j))

theorem Staged.congr {freq : Nat} {ds ds' : DS} {sp : Spec} (h : Staged freq ds sp) (hag : ∀ k, Relevant sp k → dsGet ds' k = dsGet ds k) :
    Staged freq ds' sp := by
  refine ⟨?_, ?_, ?_, ?_, ?_, ?_, h.facts, h.canon, h.small⟩
  · rw [hag _ (Or.inl rfl)]; exact h.noTomb
  · rw [hag _ (Or.inr (Or.inl rfl))]; exact h.noRootTomb
  · rw [hag _ (Or.inr (Or.inr (Or.inl rfl)))]; exact h.first
  · rw [hag _ (Or.inr (Or.inr (Or.inr (Or.inl rfl))))]; exact h.init
  · intro k hk
    rw [hag _ (Or.inr (Or.inr (Or.inr (Or.inr (Or.inl ⟨k, hk, rfl⟩)))))]; exact h.certs k hk
  · intro k hk1 hk2 hk3
    obtain ⟨t, ht1, ht2⟩ := h.ckpt k hk1 hk2 hk3
    exact ⟨t, ht1, by rw [hag _ (Or.inr (Or.inr (Or.inr (Or.inr (Or.inr ⟨k, hk1, hk2, rfl⟩)))))]; exact ht2⟩

theorem Repr.congr {freq : Nat} {ds ds' : DS} {sp : Spec} (h : Repr freq ds sp) (hag : ∀ k, Relevant sp k ∨ k = .latest → dsGet ds' k = dsGet ds k) :
    Repr freq ds' sp :=
  (h.staged.congr fun k hk => hag k (Or.inl hk)).repr (by rw [hag _ (Or.inr rfl)]; exact h.latest)

/-- A write to a key the history does not constrain is not seen. -/
theorem Repr.applyW {freq : Nat} {ds : DS} {sp : Spec} (h : Repr freq ds sp) {w : W}
    (hw : ¬ (Relevant sp w.key ∨ w.key = .latest)) : Repr freq (applyW ds w) sp :=
  h.congr fun _ hk => dsGet_applyW_other ds w (fun e => hw (e ▸ hk))

/-- The handle's fields agree with the history. -/
structure MemOk (m : Mem) (sp : Spec) : Prop where
  first : m.first = sp.first
  latest : m.latest = sp.latest
  table : some m.latestTable = sp.tbl sp.certs.length

theorem mem_next_eq {m : Mem} {sp : Spec} (hf : m.first = sp.first) (hl : m.latest = sp.latest) (h : sp.Facts) :
    m.next = sp.next := by
  unfold Mem.next
  rw [hl]
  cases hc : sp.latest with
  | none =>
    have := (Spec.latest_none_iff sp).1 hc
    simp [Spec.next, this, hf]
  | some c => exact Spec.latest_inst h hc

variable {freq : Nat} {ds : DS} {sp : Spec}

theorem Repr.getNum_first (h : Repr freq ds sp) : getNum ds .first = .ok (some sp.first) := by
  rw [getNum, h.first]

theorem getCert_repr (h : Repr freq ds sp) {k : Nat} (hk : k < sp.certs.length) :
    getCert ds (sp.first + k) = .ok sp.certs[k] := by
  unfold getCert; rw [h.certs k hk]

theorem getCert_repr_next (h : Repr freq ds sp) {i : Nat} (hi : i < sp.first) (hnone : dsGet ds (.cert i) = none) :
    getCert ds i = .error (.notFound i) := by
  unfold getCert; rw [hnone]

theorem rangeFrom_repr (h : Repr freq ds sp) (k n : Nat) (hk : k + n ≤ sp.certs.length) :
    rangeFrom ds (sp.first + k) n = .ok ((sp.certs.drop k).take n) := by
  induction n generalizing k with
  | zero => simp [rangeFrom]
  | succ n ih =>
    have hk' : k < sp.certs.length := by omega
    unfold rangeFrom
    rw [getCert_repr h hk']
    have := ih (k + 1) (by omega)
    rw [show sp.first + (k + 1) = sp.first + k + 1 by omega] at this
    simp only [this]
    rw [List.drop_eq_getElem_cons hk', List.take_succ_cons]

theorem getRange_repr (h : Repr freq ds sp) (k n : Nat) (hk : k + n + 1 ≤ sp.certs.length) :
    getRange ds (sp.first + k) (sp.first + k + n) = .ok ((sp.certs.drop k).take (n + 1), none) := by
  unfold getRange
  have h1 : ¬ (sp.first + k + n < sp.first + k) := by omega
  have h2 : sp.first + k + n - (sp.first + k) = n := by omega
  have h3 : ¬ (n ≥ maxInt) := by have := h.small; omega
  simp only [h1, if_false, h2, h3]
  rw [rangeFrom_repr h k (n + 1) (by omega)]
  have : ((sp.certs.drop k).take (n + 1)).length = n + 1 := by
    rw [List.length_take, List.length_drop]; omega
  simp [this]

theorem sub_mod_self_mod (i g : Nat) : (i - i % g) % g = 0 := by
  have h := Nat.div_add_mod i g
  have : i - i % g = g * (i / g) := by omega
  rw [this]; exact Nat.mul_mod_right g (i / g)

/-- The stored table a query starts from: the initial table, or a checkpoint on a boundary of the period. -/
theorem readTable_repr (h : Repr freq ds sp) {j : Nat} (hj : j ≤ sp.certs.length)
    (hb : j = 0 ∨ (sp.first + j) % freq = 0) {Tj : Table} (hTj : sp.tbl j = some Tj) :
    readTable ds (sp.first + j) = .ok Tj := by
  unfold readTable
  by_cases hj0 : j = 0
  · subst hj0
    rw [Spec.tbl_zero] at hTj; cases hTj
    rw [Nat.add_zero, h.init]
  · obtain ⟨t, ht1, ht2⟩ := h.ckpt j (by omega) hj (hb.resolve_left hj0)
    rw [ht2]; rw [hTj] at ht1; cases ht1; rfl

theorem applyDiffs_tbl (hc : Canon sp.init) {j k : Nat} (hjk : j ≤ k) {Tj T : Table} (hTj : sp.tbl j = some Tj)
    (hT : sp.tbl k = some T) : applyDiffs Tj (((sp.certs.drop j).take (k - j)).map (·.delta)) = .ok T := by
  obtain ⟨mj, hmj, rfl⟩ := Spec.canon_tbl hc hTj
  have hfold := foldTables_eq_applyDiffs hmj ((sp.certs.drop j).take (k - j))
  have hsplit : sp.tbl k = Spec.foldTables (toArray mj) ((sp.certs.drop j).take (k - j)) := by
    unfold Spec.tbl at hTj ⊢
    rw [show k = j + (k - j) by omega, List.take_add, Nat.add_sub_cancel_left, foldTables_append, hTj]
  rw [← hsplit, hT] at hfold
  cases happ : applyDiffs (toArray mj) (((sp.certs.drop j).take (k - j)).map (·.delta)) with
  | error e => rw [happ] at hfold; cases hfold
  | ok t => rw [happ] at hfold; cases hfold; rfl

/-- Every power-table query inside `[first, next]` returns the fold of the deltas — from memory, from
the initial table, or from the nearest checkpoint, whichever the code takes. `g` is the period used by
the query (the store's own period, or any other one that finds no boundary above `first`). -/
theorem getPowerTable_repr (h : Repr freq ds sp) (cfg : Cfg) (m : Mem)
    (hf : m.first = sp.first) (hl : m.latest = sp.latest)
    (ht : m.latestTable = [] ∨ some m.latestTable = sp.tbl sp.certs.length)
    {k : Nat} (hk : k ≤ sp.certs.length)
    (hg : cfg.freq = freq ∨ (sp.first + k) - (sp.first + k) % cfg.freq ≤ sp.first)
    {T : Table} (hT : sp.tbl k = some T) :
    getPowerTable cfg m ds (sp.first + k) = .ok T := by
  have hnext : m.next = sp.first + sp.certs.length := mem_next_eq hf hl h.facts
  unfold getPowerTable
  rw [if_neg (by omega), if_neg (by omega)]
  split
  · next hc =>
    rcases ht with ht | ht
    · exact absurd ht hc.2
    · rw [show sp.certs.length = k by omega, hT] at ht; cases ht; rfl
  -- the code starts from the table stored at `sp.first + j`: the initial one or a checkpoint
  rw [hf]
  obtain ⟨j, hs, hjk, hb⟩ : ∃ j, max (sp.first + k - (sp.first + k) % cfg.freq) sp.first = sp.first + j ∧ j ≤ k ∧
      (j = 0 ∨ (sp.first + j) % freq = 0) := by
    have hmod := sub_mod_self_mod (sp.first + k) cfg.freq
    have hle := Nat.sub_le (sp.first + k) ((sp.first + k) % cfg.freq)
    generalize sp.first + k - (sp.first + k) % cfg.freq = a at hg hmod hle ⊢
    by_cases ha : a ≤ sp.first
    · exact ⟨0, Nat.max_eq_right ha, Nat.zero_le _, Or.inl rfl⟩
    · refine ⟨a - sp.first, by rw [Nat.max_eq_left (by omega)]; omega, by omega, Or.inr ?_⟩
      rw [← hg.resolve_right ha, show sp.first + (a - sp.first) = a by omega]
      exact hmod
  rw [hs]
  obtain ⟨Tj, hTj, _⟩ := h.facts.tbls j (by omega)
  simp only [readTable_repr h (by omega) hb hTj]
  split
  · next hjk' =>
    rw [show j = k by omega, hT] at hTj; cases hTj; rfl
  · next hjk' =>
    have hrange := getRange_repr h j (k - j - 1) (by omega)
    rw [show sp.first + j + (k - j - 1) = sp.first + k - 1 by omega, show k - j - 1 + 1 = k - j by omega] at hrange
    simp only [hrange, applyDiffs_tbl h.canon hjk hTj hT]

end F3.Store
