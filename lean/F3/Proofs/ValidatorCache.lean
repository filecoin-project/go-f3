import F3.Model.Cache
/-!
Lemmas about the cache model (`F3.Cache`): what can be a member after each operation. These carry the
validation-cache invariant of C05 *through evictions*: every operation (look-up with its recency update,
insert with flip/flop rotation and group eviction, pruning) only ever keeps old members or adds the one
key being inserted. Likewise for the configured size (`bounded`). Look-up and insert are each opened once, in
`contains_groups` and `add_groups` (which groups are there afterwards); membership and size are read off those.
-/
namespace F3.Cache

variable {κ : Type}

theorem lookup_mem {gs : List (Nat × FlipFlop κ)} {g : Nat} {s : FlipFlop κ}
    (h : lookup gs g = some s) : (g, s) ∈ gs := by
  induction gs with
  | nil => simp [lookup] at h
  | cons p t ih =>
    obtain ⟨g', s'⟩ := p
    unfold lookup at h
    split at h
    · rename_i hg
      cases h
      subst hg
      exact List.mem_cons_self
    · exact List.mem_cons_of_mem _ (ih h)

theorem lookup_none_not_mem {gs : List (Nat × FlipFlop κ)} {g : Nat}
    (h : lookup gs g = none) (s : FlipFlop κ) : (g, s) ∉ gs := by
  induction gs with
  | nil => simp
  | cons p t ih =>
    obtain ⟨g', s'⟩ := p
    unfold lookup at h
    split at h
    · simp at h
    · rename_i hg
      intro hm
      rcases List.mem_cons.mp hm with h1 | h1
      · cases h1; exact hg rfl
      · exact ih h h1

variable [DecidableEq κ]

theorem mem_of_contains {c : GroupedSet κ} {g : Nat} {k : κ}
    (h : (c.contains g k).1 = true) : c.mem g k := by
  unfold GroupedSet.contains at h
  split at h
  · rename_i s hs
    exact ⟨s, lookup_mem hs, h⟩
  · simp at h

omit [DecidableEq κ] in
theorem filter_ne_length_lt {l : List (Nat × FlipFlop κ)} {g : Nat} {s : FlipFlop κ} (h : (g, s) ∈ l) :
    (l.filter (fun p => p.1 ≠ g)).length < l.length :=
  Nat.lt_of_le_of_ne (List.length_filter_le _ _) fun e => by
    simpa using List.length_filter_eq_length_iff.mp e _ h

/-- A look-up keeps the geometry and only reorders the groups. -/
theorem contains_groups (c : GroupedSet κ) (g : Nat) (k : κ) :
    (c.contains g k).2.maxGroups = c.maxGroups ∧ (c.contains g k).2.maxSetSize = c.maxSetSize ∧
    (c.contains g k).2.groups.length ≤ c.groups.length ∧ ∀ p ∈ (c.contains g k).2.groups, p ∈ c.groups := by
  unfold GroupedSet.contains
  split
  · rename_i s hs
    have hm := lookup_mem hs
    refine ⟨rfl, rfl, filter_ne_length_lt hm, fun p hp => ?_⟩
    rcases List.mem_cons.mp hp with rfl | hp
    · exact hm
    · exact (List.mem_filter.mp hp).1
  · exact ⟨rfl, rfl, Nat.le_refl _, fun _ h => h⟩

theorem mem_after_contains {c : GroupedSet κ} {g : Nat} {k : κ} {g' : Nat} {k' : κ}
    (h : (c.contains g k).2.mem g' k') : c.mem g' k' :=
  let ⟨s, hm, hc⟩ := h
  ⟨s, (contains_groups c g k).2.2.2 _ hm, hc⟩

theorem FlipFlop.contains_new (n : Nat) (k : κ) : (FlipFlop.new n : FlipFlop κ).contains k = false := by
  simp [FlipFlop.new, FlipFlop.contains]

/-- The three outcomes of `ContainsOrAdd`: present; added with rotation (the young generation, with the new key,
becomes the old one); added without. -/
theorem FlipFlop.containsOrAdd_cases (s : FlipFlop κ) (k : κ) :
    (s.contains k = true ∧ s.containsOrAdd k = (true, s)) ∨
    (s.maxSize ≤ s.flip.length + 1 ∧ s.containsOrAdd k = (false, { s with flip := [], flop := k :: s.flip })) ∨
    (s.flip.length + 1 < s.maxSize ∧ s.containsOrAdd k = (false, { s with flip := k :: s.flip })) := by
  unfold FlipFlop.containsOrAdd
  by_cases hc : s.contains k = true
  · exact .inl ⟨hc, if_pos hc⟩
  · rw [if_neg hc]
    by_cases hl : (k :: s.flip).length ≥ s.maxSize
    · exact .inr (.inl ⟨hl, if_pos hl⟩)
    · exact .inr (.inr ⟨Nat.lt_of_not_le hl, if_neg hl⟩)

/-- Insertion into a flip/flop set keeps old members (possibly dropping the old generation) or adds `k`. -/
theorem FlipFlop.mem_after_containsOrAdd {s : FlipFlop κ} {k k' : κ}
    (h : (s.containsOrAdd k).2.contains k' = true) : s.contains k' = true ∨ k' = k := by
  rcases s.containsOrAdd_cases k with ⟨_, e⟩ | ⟨_, e⟩ | ⟨_, e⟩ <;> rw [e] at h <;>
    simp only [FlipFlop.contains, List.contains_cons, List.contains_nil, Bool.false_or, Bool.or_eq_true,
      beq_iff_eq] at h ⊢
  · exact .inl h
  · exact h.symm.imp_left .inl
  · rcases h with (h | h) | h
    · exact .inr h
    · exact .inl (.inl h)
    · exact .inl (.inr h)

/-- After an insertion the key is present (the newest key always survives the rotation). -/
theorem FlipFlop.contains_after_containsOrAdd (s : FlipFlop κ) (k : κ) :
    (s.containsOrAdd k).2.contains k = true := by
  rcases s.containsOrAdd_cases k with ⟨hc, e⟩ | ⟨_, e⟩ | ⟨_, e⟩ <;> rw [e]
  · exact hc
  · simp [FlipFlop.contains]
  · simp [FlipFlop.contains]

omit [DecidableEq κ] in
theorem mem_replaceGroup {gs : List (Nat × FlipFlop κ)} {g : Nat} {s : FlipFlop κ}
    {p : Nat × FlipFlop κ} (h : p ∈ replaceGroup gs g s) : p ∈ gs ∨ p = (g, s) := by
  induction gs with
  | nil => simp [replaceGroup] at h
  | cons q t ih =>
    obtain ⟨g', s'⟩ := q
    unfold replaceGroup at h
    split at h
    · rcases List.mem_cons.mp h with h1 | h1
      · exact Or.inr h1
      · exact Or.inl (List.mem_cons_of_mem _ h1)
    · rcases List.mem_cons.mp h with h1 | h1
      · exact Or.inl (h1 ▸ List.mem_cons_self)
      · rcases ih h1 with h2 | h2
        · exact Or.inl (List.mem_cons_of_mem _ h2)
        · exact Or.inr h2

omit [DecidableEq κ] in
theorem length_replaceGroup (gs : List (Nat × FlipFlop κ)) (g : Nat) (s : FlipFlop κ) :
    (replaceGroup gs g s).length = gs.length := by
  induction gs with
  | nil => rfl
  | cons x t ih =>
    obtain ⟨g', s'⟩ := x
    unfold replaceGroup
    split <;> simp [ih]

/-- What `Add` leaves: the geometry; old groups (perhaps fewer: LRU eviction) plus the group of `g`, the old one or a
fresh one, after `ContainsOrAdd`; no more groups than before or than `max 1 maxGroups`. -/
theorem add_groups (c : GroupedSet κ) (g : Nat) (k : κ) :
    (c.add g k).2.maxGroups = c.maxGroups ∧ (c.add g k).2.maxSetSize = c.maxSetSize ∧
    (c.add g k).2.groups.length ≤ max c.groups.length (max 1 c.maxGroups) ∧
    ∃ s, ((g, s) ∈ c.groups ∨ s = FlipFlop.new c.maxSetSize) ∧
      ∀ p ∈ (c.add g k).2.groups, p ∈ c.groups ∨ p = (g, (s.containsOrAdd k).2) := by
  unfold GroupedSet.add
  split
  · rename_i s hs
    refine ⟨rfl, rfl, ?_, s, .inl (lookup_mem hs), fun p hp => mem_replaceGroup hp⟩
    simp only [length_replaceGroup]; omega
  · refine ⟨rfl, rfl, ?_, _, .inr rfl, fun p hp => ?_⟩
    · simp only [List.length_cons]; split
      · simp only [List.length_dropLast]; omega
      · omega
    · rcases List.mem_cons.mp hp with h | h
      · exact .inr h
      · left; split at h
        · exact List.dropLast_subset _ h
        · exact h

/-- An insert keeps old members (minus whatever flip/flop rotation or group eviction drops) or adds
exactly `(g, k)`. -/
theorem mem_after_add {c : GroupedSet κ} {g : Nat} {k : κ} {g' : Nat} {k' : κ}
    (h : (c.add g k).2.mem g' k') : c.mem g' k' ∨ (g' = g ∧ k' = k) := by
  obtain ⟨s', hm, hc⟩ := h
  obtain ⟨-, -, -, s, hs, hg⟩ := add_groups c g k
  rcases hg _ hm with h1 | h1
  · exact .inl ⟨s', h1, hc⟩
  · cases h1
    rcases FlipFlop.mem_after_containsOrAdd hc with h2 | h2
    · rcases hs with hs | rfl
      · exact .inl ⟨s, hs, h2⟩
      · rw [FlipFlop.contains_new] at h2; cases h2
    · exact .inr ⟨rfl, h2⟩

theorem mem_after_removeLessThan {c : GroupedSet κ} {n g : Nat} {k : κ}
    (h : (c.removeLessThan n).mem g k) : c.mem g k := by
  obtain ⟨s, hm, hc⟩ := h
  exact ⟨s, (List.mem_filter.mp hm).1, hc⟩

/-- Pruning really removes: nothing below the bound stays. -/
theorem removeLessThan_bound {c : GroupedSet κ} {n g : Nat} {k : κ}
    (h : (c.removeLessThan n).mem g k) : n ≤ g := by
  obtain ⟨s, hm, _⟩ := h
  have := (List.mem_filter.mp hm).2
  simpa using this

theorem not_mem_new (a b g : Nat) (k : κ) : ¬ (GroupedSet.new a b : GroupedSet κ).mem g k := by
  rintro ⟨s, hm, _⟩
  simp [GroupedSet.new] at hm

/-- A `peek` hit is a member. (The converse needs unique group ids: `peek` looks at the first group with the id only;
no lemma here states that uniqueness.) -/
theorem mem_of_peek {c : GroupedSet κ} {g : Nat} {k : κ} (h : c.peek g k = true) : c.mem g k := by
  unfold GroupedSet.peek at h
  split at h
  · rename_i s hs
    exact ⟨s, lookup_mem hs, h⟩
  · cases h

/-- Size invariant of a flip/flop set: the young generation is strictly below `maxSize`, the old one at most `maxSize`. -/
def FlipFlop.bounded (s : FlipFlop κ) : Prop :=
  1 ≤ s.maxSize ∧ s.flip.length < s.maxSize ∧ s.flop.length ≤ s.maxSize

omit [DecidableEq κ] in
theorem FlipFlop.bounded_new (n : Nat) : (FlipFlop.new n : FlipFlop κ).bounded := by
  unfold FlipFlop.new FlipFlop.bounded
  simp only [List.length_nil]
  omega

theorem FlipFlop.bounded_containsOrAdd {s : FlipFlop κ} (h : s.bounded) (k : κ) :
    (s.containsOrAdd k).2.bounded ∧ (s.containsOrAdd k).2.maxSize = s.maxSize := by
  obtain ⟨h1, h2, h3⟩ := h
  rcases s.containsOrAdd_cases k with ⟨_, e⟩ | ⟨hl, e⟩ | ⟨hl, e⟩ <;> rw [e]
  · exact ⟨⟨h1, h2, h3⟩, rfl⟩
  · exact ⟨⟨h1, h1, h2⟩, rfl⟩
  · exact ⟨⟨h1, hl, h3⟩, rfl⟩

/-- Size invariant of the grouped cache: at most `max 1 maxGroups` groups, each a bounded set of the configured size. -/
def GroupedSet.bounded (c : GroupedSet κ) : Prop :=
  c.groups.length ≤ max 1 c.maxGroups ∧
    ∀ p ∈ c.groups, p.2.bounded ∧ p.2.maxSize = max 1 c.maxSetSize

omit [DecidableEq κ] in
theorem bounded_new (a b : Nat) : (GroupedSet.new a b : GroupedSet κ).bounded := by
  unfold GroupedSet.new GroupedSet.bounded
  simp

theorem bounded_contains {c : GroupedSet κ} (h : c.bounded) (g : Nat) (k : κ) :
    (c.contains g k).2.bounded := by
  obtain ⟨e1, e2, hl, hg⟩ := contains_groups c g k
  exact ⟨by rw [e1]; exact Nat.le_trans hl h.1, fun p hp => e2 ▸ h.2 p (hg p hp)⟩

theorem bounded_add {c : GroupedSet κ} (h : c.bounded) (g : Nat) (k : κ) :
    (c.add g k).2.bounded := by
  obtain ⟨e1, e2, hl, s, hs, hg⟩ := add_groups c g k
  have hsb : s.bounded ∧ s.maxSize = max 1 c.maxSetSize := by
    rcases hs with hs | rfl
    · exact h.2 _ hs
    · exact ⟨FlipFlop.bounded_new _, rfl⟩
  refine ⟨by rw [e1]; have := h.1; omega, fun p hp => ?_⟩
  rw [e2]
  rcases hg p hp with h1 | rfl
  · exact h.2 _ h1
  · exact ⟨(FlipFlop.bounded_containsOrAdd hsb.1 k).1, (FlipFlop.bounded_containsOrAdd hsb.1 k).2.trans hsb.2⟩

omit [DecidableEq κ] in
theorem bounded_removeLessThan {c : GroupedSet κ} (h : c.bounded) (n : Nat) :
    (c.removeLessThan n).bounded := by
  unfold GroupedSet.removeLessThan GroupedSet.bounded
  refine ⟨Nat.le_trans (List.length_filter_le _ _) h.1, ?_⟩
  intro p hp
  exact h.2 _ (List.mem_filter.mp hp).1

end F3.Cache
