import F3.Proofs.EmittedValid
/-!
# The wire: rebroadcast requests expanded

`Eff.rebroadcast r ph` is `host.RequestRebroadcast(Instant{id, r, ph})`: the host re-publishes the participant's own
message of that instance, round and phase if it has one (`host.go`: `selfMessages[instance][round][phase]`;
`F3.Equiv.step (.rebroadcast i r p)`: the own messages `m` with `m.inst == i && m.round == r && m.phase == p`). The
instance model emits only the request; here it is expanded against the broadcasts requested so far. -/
namespace F3.EmittedValid
open F3.Instance

/-- what a rebroadcast request for `(r, ph)` re-sends after the effects `sent`: the own broadcasts of that slot -/
def resent (p : Pid) (sent : List Eff) (r : Nat) (ph : Phase) : List Msg :=
  sent.filterMap (fun e => match e with
    | .broadcast r' ph' v _ j => if r' = r ∧ ph' = ph then some (msgOf p r' ph' v j) else none
    | _ => none)

/-- the messages the effects `es` put on the wire, after the effects `sent` -/
def wireFrom (p : Pid) : List Eff → List Eff → List Msg
  | _, [] => []
  | sent, e :: es =>
    (match e with
     | .broadcast r ph v _ j => [msgOf p r ph v j]
     | .rebroadcast r ph => resent p sent r ph
     | _ => []) ++ wireFrom p (sent ++ [e]) es

/-- everything participant `p` puts on the wire in the course of the effects `es`, rebroadcasts included -/
def wireOf (p : Pid) (es : List Eff) : List Msg := wireFrom p [] es

theorem mem_resent {p : Pid} {sent : List Eff} {r : Nat} {ph : Phase} {m : Msg} (h : m ∈ resent p sent r ph) :
    ∃ v tk j, Eff.broadcast r ph v tk j ∈ sent ∧ m = msgOf p r ph v j := by
  simp only [resent, List.mem_filterMap] at h
  obtain ⟨e, he, hm⟩ := h
  cases e with
  | broadcast r' ph' v tk j =>
    simp only at hm
    split at hm
    · rename_i hc
      obtain ⟨rfl, rfl⟩ := hc
      exact ⟨v, tk, j, he, by cases hm; rfl⟩
    · cases hm
  | _ => simp at hm

/-- **Whatever is on the wire was broadcast**: a message sent or re-sent is `msgOf` of a broadcast effect -/
theorem mem_wireFrom {p : Pid} {m : Msg} (es sent : List Eff) (h : m ∈ wireFrom p sent es) :
    ∃ r ph v tk j, Eff.broadcast r ph v tk j ∈ sent ++ es ∧ m = msgOf p r ph v j := by
  induction es generalizing sent with
  | nil => simp [wireFrom] at h
  | cons e es ih =>
    simp only [wireFrom, List.mem_append] at h
    rcases h with h | h
    · cases e with
      | broadcast r ph v tk j =>
        simp only [List.mem_singleton] at h
        exact ⟨r, ph, v, tk, j, by simp, h⟩
      | rebroadcast r ph =>
        obtain ⟨v, tk, j, hs, hm⟩ := mem_resent h
        exact ⟨r, ph, v, tk, j, List.mem_append_left _ hs, hm⟩
      | _ => simp at h
    · obtain ⟨r, ph, v, tk, j, hs, hm⟩ := ih (sent ++ [e]) h
      exact ⟨r, ph, v, tk, j, by simpa [List.append_assoc] using hs, hm⟩

theorem mem_wireOf {p : Pid} {m : Msg} {es : List Eff} (h : m ∈ wireOf p es) :
    ∃ r ph v tk j, Eff.broadcast r ph v tk j ∈ es ∧ m = msgOf p r ph v j := by
  simpa using mem_wireFrom es [] h

theorem bc_mem_wireFrom {p : Pid} {r : Nat} {ph : Phase} {v : Chain} {tk : Bool} {j : Option Just} (es sent : List Eff)
    (h : Eff.broadcast r ph v tk j ∈ es) : msgOf p r ph v j ∈ wireFrom p sent es := by
  induction es generalizing sent with
  | nil => cases h
  | cons e es ih =>
    simp only [wireFrom, List.mem_append]
    rcases List.mem_cons.1 h with rfl | h
    · exact Or.inl (by simp)
    · exact Or.inr (ih _ h)

theorem bc_mem_wireOf {p : Pid} {r : Nat} {ph : Phase} {v : Chain} {tk : Bool} {j : Option Just} {es : List Eff}
    (h : Eff.broadcast r ph v tk j ∈ es) : msgOf p r ph v j ∈ wireOf p es := bc_mem_wireFrom es [] h

/-- a rebroadcast request re-sends only what was broadcast **before** it -/
theorem rebroadcast_resends_earlier {p : Pid} {a b : List Eff} {r : Nat} {ph : Phase} {m : Msg}
    (h : m ∈ resent p a r ph) :
    ∃ v tk j, Eff.broadcast r ph v tk j ∈ a ∧ m = msgOf p r ph v j ∧ m ∈ wireOf p (a ++ Eff.rebroadcast r ph :: b) := by
  obtain ⟨v, tk, j, hs, hm⟩ := mem_resent h
  refine ⟨v, tk, j, hs, hm, ?_⟩
  suffices key : ∀ (a sent : List Eff), m ∈ resent p (sent ++ a) r ph →
      m ∈ wireFrom p sent (a ++ Eff.rebroadcast r ph :: b) from key a [] (by simpa using h)
  intro a
  induction a with
  | nil =>
    intro sent hm'
    simp only [List.nil_append, wireFrom, List.mem_append]
    exact Or.inl (by simpa using hm')
  | cons e a ih =>
    intro sent hm'
    simp only [List.cons_append, wireFrom, List.mem_append]
    exact Or.inr (ih (sent ++ [e]) (by simpa [List.append_assoc] using hm'))

/-- with at most one broadcast per slot (`emit_once`), a rebroadcast request re-sends at most one message -/
theorem resent_length_le_one {α : Type} [DecidableEq α] (f : Eff → Option α) (slot : Nat → Phase → α)
    (hf : ∀ r ph v tk j, f (.broadcast r ph v tk j) = some (slot r ph)) (p : Pid) (sent : List Eff)
    (hnd : (sent.filterMap f).Nodup) (r : Nat) (ph : Phase) : (resent p sent r ph).length ≤ 1 := by
  induction sent with
  | nil => simp [resent]
  | cons e es ih =>
    have hnd' : (es.filterMap f).Nodup := by
      rw [List.filterMap_cons] at hnd
      split at hnd
      · exact hnd
      · exact (List.nodup_cons.1 hnd).2
    have hrest := ih hnd'
    by_cases hhit : ∃ v tk j, e = Eff.broadcast r ph v tk j
    · obtain ⟨v, tk, j, rfl⟩ := hhit
      have hnil : resent p es r ph = [] := by
        cases hre : resent p es r ph with
        | nil => rfl
        | cons m ms =>
          exfalso
          obtain ⟨v', tk', j', hs, _⟩ := mem_resent (m := m) (by rw [hre]; exact List.mem_cons_self)
          rw [List.filterMap_cons, hf] at hnd
          have hmem : slot r ph ∈ es.filterMap f := List.mem_filterMap.2 ⟨_, hs, hf r ph v' tk' j'⟩
          exact (List.nodup_cons.1 hnd).1 hmem
      have : resent p (Eff.broadcast r ph v tk j :: es) r ph = msgOf p r ph v j :: resent p es r ph := by
        simp [resent]
      rw [this, hnil]; simp
    · have : resent p (e :: es) r ph = resent p es r ph := by
        cases e with
        | broadcast r' ph' v tk j =>
          have hne : ¬ (r' = r ∧ ph' = ph) := fun hc => hhit ⟨v, tk, j, by rw [hc.1, hc.2]⟩
          simp [resent, hne]
        | _ => simp [resent]
      rw [this]; exact hrest

end F3.EmittedValid
