import F3.Proofs.EmittedValidCands
import F3.Proofs.SyncGeneralVotes
/-!
# What the QUALITY tally means, and the round-0 PREPARE value on runs

* `qTally t vs`: the tally after the QUALITY votes `vs` (delivery order); `firstVotes vs`: the first vote of every
  sender; `qPower t vs x`: the total power of the distinct first-time senders whose vote counts for `x`
  (`x ∈ qualityPrefixes vote`, i.e. `x` is a prefix of the vote that extends the base by at least one tipset).
  `qTally_hasStrongFor`: `(qTally t vs).hasStrongFor x = strongQ t (qPower t vs x)` (positive total power).
* `tallied s op` / `qvotesFrom s ops`: the QUALITY votes of a run that reach the tally (not refused / dropped at the
  door). `quality_run`: the state's `quality` field is `qTally` of exactly those votes — for *every* run.
* `prepare0_run`: on validated runs a justification-free PREPARE is for round 0, is broadcast by the call that ends
  QUALITY, and its value is `longestPrefixWithQuorum input` over exactly the QUALITY votes tallied up to and including
  that call.
-/
namespace F3.EmittedValid
open F3.Instance F3.Sync F3.SyncGeneral

abbrev QVote := Pid × Chain

/-- the QUALITY tally after the votes `vs`, in delivery order -/
def qTally (t : Table) (vs : List QVote) : Tally := vs.foldl (fun q v => q.receiveEachPrefix t v.1 v.2) {}

/-- one step of `firstVotes` -/
def fvStep (acc : List QVote) (v : QVote) : List QVote := if acc.any (·.1 == v.1) then acc else acc ++ [v]

/-- the first vote of every sender, in delivery order (later votes of the same sender are ignored) -/
def firstVotes (vs : List QVote) : List QVote := vs.foldl fvStep []

/-- `firstVotes` keeps exactly the first vote of every sender: one entry per sender, every entry one of the votes, every
sender of a vote present -/
theorem firstVotes_spec (vs : List QVote) :
    ((firstVotes vs).map (·.1)).Nodup ∧ (∀ e ∈ firstVotes vs, e ∈ vs) ∧ ∀ e ∈ vs, ∃ e' ∈ firstVotes vs, e'.1 = e.1 := by
  unfold firstVotes
  suffices h : ∀ (vs acc : List QVote), (acc.map (·.1)).Nodup →
      ((vs.foldl fvStep acc).map (·.1)).Nodup ∧ (∀ e ∈ vs.foldl fvStep acc, e ∈ acc ∨ e ∈ vs) ∧
      (∀ e ∈ acc, e ∈ vs.foldl fvStep acc) ∧ ∀ e ∈ vs, ∃ e' ∈ vs.foldl fvStep acc, e'.1 = e.1 by
    obtain ⟨h1, h2, _, h4⟩ := h vs [] (by simp)
    exact ⟨h1, fun e he => (h2 e he).resolve_left (by simp), h4⟩
  intro vs
  induction vs with
  | nil => intro acc h; exact ⟨h, fun e he => Or.inl he, fun e he => he, fun e he => by simp at he⟩
  | cons v vs ih =>
    intro acc hnd
    simp only [List.foldl_cons]
    have hnd' : ((fvStep acc v).map (·.1)).Nodup := by
      unfold fvStep
      split
      · exact hnd
      · rename_i hany
        rw [List.map_append, List.nodup_append]
        refine ⟨hnd, by simp, ?_⟩
        intro a ha b hb
        simp only [List.map_cons, List.map_nil, List.mem_singleton] at hb
        subst hb
        intro e; subst e
        apply hany
        simp only [List.mem_map] at ha
        obtain ⟨e, he, hex⟩ := ha
        simp only [List.any_eq_true, beq_iff_eq]
        exact ⟨e, he, hex⟩
    obtain ⟨i1, i2, i3, i4⟩ := ih (fvStep acc v) hnd'
    have hsub : ∀ e ∈ fvStep acc v, e ∈ acc ∨ e = v := by
      intro e he
      unfold fvStep at he
      split at he
      · exact Or.inl he
      · simpa using he
    have hsup : ∀ e ∈ acc, e ∈ fvStep acc v := by
      intro e he
      unfold fvStep
      split
      · exact he
      · exact List.mem_append_left _ he
    have hv : ∃ e' ∈ fvStep acc v, e'.1 = v.1 := by
      unfold fvStep
      split
      · rename_i hany
        simp only [List.any_eq_true, beq_iff_eq] at hany
        exact hany
      · exact ⟨v, by simp, rfl⟩
    refine ⟨i1, ?_, fun e he => i3 e (hsup e he), ?_⟩
    · intro e he
      rcases i2 e he with h | h
      · rcases hsub e h with h | h
        · exact Or.inl h
        · exact Or.inr (by rw [h]; exact List.mem_cons_self)
      · exact Or.inr (List.mem_cons_of_mem _ h)
    · intro e he
      rcases List.mem_cons.1 he with rfl | he
      · obtain ⟨e', he', hx⟩ := hv
        exact ⟨e', i3 e' he', hx⟩
      · exact i4 e he

/-- the senders among `fv` whose vote counts for `x` -/
def qSupporters (fv : List QVote) (x : Chain) : List Pid :=
  (fv.filter (fun e => decide (x ∈ qualityPrefixes e.2))).map (·.1)

/-- the power behind `x` in the QUALITY votes `vs` -/
def qPower (t : Table) (vs : List QVote) (x : Chain) : Nat := sumP t (qSupporters (firstVotes vs) x)

/-- the exact content of a QUALITY tally in terms of the first-time votes `fv` -/
structure QI (t : Table) (fv : List QVote) (Q : Tally) : Prop where
  senders : Q.senders = fv.map (·.1)
  nodup : (fv.map (·.1)).Nodup
  cand : ∀ k, candPower Q k = sumP t (qSupporters fv k)
  strongOk : ∀ k e, Q.findSupport k = some e → e.strong = strongQ t e.power

theorem QI_empty (t : Table) : QI t [] {} :=
  ⟨rfl, by simp, fun _ => rfl, by intro k e h; simp [Tally.findSupport] at h⟩

theorem qSupporters_snoc (fv : List QVote) (v : QVote) (k : Chain) :
    qSupporters (fv ++ [v]) k = qSupporters fv k ++ (if k ∈ qualityPrefixes v.2 then [v.1] else []) := by
  unfold qSupporters
  rw [List.filter_append, List.map_append]
  by_cases h : k ∈ qualityPrefixes v.2
  · simp [h]
  · simp [h]

theorem QI.receive {t : Table} {fv : List QVote} {Q : Tally} (h : QI t fv Q) (x : Pid) (c : Chain) :
    QI t (fvStep fv (x, c)) (Q.receiveEachPrefix t x c) := by
  unfold Tally.receiveEachPrefix fvStep
  by_cases hin : x ∈ Q.senders
  · have h1 : Q.senders.contains x = true := by simpa using hin
    have h2 : fv.any (fun e => e.1 == x) = true := by
      rw [h.senders] at hin
      simp only [List.mem_map] at hin
      obtain ⟨e, he, hex⟩ := hin
      simp only [List.any_eq_true, beq_iff_eq]
      exact ⟨e, he, hex⟩
    simp only [h1, h2, if_true]
    exact h
  · have h1 : Q.senders.contains x = false := by simpa using hin
    have h2 : fv.any (fun e => e.1 == x) = false := by
      rw [h.senders] at hin
      simp only [List.mem_map, not_exists, not_and] at hin
      rw [List.any_eq_false]
      intro e he
      simpa using hin e he
    simp only [h1, h2, Bool.false_eq_true, if_false]
    obtain ⟨f1, f2, f3⟩ := fold_bumps t x (t.power x) (qualityPrefixes c) (qualityPrefixes_nodup _)
      ({ Q with senders := Q.senders ++ [x], sendersPower := Q.sendersPower + t.power x } : Tally) h.strongOk
    generalize ((qualityPrefixes c).foldl (fun (acc : Tally) p => (acc.receiveInner t x p (t.power x) false).getD acc)
        ({ Q with senders := Q.senders ++ [x], sendersPower := Q.sendersPower + t.power x } : Tally)) = Q1 at f1 f2 f3
    have f2' : Q1.senders = Q.senders ++ [x] := f2
    refine ⟨?_, ?_, ?_, f3⟩
    · rw [f2', h.senders]; simp
    · rw [List.map_append, List.nodup_append]
      refine ⟨h.nodup, by simp, ?_⟩
      intro a ha b hb
      simp only [List.map_cons, List.map_nil, List.mem_singleton] at hb
      subst hb
      intro e; subst e
      rw [← h.senders] at ha
      exact hin ha
    · intro k
      rw [f1 k, qSupporters_snoc, sumP_append]
      have hc : candPower ({ Q with senders := Q.senders ++ [x], sendersPower := Q.sendersPower + t.power x } : Tally) k
          = candPower Q k := rfl
      rw [hc, h.cand k]
      by_cases hp : k ∈ qualityPrefixes c
      · simp only [hp, if_true, sumP_single]
      · simp only [hp, if_false, sumP_nil]

theorem qTally_QI_aux (t : Table) (vs : List QVote) (fv : List QVote) (Q : Tally) (h : QI t fv Q) :
    QI t (vs.foldl fvStep fv) (vs.foldl (fun q v => q.receiveEachPrefix t v.1 v.2) Q) := by
  induction vs generalizing fv Q with
  | nil => exact h
  | cons v vs ih =>
    simp only [List.foldl_cons]
    exact ih _ _ (h.receive v.1 v.2)

theorem qTally_QI (t : Table) (vs : List QVote) : QI t (firstVotes vs) (qTally t vs) :=
  qTally_QI_aux t vs [] {} (QI_empty t)

theorem QI.hasStrongFor {t : Table} {fv : List QVote} {Q : Tally} (h : QI t fv Q) (hT : 0 < t.total) (k : Chain) :
    Q.hasStrongFor k = strongQ t (sumP t (qSupporters fv k)) := by
  have hc := h.cand k
  unfold candPower at hc
  unfold Tally.hasStrongFor
  cases hf : Q.findSupport k with
  | none =>
    rw [hf] at hc
    simp only [Option.getD_none] at hc
    rw [← hc]
    exact (strongQ_false_of t 0 (by omega)).symm
  | some e =>
    rw [hf] at hc
    simp only [Option.getD_some] at hc
    show e.strong = _
    rw [h.strongOk k e hf, hc]

/-- **What `hasStrongFor` means.** With positive total power: the QUALITY tally has a strong quorum for `x` iff the
distinct first-time senders whose vote counts for `x` hold a strong quorum of power. -/
theorem qTally_hasStrongFor (t : Table) (vs : List QVote) (hT : 0 < t.total) (x : Chain) :
    (qTally t vs).hasStrongFor x = strongQ t (qPower t vs x) :=
  (qTally_QI t vs).hasStrongFor hT x

/-- no chain of length `≤ 1` (bottom, a bare base) ever has a QUALITY quorum -/
theorem qTally_short (t : Table) (vs : List QVote) (hT : 0 < t.total) (x : Chain) (hx : x.length < 2) :
    (qTally t vs).hasStrongFor x = false := by
  rw [qTally_hasStrongFor t vs hT]
  have : qSupporters (firstVotes vs) x = [] := by
    unfold qSupporters
    rw [List.map_eq_nil_iff, List.filter_eq_nil_iff]
    intro e _
    simp only [decide_eq_true_eq]
    intro hm
    have := ((mem_qualityPrefixes _ _).1 hm).2
    omega
  unfold qPower
  rw [this, sumP_nil]
  exact strongQ_false_of t 0 (by omega)

/-- the QUALITY vote a call hands to the tally, if any: a QUALITY message that passes the door checks of
`receiveOne` (right instance, supplemental data and base; the instance has not terminated; not beyond the
look-ahead) -/
def tallied (s : State) : Op → Option QVote
  | .recv _ m => if s.recvPre m = .accept ∧ m.phase = .quality then some (m.sender, m.value) else none
  | _ => none

/-- the QUALITY votes tallied along a run from `s`, in order -/
def qvotesFrom : State → List Op → List QVote
  | _, [] => []
  | s, op :: ops => (tallied s op).toList ++ qvotesFrom (step s op).1 ops

theorem postReceive_quality (s : State) (now : Int) (round : Nat) : (s.postReceive now round).1.quality = s.quality :=
  postReceive_ind (P := fun r => r.1.quality = s.quality) s now round rfl (fun _ _ cs p j => by simp)

theorem recvQuality_quality (s : State) (now : Int) (m : Msg) :
    (s.recvQuality now m).1.quality = s.quality.receiveEachPrefix s.tbl m.sender m.value := by
  unfold State.recvQuality
  dsimp only
  split
  · simp [State.updateCandidatesFromQuality]
  · exact (tryCurrentPhase_cstep _ now).quality

theorem receiveOne_quality (s : State) (now : Int) (m : Msg) :
    (s.receiveOne now m).1.1.quality =
      if s.recvPre m = .accept ∧ m.phase = .quality then s.quality.receiveEachPrefix s.tbl m.sender m.value
      else s.quality := by
  unfold State.receiveOne
  split
  · rename_i k hk; simp [hk]
  · rename_i hk; simp [hk]
  · rename_i hacc
    split
    · rename_i hph; simp only [hacc, hph, and_self, if_true]; exact recvQuality_quality s now m
    · rename_i hph
      simp only [hph, reduceCtorEq, and_false, if_false]
      split
      · rfl
      · split
        · rfl
        · exact (recvConverge_cstep s now m _).quality
    · rename_i hph; simp only [hph, reduceCtorEq, and_false, if_false]; exact (recvPrepare_cstep s now m).quality
    · rename_i hph; simp only [hph, reduceCtorEq, and_false, if_false]; exact (recvCommit_cstep s now m).quality
    · rename_i hph; simp only [hph, reduceCtorEq, and_false, if_false]; exact (recvDecide_cstep s now m).quality
    · rename_i h1 h2 h3 h4 h5
      have : m.phase ≠ .quality := h1
      simp only [this, and_false, if_false]

theorem step_quality (s : State) (op : Op) :
    (step s op).1.quality = match tallied s op with
      | some v => s.quality.receiveEachPrefix s.tbl v.1 v.2
      | none => s.quality := by
  cases op with
  | start now => simp [step, tallied]
  | alarm now => simp only [step, tallied]; exact (tryCurrentPhase_cstep s now).quality
  | recv now m =>
    by_cases hst : s.phase = .terminated
    · have : s.recvPre m ≠ .accept := fun h => recvPre_accept_not_terminated s m h hst
      simp [step, tallied, hst, this]
    · have hq : (step s (.recv now m)).1.quality = (s.receiveOne now m).1.1.quality :=
        step_recv_ind s now m (fun ht => absurd ht hst)
          (fun _ => rfl) (fun _ hnf => by rw [andThen_fst hnf]; exact postReceive_quality _ _ _)
      rw [hq, receiveOne_quality]
      simp only [tallied]
      split <;> rfl

/-- **The QUALITY tally of a run.** From any state, along any sequence of calls: the `quality` field is the initial
one with exactly the tallied votes received, in order. -/
theorem quality_runFrom (s : State) (ops : List Op) :
    (runFrom s ops).1.quality = (qvotesFrom s ops).foldl (fun q v => q.receiveEachPrefix s.tbl v.1 v.2) s.quality := by
  induction ops generalizing s with
  | nil => rfl
  | cons op ops ih =>
    rw [runFrom_cons]
    simp only [qvotesFrom, List.foldl_append]
    rw [ih, step_tbl, step_quality]
    cases tallied s op <;> rfl

/-- for runs of a fresh instance: `quality = qTally t (tallied votes)` — no hypothesis on the calls at all -/
theorem quality_run (cfg : Cfg) (t : Table) (input : Chain) (ops : List Op) :
    (run (init cfg t input) ops).1.quality = qTally t (qvotesFrom (init cfg t input) ops) := by
  rw [run_eq_runFrom, quality_runFrom]; rfl

theorem runFrom_append (s : State) (a b : List Op) :
    runFrom s (a ++ b) = ((runFrom (runFrom s a).1 b).1, (runFrom s a).2 ++ (runFrom (runFrom s a).1 b).2) := by
  induction a generalizing s with
  | nil => simp [runFrom]
  | cons op a ih =>
    rw [List.cons_append, runFrom_cons, runFrom_cons, ih]
    simp [List.append_assoc]

theorem mem_runFrom_split (s : State) (ops : List Op) (e : Eff) (h : e ∈ (runFrom s ops).2) :
    ∃ ops1 op ops2, ops = ops1 ++ op :: ops2 ∧ e ∈ (step (runFrom s ops1).1 op).2 := by
  induction ops generalizing s with
  | nil => simp [runFrom] at h
  | cons op ops ih =>
    rw [runFrom_cons] at h
    rcases List.mem_append.1 h with h | h
    · exact ⟨[], op, ops, rfl, by simpa [runFrom] using h⟩
    · obtain ⟨o1, o, o2, he, hm⟩ := ih _ h
      refine ⟨op :: o1, o, o2, by rw [he]; rfl, ?_⟩
      rw [runFrom_cons]; exact hm

theorem runFrom_input' (s : State) (ops : List Op) : (runFrom s ops).1.input = s.input := by
  induction ops generalizing s with
  | nil => rfl
  | cons op ops ih => rw [runFrom_cons, ih, step_input]

theorem runFrom_input (s : State) (ops : List Op) (hq : DQ s) (hops : ∀ op ∈ ops, OpOk op)
    (hnf : hasFailure (runFrom s ops).2 = false) : (runFrom s ops).1.input = s.input :=
  runFrom_input' s ops

/-- **The round-0 PREPARE value on runs.** In every validated run (one `Start`, then alarms and validated or foreign
deliveries; no failure hypothesis): a PREPARE without justification is for round 0; it is broadcast by a call `op`
before which the instance is in QUALITY and after which it is not; and its value is `longestPrefixWithQuorum` of the
input over exactly the QUALITY votes tallied up to and including that call. -/
theorem prepare0_run (cfg : Cfg) (t : Table) (input : Chain) (W : Votes) (now0 : Int) (ops : List Op)
    (hin : input ≠ []) (hT : 0 < t.total)
    (hstart : ∀ op ∈ ops, op.isStart = false)
    (hvalid : ∀ op ∈ ops, foreignOp op = true ∨ OpValidG W t op)
    (r : Nat) (v : Chain) (tk : Bool)
    (hm : Eff.broadcast r .prepare v tk none ∈ (run (init cfg t input) (.start now0 :: ops)).2) :
    r = 0 ∧ ∃ ops1 op ops2, ops = ops1 ++ op :: ops2 ∧
      (run (init cfg t input) (.start now0 :: ops1)).1.phase = .quality ∧
      (run (init cfg t input) (.start now0 :: (ops1 ++ [op]))).1.phase ≠ .quality ∧
      Eff.broadcast r .prepare v tk none ∈ (step (run (init cfg t input) (.start now0 :: ops1)).1 op).2 ∧
      v = (qTally t (qvotesFrom (init cfg t input) (.start now0 :: (ops1 ++ [op])))).longestPrefixWithQuorum input := by
  constructor
  · -- round 0: the shape theorem over the trivial vote set
    have hsh := run_shaped cfg t input WT 0 now0 ops hin hT hstart
      (fun op hop => (hvalid op hop).imp id (fun hv => hv.top)) (fun _ _ _ _ _ _ => trivial) r .prepare v tk none hm
    by_cases h0 : r = 0
    · exact h0
    · obtain ⟨j', hj', _⟩ := hsh.2 (by omega)
      cases hj'
  · rw [run_eq_runFrom] at hm
    obtain ⟨o1, o, o2, he, hmo⟩ := mem_runFrom_split _ _ _ hm
    cases o1 with
    | nil =>
      -- the `Start` call broadcasts QUALITY only
      simp only [List.nil_append, List.cons.injEq] at he
      obtain ⟨rfl, _⟩ := he
      simp [runFrom, step, State.beginQuality, init, State.alarmAfter, State.resetReb] at hmo
    | cons o0 ops1 =>
      simp only [List.cons_append, List.cons.injEq] at he
      obtain ⟨rfl, rfl⟩ := he
      have hstart1 : ∀ op ∈ ops1, op.isStart = false := fun op hop => hstart op (by simp [hop])
      have hvalid1 : ∀ op ∈ ops1, foreignOp op = true ∨ OpValidG W t op := fun op hop => hvalid op (by simp [hop])
      obtain ⟨hc, _, _, hq⟩ := run_cci cfg t input W now0 ops1 hin hT hstart1 hvalid1
      rw [run_eq_runFrom] at hc hq
      obtain ⟨a1, a2, a3, _⟩ := (step_cstep_valid _ o hq (hvalid o (by simp))).prep hc r v tk hmo
      have hs2 : (run (init cfg t input) (.start now0 :: (ops1 ++ [o]))).1 =
          (step (runFrom (init cfg t input) (.start now0 :: ops1)).1 o).1 := by
        rw [run_eq_runFrom, ← List.cons_append, runFrom_append]
        simp [runFrom]
      refine ⟨ops1, o, o2, rfl, a1, by rw [hs2]; exact a3, hmo, ?_⟩
      rw [a2, ← hs2]
      unfold LP
      rw [quality_run, run_eq_runFrom, runFrom_input']
      rfl

end F3.EmittedValid
