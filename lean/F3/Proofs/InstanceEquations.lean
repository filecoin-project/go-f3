import F3.Proofs.InstanceRun
/-!
# The model functions under the branch condition that selects one outcome

Equations `s.f now = ..` of `tryQuality`, `tryPrepare`, `tryCommit`, `tryDecide`, `beginCommit`, `beginDecide`, `andThen`
and `step`, each under the hypotheses that decide the tests on its path.
-/
namespace F3.Sync
open F3.Instance

theorem tryQuality_go (s : State) (now : Int) (hph : s.phase = .quality)
    (hcond : (s.quality.hasStrongFor s.proposal || s.phaseTimeoutElapsed now) = true) :
    ∃ cs, s.tryQuality now =
      ({ s with proposal := s.quality.longestPrefixWithQuorum s.input, candidates := cs,
                value := s.quality.longestPrefixWithQuorum s.input } : State).beginPrepare now none :=
  tryQuality_ind (P := fun r => ∃ cs, r =
      ({ s with proposal := s.quality.longestPrefixWithQuorum s.input, candidates := cs,
                value := s.quality.longestPrefixWithQuorum s.input } : State).beginPrepare now none)
    s now (fun h => absurd hph h) (fun _ hc => by rw [hcond] at hc; cases hc) (fun _ _ cs _ => ⟨cs, rfl⟩)

theorem tryPrepare_go (s : State) (now : Int) (hph : s.phase = .prepare)
    (hcond : (s.prepFoundQuorum || s.prepFoundJust || s.prepNotPossible || s.prepComplete now) = true) :
    s.tryPrepare now = (s.prepareValue now).beginCommit now := by
  unfold State.tryPrepare
  rw [if_neg (by simp [hph])]
  dsimp only
  rw [if_pos hcond]

theorem tryPrepare_stay (s : State) (now : Int) (hph : s.phase = .prepare)
    (hcond : (s.prepFoundQuorum || s.prepFoundJust || s.prepNotPossible || s.prepComplete now) = false) :
    s.tryPrepare now = if s.shouldRebroadcast now = true then s.tryRebroadcast now else (s, []) := by
  have hpv : s.prepareValue now = s := by
    simp only [Bool.or_eq_false_iff] at hcond
    unfold State.prepareValue
    simp [hcond.1.1.1, hcond.1.1.2, hcond.1.2, hcond.2]
  unfold State.tryPrepare
  rw [if_neg (by simp [hph])]
  dsimp only
  rw [if_neg (by simp [hcond]), hpv]

theorem prepareValue_found (s : State) (now : Int) (h : (s.prepFoundQuorum || s.prepFoundJust) = true) :
    s.prepareValue now = { s with value := s.proposal } := by
  unfold State.prepareValue
  rw [if_pos h]

theorem beginCommit_eq (s : State) (now : Int) (j : Just) (hv : s.value.isEmpty = false) (hj : s.commitJust = .ok j) :
    s.beginCommit now =
      ({ s with phase := .commit, phaseTimeout := now + s.roundTimeout, rebAttempts := 0, rebTimeout := none },
       [.progress s.round .commit, .setAlarm (now + s.roundTimeout), .broadcast s.round .commit s.value false (some j)]) := by
  unfold State.beginCommit State.alarmAfter State.resetReb
  dsimp only
  rw [if_neg (by simp [hv])]
  have : State.commitJust { s with phase := .commit, phaseTimeout := now + State.roundTimeout { s with phase := .commit }, rebAttempts := 0, rebTimeout := none } = s.commitJust := rfl
  rw [this, hj]
  rfl

theorem fsqf_none (t : Table) (T : Tally) (c : Chain) (h : T.hasStrongFor c = false) :
    T.findStrongQuorumFor t c = .none := by
  unfold Tally.hasStrongFor at h
  unfold Tally.findStrongQuorumFor
  cases hf : T.findSupport c with
  | none => rfl
  | some e =>
    rw [hf] at h
    dsimp only at h ⊢
    rw [if_pos (by simp [h])]

theorem getJustOf_empty (ph : Phase) (c : Chain) : ({} : Tally).getJustOf ph c = none := by
  unfold Tally.getJustOf; split <;> rfl

theorem conv_getJustOf_empty (ph : Phase) (c : Chain) : ({} : Conv).getJustOf ph c = none := by
  unfold Conv.getJustOf; split <;> rfl

theorem isEmpty_false_of_ne {c : Chain} (h : c ≠ []) : c.isEmpty = false := by
  cases c <;> simp_all

theorem tryCommit_one (s : State) (now : Int) (round : Nat) (c : Chain) (hc : c.isEmpty = false)
    (h : (s.getRound round).committed.findStrongQuorumValue = .one c) :
    s.tryCommit now round = ({ s with value := c } : State).beginDecide round := by
  unfold State.tryCommit
  dsimp only
  rw [h]
  dsimp only
  rw [if_pos (by simp [hc])]

theorem tryCommit_none_other (s : State) (now : Int) (round : Nat) (hph : s.phase ≠ .commit)
    (h : (s.getRound round).committed.findStrongQuorumValue = .none) :
    s.tryCommit now round = (s, []) := by
  unfold State.tryCommit
  dsimp only
  rw [h]
  dsimp only
  rw [if_pos (by simp [hph])]

theorem tryCommit_none_commit (s : State) (now : Int) {round : Nat} (hph : s.phase = .commit) (hr : s.round = round)
    (h : (s.getRound round).committed.findStrongQuorumValue = .none) (hb : s.foundJustBottom round = false)
    (hc : (s.phaseTimeoutElapsed now && (s.getRound round).committed.fromStrong s.tbl) = false) :
    s.tryCommit now round = if s.shouldRebroadcast now = true then s.tryRebroadcast now else (s, []) := by
  unfold State.tryCommit
  dsimp only
  rw [h]
  dsimp only
  rw [if_neg (by simp [hph, hr]), if_neg (by simp [hb]), if_neg (by simp [hc])]

theorem beginDecide_eq (s : State) (round : Nat) (sg : List Nat)
    (h : (s.getRound round).committed.findStrongQuorumFor s.tbl s.value = .found sg) :
    s.beginDecide round =
      ({ s with phase := .decide, rebAttempts := 0, rebTimeout := none },
       [.progress s.round .decide,
        .broadcast 0 .decide s.value false (some { round := round, phase := .commit, value := s.value, signers := sg })]) := by
  unfold State.beginDecide State.resetReb
  dsimp only
  have : (State.getRound { s with phase := .decide, rebAttempts := 0, rebTimeout := none } round) = s.getRound round := rfl
  rw [this, h]

theorem tryDecide_one (s : State) (now : Int) (v : Chain) (sg : List Nat)
    (h : s.decision.findStrongQuorumValue = .one v) (hf : s.decision.findStrongQuorumFor s.tbl v = .found sg) :
    s.tryDecide now = s.terminate { round := 0, phase := .decide, value := v, signers := sg } := by
  unfold State.tryDecide
  rw [h]
  dsimp only
  rw [hf]

theorem tryDecide_none (s : State) (now : Int) (h : s.decision.findStrongQuorumValue = .none) :
    s.tryDecide now = s.tryRebroadcast now := by
  unfold State.tryDecide
  rw [h]

theorem andThen_nil (s : State) (f : State → R) : andThen (s, []) f = f s := by
  unfold andThen
  simp [hasFailure]

theorem andThen_ok (r : R) (f : State → R) (h : hasFailure r.2 = false) :
    andThen r f = ((f r.1).1, r.2 ++ (f r.1).2) := by
  unfold andThen
  rw [if_neg (by simp [h])]

theorem step_recv_eq (s : State) (now : Int) (m : Msg) (hnt : s.phase ≠ .terminated)
    (hnf : hasFailure (s.receiveOne now m).1.2 = false) (hr : m.round ≤ (s.receiveOne now m).1.1.round) :
    step s (.recv now m) = (s.receiveOne now m).1 := by
  unfold step
  dsimp only
  rw [if_neg (by simp [hnt])]
  generalize s.receiveOne now m = x at *
  obtain ⟨r, ch⟩ := x
  dsimp only at *
  rw [if_neg (by simp [hnf])]
  split
  · rw [andThen_ok _ _ hnf, postReceive_noop _ _ _ hr]
    simp
  · rfl

end F3.Sync
