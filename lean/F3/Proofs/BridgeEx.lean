import F3.Proofs.Bridge
import F3.Proofs.ValidSound
/-!
# The executable validity checker is sound, and the hypotheses of the end-to-end theorems are satisfiable
-/
namespace F3.Bridge
open F3.Instance

/-- the votes in existence, given as a list -/
def Wof (votes : List Vote) : Votes := fun x r ph v => (x, r, ph, v) ∈ votes

theorem msgValidB_sound (votes : List Vote) (t : Table) (m : Msg) (h : msgValidB votes t m = true) :
    MsgValid (Wof votes) t m :=
  F3.EmittedValid.msgValidB_sound' votes t m h

def opValidB (votes : List Vote) (t : Table) : Op → Bool
  | .recv _ m => msgValidB votes t m
  | _ => true

theorem opValidB_sound (votes : List Vote) (t : Table) (ops : List Op)
    (h : ops.all (fun op => foreign op || opValidB votes t op) = true) :
    ∀ op ∈ ops, foreign op = true ∨ OpValidG (Wof votes) t op := by
  intro op hop
  have := List.all_eq_true.1 h op hop
  simp only [Bool.or_eq_true] at this
  rcases this with hf | hv
  · exact Or.inl hf
  · right
    cases op with
    | recv now m => exact msgValidB_sound votes t m hv
    | start _ => trivial
    | alarm _ => trivial


/-! ### a concrete network: four members of equal power, member 4 Byzantine and equivocating in PREPARE -/
section Example

def exTbl : Table := { entries := [(1, 1), (2, 1), (3, 1), (4, 1)] }
def exCfg : Cfg := { maxLookahead := 2, rebImmediateAfter := 3, timeout2 := [100], qualityTimeout2 := 100, rebAfter := [50] }
def exJp : Just := { round := 0, phase := .prepare, value := [7,8], signers := [0,1,2] }
def exJc : Just := { round := 0, phase := .commit, value := [7,8], signers := [0,1,2] }
def exVotes : List Vote :=
  [(1,0,.quality,[7,8]), (1,0,.prepare,[7,8]), (1,0,.commit,[7,8]), (1,0,.decide,[7,8]),
   (2,0,.quality,[7,8]), (2,0,.prepare,[7,8]), (2,0,.commit,[7,8]), (2,0,.decide,[7,8]),
   (3,0,.quality,[7,8]), (3,0,.prepare,[7,8]), (3,0,.commit,[7,8]), (3,0,.decide,[7,8]),
   (4,0,.prepare,[7,9]), (4,0,.prepare,[7,8])]
def exOps : List Op :=
  [.start 0,
   .recv 1 { sender := 1, round := 0, phase := .quality, value := [7,8] },
   .recv 2 { sender := 2, round := 0, phase := .quality, value := [7,8] },
   .recv 3 { sender := 4, round := 0, phase := .prepare, value := [7,9] },
   .recv 4 { sender := 3, round := 0, phase := .quality, value := [7,8] },
   .recv 5 { sender := 4, round := 0, phase := .prepare, value := [9,9], suppOk := false },
   .recv 12 { sender := 4, round := 0, phase := .prepare, value := [7,8] },
   .recv 13 { sender := 1, round := 0, phase := .prepare, value := [7,8] },
   .recv 14 { sender := 2, round := 0, phase := .prepare, value := [7,8] },
   .recv 15 { sender := 3, round := 0, phase := .prepare, value := [7,8] },
   .recv 16 { sender := 1, round := 0, phase := .commit, value := [7,8], just := some exJp },
   .recv 17 { sender := 2, round := 0, phase := .commit, value := [7,8], just := some exJp },
   .recv 18 { sender := 3, round := 0, phase := .commit, value := [7,8], just := some exJp },
   .recv 19 { sender := 1, round := 0, phase := .decide, value := [7,8], just := some exJc },
   .recv 20 { sender := 2, round := 0, phase := .decide, value := [7,8], just := some exJc },
   .recv 21 { sender := 3, round := 0, phase := .decide, value := [7,8], just := some exJc },
   .recv 22 { sender := 1, round := 0, phase := .decide, value := [7,8], just := some exJc }]

def exF : Finset Pid := {4}
abbrev exW : Votes := Wof exVotes

def bcTriple : Eff → Option (Nat × Instance.Phase × Chain)
  | .broadcast r ph v _ _ => some (r, ph, v)
  | _ => none

theorem bc_iff_triple (es : List Eff) (r : Nat) (ph : Instance.Phase) (v : Chain) :
    (∃ tk j, Eff.broadcast r ph v tk j ∈ es) ↔ (r, ph, v) ∈ es.filterMap bcTriple := by
  rw [List.mem_filterMap]
  constructor
  · rintro ⟨tk, j, h⟩; exact ⟨_, h, rfl⟩
  · rintro ⟨e, he, h⟩
    cases e <;> simp [bcTriple] at h
    obtain ⟨rfl, rfl, rfl⟩ := h
    exact ⟨_, _, he⟩

def votesOf (votes : List Vote) (p : Pid) : List (Nat × Instance.Phase × Chain) :=
  votes.filterMap (fun e => if e.1 = p then some e.2 else none)

theorem votesOf_iff (votes : List Vote) (p : Pid) (r : Nat) (ph : Instance.Phase) (v : Chain) :
    Wof votes p r ph v ↔ (r, ph, v) ∈ votesOf votes p := by
  unfold Wof votesOf
  rw [List.mem_filterMap]
  constructor
  · intro h; exact ⟨_, h, by simp⟩
  · rintro ⟨⟨x, e⟩, he, h⟩
    dsimp only at h
    split at h
    · rename_i hx
      cases h; cases hx; exact he
    · cases h

theorem exOps_run : (run (init exCfg exTbl [7, 8]) exOps).1.termination =
    some { round := 0, phase := .decide, value := [7, 8], signers := [0, 1, 2] } := by
  decide +kernel

/-- the run of each of the three honest members (they happen to see the same delivery order) -/
def exRun (p : Pid) (hp : p = 1 ∨ p = 2 ∨ p = 3) : HonestRun exW exTbl p where
  cfg := exCfg
  input := [7, 8]
  ops := exOps
  inputNe := by decide
  valid := opValidB_sound exVotes exTbl exOps (by decide)
  ok := by decide
  own := by
    intro r ph v
    show Wof exVotes p r ph v ↔ _
    rw [bc_iff_triple, votesOf_iff]
    have : votesOf exVotes p = (run (init exCfg exTbl [7, 8]) exOps).2.filterMap bcTriple := by
      rcases hp with rfl | rfl | rfl <;> decide
    rw [this]

theorem ex_ids : (ids exTbl).toFinset = {1, 2, 3, 4} := by decide

def exNet : Network exTbl exF exW where
  idsNodup := by decide
  totalPos := by decide
  faultBound := by
    rw [total_eq exTbl exF exW (by decide)]
    show 3 * (∑ p ∈ ({4} : Finset Pid), exTbl.power p) < exTbl.total
    rw [Finset.sum_singleton]
    decide
  nonMembers := by
    intro p hp r ph v hw
    rw [ex_ids] at hp
    have hm : ∀ e ∈ exVotes, e.1 = 1 ∨ e.1 = 2 ∨ e.1 = 3 ∨ e.1 = 4 := by decide
    have := hm _ hw
    simp only [Finset.mem_insert, Finset.mem_singleton] at hp
    exact hp this
  runs := fun p hp hF => exRun p (by
    rw [ex_ids] at hp
    simp only [Finset.mem_insert, Finset.mem_singleton, exF] at hp hF
    rcases hp with h | h | h | h
    · exact Or.inl h
    · exact Or.inr (Or.inl h)
    · exact Or.inr (Or.inr h)
    · exact absurd h hF)

/-- In the example network the Byzantine member has equivocated, honest member 1 reports a decision, and the
hypotheses of `model_agreement` / `model_validity` are met. -/
theorem ex_network_decides :
    exW 4 0 .prepare [7, 9] ∧ exW 4 0 .prepare [7, 8] ∧
    ∃ d, (run (init (exNet.runs 1 (by decide) (by decide)).cfg exTbl (exNet.runs 1 (by decide) (by decide)).input)
      (exNet.runs 1 (by decide) (by decide)).ops).1.termination = some d ∧ d.value = [7, 8] := by
  refine ⟨by show _ ∈ exVotes; decide, by show _ ∈ exVotes; decide,
    { round := 0, phase := .decide, value := [7, 8], signers := [0, 1, 2] }, ?_, rfl⟩
  -- name the run's fields before comparing with `exOps_run`: unifying through `exNet` would execute the run
  have hc : ∀ h1 h2, (exNet.runs 1 h1 h2).cfg = exCfg := fun _ _ => rfl
  have hi : ∀ h1 h2, (exNet.runs 1 h1 h2).input = [7, 8] := fun _ _ => rfl
  rw [hc, hi]
  exact exOps_run

end Example

end F3.Bridge
