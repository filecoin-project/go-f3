import F3.Proofs.StoreWipe
/-! Restarts after a crash: a datastore *looks like* an abstract state (`LooksLike`) when every restart observes what that state
prescribes; each of the three classes of datastore does. `Crash.before_or_after` turns the crash triple of an operation
(`put_crash`, `create_crash`, `wipe_crash`, `deleteAll_crash`, stated next to the operations) into equality of restart
observations with the state before or the state after. -/
namespace F3.Store

/-- The three kinds of datastore the operations and their crashes ever produce. -/
def Good (cfg : Cfg) (ds : DS) : Prop := Wiping ds ∨ NotInit ds ∨ ∃ sp, Repr cfg.freq ds sp

/-- The namespaced query of a restart answers with a permutation of the keys the datastore holds (`o.raw` is not
constrained). -/
def OrdersOk (ds : DS) (o : Orders) : Prop := o.inner.Perm (scopeKeys .inner ds)

/-- `ds` *looks like* abstract state `d` to every restart (every open variant, every query order). -/
def LooksLike (cfg : Cfg) (ds : DS) (d : Desc) : Prop :=
  ∀ (o : Orders), OrdersOk ds o → ∀ v : Variant, reobserve cfg ds o v = specReobserve d v

/-- Production configuration: the period in force while opening is the store's period. -/
def Cfg.Uniform (cfg : Cfg) : Prop := cfg.openFreq = cfg.freq

theorem looksLike_of_repr {cfg : Cfg} (hu : cfg.Uniform) {ds : DS} {sp : Spec} (h : Repr cfg.freq ds sp) :
    LooksLike cfg ds (.hist sp) :=
  fun o _ v => reobserve_repr cfg o h (Or.inl hu) v

theorem looksLike_of_notInit {cfg : Cfg} {ds : DS} (h : NotInit ds) : LooksLike cfg ds .notInit :=
  fun o _ v => reobserve_of_core (openCore_notInit cfg o h) h v

theorem looksLike_of_wiping {cfg : Cfg} (hres : cfg.resumeInner = true) {ds : DS} (h : Wiping ds) :
    LooksLike cfg ds .notInit :=
  fun o ho v => reobserve_wiping cfg hres o h ho v

/-- Before-or-after for restarts, from before-or-after for abstract states. -/
theorem before_or_after {cfg : Cfg} {dsB dsA dsC : DS} {dB dA : Desc}
    (hB : LooksLike cfg dsB dB) (hA : LooksLike cfg dsA dA) (hC : LooksLike cfg dsC dB ∨ LooksLike cfg dsC dA)
    (o oB oA : Orders) (ho : OrdersOk dsC o) (hoB : OrdersOk dsB oB) (hoA : OrdersOk dsA oA) (v : Variant) :
    reobserve cfg dsC o v = reobserve cfg dsB oB v ∨ reobserve cfg dsC o v = reobserve cfg dsA oA v := by
  rcases hC with hC | hC
  · exact Or.inl ((hC o ho v).trans (hB oB hoB v).symm)
  · exact Or.inr ((hC o ho v).trans (hA oA hoA v).symm)

/-- Before-or-after for restarts from a triple whose crash condition looks like the state before or after and whose
postcondition looks like the state after. -/
theorem Crash.before_or_after {C Q : DS → Prop} {ds : DS} {ws : List W} {cfg : Cfg} {dB dA : Desc}
    (h : Crash C Q ds ws) (hB : LooksLike cfg ds dB)
    (hC : ∀ d, C d → LooksLike cfg d dB ∨ LooksLike cfg d dA) (hQ : ∀ d, Q d → LooksLike cfg d dA)
    {k : Nat} (hk : k ≤ ws.length) (v : Variant) (o oB oA : Orders) (ho : OrdersOk (crashAt ds ws k) o)
    (hoB : OrdersOk ds oB) (hoA : OrdersOk (applyWs ds ws) oA) :
    reobserve cfg (crashAt ds ws k) o v = reobserve cfg ds oB v ∨
    reobserve cfg (crashAt ds ws k) o v = reobserve cfg (applyWs ds ws) oA v :=
  F3.Store.before_or_after hB (hQ _ h.2)
    ((h.at_le hk).elim (fun hc => hC _ hc.2) (fun hq => Or.inr (hQ _ hq.2))) o oB oA ho hoB hoA v

variable {cfg : Cfg} {ds : DS} {sp : Spec}

/-- The creation writes are crash-atomic on a datastore holding no store; the first-instance marker is
the commit point. -/
theorem crash_atomic_createWrites (hu : cfg.Uniform) (h : NotInit ds) (first : Nat) {init : Table} (hne : init ≠ [])
    (hc : Canon init) (k : Nat) (hk : k ≤ (createWrites first init).length)
    (v : Variant) (o oB oA : Orders) (ho : OrdersOk (crashAt ds (createWrites first init) k) o)
    (hoB : OrdersOk ds oB) (hoA : OrdersOk (applyWs ds (createWrites first init)) oA) :
    reobserve cfg (crashAt ds (createWrites first init) k) o v = reobserve cfg ds oB v ∨
    reobserve cfg (crashAt ds (createWrites first init) k) o v =
      reobserve cfg (applyWs ds (createWrites first init)) oA v :=
  (create_crash cfg.freq h first hne hc).before_or_after (looksLike_of_notInit h) (fun _ h => Or.inl (looksLike_of_notInit h))
    (fun _ h => looksLike_of_repr hu h) hk v o oB oA ho hoB hoA

end F3.Store
