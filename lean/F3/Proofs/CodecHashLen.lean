import F3.Model.CodecHash
import F3.Spec.HashInputs
import F3.Proofs.CodecBytes
import F3.Proofs.CodecCollision
/-! Facts about the *executable* hashes (`F3.Codec.Hash.keccak256`, `blake2b256`) that the reductions of
C14 need — both always return 32 bytes — and the observation that all strings hashed for byte-valued
chains are byte strings in the strict sense (every element `< 256`), so that an exhibited collision is
a collision of the real function and not an artefact of `Bytes = List Nat`. -/
namespace F3.HashInputs
open F3.Codec F3.Codec.Hash F3.Merkle F3.Payload

theorem store64_length (x : UInt64) : (store64 x).length = 8 := by
  simp [store64]

theorem store64_lt (v : UInt64) : ∀ x ∈ store64 v, x < 256 := by
  intro x hx
  simp only [store64, List.mem_map] at hx
  obtain ⟨i, _, rfl⟩ := hx
  rw [UInt64.toNat_and]
  have : (0xff : UInt64).toNat = 255 := rfl
  rw [this]
  exact Nat.lt_succ_of_le Nat.and_le_right

theorem digest_isBytes (a b c d : UInt64) : IsBytes (store64 a ++ store64 b ++ store64 c ++ store64 d) := by
  intro x hx
  simp only [List.mem_append] at hx
  rcases hx with ((hx | hx) | hx) | hx <;> exact store64_lt _ x hx

/-- the executable keccak-256 returns 32 bytes on every input -/
theorem keccak256_length (a : Bytes) : (keccak256 a).length = 32 := by
  unfold keccak256
  simp only [Id.run, bind, pure, List.length_append, store64_length]

/-- the executable blake2b-256 returns 32 bytes on every input -/
theorem blake2b256_length (a : Bytes) : (blake2b256 a).length = 32 := by
  unfold blake2b256
  simp only [Id.run, bind, pure, List.length_append, store64_length]

theorem keccak256_isBytes (a : Bytes) : IsBytes (keccak256 a) := by
  unfold keccak256
  simp only [Id.run, bind, pure]
  exact digest_isBytes _ _ _ _

theorem blake2b256_isBytes (a : Bytes) : IsBytes (blake2b256 a) := by
  unfold blake2b256
  simp only [Id.run, bind, pure]
  exact digest_isBytes _ _ _ _

theorem IsBytes.append {a b : Bytes} (ha : IsBytes a) (hb : IsBytes b) : IsBytes (a ++ b) := by
  intro x hx
  rcases List.mem_append.mp hx with h | h
  · exact ha x h
  · exact hb x h

theorem IsBytes.cons {x : Nat} {b : Bytes} (hx : x < 256) (hb : IsBytes b) : IsBytes (x :: b) := by
  intro y hy
  rcases List.mem_cons.mp hy with h | h
  · exact h ▸ hx
  · exact hb y h

theorem zeroDigest_isBytes : IsBytes zeroDigest := by
  intro x hx
  have := List.eq_of_mem_replicate hx
  omega

theorem buildTree_isBytes (H : Bytes → Bytes) (hH : ∀ a, IsBytes (H a)) (d : Nat) (vs : List Bytes) :
    IsBytes (buildTree H d vs) := by
  cases d with
  | zero =>
    match vs with
    | [] => exact zeroDigest_isBytes
    | [v] => exact hH _
    | _ :: _ :: _ => intro x hx; simp [buildTree, panicDigest] at hx
  | succ d =>
    match vs with
    | [] => exact zeroDigest_isBytes
    | v :: vs => rw [buildTree]; exact hH _

theorem hashedAt_isBytes (H : Bytes → Bytes) (hH : ∀ a, IsBytes (H a)) :
    ∀ (d : Nat) (vs : List Bytes), (∀ v ∈ vs, IsBytes v) → ∀ a ∈ hashedAt H d vs, IsBytes a := by
  intro d
  induction d with
  | zero =>
    intro vs hvs a ha
    match vs, hvs, ha with
    | [], _, ha => simp [hashedAt] at ha
    | [v], hvs, ha =>
      simp only [hashedAt, List.mem_singleton] at ha
      subst ha
      exact IsBytes.cons (by omega) (hvs v (by simp))
    | _ :: _ :: _, _, ha => simp [hashedAt] at ha
  | succ d ih =>
    intro vs hvs a ha
    by_cases hne : vs = []
    · subst hne; simp [hashedAt] at ha
    · rw [hashedAt_succ H d vs hne] at ha
      rcases List.mem_cons.mp ha with h | h
      · subst h
        exact IsBytes.cons (by omega) (IsBytes.append (buildTree_isBytes H hH _ _) (buildTree_isBytes H hH _ _))
      · rcases List.mem_append.mp h with h | h
        · exact ih _ (fun v hv => hvs v (List.mem_of_mem_take hv)) a h
        · exact ih _ (fun v hv => hvs v (List.mem_of_mem_drop hv)) a h

theorem hdr2_isBytes (n : Nat) : IsBytes (hdr 2 n) := by
  rcases hdr_cases 2 n with ⟨_, e⟩ | ⟨_, _, e⟩ | ⟨_, _, e⟩ | ⟨_, _, e⟩ | ⟨_, e⟩ <;> rw [e] <;>
    refine IsBytes.cons (by omega) ?_
  · exact nofun
  · exact IsBytes.cons (by omega) nofun
  · exact beN_lt _ _
  · exact beN_lt _ _
  · exact beN_lt _ _

theorem tipsetBytes_isBytes (B : Bytes → Bytes) (hB : ∀ a, IsBytes (B a)) (t : TipSet)
    (hc : IsBytes t.commitments) (hp : IsBytes t.powerTable) : IsBytes (tipsetBytes B t) := by
  unfold tipsetBytes be64i be64 tsCid
  refine IsBytes.append (beN_lt _ _) (IsBytes.append hc (IsBytes.append (IsBytes.append ?_ (hB _)) hp))
  intro x hx
  simp only [cidPrefix, List.mem_cons, List.not_mem_nil, or_false] at hx
  omega

/-- For the executable hashes the wrong-length alternatives are impossible: what remains is a keccak
collision, a keccak preimage of the zero digest, or a blake2b collision, each among the hashed strings. -/
theorem hashBreak_real {c d : List TipSet} (h : HashBreak keccak256 blake2b256 c d) :
    Collision keccak256 (keyHashedH keccak256 blake2b256 c) (keyHashedH keccak256 blake2b256 d) ∨
    ZeroPreimage keccak256 (keyHashedH keccak256 blake2b256 c ++ keyHashedH keccak256 blake2b256 d) ∨
    Collision blake2b256 (keyHashedB c) (keyHashedB d) := by
  rcases h with h | h | h | h | h
  · exact Or.inl h
  · exact Or.inr (Or.inl h)
  · exact Or.inr (Or.inr h)
  · exact absurd h fun ⟨a, _, h⟩ => h (keccak256_length a)
  · exact absurd h fun ⟨a, _, h⟩ => h (blake2b256_length a)

theorem keyHashed_isBytes (H B : Bytes → Bytes) (hH : ∀ a, IsBytes (H a)) (hB : ∀ a, IsBytes (B a))
    (c : List TipSet)
    (hc : ∀ t ∈ c, IsBytes t.key ∧ IsBytes t.commitments ∧ IsBytes t.powerTable) :
    (∀ a ∈ keyHashedH H B c, IsBytes a) ∧ (∀ a ∈ keyHashedB c, IsBytes a) := by
  constructor
  · apply hashedAt_isBytes H hH
    intro v hv
    obtain ⟨t, ht, rfl⟩ := List.mem_map.mp hv
    exact tipsetBytes_isBytes B hB t (hc t ht).2.1 (hc t ht).2.2
  · intro a ha
    obtain ⟨t, ht, rfl⟩ := List.mem_map.mp ha
    exact IsBytes.append (hdr2_isBytes _) (hc t ht).1

end F3.HashInputs
