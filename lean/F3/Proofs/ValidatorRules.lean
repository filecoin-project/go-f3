import F3.Model.Validator
import F3.Spec.ValidMsg
import F3.Proofs.QuorumArith
/-!
Rule-by-rule equivalences between the executable checks of `F3.Validator` (loops, table look-ups,
generated quorum predicate) and the declarative clauses of `F3.Spec.ValidMsg`.
-/
namespace F3.Validator
open F3.Msg F3.Spec.ValidMsg

theorem tipValid_iff (t : Tip) : tipValid t = true ↔ tipOK t := by
  unfold tipValid tipOK
  simp only [Bool.and_eq_true, decide_eq_true_eq]
  omega

theorem epochsOk_iff (last : Int) (c : Chain) :
    epochsOk last c = true ↔
      (∀ t ∈ c, tipOK t ∧ last < t.epoch) ∧ c.Pairwise (fun a b => a.epoch < b.epoch) := by
  induction c generalizing last with
  | nil => simp [epochsOk]
  | cons t ts ih =>
    simp only [epochsOk, Bool.and_eq_true, decide_eq_true_eq, tipValid_iff, ih, List.mem_cons,
      forall_eq_or_imp, List.pairwise_cons]
    constructor
    · rintro ⟨⟨h1, h2⟩, h3, h4⟩
      refine ⟨⟨⟨h1, h2⟩, fun a ha => ⟨(h3 a ha).1, ?_⟩⟩, fun a ha => (h3 a ha).2, h4⟩
      have := (h3 a ha).2
      omega
    · rintro ⟨⟨⟨h1, h2⟩, h3⟩, h4, h5⟩
      exact ⟨⟨h1, h2⟩, fun a ha => ⟨(h3 a ha).1, h4 a ha⟩, h5⟩

/-- `ECChain.Validate` accepts exactly the well-formed values. -/
theorem chainValid_iff (c : Chain) : chainValid c = true ↔ chainWF c := by
  unfold chainValid chainWF
  cases c with
  | nil => simp
  | cons t ts =>
    simp only [List.isEmpty_cons, Bool.false_or, Bool.and_eq_true, decide_eq_true_eq, epochsOk_iff]
    constructor
    · rintro ⟨h1, h2, h3⟩
      refine ⟨h1, fun a ha => ⟨(h2 a ha).1, ?_⟩, h3⟩
      have := (h2 a ha).2
      omega
    · rintro ⟨h1, h2, h3⟩
      refine ⟨h1, fun a ha => ⟨(h2 a ha).1, ?_⟩, h3⟩
      have := (h2 a ha).2
      omega

theorem findEntry_some {es : List Entry} {id : Nat} {e : Entry} (h : findEntry es id = some e) :
    e ∈ es ∧ e.id = id := by
  induction es with
  | nil => simp [findEntry] at h
  | cons x t ih =>
    unfold findEntry at h
    split at h
    · cases h
      exact ⟨List.mem_cons_self, by assumption⟩
    · exact ⟨List.mem_cons_of_mem _ (ih h).1, (ih h).2⟩

theorem findEntry_none {es : List Entry} {id : Nat} (h : findEntry es id = none) :
    ∀ e ∈ es, e.id ≠ id := by
  induction es with
  | nil => simp
  | cons x t ih =>
    unfold findEntry at h
    split at h
    · cases h
    · rename_i hx
      intro e he
      rcases List.mem_cons.mp he with h1 | h1
      · subst h1; exact hx
      · exact ih h e h1

/-- Actor ids of a power table are unique (`PowerTable.Add` / `Validate` enforce it). -/
def Committee.uniqueIds (c : Committee) : Prop := (c.entries.map (·.id)).Nodup

theorem findEntry_of_mem {es : List Entry} (hu : (es.map (·.id)).Nodup) {e : Entry} (he : e ∈ es) :
    findEntry es e.id = some e := by
  induction es with
  | nil => simp at he
  | cons x t ih =>
    simp only [List.map_cons, List.nodup_cons, List.mem_map, not_exists, not_and] at hu
    unfold findEntry
    rcases List.mem_cons.mp he with h1 | h1
    · subst h1; simp
    · have hne : x.id ≠ e.id := fun hx => hu.1 e h1 hx.symm
      simp only [hne, if_false]
      exact ih hu.2 h1

theorem signersPower_iff (c : Committee) (l : List Nat) (p : Nat) :
    signersPower c l = some p ↔
      (∀ i ∈ l, i < c.entries.length ∧ 0 < powerAt c i) ∧ p = sumNat (l.map (powerAt c)) := by
  induction l generalizing p with
  | nil => simp [signersPower, sumNat, eq_comm]
  | cons i is ih =>
    unfold signersPower
    cases hi : c.entries[i]? with
    | none =>
      simp only [List.mem_cons, forall_eq_or_imp, false_iff, reduceCtorEq]
      rintro ⟨⟨h1, _⟩, _⟩
      have := List.getElem?_eq_none_iff.mp hi
      omega
    | some e =>
      have hlt : i < c.entries.length := by
        rcases Nat.lt_or_ge i c.entries.length with h | h
        · exact h
        · have := List.getElem?_eq_none_iff.mpr h
          rw [this] at hi; cases hi
      have hpw : powerAt c i = e.power := by simp [powerAt, hi]
      simp only
      by_cases hz : e.power = 0
      · simp only [hz, if_true, List.mem_cons, forall_eq_or_imp, false_iff, reduceCtorEq]
        rintro ⟨⟨_, h2⟩, _⟩
        omega
      · simp only [hz, if_false, List.mem_cons, forall_eq_or_imp, List.map_cons, sumNat]
        cases hrest : signersPower c is with
        | none =>
          simp only [Option.map_none, false_iff, reduceCtorEq]
          rintro ⟨⟨_, h2⟩, _⟩
          have := (ih (sumNat (is.map (powerAt c)))).mpr ⟨h2, rfl⟩
          rw [hrest] at this; cases this
        | some q =>
          have hq := (ih q).mp hrest
          simp only [Option.map_some, Option.some.injEq]
          constructor
          · intro h
            refine ⟨⟨⟨hlt, by omega⟩, hq.1⟩, ?_⟩
            rw [← h, hq.2, hpw]
          · rintro ⟨_, h⟩
            rw [h, hq.2, hpw]

theorem total_nonneg (c : Committee) : (0 : Int) ≤ (c.total : Int) := Int.natCast_nonneg _

/-- The generated `IsStrongQuorum` is the specification's two-thirds rule (`isStrongQuorum_iff`). -/
theorem isStrongQuorum_iff_spec (p w : Nat) :
    F3.Gen.isStrongQuorum (p : Int) (w : Int) = true ↔
      F3.Spec.Quorum.strong (Int.ofNat p) (Int.ofNat w) = true := by
  rw [F3.Proofs.QuorumArith.isStrongQuorum_iff _ _ (Int.natCast_nonneg w)]
  simp [F3.Spec.Quorum.strong]

theorem pubAt_eq (c : Committee) (i : Nat) : c.pubAt i = F3.Spec.ValidMsg.pubAt c i := rfl

/-- `validateJustificationSignature` = strong signers + aggregate over the payload with key `ek`
(signers additionally ascending, which a bit set's iteration order guarantees). -/
theorem sigJust_iff (cfg : Cfg) (c : Committee) (j : Just) (ek : VKey)
    (hsorted : j.signers.Pairwise (· < ·)) :
    sigJust cfg c j ek = true ↔
      strongSigners c j.signers ∧
        j.agg = Agg.tok (j.signers.map (fun i => (i, F3.Spec.ValidMsg.pubAt c i)))
          (SigMsg.vote cfg.net j.vote.inst j.vote.round j.vote.phase j.vote.supp ek) := by
  unfold sigJust strongSigners
  cases hp : signersPower c j.signers with
  | none =>
    simp only [false_iff, not_and, Bool.false_eq_true]
    rintro ⟨_, h1, _⟩
    have := (signersPower_iff c j.signers _).mpr ⟨h1, rfl⟩
    rw [hp] at this; cases this
  | some p =>
    have hq := (signersPower_iff c j.signers p).mp hp
    simp only [Bool.and_eq_true, beq_iff_eq, isStrongQuorum_iff_spec, votePayload]
    rw [hq.2]
    constructor
    · rintro ⟨h1, h2⟩
      exact ⟨⟨hsorted, hq.1, h1⟩, h2⟩
    · rintro ⟨⟨_, _, h1⟩, h2⟩
      exact ⟨h1, h2⟩

end F3.Validator
